/-
  Spec/TrailingBlanksFacts.lean — the Boolean table facts and the dialect set used by the
  trailing-blanks part of property C16 (Props/C16Doc2.lean).
-/
import GherkinVerif.Spec.LayoutDocFacts
namespace GV
namespace Spec

/-- every `Other` test of the table is unguarded -/
def otherUnguarded (T : Table) : Bool :=
  T.rows.all fun r => r.branches.all fun b => !(b.kind == .Other) || b.guard.isNone

/-- no look-ahead tests `Other` -/
def lookaheadsNoOther (T : Table) : Bool :=
  T.lookaheads.all fun la => !la.expected.contains .Other && !la.skip.contains .Other

/-- the dialects named by the `# language:` headers among these lines -/
def langDialects (D : List Dialect) (lines : List Str) : List Dialect :=
  lines.filterMap fun l => (languageRe (lineText l none)).bind (findDialect D)

end Spec

end GV
