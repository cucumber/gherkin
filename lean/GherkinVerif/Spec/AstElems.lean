/-
  Spec/AstElems.lean — the vocabulary of the "contents" form of property C03: the elements of a
  document WITH their exact fields, read off in source order

  * `Elem`: one element of a document: a keyword line (feature / rule / background / scenario /
    examples block: kind, location, keyword, name), a step (location, keyword, keyword type, text),
    a tag (location, name), a table row (location, cells with their locations), a doc string
    (location, delimiter, media type).
  * `srcElems : Doc → List Elem`: the elements of the typed AST, in the order of `Spec.srcLocs`.
  * `leafElems : Token → List Elem`: the elements ONE matched line carries, read off its token.
  * `elemsOfTree : TTree → List Elem`: the elements carried by the lines of a token tree, in line
    order (of the two separators of a doc string only the first), in the order of `Spec.elemLocs`.

  `Lemmas.elems_once_in_order` (Lemmas/AstElems.lean): for a grammar-shaped tree whose fold is the
  document `d`: `srcElems d = elemsOfTree t`.
-/
import GherkinVerif.Spec.AstOf
namespace GV
namespace Spec

/-- one element of a document, with the fields the AST reports for it -/
inductive Elem
  /-- a `Feature:` / `Rule:` / `Background:` / `Scenario:` / `Examples:` line (`kind` is the line
      kind: `FeatureLine` … `ExamplesLine`) -/
  | keywordLine (kind : Kind) (loc : Loc) (keyword name : Str)
  | step (loc : Loc) (keyword : Str) (ktype : KType) (text : Str)
  | tag (loc : Loc) (name : Str)
  /-- a table row (of a data table, or the header / a body row of an examples table) -/
  | row (loc : Loc) (cells : List (Loc × Str))
  | docString (loc : Loc) (delimiter : Str) (mediaType : Option Str)
deriving DecidableEq, Repr, Inhabited

def Elem.loc : Elem → Loc
  | .keywordLine _ l _ _ => l
  | .step l _ _ _ => l
  | .tag l _ => l
  | .row l _ => l
  | .docString l _ _ => l

/-! ### the elements of the AST, in source order -/

def tagElems (ts : List Tag) : List Elem := ts.map fun t => .tag t.loc t.name
def cellPairs (cs : List Cell) : List (Loc × Str) := cs.map fun c => (c.loc, c.value)
def rowElems (rs : List Row) : List Elem := rs.map fun r => .row r.loc (cellPairs r.cells)
def docStringElem (ds : DocString) : Elem := .docString ds.loc ds.delimiter ds.mediaType

/-- a step argument: the rows of the data table, or the doc string -/
def argElems : StepArg → List Elem
  | .table d => rowElems d.rows
  | .doc ds => [docStringElem ds]
  | .none => []

def stepElems (s : Step) : List Elem := .step s.loc s.keyword s.ktype s.text :: argElems s.arg
def backgroundElems (b : Background) : List Elem :=
  .keywordLine .BackgroundLine b.loc b.keyword b.name :: b.steps.flatMap stepElems
def examplesElems (e : Examples) : List Elem :=
  tagElems e.tags ++ .keywordLine .ExamplesLine e.loc e.keyword e.name ::
    (rowElems e.header.toList ++ rowElems e.body)
def scenarioElems (s : Scenario) : List Elem :=
  tagElems s.tags ++ .keywordLine .ScenarioLine s.loc s.keyword s.name ::
    (s.steps.flatMap stepElems ++ s.examples.flatMap examplesElems)
def ruleChildElems : RuleChild → List Elem
  | .background b => backgroundElems b
  | .scenario s => scenarioElems s
def ruleElems (r : Rule) : List Elem :=
  tagElems r.tags ++ .keywordLine .RuleLine r.loc r.keyword r.name :: r.children.flatMap ruleChildElems
def featureChildElems : FeatureChild → List Elem
  | .background b => backgroundElems b
  | .scenario s => scenarioElems s
  | .rule r => ruleElems r
def featureElems (f : Feature) : List Elem :=
  tagElems f.tags ++ .keywordLine .FeatureLine f.loc f.keyword f.name :: f.children.flatMap featureChildElems

/-- All elements of the AST with their fields, in source order (the order of `srcLocs`): a
    feature / rule / scenario / examples block: its tags, its keyword line (keyword and name),
    then what it contains; a background: its keyword line, its steps; a step: keyword, keyword
    type and text, then the rows of its data table or its doc string (delimiter, media type); an
    examples block's header and body rows; every row with its cells (location and value). -/
def srcElems (d : Doc) : List Elem :=
  match d.feature with
  | some f => featureElems f
  | Option.none => []

/-! ### the elements carried by the lines of a tree -/

/-- the media type a separator line's text stands for: absent when empty -/
def mediaOf (st : Str) : Option Str := if st.length > 0 then some st else Option.none

/-- the cells / tags of a token's items, each located at its own column -/
def itemPairs (t : Token) : List (Loc × Str) := t.items.map fun it => (getLocation t (some it.1), it.2)

/-- The elements one matched line carries, read off its token: a keyword line one `keywordLine`
    with the token's keyword and text; a step line its keyword, keyword type and text; a tag line
    one tag per item; a table row one row whose cells are its items; a doc-string separator the
    doc string (keyword = delimiter, text = media type); nothing for comments, blank lines, free
    text, the language header and the end of file.  (A field a successful match always sets is read
    with a default, which the theorems about well-matched tokens never meet.) -/
def leafElems (t : Token) : List Elem :=
  match t.mtype with
  | some .TagLine => t.items.map fun it => .tag (getLocation t (some it.1)) it.2
  | some .FeatureLine => [.keywordLine .FeatureLine t.loc (t.keyword.getD []) (t.text.getD [])]
  | some .RuleLine => [.keywordLine .RuleLine t.loc (t.keyword.getD []) (t.text.getD [])]
  | some .BackgroundLine => [.keywordLine .BackgroundLine t.loc (t.keyword.getD []) (t.text.getD [])]
  | some .ScenarioLine => [.keywordLine .ScenarioLine t.loc (t.keyword.getD []) (t.text.getD [])]
  | some .ExamplesLine => [.keywordLine .ExamplesLine t.loc (t.keyword.getD []) (t.text.getD [])]
  | some .StepLine => [.step t.loc (t.keyword.getD []) (t.ktype.getD .Unknown) (t.text.getD [])]
  | some .TableRow => [.row t.loc (itemPairs t)]
  | some .DocStringSeparator => [.docString t.loc (t.keyword.getD []) (mediaOf (t.text.getD []))]
  | _ => []

mutual
/-- the elements carried by the lines of the tree, in line order; of the two separators of a doc
    string only the first (the second closes it) — the order and multiplicity of `elemLocs` -/
def elemsOfTree : TTree → List Elem
  | .leaf t => leafElems t
  | .node r ch => if r = .DocString then (elemsOfTreeList ch).head?.toList else elemsOfTreeList ch
def elemsOfTreeList : List TTree → List Elem
  | [] => []
  | c :: cs => elemsOfTree c ++ elemsOfTreeList cs
end

/-! ### the free text of the document: descriptions and doc-string contents -/

/-- the doc string of a step argument: where it is and its content -/
def argTexts : StepArg → List (Loc × Str)
  | .doc ds => [(ds.loc, ds.content)]
  | _ => []
def stepTexts (s : Step) : List (Loc × Str) := argTexts s.arg
def backgroundTexts (b : Background) : List (Loc × Str) := (b.loc, b.description) :: b.steps.flatMap stepTexts
def examplesTexts (e : Examples) : List (Loc × Str) := [(e.loc, e.description)]
def scenarioTexts (s : Scenario) : List (Loc × Str) :=
  (s.loc, s.description) :: (s.steps.flatMap stepTexts ++ s.examples.flatMap examplesTexts)
def ruleChildTexts : RuleChild → List (Loc × Str)
  | .background b => backgroundTexts b
  | .scenario s => scenarioTexts s
def ruleTexts (r : Rule) : List (Loc × Str) := (r.loc, r.description) :: r.children.flatMap ruleChildTexts
def featureChildTexts : FeatureChild → List (Loc × Str)
  | .background b => backgroundTexts b
  | .scenario s => scenarioTexts s
  | .rule r => ruleTexts r
def featureTexts (f : Feature) : List (Loc × Str) := (f.loc, f.description) :: f.children.flatMap featureChildTexts

/-- The free text of the AST in source order, each with the location of its owner: the description
    of every feature, rule, background, scenario and examples block (the empty string when it has
    none), and the content of every doc string. -/
def srcTexts (d : Doc) : List (Loc × Str) :=
  match d.feature with
  | some f => featureTexts f
  | Option.none => []

/-- the child lines read as kind `k`, in order (as `Spec.childTokens` of Lemmas/NoCrash.lean) -/
def childToks (k : Kind) (cs : List TTree) : List Token :=
  cs.filterMap fun c =>
    match c with
    | .leaf t => if t.mtype = some k then some t else Option.none
    | .node _ _ => Option.none

/-- the texts of the free-text (`Other`) lines among the children, in order -/
def otherTexts (cs : List TTree) : List Str := (childToks .Other cs).map fun t => t.text.getD []

/-- the description strings of the `Description` child nodes: the texts of its `Other` lines, trailing
    whitespace-only lines dropped, joined by line feeds -/
def childDescrs (cs : List TTree) : List Str :=
  cs.filterMap fun c =>
    match c with
    | .node .Description ch => some (joinWith [10] (trimDescLines (otherTexts ch)))
    | _ => Option.none

/-- The free text a node of rule type `r` owns, given its child lines by kind (`toks`) and the
    description strings of its `Description` children (`descrs`): a background, a `Scenario` /
    `Examples` node and a feature / rule header: its description (the first, the empty string if
    none), located at its keyword line; a `DocString` node: the texts of its `Other` lines joined by
    line feeds, located at its first separator. -/
def ownTexts (r : RuleType) (toks : Kind → List Token) (descrs : List Str) : List (Loc × Str) :=
  let keyOwn (k : Kind) : List (Loc × Str) :=
    match toks k with
    | line :: _ => [(line.loc, descrs.headD [])]
    | [] => []
  match r with
  | .DocString =>
    match toks .DocStringSeparator with
    | sep :: _ => [(sep.loc, joinWith [10] ((toks .Other).map fun t => t.text.getD []))]
    | [] => []
  | .Background => keyOwn .BackgroundLine
  | .Scenario => keyOwn .ScenarioLine
  | .Examples => keyOwn .ExamplesLine
  | .RuleHeader => keyOwn .RuleLine
  | .FeatureHeader => keyOwn .FeatureLine
  | _ => []

mutual
/-- the free text of a tree, node by node in tree order: what each node owns (`ownTexts`, from its
    child lines and `Description` children), then that of its children -/
def textsOfTree : TTree → List (Loc × Str)
  | .leaf _ => []
  | .node r ch => ownTexts r (fun k => childToks k ch) (childDescrs ch) ++ textsOfTreeList ch
def textsOfTreeList : List TTree → List (Loc × Str)
  | [] => []
  | c :: cs => textsOfTree c ++ textsOfTreeList cs
end

end Spec
end GV
