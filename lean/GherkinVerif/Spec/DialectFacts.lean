/-
  Spec/DialectFacts.lean — Boolean facts about a dialect table (a `List Dialect`).  Each is
  evaluated by `decide +kernel` on the table regenerated from the current
  gherkin-languages.json (once in Lemmas/FactsDialects.lean when several properties use it, else in the
  module of the property that does: C05, C19), and lifted to
  the unbounded statements (all indentations, all titles) by the generic lemmas of
  Lemmas/Keywords.lean and Lemmas/Markdown.lean.
-/
import GherkinVerif.Model.Matcher
namespace GV

/-- the keywords that must be followed by `:` (feature, rule, background, scenario, scenario
    outline, examples), in that order -/
def Dialect.titleKeywords (d : Dialect) : List Str :=
  d.feature ++ d.rule ++ d.background ++ d.scenario ++ d.scenarioOutline ++ d.examples

/-- the keyword list `match_<Kind>` consults for the five title line kinds (a scenario line is
    tried against the scenario keywords first, then the scenario-outline keywords) -/
def Dialect.roleKeywords (d : Dialect) : Kind → List Str
  | .FeatureLine => d.feature
  | .RuleLine => d.rule
  | .BackgroundLine => d.background
  | .ScenarioLine => d.scenario ++ d.scenarioOutline
  | .ExamplesLine => d.examples
  | _ => []

/-- the five title line kinds -/
def Kind.isTitle : Kind → Bool
  | .FeatureLine | .RuleLine | .BackgroundLine | .ScenarioLine | .ExamplesLine => true
  | _ => false

/-- every keyword of the dialect -/
def Dialect.allKeywords (d : Dialect) : List Str := d.titleKeywords ++ d.stepKeywords

namespace Spec

/-- the string is empty or its first code point is not whitespace -/
def noWsStart : Str → Bool
  | [] => true
  | c :: _ => !isSpace c

/-- the string does not contain `:` -/
def colonFree (k : Str) : Bool := !k.contains 58

/-- the string does not start like a line of another kind: whitespace, `#`, `@`, `|`, `"""`
    or three backticks -/
def plainStart (k : Str) : Bool :=
  noWsStart k && !startsWith [35] k && !startsWith [64] k && !startsWith [124] k &&
  !startsWith dq3 k && !startsWith bt3 k

/-- no keyword of any dialect is the empty string -/
def noEmptyKeyword (D : List Dialect) : Bool :=
  D.all fun d => d.allKeywords.all fun k => !k.isEmpty

/-- no keyword of any dialect starts with whitespace, `#`, `@`, `|`, `"""` or three backticks -/
def keywordsPlainStart (D : List Dialect) : Bool :=
  D.all fun d => d.allKeywords.all plainStart

/-- no title keyword (feature … examples) of any dialect contains `:` -/
def titleColonFree (D : List Dialect) : Bool :=
  D.all fun d => d.titleKeywords.all colonFree

/-- dialect names are pairwise distinct (so `findDialect` finds each dialect under its name) -/
def namesDistinct : List Dialect → Bool
  | [] => true
  | d :: ds => !(ds.any (·.name == d.name)) && namesDistinct ds

/-- number of times `kw` is listed in the five step-keyword lists -/
def stepCount (d : Dialect) (kw : Str) : Nat := (d.stepKeywords.filter (· == kw)).length

/-- the step keywords listed more than once in the dialect (without repetition) -/
def repeatedStepKeywords (d : Dialect) : List Str :=
  (d.stepKeywords.filter fun k => stepCount d k != 1).eraseDups

/-- the only step keyword listed more than once is `"* "` -/
def onlyStarRepeated (D : List Dialect) : Bool :=
  D.all fun d => d.stepKeywords.all fun k => stepCount d k == 1 || k == [42, 32]

/-- `"* "` is never listed exactly once: where a dialect lists it at all (two dialects of the
    current table, `en-tx` and `sl`, do not) it is listed several times, so its keyword type is
    `Unknown` in every dialect -/
def starNotOnce (D : List Dialect) : Bool :=
  D.all fun d => stepCount d [42, 32] != 1

/-- prefix clashes among the step keywords of a dialect: pairs (`a`, `b`) where `a` is listed
    before `b`, differs from it and is a prefix of it — so a line starting with `b` is reported
    with keyword `a` (first-prefix rule, `C05_step_first_prefix`) -/
def prefixClashesAux : List Str → List (Str × Str)
  | [] => []
  | a :: rest => ((rest.filter fun b => startsWith a b && b != a).map fun b => (a, b)) ++ prefixClashesAux rest

def prefixClashes (d : Dialect) : List (Str × Str) := prefixClashesAux d.stepKeywords.eraseDups

/-- the step keywords of `d` that can never be reported because an earlier one prefixes them -/
def shadowedStepKeywords (d : Dialect) : List Str := ((prefixClashes d).map (·.2)).eraseDups

/-- no step keyword is a prefix of a title keyword followed by `:` and no title keyword followed
    by `:` is a prefix of a step keyword: a line cannot be both a step and a title line -/
def noStepTitleClash (D : List Dialect) : Bool :=
  D.all fun d => d.stepKeywords.all fun s => d.titleKeywords.all fun k =>
    !startsWith s (k ++ [58]) && !startsWith (k ++ [58]) s

/-- a title keyword followed by `:` of one role is never a prefix of a title keyword followed by
    `:` of another role, except between scenario and scenario outline (which share one line kind):
    roles are numbered 0 feature, 1 rule, 2 background, 3 scenario / outline, 4 examples -/
def roleNo : Kind → Nat
  | .FeatureLine => 0 | .RuleLine => 1 | .BackgroundLine => 2 | .ScenarioLine => 3 | .ExamplesLine => 4
  | _ => 5

def titleRoles (d : Dialect) : List (Nat × Str) :=
  d.feature.map (0, ·) ++ d.rule.map (1, ·) ++ d.background.map (2, ·) ++
  d.scenario.map (3, ·) ++ d.scenarioOutline.map (3, ·) ++ d.examples.map (4, ·)

def noCrossRoleClash (D : List Dialect) : Bool :=
  D.all fun d => (titleRoles d).all fun a => (titleRoles d).all fun b =>
    a.1 == b.1 || !startsWith (a.2 ++ [58]) (b.2 ++ [58])

/-- the facts C05 uses, in one checker (one kernel evaluation of the table) -/
def keywordFacts (D : List Dialect) : Bool :=
  noEmptyKeyword D && keywordsPlainStart D && titleColonFree D && namesDistinct D &&
  onlyStarRepeated D && starNotOnce D && noStepTitleClash D && noCrossRoleClash D

/-- the facts C19 uses -/
def markdownFacts (D : List Dialect) : Bool :=
  titleColonFree D && keywordsPlainStart D && noEmptyKeyword D

end Spec
end GV
