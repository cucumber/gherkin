/-
  Spec/TableFacts.lean — Boolean facts about a transition table.  Each is evaluated by
  `decide +kernel` on the table regenerated from the current parser.py (once in Lemmas/FactsTable.lean when
  several properties use it, else in the module of the property that does), and lifted to unbounded statements by generic lemmas.
-/
import GherkinVerif.Model.Abstract
namespace GV.Spec

def dedup {α} [BEq α] : List α → List α
  | [] => []
  | a :: as => a :: (dedup as).filter (· != a)

/-- every state's `expected_tokens` is the de-duplicated list of its test kinds, in order (C14) -/
def expectedIsTests (T : Table) : Bool :=
  T.rows.all fun r => r.expected == (dedup (r.branches.map (·.kind))).map fun k => "#" ++ k.name

/-- every error tail returns its own state: after an unexpected line parsing carries on from the
    same position (C14) -/
def errTailSelf (T : Table) : Bool := T.rows.all fun r => r.errTarget == r.id

/-- every branch hands its token to the builder exactly once, after all start/end events (C18) -/
def oneBuildLast (T : Table) : Bool :=
  T.rows.all fun r => r.branches.all fun b =>
    b.prods.getLast? == some .build && (b.prods.filter (· == .build)).length == 1

/-- row ids are distinct (so `row?` finds the row) and every target is a row or the end state -/
def wellFormed (T : Table) (endState : Nat) : Bool :=
  (T.rows.map (·.id)).eraseDups.length == T.rows.length &&
  T.rows.all fun r => r.branches.all fun b => b.target == endState || T.rows.any (·.id == b.target)

/-- the branches into the end state are exactly the `EOF` branches -/
def eofIffEnd (T : Table) (endState : Nat) : Bool :=
  T.rows.all fun r => r.branches.all fun b => (b.kind == .EOF) == (b.target == endState)

/-- guards occur only on `TagLine` tests and refer to existing look-aheads -/
def guardsOnTagLine (T : Table) : Bool :=
  T.rows.all fun r => r.branches.all fun b =>
    match b.guard with
    | none => true
    | some i => b.kind == .TagLine && i < T.lookaheads.length

/-- no look-ahead expects or skips `EOF`/`Other` (so a look-ahead always stops at end of file
    and at free text) -/
def lookaheadsStopAtEOF (T : Table) : Bool :=
  T.lookaheads.all fun la => !(la.expected ++ la.skip).contains .EOF && !(la.expected ++ la.skip).contains .Other

/-- `Language` is tested only in the start state -/
def languageOnlyAtStart (T : Table) : Bool :=
  T.rows.all fun r => r.id == 0 || r.branches.all (·.kind != .Language)

/-- doc-string content states: exactly `[DocStringSeparator → p, Other → self]`, unguarded, build only -/
def isContentRow (r : StateRow) : Bool :=
  match r.branches with
  | [b1, b2] => b1.kind == .DocStringSeparator && b1.guard == none && b1.prods == [.build] &&
                b2.kind == .Other && b2.guard == none && b2.prods == [.build] && b2.target == r.id
  | _ => false

def contentStates (T : Table) : List Nat := (T.rows.filter isContentRow).map (·.id)

/-- content states are entered only by a `DocStringSeparator` branch (from a non-content state) or
    by their own `Other` loop; a `DocStringSeparator` branch from a non-content state always
    leads into a content state, and from a content state out of it -/
def contentEntry (T : Table) : Bool :=
  let cs := contentStates T
  T.rows.all fun r => r.branches.all fun b =>
    if cs.contains r.id then
      (b.kind == .DocStringSeparator && !cs.contains b.target) || (b.kind == .Other && b.target == r.id)
    else
      (b.kind == .DocStringSeparator) == cs.contains b.target

/-- in every state other than description and content states, `Empty` is tested and is a
    build-only self-loop; the states that do not test `Empty` are those that test `Other` before it -/
def emptySelfLoop (T : Table) : Bool :=
  T.rows.all fun r => r.branches.all fun b => b.kind != .Empty || (b.target == r.id && b.prods == [.build] && b.guard == none)

/-- the largest number of tests in one state -/
def maxTests (T : Table) : Nat := (T.rows.map (·.branches.length)).foldl max 0

end GV.Spec
