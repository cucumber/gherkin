/-
  Lemmas/Recover2Doc.lean — property C14, recovery at document level: the phases of the simulation
  (before, at, after the unexpected line), the whole queue-free parse and the transfer to the parser
  with the token queue, under the look-ahead condition `NoPeekRun` ("a tag line of the prefix that is
  read in a state with a guarded test is followed by a barrier line within the prefix").
-/
import GherkinVerif.Lemmas.Recover2Sim
import GherkinVerif.Lemmas.RecoverDoc
namespace GV
namespace Recover2
open Lemmas Spec Layout3 Recover

section loop
variable {D : List Dialect} {u : Str} {k : Nat} {cap : Nat}

/-- the look-ahead condition along the prefix run of the second text, from any state and context
    (so that a step keeps it: `.step`): a line of `p` that starts with `@` and has no barrier line
    behind it within `p` is read in a state without guarded tests -/
def NoPeekRun (D : List Dialect) (T : Table) (stop : Bool) (p : List Str) (s : Nat) (c2 : Ctx) : Prop :=
  ∀ j l, p[j]? = some l → (p.drop (j + 1)).any barrierLine = false → tagStart l = true →
    ∀ s' fl c', run (parsePrefixPure D T stop j s) c2 = (.ok (s', fl), c') → hasGuard T s' = false

theorem NoPeekRun.step {T : Table} {stop : Bool} {l : Str} {p : List Str} {s s1 : Nat} {c2 c2' : Ctx}
    (h : NoPeekRun D T stop (l :: p) s c2) (hl : c2.lines.head? = some l)
    (hr : run (matchTokenPure D T stop s (nextTok c2)) (taken c2) = (.ok s1, c2')) :
    NoPeekRun D T stop p s1 c2' := by
  intro j l' hj hb ht s' fl c' hrun
  refine h (j + 1) l' (by simpa using hj) (by simpa using hb) ht s' fl c' ?_
  rw [prefix_step, prun_bind, hr, hl]
  exact hrun

/-- `NoPeekRun` at the start of the parse, said with `Spec.runAfter` as the C14 theorems say it:
    among the first lines `pre` of `src'`, a line that starts with `@` and has no barrier line
    behind it within `pre` is read (by the run on `src'`) in a state without guarded tests.  Then
    no look-ahead started within `pre` reads past `pre`. -/
def NoPeek (D : List Dialect) (T : Table) (stop : Bool) (μ : MState) (ids : Nat) (src' : Str) (pre : List Str) : Prop :=
  ∀ i l, pre[i]? = some l → (pre.drop (i + 1)).any barrierLine = false → tagStart l = true →
    ∀ s c, runAfter D T stop μ ids src' i = some (s, c) → hasGuard T s = false

theorem NoPeek.run {T : Table} {stop : Bool} {μ : MState} {ids : Nat} {src' : Str} {pre : List Str}
    (h : NoPeek D T stop μ ids src' pre) : NoPeekRun D T stop pre 0 (startCtx D T μ ids src') :=
  fun j l hj hb ht s' fl c' hr => h j l hj hb ht s' c' (runAfter_eq_some.2 ⟨fl, hr⟩)

/-- the relations of the two main loops (`Layout3.JX0`, `JX1` for `CtxU`): before the unexpected line
    `u`, where no look-ahead started within the lines `p` still to go reads past them; and behind
    it, the second run having recorded the extra error `X` -/
abbrev JU0 (D : List Dialect) (T : Table) (stop : Bool) (u : Str) (k : Nat) (q : List Str) :=
  JX0 (CtxU D k none) (fun p s _ c2 => NoPeekRun D T stop p s c2) u k q
abbrev JU1 (D : List Dialect) (k : Nat) (X : Extra) := JX1 (CtxU D k (some X)) (fun _ _ => True) k
abbrev EU (D : List Dialect) (k : Nat) (x : Option Extra) := EC (CtxU D k x) (mapAbortU k x)

theorem simV_step0 {T : Table} (hcap : T.errorCap = cap) (hT : TableOkU T) (stop : Bool) {q p : List Str} {l : Str}
    {s : Nat} {c1 c2 : Ctx} (h : JU0 D T stop u k q (l :: p) s c1 c2) :
    PostR (fun s1 s2 d1 d2 => s2 = s1 ∧ JU0 D T stop u k q p s1 d1 d2) (EU D k none) (Escaped fun c => cap < c.errors.length)
      (run (matchTokenPure D T stop s (nextTok c1)) (taken c1)) (run (matchTokenPure D T stop s (nextTok c2)) (taken c2)) := by
  obtain ⟨ht, -, htl⟩ := h.tok
  obtain ⟨-, h1, h2, hn, hk, hpk⟩ := id h
  simp only [List.length_cons, List.cons_append] at hk h1 h2
  have hl : LinesV u k (tagStart l = false ∨ hasGuard T s = false)
      (taken c1).lines (taken c1).lineNo (taken c2).lines (taken c2).lineNo :=
    .inl ⟨by simp only [hn], p, q, by simp only [h1, List.tail_cons], by simp only [h2, List.tail_cons], by simp only; omega,
      fun hp => by
        cases ht' : tagStart l with
        | false => exact .inl rfl
        | true => exact .inr (hpk 0 l rfl (by simpa using hp) ht' s false c2 rfl)⟩
  refine h.step (simV_matchTokenPure (x := none) hcap hT stop s ht
    (fun h => h.imp (fun h' μ => by rw [htl]; exact not_tag D h' μ) id) (taken c1) (taken c2) (h.next CtxU.scanRel) hl)
    fun s' d1 d2 _ r2 => hpk.step (by rw [h2]; rfl) r2

theorem simV_step1 {T : Table} (hcap : T.errorCap = cap) (hT : TableOkU T) (stop : Bool) {X : Extra}
    {s1 s2 : Nat} {c1 c2 : Ctx} (h : JU1 D k X s1 s2 c1 c2) :
    PostR (JU1 D k X) (EU D k (some X)) (Escaped fun c => cap < c.errors.length)
      (run (matchTokenPure D T stop s1 (nextTok c1)) (taken c1)) (run (matchTokenPure D T stop s2 (nextTok c2)) (taken c2)) := by
  obtain rfl : s2 = s1 := h.1
  have hl : LinesV [] k False (taken c1).lines (taken c1).lineNo (taken c2).lines (taken c2).lineNo :=
    .inr ⟨by simp only [h.2.2.2.1], by have := h.2.2.2.2.1; simp only; omega, by simp only [h.2.2.1]⟩
  exact h.step (simV_matchTokenPure hcap hT stop s2 h.tok.1 (fun h => h.elim) (taken c1) (taken c2) (h.next CtxU.scanRel) hl)
    fun _ _ _ => trivial

theorem simV_skip {T : Table} (hcap : T.errorCap = cap) {s : Nat} {c1 c2 : Ctx}
    (hc : CtxU D k none c1 c2) (hun : lineUnexpectedAt D T s c2.μ u = true) :
    (∃ c2', run (matchTokenPure D T false s { line := some u, lineNo := k + 1 }) c2 = (.ok s, c2') ∧
      CtxU D k (some ⟨c1.errors.length, c1.unexpected.length, skippedError T s k u⟩) c1 c2' ∧ Frame c2 c2') ∨
    (∃ e c2', run (matchTokenPure D T false s { line := some u, lineNo := k + 1 }) c2 = (.error e, c2') ∧
      cap < c2'.errors.length) := by
  subst hcap
  obtain ⟨row, j, hrow, hstep⟩ := unexpected_line_step (D := D) T s u (k + 1) c2 hun
  rw [hstep, run_addError]
  simp only []
  have hsk : skippedError T s k u = unexpectedErr row { line := some u, lineNo := k + 1 } := skippedError_eq hrow k u
  have hline : (unexpectedErr row { line := some u, lineNo := k + 1 }).loc.line = k + 1 := unexpectedErr_line _ _ _
  have hany : c2.errors.any (fun e' => e'.message ==
      (unexpectedErr row { line := some u, lineNo := k + 1 }).message) = false := by
    rw [hc.errors, List.any_eq_false]
    intro e' he'
    simp only [insErrs, List.mem_map] at he'
    obtain ⟨e0, -, rfl⟩ := he'
    rw [beq_iff_eq]
    exact message_ne_of_line k e0 hline
  rw [hany]
  simp only [Bool.false_eq_true, ↓reduceIte]
  by_cases hl : (c2.errors ++ [unexpectedErr row { line := some u, lineNo := k + 1 }]).length > T.errorCap
  · rw [if_pos hl]
    exact .inr ⟨_, _, rfl, hl⟩
  · rw [if_neg hl]
    refine .inl ⟨_, rfl, { hc with errors := ?_, unexpected := ?_, valid := ?_ }, rfl, rfl⟩
    -- the extra error and its line stand at index `length`: inserting there is appending
    · show c2.errors ++ [_] = insertErr k c1.errors.length (skippedError T s k u) c1.errors
      rw [hc.errors, hsk]
      simp [insErrs, insertErr]
    · show c2.unexpected ++ [k + 1] = insertLine k c1.unexpected.length c1.unexpected
      rw [hc.unexpected]
      simp [insUn, insertLine]
    · intro y hy
      cases hy
      exact ⟨Nat.le_refl _, Nat.le_refl _, by rw [hsk]; exact hline⟩

theorem simV_lines {T : Table} (hcap : T.errorCap = cap) (hT : TableOkU T) (pre post : List Str) {c1 c2 : Ctx}
    (hc : CtxU D k none c1 c2) (h1 : c1.lines = pre ++ post) (h2 : c2.lines = pre ++ u :: post)
    (hn : c2.lineNo = c1.lineNo) (hk : c1.lineNo + pre.length = k) (hpk : NoPeekRun D T false pre 0 c2)
    {s : Nat} {flag : Bool} {cr : Ctx} (hrun : run (parsePrefixPure D T false pre.length 0) c2 = (.ok (s, flag), cr))
    (hun : lineUnexpectedAt D T s cr.μ u = true) :
    PostR (JU1 D k ⟨cr.errors.length, cr.unexpected.length, skippedError T s k u⟩)
      (EU D k (some ⟨cr.errors.length, cr.unexpected.length, skippedError T s k u⟩)) (Escaped fun c => cap < c.errors.length)
      (run (parseLinesPure D T false ((pre ++ post).length + 2) 0) c1)
      (run (parseLinesPure D T false ((pre ++ u :: post).length + 2) 0) c2) := by
  refine PostR.monoE (simX_insert rfl pre post (c1 := c1) (c2 := c2) ⟨hc, h1, h2, hn, hk, hpk⟩
    (fun l p s c1 c2 h => simV_step0 hcap hT false h) (fun s' f d1 d2 r1 r2 hj => ?_)
    (fun s1 s2 c1 c2 h => simV_step1 hcap hT false h)) fun _ _ _ _ r h => h.elim id fun h' => ?_
  · rw [hrun] at r2
    cases r2
    have hc' := hj.1
    have hel : cr.errors.length = d1.errors.length := by rw [hc'.errors]; simp [insErrs]
    have hul : cr.unexpected.length = d1.unexpected.length := by rw [hc'.unexpected]; simp [insUn]
    rw [hel, hul]
    rcases simV_skip (u := u) hcap (hj.next2 CtxU.scanRel) hun with ⟨d2', hr, hc1, fr⟩ | ⟨e, d2', hr, hcp⟩
    · exact .inl ⟨d2', hr, hc1, fr, trivial⟩
    · exact .inr ⟨e, d2', hr, hcp⟩
  · rw [hrun] at h'; cases h'.2

end loop

/-- How the two parses end.  No `PostR`: where the first returns a document the second reports its
    one error, so the runs do not end alike. -/
def BodyRel (k : Nat) (X : Extra) (r1 r2 : Except Abort Doc) : Prop :=
  (∀ d, r1 = .ok d → r2 = .error (.composite [X.e])) ∧
  (∀ es, r1 = .error (.composite es) → r2 = .error (.composite (insertErr k X.je X.e es)))

def BodyPost (D : List Dialect) (k : Nat) (X : Extra) (cap : Nat) (x1 x2 : Except Abort Doc × Ctx) : Prop :=
  (CtxU D k (some X) x1.2 x2.2 ∧ BodyRel k X x1.1 x2.1) ∨ (∃ e, x2.1 = .error e ∧ cap < x2.2.errors.length)

theorem BodyPost.of_abort {D : List Dialect} {k : Nat} {X : Extra} {cap : Nat} {e : Abort} {c1 c2 : Ctx}
    (hc : CtxU D k (some X) c1 c2) : BodyPost D k X cap (.error e, c1) (.error (mapAbortU k (some X) e), c2) :=
  .inl ⟨hc, And.intro (fun _ h => by cases h) (fun _ h => by cases h; rfl)⟩

/-- the second run has at least the extra error, so it reports its error list -/
theorem BodyPost.of_result {D : List Dialect} {k : Nat} {X : Extra} {cap : Nat} {c1 c2 : Ctx}
    (hc : CtxU D k (some X) c1 c2) : BodyPost D k X cap (bodyResult c1, c1) (bodyResult c2, c2) := by
  have he : c2.errors = insertErr k X.je X.e c1.errors := hc.errors
  have h2 : bodyResult c2 = .error (.composite (insertErr k X.je X.e c1.errors)) := by
    unfold bodyResult
    rw [he, if_pos (by simp [insertErr])]
  refine .inl ⟨hc, And.intro (fun d hd => ?_) (fun es hes => ?_)⟩
  · have h0 : c1.errors = [] := by
      have hd : bodyResult c1 = .ok d := hd
      unfold bodyResult at hd
      split at hd
      · cases hd
      · rename_i hne
        cases hce : c1.errors with
        | nil => rfl
        | cons a as => rw [hce] at hne; exact absurd rfl hne
    show bodyResult c2 = _
    rw [h2, h0]
    simp [insertErr]
  · have h0 : es = c1.errors := by
      have hes : bodyResult c1 = .error (.composite es) := hes
      unfold bodyResult at hes
      split at hes
      · cases hes; rfl
      · split at hes <;> cases hes
    show bodyResult c2 = _
    rw [h2, h0]

theorem simV_body {D : List Dialect} {u : Str} {T : Table} (hT : TableOkU T)
    (pre post : List Str) {k : Nat} {c1 c2 : Ctx} (hc : CtxU D k none c1 c2)
    (h1 : c1.lines = pre ++ post) (h2 : c2.lines = pre ++ u :: post) (hn : c2.lineNo = c1.lineNo)
    (hk : c1.lineNo + pre.length = k) (hpk : NoPeekRun D T false pre 0 c2) {s : Nat} {flag : Bool} {cr : Ctx}
    (hrun : run (parsePrefixPure D T false pre.length 0) c2 = (.ok (s, flag), cr))
    (hun : lineUnexpectedAt D T s cr.μ u = true) :
    BodyPost D k ⟨cr.errors.length, cr.unexpected.length, skippedError T s k u⟩ T.errorCap
      (run (parseLinesPure D T false ((pre ++ post).length + 2) 0 >>= fun _ => bodyTail T false) c1)
      (run (parseLinesPure D T false ((pre ++ u :: post).length + 2) 0 >>= fun _ => bodyTail T false) c2) := by
  rw [prun_bind, prun_bind]
  rcases simV_lines (u := u) (cap := T.errorCap) rfl hT pre post hc h1 h2 hn hk hpk hrun hun with
    ⟨a, _, c1e, c2e, r1, r2, -, hce, hls, hne, hke, -⟩ | ⟨e, _, c1e, c2e, r1, r2, rfl, hce⟩ | hx
  · rw [r1, r2]
    dsimp only
    rw [run_bodyTail, run_bodyTail]
    rcases simV_runProd (cap := T.errorCap) false (t1 := default) (t2 := default) (.end_ T.startRule)
        (fun h => by cases h) hce with
      ⟨_, _, c1f, c2f, r1', r2', -, hcf, -, -⟩ | ⟨e, _, c1f, c2f, r1', r2', rfl, hcf⟩ | hx
    · rw [r1', r2']
      exact BodyPost.of_result hcf
    · rw [r1', r2']
      exact BodyPost.of_abort hcf
    · obtain ⟨e, c2f, r2', hcp⟩ := hx.aborted
      rw [r2']
      exact .inr ⟨e, rfl, hcp⟩
  · rw [r1, r2]
    exact BodyPost.of_abort hce
  · obtain ⟨e', c2e, r2, hcp⟩ := hx.aborted
    rw [r2]
    exact .inr ⟨e', rfl, hcp⟩

theorem parseWithPure_unexpected2 {D : List Dialect} {T : Table} (hT : TableOkU T) {u : Str} (μ : MState) (ids : Nat)
    {src src' : Str} (pre post : List Str)
    (h1 : splitLines src = pre ++ post) (h2 : splitLines src' = pre ++ u :: post)
    (hμ : (μ.reset D).dialect ∈ D) (hpk : NoPeek D T false μ ids src' pre) {s : Nat} {cr : Ctx}
    (hrun : runAfter D T false μ ids src' pre.length = some (s, cr))
    (hun : lineUnexpectedAt D T s cr.μ u = true)
    (hcap : (parseWithPure D T false μ ids src').2.errors.length ≤ T.errorCap) :
    CtxObsU pre.length cr.errors.length cr.unexpected.length (skippedError T s pre.length u)
      (parseWithPure D T false μ ids src).2 (parseWithPure D T false μ ids src').2 ∧
    (∀ d, (parseWithPure D T false μ ids src).1 = .ok d →
      (parseWithPure D T false μ ids src').1 = .rejected [skippedError T s pre.length u] true) ∧
    (∀ es, (parseWithPure D T false μ ids src).1 = .rejected es true →
      (parseWithPure D T false μ ids src').1 =
        .rejected (insertErr pre.length cr.errors.length (skippedError T s pre.length u) es) true) := by
  rw [parseWithPure_lines D T false μ ids src'] at hcap ⊢
  rw [parseWithPure_lines D T false μ ids src]
  simp only [toOutcome_snd, h1, h2] at hcap ⊢
  have hc0 : CtxU D pre.length none (startCtx D T μ ids src) (startCtx D T μ ids src') :=
    ⟨rfl, rfl, BMap.reset.startRule _, rfl, rfl, rfl, sane_start hμ, fun y hy => by cases hy⟩
  obtain ⟨flag, hrun'⟩ := runAfter_eq_some.1 hrun
  rcases simV_body hT pre post hc0 h1 h2 rfl (Nat.zero_add _) hpk.run hrun' hun with ⟨hc', hb1, hb2⟩ | ⟨e, -, hcp⟩
  · exact ⟨⟨hc'.errors, hc'.μ, hc'.ids, hc'.unexpected, hc'.builds⟩,
      fun d hd => toOutcome_composite.2 (hb1 d (toOutcome_ok.1 hd)),
      fun es hes => toOutcome_composite.2 (hb2 es (toOutcome_composite.1 hes))⟩
  · exact absurd hcap (by omega)

theorem unexpected_line_parseWith2 {D : List Dialect} {T : Table}
    (hQD : Spec.queueDialectFacts D = true) (hQT : Spec.queueFacts T = true)
    (hCB : Spec.commentBlankTested T = true)
    (hG : (T.rows.all fun r => r.branches.all fun b => b.guard.isNone || b.kind == .TagLine) = true)
    {u : Str} (μ : MState) (ids : Nat) {src src' : Str} (pre post : List Str)
    (h1 : splitLines src = pre ++ post) (h2 : splitLines src' = pre ++ u :: post)
    (hμ : (μ.reset D).dialect ∈ D) (hpk : NoPeek D T false μ ids src' pre) {s : Nat} {cr : Ctx}
    (hrun : runAfter D T false μ ids src' pre.length = some (s, cr))
    (hun : lineUnexpectedAt D T s cr.μ u = true)
    (hcap : (parseWith D T false μ ids src').2.errors.length ≤ T.errorCap) :
    CtxObsU pre.length cr.errors.length cr.unexpected.length (skippedError T s pre.length u)
      (parseWith D T false μ ids src).2 (parseWith D T false μ ids src').2 ∧
    (∀ d, (parseWith D T false μ ids src).1 = .ok d →
      (parseWith D T false μ ids src').1 = .rejected [skippedError T s pre.length u] true) ∧
    (∀ es, (parseWith D T false μ ids src).1 = .rejected es true →
      (parseWith D T false μ ids src').1 =
        .rejected (insertErr pre.length cr.errors.length (skippedError T s pre.length u) es) true) := by
  obtain ⟨o1, f1⟩ := parseWith_sameObs hQD hQT hCB false μ ids src hμ
  obtain ⟨o2, f2⟩ := parseWith_sameObs hQD hQT hCB false μ ids src' hμ
  rw [f2.1] at hcap
  obtain ⟨hc, ha, hr⟩ := parseWithPure_unexpected2 (TableOkU.of_facts (QF.of_facts hQD hQT) hG) μ ids pre post
    h1 h2 hμ hpk hrun hun hcap
  rw [o1, o2]
  exact ⟨hc.of_sameObs f1 f2, ha, hr⟩

end Recover2
end GV
