/-
  Lemmas/NoCrash.lean — the AST builder never crashes on the tree of an accepted document
  (property C01, builder side): `Spec.astOf` does not end in `BErr.crash` on a token tree that has
  the children the builder reads (`Spec.Complete`; a consequence of the grammar,
  `complete_of_validTree`), whose matched leaves carry the fields the builder reads
  (`Spec.WellMatched`; set by every successful `match_<Kind>`, `match_well_matched`) and whose doc
  strings start with an opening separator (`Spec.DocStringsOpened`; a hypothesis at tree level,
  being a fact about the matcher's state along the run).  The only error left is the ragged-table
  `AstBuilderException`: `SafeRes Q` says of one builder computation that it returned a value with `Q`
  or raised that error, and `SafeRes.bind` chains such steps.  `GoodItems` is the invariant on a node's
  item list, `node_outcome` the step for one node of any rule type; `builder_no_crash` carries the
  result to the stack machine through `ast_of_tree`.
-/
import GherkinVerif.Lemmas.AstShape
import GherkinVerif.Lemmas.DocString
import GherkinVerif.KDecide
namespace GV

/-! ### vocabulary of the property statements -/
namespace Spec

/-- the fields of a token that `transform_node` dereferences when the token was matched as kind
    `k`.  Of a doc string separator only the keyword (the delimiter): the text (media type) is read
    of the node's first separator alone, which has one when it is an opening separator —
    `DocStringsOpened`.  Nothing of a tag line or a table row, whose `items` is a list. -/
def fieldsRead (k : Kind) (t : Token) : Bool :=
  match k with
  | .StepLine => t.keyword.isSome && t.ktype.isSome && t.text.isSome
  | .FeatureLine | .RuleLine | .BackgroundLine | .ScenarioLine | .ExamplesLine =>
    t.keyword.isSome && t.text.isSome
  | .DocStringSeparator => t.keyword.isSome
  | .Comment | .Other => t.text.isSome
  | _ => true

def wellMatched (t : Token) : Bool :=
  match t.mtype with
  | some k => fieldsRead k t
  | Option.none => false

/-- the token has been matched and carries the fields the builder reads for its kind -/
def WellMatched (t : Token) : Prop := wellMatched t = true

instance (t : Token) : Decidable (WellMatched t) := inferInstanceAs (Decidable (_ = true))

/-- the matcher is inside a doc string: `match_DocStringSeparator` tests
    `_active_doc_string_separator` for truth, so `None` and `''` both mean outside -/
def _root_.GV.MState.inDocString (μ : MState) : Bool :=
  match μ.activeSep with
  | some sep => !sep.isEmpty
  | Option.none => false

mutual
def leaves : TTree → List Token
  | .leaf t => [t]
  | .node _ cs => leavesList cs
def leavesList : List TTree → List Token
  | [] => []
  | c :: cs => leaves c ++ leavesList cs
end

/-- the children a node of each rule type must have for the builder to read them: the keyword
    line of a step / background / scenario / examples block, the `Scenario` / `Examples` node of a
    definition, a row of a data table, a separator of a doc string.  (A feature or rule without
    header, and a header without keyword line, are answered with `None`, not with an error.) -/
def required : RuleType → List Sym
  | .Step => [.tok .StepLine]
  | .DocString => [.tok .DocStringSeparator]
  | .DataTable => [.tok .TableRow]
  | .Background => [.tok .BackgroundLine]
  | .ScenarioDefinition => [.rule .Scenario]
  | .Scenario => [.tok .ScenarioLine]
  | .ExamplesDefinition => [.rule .Examples]
  | .Examples => [.tok .ExamplesLine]
  | _ => []

def nodeComplete (r : RuleType) (cs : List TTree) : Bool :=
  (required r).all fun x => cs.any (TTree.isSym x)

mutual
def complete : TTree → Bool
  | .leaf _ => true
  | .node r cs => nodeComplete r cs && completeList cs
def completeList : List TTree → Bool
  | [] => true
  | c :: cs => complete c && completeList cs
end

/-- every node has its `required` children -/
def Complete (t : TTree) : Prop := complete t = true

instance (t : TTree) : Decidable (Complete t) := inferInstanceAs (Decidable (_ = true))

def childTokens (k : Kind) (cs : List TTree) : List Token :=
  cs.filterMap fun c =>
    match c with
    | .leaf t => if t.mtype = some k then some t else Option.none
    | .node _ _ => Option.none

def nodeOpened (r : RuleType) (cs : List TTree) : Bool :=
  r != .DocString ||
    match (childTokens .DocStringSeparator cs).head? with
    | some sep => sep.text.isSome
    | Option.none => true

mutual
def opened : TTree → Bool
  | .leaf _ => true
  | .node r cs => nodeOpened r cs && openedList cs
def openedList : List TTree → Bool
  | [] => true
  | c :: cs => opened c && openedList cs
end

/-- in every `DocString` node the first `DocStringSeparator` line is an opening one: its text is
    set (`match_DocStringSeparator` sets the text of an opening separator to the media type and
    that of a closing separator to `None`, see `Lemmas.docsep_match`) -/
def DocStringsOpened (t : TTree) : Prop := opened t = true

instance (t : TTree) : Decidable (DocStringsOpened t) := inferInstanceAs (Decidable (_ = true))

/-- the one builder error that is not a crash: the `AstBuilderException` for a ragged table -/
def Ragged {α} (r : Except BErr α) : Prop := ∃ e, r = .error (.ast e) ∧ e.kind = .raggedTable

end Spec

namespace Lemmas
open Spec

theorem wellMatched_iff (t : Token) :
    WellMatched t ↔ ∃ k, t.mtype = some k ∧ fieldsRead k t = true := by
  unfold WellMatched wellMatched
  cases t.mtype with
  | none => simp
  | some k => simp

theorem fieldsRead_of (t : Token) (k : Kind) (hm : t.mtype = some k) (hw : WellMatched t) :
    fieldsRead k t = true := by
  obtain ⟨k', h1, h2⟩ := (wellMatched_iff t).1 hw
  rw [hm] at h1; cases h1; exact h2

/-- `TTree.kinds` reads an unmatched token as free text -/
theorem kinds_leaf_of_wellMatched (t : Token) (hw : WellMatched t) :
    ∃ k, t.mtype = some k ∧ (TTree.leaf t).kinds = .leaf k := by
  obtain ⟨k, h1, -⟩ := (wellMatched_iff t).1 hw
  exact ⟨k, h1, by rw [TTree.kinds, h1]; rfl⟩

theorem keeps_activeSep (D : List Dialect) (k : Kind) (μ : MState) (t : Token) (l : Str)
    (hk : k ≠ .DocStringSeparator) : (matchLine D k μ t l).μ.activeSep = μ.activeSep :=
  (matchLine_keeps_docstate D k μ t l hk).1

theorem inDocString_congr {μ μ' : MState} (h : μ'.activeSep = μ.activeSep) : μ'.inDocString = μ.inDocString := by
  unfold MState.inDocString; rw [h]

theorem docsep_match (D : List Dialect) (μ : MState) (t : Token) (l : Str)
    (h : (matchLine D .DocStringSeparator μ t l).res = .matched) :
    let o := matchLine D .DocStringSeparator μ t l
    o.tok.mtype = some .DocStringSeparator ∧ o.tok.keyword.isSome = true ∧
      o.tok.text.isSome = !μ.inDocString ∧ o.μ.inDocString = !μ.inDocString := by
  obtain ⟨μs, tx, kw, kt, ind, its, μ', hd, e⟩ := matched_hit h
  rw [e]
  cases hd with
  | title hk => cases hk
  | sepOpen hsep hμ =>
    have h1 : μ.inDocString = false := by
      unfold MState.inDocString
      cases ha : μ.activeSep with
      | none => rfl
      | some s => simp only [hμ s ha, Bool.not_true]
    refine ⟨rfl, rfl, by rw [h1]; rfl, ?_⟩
    rw [h1]
    rcases hsep with rfl | rfl <;> rfl
  | sepClose ha hne =>
    have h1 : μ.inDocString = true := by
      unfold MState.inDocString
      rw [ha]
      simp only [hne, Bool.not_false]
    exact ⟨rfl, rfl, by rw [h1]; rfl, by rw [h1]; rfl⟩

theorem match_well_matched (D : List Dialect) (K : Kind) (μ : MState) (t : Token) (l : Str)
    (h : (matchLine D K μ t l).res = .matched) :
    (matchLine D K μ t l).tok.mtype = some K ∧ WellMatched (matchLine D K μ t l).tok := by
  obtain ⟨μs, tx, kw, kt, ind, its, μ', hd, e⟩ := matched_hit h
  rw [e]
  refine ⟨rfl, ?_⟩
  cases hd with
  | title hk => cases K <;> first | rfl | exact absurd hk (by decide)
  | _ => rfl

theorem matchTok_well_matched (D : List Dialect) (K : Kind) (μ : MState) (t : Token)
    (h : (matchTok D K μ t).1.res = .matched) :
    (matchTok D K μ t).1.tok.mtype = some K ∧ WellMatched (matchTok D K μ t).1.tok := by
  unfold matchTok at h ⊢
  cases hl : t.line with
  | some l => simp only [hl] at h ⊢; exact match_well_matched D K μ t l h
  | none =>
    simp only [hl] at h ⊢
    by_cases hk : (K == .EOF) = true
    · simp only [hk, if_true]
      rw [beq_iff_eq] at hk; subst hk
      exact ⟨rfl, rfl⟩
    · simp only [hk] at h; cases h

def TokGood (is : List (Key × Val)) : Prop :=
  ∀ k v, (Key.tok k, v) ∈ is → ∃ t, v = .tok t ∧ t.mtype = some k ∧ WellMatched t

/-- what `get_tags`, `get_description` and `get_token` need of an item list -/
def BaseGood (is : List (Key × Val)) : Prop :=
  TokGood is ∧ (∀ v, (Key.rule .Description, v) ∈ is → ∃ s, v = .descr s) ∧
    (∀ v, (Key.rule .Tags, v) ∈ is → ∃ rt ti, v = .raw rt ti)

/-- what the parent's transformation relies on in the value of a node of rule type `r` -/
def GoodVal : RuleType → Val → Prop
  | .Description, v => ∃ s, v = .descr s
  | .Tags, v => ∃ rt ti, v = .raw rt ti
  | .Scenario, v => ∃ rt sc, v = .raw rt sc ∧ BaseGood sc ∧ ∃ line, getSingle sc (.tok .ScenarioLine) = .tok line
  | .Examples, v => ∃ rt ex, v = .raw rt ex ∧ BaseGood ex ∧ ∃ line, getSingle ex (.tok .ExamplesLine) = .tok line
  | .RuleHeader, v => ∃ rt hd, v = .raw rt hd ∧ BaseGood hd
  | .FeatureHeader, v => ∃ rt hd, v = .raw rt hd ∧ BaseGood hd
  | _, _ => True

def GoodItems (is : List (Key × Val)) : Prop :=
  TokGood is ∧ ∀ r v, (Key.rule r, v) ∈ is → GoodVal r v

theorem GoodItems.base {is : List (Key × Val)} (h : GoodItems is) : BaseGood is :=
  ⟨h.1, fun v hv => h.2 .Description v hv, fun v hv => h.2 .Tags v hv⟩

theorem getSingle_mem (is : List (Key × Val)) (k : Key) (v : Val) (h : getSingle is k = v) (hv : v ≠ .none) :
    (k, v) ∈ is :=
  h ▸ (getSingle_none_or_mem is k).resolve_left (h ▸ hv)

theorem getSingle_tok_of_ne_nil {is : List (Key × Val)} (hg : TokGood is) (k : Kind)
    (h : getItems is (.tok k) ≠ []) : ∃ line, getSingle is (.tok k) = .tok line := by
  cases hi : getItems is (.tok k) with
  | nil => exact absurd hi h
  | cons v vs =>
    obtain ⟨t, rfl, -, -⟩ := hg k v (mem_getItems is _ v (by rw [hi]; exact List.mem_cons_self))
    exact ⟨t, getSingle_of_cons is _ _ vs hi⟩

theorem fields_of_getSingle {is : List (Key × Val)} (hg : TokGood is) (k : Kind) (line : Token)
    (h : getSingle is (.tok k) = .tok line) : fieldsRead k line = true := by
  obtain ⟨t, e, hm, hw⟩ := hg k _ (getSingle_mem is _ _ h (fun h => by cases h))
  cases e
  exact fieldsRead_of line k hm hw

theorem getTokens_good {is : List (Key × Val)} (hg : TokGood is) {k : Kind} {t : Token}
    (h : t ∈ getTokens is k) : t.mtype = some k ∧ WellMatched t := by
  obtain ⟨t', e, hm, hw⟩ := hg k _ (mem_getTokens h)
  cases e; exact ⟨hm, hw⟩

theorem getTokens_ne_nil {is : List (Key × Val)} (hg : TokGood is) (k : Kind)
    (h : getItems is (.tok k) ≠ []) : getTokens is k ≠ [] := by
  cases hi : getItems is (.tok k) with
  | nil => exact absurd hi h
  | cons v vs =>
    obtain ⟨t, rfl, -, -⟩ := hg k v (mem_getItems is _ v (by rw [hi]; exact List.mem_cons_self))
    simp [getTokens, hi]

theorem descOf_of_base {is : List (Key × Val)} (h : BaseGood is) : ∃ d, descOf is = some d := by
  unfold descOf
  cases hi : getItems is (.rule .Description) with
  | nil => exact ⟨_, rfl⟩
  | cons v vs =>
    obtain ⟨s, rfl⟩ := h.2.1 v (mem_getItems is _ v (by rw [hi]; exact List.mem_cons_self))
    exact ⟨s, rfl⟩

theorem tagTokens_of_base {is : List (Key × Val)} (h : BaseGood is) : ∃ toks, tagTokens is = some toks := by
  unfold tagTokens
  cases hi : getItems is (.rule .Tags) with
  | nil => rw [getSingle_of_nil is _ hi]; exact ⟨_, rfl⟩
  | cons v vs =>
    obtain ⟨rt, ti, rfl⟩ := h.2.2 v (mem_getItems is _ v (by rw [hi]; exact List.mem_cons_self))
    rw [getSingle_of_cons is _ _ vs hi]; exact ⟨_, rfl⟩

theorem title_fields {k : Kind} {line : Token} (hk : fieldsRead k line = (line.keyword.isSome && line.text.isSome))
    (h : fieldsRead k line = true) : ∃ kw nm, line.keyword = some kw ∧ line.text = some nm := by
  rw [hk, Bool.and_eq_true, Option.isSome_iff_exists, Option.isSome_iff_exists] at h
  obtain ⟨⟨kw, h1⟩, nm, h2⟩ := h
  exact ⟨kw, nm, h1, h2⟩

theorem other_texts {is : List (Key × Val)} (hg : TokGood is) :
    ∃ ls : List Str, (getTokens is .Other).map (·.text) = ls.map some := by
  have : ∀ toks : List Token, (∀ t ∈ toks, t.mtype = some .Other ∧ WellMatched t) →
      ∃ ls : List Str, toks.map (·.text) = ls.map some := by
    intro toks
    induction toks with
    | nil => intro _; exact ⟨[], rfl⟩
    | cons t toks ih =>
      intro h
      obtain ⟨ls, hls⟩ := ih fun t' ht' => h t' (List.mem_cons_of_mem _ ht')
      obtain ⟨hm, hw⟩ := h t List.mem_cons_self
      have := fieldsRead_of t _ hm hw
      simp only [fieldsRead, Option.isSome_iff_exists] at this
      obtain ⟨tx, htx⟩ := this
      exact ⟨tx :: ls, by simp [htx, hls]⟩
  exact this _ fun t ht => getTokens_good hg ht

/-- `nodeComplete` and `nodeOpened`, said of the node's items (`nodeReq_of_spec`) -/
def NodeReq (R : RuleType) (is : List (Key × Val)) : Prop :=
  (∀ x ∈ required R, getItems is (symKey x) ≠ []) ∧
  (R = .DocString → ∀ sep rest, getTokens is .DocStringSeparator = sep :: rest → sep.text.isSome = true)

/-- a builder computation has returned a value with `Q`, or raised the ragged-table error: the
    outcomes that are not a crash -/
def SafeRes {α} (Q : α → Prop) (res : Except BErr α × Nat) : Prop :=
  (∃ a, res.1 = .ok a ∧ Q a) ∨ Ragged res.1

theorem SafeRes.pure {α} {Q : α → Prop} {a : α} (n : Nat) (h : Q a) : SafeRes Q ((pure a : BM α).run.run n) :=
  .inl ⟨a, rfl, h⟩

theorem SafeRes.bind {α β} {Q : α → Prop} {Q' : β → Prop} {m : BM α} {f : α → BM β} {n : Nat}
    (h : SafeRes Q (m.run.run n))
    (hf : ∀ a n', m.run.run n = (.ok a, n') → Q a → SafeRes Q' ((f a).run.run n')) :
    SafeRes Q' ((m >>= f).run.run n) := by
  rw [run_bind]
  rcases hr : m.run.run n with ⟨e | a, n'⟩
  · rw [hr] at h
    rcases h with ⟨_, h, _⟩ | ⟨p, h, hp⟩
    · cases h
    · exact .inr ⟨p, by cases h; rfl, hp⟩
  · rw [hr] at h
    rcases h with ⟨a', h, ha⟩ | ⟨_, h, _⟩
    · cases h; exact hf a n' hr ha
    · cases h

abbrev NodeOutcome (R : RuleType) (res : Except BErr Val × Nat) : Prop := SafeRes (GoodVal R) res

theorem outcome_ok {R : RuleType} {res : Except BErr Val × Nat} (v : Val) (m : Nat)
    (h : res = (.ok v, m)) (hv : GoodVal R v) : NodeOutcome R res :=
  Or.inl ⟨v, by rw [h], hv⟩

theorem outcome_step (cs : List Comment) (is : List (Key × Val)) (n : Nat)
    (hg : GoodItems is) (hr : NodeReq .Step is) :
    NodeOutcome .Step ((transformNode cs ⟨.Step, is⟩).run.run n) := by
  obtain ⟨line, hl⟩ := getSingle_tok_of_ne_nil hg.1 .StepLine (hr.1 _ List.mem_cons_self)
  have hf := fields_of_getSingle hg.1 _ line hl
  simp only [fieldsRead, Bool.and_eq_true, Option.isSome_iff_exists] at hf
  obtain ⟨⟨⟨kw, hk⟩, kt, hkt⟩, tx, ht⟩ := hf
  exact outcome_ok _ _ (step_eq cs is n line kw tx kt hl hk hkt ht) trivial

theorem outcome_background (cs : List Comment) (is : List (Key × Val)) (n : Nat)
    (hg : GoodItems is) (hr : NodeReq .Background is) :
    NodeOutcome .Background ((transformNode cs ⟨.Background, is⟩).run.run n) := by
  obtain ⟨line, hl⟩ := getSingle_tok_of_ne_nil hg.1 .BackgroundLine (hr.1 _ List.mem_cons_self)
  obtain ⟨kw, nm, hk, hn⟩ := title_fields rfl (fields_of_getSingle hg.1 _ line hl)
  obtain ⟨d, hd⟩ := descOf_of_base hg.base
  exact outcome_ok _ _ (background_eq cs is n line kw nm d hl hd hk hn) trivial

theorem outcome_docString (cs : List Comment) (is : List (Key × Val)) (n : Nat)
    (hg : GoodItems is) (hr : NodeReq .DocString is) :
    NodeOutcome .DocString ((transformNode cs ⟨.DocString, is⟩).run.run n) := by
  have hne := getTokens_ne_nil hg.1 .DocStringSeparator (hr.1 _ List.mem_cons_self)
  cases hs : getTokens is .DocStringSeparator with
  | nil => exact absurd hs hne
  | cons sep rest =>
    have hst := hr.2 rfl sep rest hs
    rw [Option.isSome_iff_exists] at hst
    obtain ⟨st, hst⟩ := hst
    obtain ⟨hm, hw⟩ := getTokens_good hg.1 (k := .DocStringSeparator) (t := sep) (by rw [hs]; exact List.mem_cons_self)
    have hf := fieldsRead_of sep _ hm hw
    simp only [fieldsRead, Option.isSome_iff_exists] at hf
    obtain ⟨dl, hdl⟩ := hf
    obtain ⟨ls, hls⟩ := other_texts hg.1
    exact outcome_ok _ _ (docString_eq cs is sep rest st dl ls n hs hst hdl hls) trivial

theorem ragged_of_row (r : Row) (b : Str) : Ragged (α := Val) (.error (.ast ⟨.raggedTable, r.loc, b⟩)) :=
  ⟨_, rfl, rfl⟩

theorem outcome_dataTable (cs : List Comment) (is : List (Key × Val)) (n : Nat)
    (hg : GoodItems is) (hr : NodeReq .DataTable is) :
    NodeOutcome .DataTable ((transformNode cs ⟨.DataTable, is⟩).run.run n) := by
  have hne := getTokens_ne_nil hg.1 .TableRow (hr.1 _ List.mem_cons_self)
  simp only [transformNode, run_bind, run_getTableRows]
  cases hs : getTokens is .TableRow with
  | nil => exact absurd hs hne
  | cons t0 rest =>
    cases hrr : raggedRow (numberRows (t0 :: rest) n) with
    | some r => exact Or.inr (ragged_of_row r _)
    | none => simp only [numberRows_cons, run_pure]; exact Or.inl ⟨_, rfl, trivial⟩

theorem outcome_examplesTable (cs : List Comment) (is : List (Key × Val)) (n : Nat) :
    NodeOutcome .ExamplesTable ((transformNode cs ⟨.ExamplesTable, is⟩).run.run n) := by
  simp only [transformNode, run_bind, run_getTableRows]
  cases hrr : raggedRow (numberRows (getTokens is .TableRow) n) with
  | some r => exact Or.inr (ragged_of_row r _)
  | none => simp only [run_pure]; exact Or.inl ⟨_, rfl, trivial⟩

theorem outcome_description (cs : List Comment) (is : List (Key × Val)) (n : Nat) (hg : GoodItems is) :
    NodeOutcome .Description ((transformNode cs ⟨.Description, is⟩).run.run n) := by
  obtain ⟨ls, hls⟩ := other_texts hg.1
  exact outcome_ok _ _ (description_eq cs is ls n hls) ⟨_, rfl⟩

theorem outcome_document (cs : List Comment) (is : List (Key × Val)) (n : Nat) :
    NodeOutcome .GherkinDocument ((transformNode cs ⟨.GherkinDocument, is⟩).run.run n) :=
  outcome_ok _ _ (document_eq cs is n) trivial

theorem required_raw {is : List (Key × Val)} (hg : GoodItems is) (x : RuleType)
    (hne : getItems is (.rule x) ≠ []) : GoodVal x (getSingle is (.rule x)) := by
  cases hi : getItems is (.rule x) with
  | nil => exact absurd hi hne
  | cons v vs =>
    rw [getSingle_of_cons is _ _ vs hi]
    exact hg.2 x v (mem_getItems is _ v (by rw [hi]; exact List.mem_cons_self))

theorem outcome_scenario (cs : List Comment) (is : List (Key × Val)) (n : Nat)
    (hg : GoodItems is) (hr : NodeReq .ScenarioDefinition is) :
    NodeOutcome .ScenarioDefinition ((transformNode cs ⟨.ScenarioDefinition, is⟩).run.run n) := by
  obtain ⟨rt, sc, hs, hb, line, hl⟩ := required_raw hg .Scenario (hr.1 _ List.mem_cons_self)
  obtain ⟨toks, htags⟩ := tagTokens_of_base hg.base
  obtain ⟨kw, nm, hk, hn⟩ := title_fields rfl (fields_of_getSingle hb.1 _ line hl)
  obtain ⟨d, hd⟩ := descOf_of_base hb
  exact outcome_ok _ _ (scenario_eq cs is sc n toks rt line kw nm d htags hs hl hd hk hn) trivial

theorem outcome_examples (cs : List Comment) (is : List (Key × Val)) (n : Nat)
    (hg : GoodItems is) (hr : NodeReq .ExamplesDefinition is) :
    NodeOutcome .ExamplesDefinition ((transformNode cs ⟨.ExamplesDefinition, is⟩).run.run n) := by
  obtain ⟨rt, ex, hs, hb, line, hl⟩ := required_raw hg .Examples (hr.1 _ List.mem_cons_self)
  obtain ⟨toks, htags⟩ := tagTokens_of_base hg.base
  obtain ⟨kw, nm, hk, hn⟩ := title_fields rfl (fields_of_getSingle hb.1 _ line hl)
  obtain ⟨d, hd⟩ := descOf_of_base hb
  exact outcome_ok _ _ (examples_eq cs is ex n toks rt line kw nm d htags hs hl hd hk hn) trivial

theorem outcome_rule (cs : List Comment) (is : List (Key × Val)) (n : Nat) (hg : GoodItems is) :
    NodeOutcome .Rule ((transformNode cs ⟨.Rule, is⟩).run.run n) := by
  cases hh : getSingle is (.rule .RuleHeader) with
  | raw rt header =>
    obtain ⟨rt', hd', e, hb⟩ := hg.2 .RuleHeader _ (getSingle_mem is _ _ hh (fun h => by cases h))
    cases e
    obtain ⟨toks, htags⟩ := tagTokens_of_base hb
    cases hl : getSingle header (.tok .RuleLine) with
    | tok line =>
      obtain ⟨kw, nm, hk, hn⟩ := title_fields rfl (fields_of_getSingle hb.1 _ line hl)
      obtain ⟨d, hd⟩ := descOf_of_base hb
      exact outcome_ok _ _ (rule_eq cs is header n toks rt line kw nm d hh htags hl hd hk hn) trivial
    | _ =>
      simp only [transformNode, hh, run_bind, run_getTags_some header toks n htags, hl, run_pure]
      exact Or.inl ⟨_, rfl, trivial⟩
  | _ =>
    simp only [transformNode, hh, run_pure]
    exact Or.inl ⟨_, rfl, trivial⟩

theorem outcome_feature (cs : List Comment) (is : List (Key × Val)) (n : Nat) (hg : GoodItems is) :
    NodeOutcome .Feature ((transformNode cs ⟨.Feature, is⟩).run.run n) := by
  cases hh : getSingle is (.rule .FeatureHeader) with
  | raw rt header =>
    obtain ⟨rt', hd', e, hb⟩ := hg.2 .FeatureHeader _ (getSingle_mem is _ _ hh (fun h => by cases h))
    cases e
    obtain ⟨toks, htags⟩ := tagTokens_of_base hb
    cases hl : getSingle header (.tok .FeatureLine) with
    | tok line =>
      obtain ⟨kw, nm, hk, hn⟩ := title_fields rfl (fields_of_getSingle hb.1 _ line hl)
      obtain ⟨d, hd⟩ := descOf_of_base hb
      exact outcome_ok _ _ (feature_eq cs is header n toks rt line kw nm d hh htags hl hd hk hn) trivial
    | _ =>
      simp only [transformNode, hh, run_bind, run_getTags_some header toks n htags, hl, run_pure]
      exact Or.inl ⟨_, rfl, trivial⟩
  | _ =>
    simp only [transformNode, hh, run_pure]
    exact Or.inl ⟨_, rfl, trivial⟩

theorem outcome_raw (cs : List Comment) (R : RuleType) (is : List (Key × Val)) (n : Nat)
    (hR : transformNode cs ⟨R, is⟩ = pure (.raw R is)) (hv : GoodVal R (.raw R is)) :
    NodeOutcome R ((transformNode cs ⟨R, is⟩).run.run n) := by
  rw [hR, run_pure]; exact Or.inl ⟨_, rfl, hv⟩

theorem node_outcome (cs : List Comment) (R : RuleType) (is : List (Key × Val)) (n : Nat)
    (hg : GoodItems is) (hr : NodeReq R is) :
    NodeOutcome R ((transformNode cs ⟨R, is⟩).run.run n) := by
  cases R
  case None_ => exact outcome_raw cs _ is n rfl trivial
  case StepArg => exact outcome_raw cs _ is n rfl trivial
  case DescriptionHelper => exact outcome_raw cs _ is n rfl trivial
  case GherkinDocument => exact outcome_document cs is n
  case Feature => exact outcome_feature cs is n hg
  case FeatureHeader => exact outcome_raw cs _ is n rfl ⟨_, _, rfl, hg.base⟩
  case Rule => exact outcome_rule cs is n hg
  case RuleHeader => exact outcome_raw cs _ is n rfl ⟨_, _, rfl, hg.base⟩
  case Background => exact outcome_background cs is n hg hr
  case ScenarioDefinition => exact outcome_scenario cs is n hg hr
  case Scenario =>
    exact outcome_raw cs _ is n rfl
      ⟨_, _, rfl, hg.base, getSingle_tok_of_ne_nil hg.1 .ScenarioLine (hr.1 _ List.mem_cons_self)⟩
  case ExamplesDefinition => exact outcome_examples cs is n hg hr
  case Examples =>
    exact outcome_raw cs _ is n rfl
      ⟨_, _, rfl, hg.base, getSingle_tok_of_ne_nil hg.1 .ExamplesLine (hr.1 _ List.mem_cons_self)⟩
  case ExamplesTable => exact outcome_examplesTable cs is n
  case Step => exact outcome_step cs is n hg hr
  case DataTable => exact outcome_dataTable cs is n hg hr
  case DocString => exact outcome_docString cs is n hg hr
  case Tags => exact outcome_raw cs _ is n rfl ⟨_, _, rfl⟩
  case Description => exact outcome_description cs is n hg

/-- of the items that the sibling trees `ts` contribute; their token side — the tokens under a kind
    are the child lines of that kind — is `getTokens_itemsOfList` -/
structure ItemsSpec (ts : List TTree) (is : List (Key × Val)) : Prop where
  good : GoodItems is
  rules : ∀ r, ts.any (TTree.isSym (.rule r)) = true → getItems is (.rule r) ≠ []

abbrev ItemsOutcome (ts : List TTree) (res : Except BErr (List (Key × Val)) × Nat) : Prop :=
  SafeRes (ItemsSpec ts) res

theorem goodItems_nil : GoodItems [] :=
  ⟨fun _ _ h => (nomatch h), fun _ _ h => (nomatch h)⟩

theorem GoodItems.append {a b : List (Key × Val)} (ha : GoodItems a) (hb : GoodItems b) : GoodItems (a ++ b) :=
  ⟨fun k v hm => (List.mem_append.1 hm).elim (ha.1 k v) (hb.1 k v),
   fun r v hm => (List.mem_append.1 hm).elim (ha.2 r v) (hb.2 r v)⟩

theorem goodItems_tok {k : Kind} {t : Token} (hm : t.mtype = some k) (hw : WellMatched t) :
    GoodItems [(.tok k, .tok t)] := by
  refine ⟨fun k' v h => ?_, fun r v h => ?_⟩
  · simp only [List.mem_singleton, Prod.mk.injEq, Key.tok.injEq] at h
    obtain ⟨rfl, rfl⟩ := h
    exact ⟨t, rfl, hm, hw⟩
  · simp only [List.mem_singleton, Prod.mk.injEq, reduceCtorEq, false_and] at h

theorem goodItems_rule {r : RuleType} {v : Val} (hv : GoodVal r v) : GoodItems [(.rule r, v)] := by
  refine ⟨fun k v' h => ?_, fun r' v' h => ?_⟩
  · simp only [List.mem_singleton, Prod.mk.injEq, reduceCtorEq, false_and] at h
  · simp only [List.mem_singleton, Prod.mk.injEq, Key.rule.injEq] at h
    obtain ⟨rfl, rfl⟩ := h
    exact hv

theorem itemsSpec_nil : ItemsSpec [] [] :=
  ⟨goodItems_nil, fun _ h => by simp at h⟩

theorem ragged_error {α β} {e : BErr} (h : Ragged (.error e : Except BErr α)) :
    Ragged (.error e : Except BErr β) := by
  obtain ⟨p, h1, h2⟩ := h
  cases h1
  exact ⟨p, rfl, h2⟩

theorem itemsSpec_append {c : TTree} {ts : List TTree} {i is : List (Key × Val)}
    (h1 : ItemsSpec [c] i) (h2 : ItemsSpec ts is) : ItemsSpec (c :: ts) (i ++ is) := by
  refine ⟨h1.good.append h2.good, fun r hr => ?_⟩
  rw [List.any_cons, Bool.or_eq_true] at hr
  rw [getItems_append]
  rcases hr with hr | hr
  · have := h1.rules r (by rw [List.any_cons, hr]; rfl)
    intro e; exact this (List.append_eq_nil_iff.1 e).1
  · have := h2.rules r hr
    intro e; exact this (List.append_eq_nil_iff.1 e).2

theorem itemsSpec_leaf (t : Token) (hw : WellMatched t) (n : Nat) :
    ItemsOutcome [.leaf t] ((leafItems t).run.run n) := by
  obtain ⟨k, hm, hf⟩ := (wellMatched_iff t).1 hw
  have hrule : ∀ r, [TTree.leaf t].any (TTree.isSym (.rule r)) = true → False := by
    intro r h; simp [TTree.isSym] at h
  by_cases hc : k = .Comment
  · subst hc
    simp only [fieldsRead, Option.isSome_iff_exists] at hf
    obtain ⟨tx, htx⟩ := hf
    have hl : (leafItems t).run.run n = (.ok [], n) := by
      unfold leafItems; rw [hm]; simp only [htx]; rfl
    exact Or.inl ⟨[], by rw [hl], goodItems_nil, fun r h => (hrule r h).elim⟩
  · rw [run_leafItems_token t k n hm hc]
    exact Or.inl ⟨_, rfl, goodItems_tok hm hw, fun r h => (hrule r h).elim⟩

theorem itemsSpec_node (r : RuleType) (ch : List TTree) (v : Val) (hv : GoodVal r v) :
    ItemsSpec [.node r ch] [(.rule r, v)] := by
  refine ⟨goodItems_rule hv, fun r' h => ?_⟩
  simp only [List.any_cons, List.any_nil, Bool.or_false, TTree.isSym, beq_iff_eq] at h
  subst h
  simp [getItems]

theorem any_isSym_tok (k : Kind) (ts : List TTree) (h : ts.any (TTree.isSym (.tok k)) = true) :
    childTokens k ts ≠ [] := by
  rw [List.any_eq_true] at h
  obtain ⟨c, hc, hs⟩ := h
  cases c with
  | node r ch => simp [TTree.isSym] at hs
  | leaf t =>
    simp only [TTree.isSym, beq_iff_eq] at hs
    intro e
    have : t ∈ childTokens k ts := by
      simp only [childTokens, List.mem_filterMap]
      exact ⟨.leaf t, hc, by simp [hs]⟩
    rw [e] at this; cases this

theorem comment_not_required (r : RuleType) : Sym.tok .Comment ∉ required r := by
  cases r <;> decide

theorem nodeReq_of_spec (r : RuleType) (ch : List TTree) (is : List (Key × Val)) (hs : ItemsSpec ch is)
    (htoks : ∀ k, k ≠ .Comment → getTokens is k = childTokens k ch) (hc : nodeComplete r ch = true) (ho : nodeOpened r ch = true) : NodeReq r is := by
  constructor
  · intro x hx
    have hany := List.all_eq_true.1 hc x hx
    cases x with
    | rule x => exact hs.rules x hany
    | tok k =>
      have hk : k ≠ .Comment := fun e => comment_not_required r (e ▸ hx)
      have := any_isSym_tok k ch hany
      rw [← htoks k hk] at this
      intro e
      apply this
      simp [getTokens, symKey] at e ⊢
      simp [e]
  · intro hr sep rest hsep
    subst hr
    rw [htoks _ (by decide)] at hsep
    simp only [nodeOpened, hsep, List.head?_cons, bne_self_eq_false, Bool.false_or] at ho
    exact ho

def TreeHyp (t : TTree) : Prop :=
  complete t = true ∧ opened t = true ∧ ∀ tk ∈ leaves t, WellMatched tk
def ListHyp (ts : List TTree) : Prop :=
  completeList ts = true ∧ openedList ts = true ∧ ∀ tk ∈ leavesList ts, WellMatched tk

def SafeSpec (t : TTree) : Prop :=
  TreeHyp t → ∀ (cs : List Comment) (n : Nat), ItemsOutcome [t] ((itemsOf cs t).run.run n)
def SafeSpecList (ts : List TTree) : Prop :=
  ListHyp ts → ∀ (cs : List Comment) (n : Nat), ItemsOutcome ts ((itemsOfList cs ts).run.run n)

theorem safeSpec_leaf (t : Token) : SafeSpec (.leaf t) := by
  intro h cs n
  rw [itemsOf]
  exact itemsSpec_leaf t (h.2.2 t (by simp [leaves])) n

theorem safeSpec_nil : SafeSpecList [] := by
  intro _ cs n
  rw [itemsOfList, run_pure]
  exact Or.inl ⟨[], rfl, itemsSpec_nil⟩

theorem safeSpec_cons (c : TTree) (ts : List TTree) (hc : SafeSpec c) (hts : SafeSpecList ts) :
    SafeSpecList (c :: ts) := by
  intro h cs n
  obtain ⟨h1, h2, h3⟩ := h
  simp only [completeList, Bool.and_eq_true] at h1
  simp only [openedList, Bool.and_eq_true] at h2
  simp only [leavesList, List.mem_append] at h3
  rw [itemsOfList]
  exact (hc ⟨h1.1, h2.1, fun tk htk => h3 tk (Or.inl htk)⟩ cs n).bind fun i n₁ _ hi =>
    (hts ⟨h1.2, h2.2, fun tk htk => h3 tk (Or.inr htk)⟩ cs n₁).bind fun is n₂ _ his =>
      SafeRes.pure n₂ (itemsSpec_append hi his)

theorem safeSpec_node (r : RuleType) (ch : List TTree) (hch : SafeSpecList ch) : SafeSpec (.node r ch) := by
  intro h cs n
  obtain ⟨h1, h2, h3⟩ := h
  simp only [complete, Bool.and_eq_true] at h1
  simp only [opened, Bool.and_eq_true] at h2
  simp only [leaves] at h3
  rw [itemsOf]
  exact (hch ⟨h1.2, h2.2, h3⟩ cs n).bind fun is n₁ hr1 his =>
    (node_outcome cs r is n₁ his.good
      (nodeReq_of_spec r ch is his (getTokens_itemsOfList cs ch n is n₁ hr1) h1.1 h2.1)).bind fun v n₂ _ hv =>
        SafeRes.pure n₂ (itemsSpec_node r ch v hv)

mutual
theorem safeSpec_all : ∀ t : TTree, SafeSpec t
  | .leaf t => safeSpec_leaf t
  | .node r ch => safeSpec_node r ch (safeSpecList_all ch)
theorem safeSpecList_all : ∀ ts : List TTree, SafeSpecList ts
  | [] => safeSpec_nil
  | c :: ts => safeSpec_cons c ts (safeSpec_all c) (safeSpecList_all ts)
end

theorem astOf_no_crash (t : TTree) (hc : Complete t) (hl : ∀ tk ∈ leaves t, WellMatched tk)
    (hd : DocStringsOpened t) (cs : List Comment) (n : Nat) :
    (∃ v, ((astOf cs t).run.run n).1 = .ok v) ∨ Ragged ((astOf cs t).run.run n).1 := by
  have key := safeSpec_all t ⟨hc, hd, hl⟩ cs n
  have done : SafeRes (fun _ : Val => True) ((astOf cs t).run.run n) := by
    cases t with
    | leaf tk =>
      rw [itemsOf] at key
      rw [astOf]
      exact key.bind fun _ n₁ _ _ => SafeRes.pure n₁ trivial
    | node r ch =>
      rw [run_itemsOf_node_eq_astOf] at key
      rcases hr : (astOf cs (.node r ch)).run.run n with ⟨e | v, n₁⟩ <;> rw [hr] at key
      · exact key.elim (fun ⟨_, h, _⟩ => nomatch h) fun h => .inr (ragged_error h)
      · exact .inl ⟨v, rfl, trivial⟩
  exact done.imp (fun ⟨v, h, _⟩ => ⟨v, h⟩) id

theorem astOf_not_crash (t : TTree) (hc : Complete t) (hl : ∀ tk ∈ leaves t, WellMatched tk)
    (hd : DocStringsOpened t) (cs : List Comment) (n : Nat) (s : String) :
    ((astOf cs t).run.run n).1 ≠ .error (.crash s) := by
  intro h
  rcases astOf_no_crash t hc hl hd cs n with ⟨v, hv⟩ | ⟨e, he, -⟩
  · rw [h] at hv; cases hv
  · rw [h] at he; cases he

/-- the grammar fact behind `Spec.required`: the required children occur in every word of the
    rule's right-hand side (rules without `!` inlined) -/
def completeCheck (G : Grammar) : Bool :=
  allRuleTypes.all fun r => (required r).all fun x => RE.must x (rhsOf G r)

theorem other_not_required (r : RuleType) : Sym.tok .Other ∉ required r := by
  cases r <;> decide

theorem nodeComplete_of_valid {G : Grammar} (r : RuleType)
    (hc : ((required r).all fun x => RE.must x (rhsOf G r)) = true) (ch : List TTree)
    (kept : List Tree) (hd : DropIgnored G (kindsList ch) kept)
    (hl : Spec.RE.Lang (rhsOf G r) (kept.map Tree.sym)) : nodeComplete r ch = true := by
  simp only [nodeComplete, List.all_eq_true] at hc ⊢
  intro x hx
  have hm := RE.must_of_lang hl (hc x hx)
  obtain ⟨t, ht, hs⟩ := List.mem_map.1 hm
  have := dropIgnored_sub hd _ ht
  rw [kindsList_eq_map] at this
  obtain ⟨c, hcm, hck⟩ := List.mem_map.1 this
  refine List.any_eq_true.2 ⟨c, hcm, isSym_of_sym_kinds c x ?_ (by rw [hck, hs])⟩
  rintro rfl
  exact other_not_required r hx

mutual
theorem complete_of_validNode {G : Grammar} (hc : completeCheck G = true) :
    ∀ t : TTree, ValidNode G t.kinds → complete t = true
  | .leaf _, _ => by rw [complete]
  | .node r ch, hv => by
    rw [TTree.kinds] at hv
    cases hv with
    | node _ _ kept hvl hd hl =>
      rw [← rhsOf_eq] at hl
      rw [complete, Bool.and_eq_true]
      exact ⟨nodeComplete_of_valid r (List.all_eq_true.1 hc r (mem_allRuleTypes r)) ch kept hd hl,
        completeList_of_validList hc ch hvl⟩
theorem completeList_of_validList {G : Grammar} (hc : completeCheck G = true) :
    ∀ ts : List TTree, ValidList G (kindsList ts) → completeList ts = true
  | [], _ => by rw [completeList]
  | c :: ts, hv => by
    rw [kindsList] at hv
    obtain ⟨h1, h2⟩ := validList_cons_inv hv
    rw [completeList, Bool.and_eq_true]
    exact ⟨complete_of_validNode hc c h1, completeList_of_validList hc ts h2⟩
end

theorem completeList_append (a b : List TTree) :
    completeList (a ++ b) = (completeList a && completeList b) := by
  induction a with
  | nil => rw [List.nil_append, completeList, Bool.true_and]
  | cons c a ih => rw [List.cons_append, completeList, completeList, ih, Bool.and_assoc]

/-- `ValidTree` is `ValidNode` with the end-of-file line appended to the root's children, and a
    further child leaves a node complete -/
theorem complete_of_validTree {G : Grammar} (hc : completeCheck G = true) (start : RuleType) (t : TTree)
    (hv : ValidTree G start t.kinds) : complete t = true := by
  obtain ⟨cs, e, hnode⟩ := hv
  cases t with
  | leaf tk => simp [TTree.kinds] at e
  | node r ch =>
    simp only [TTree.kinds, Tree.node.injEq] at e
    obtain ⟨rfl, e⟩ := e
    rw [kindsList_eq_map] at e
    obtain ⟨ch', l, rfl, e1, e2⟩ := List.map_eq_append_iff.1 e
    have hsh : complete (.node r ch') = true :=
      complete_of_validNode hc (.node r ch') (by rw [TTree.kinds, kindsList_eq_map, e1]; exact hnode)
    cases l with
    | nil => simp at e2
    | cons c l =>
      simp only [List.map_cons, List.cons.injEq, List.map_eq_nil_iff] at e2
      obtain ⟨hc1, rfl⟩ := e2
      cases c with
      | node r' ch'' => simp [TTree.kinds] at hc1
      | leaf tk =>
        rw [complete, Bool.and_eq_true] at hsh ⊢
        refine ⟨?_, ?_⟩
        · have h1 := hsh.1
          simp only [nodeComplete, List.all_eq_true] at h1 ⊢
          intro x hx
          rw [List.any_append, h1 x hx]; rfl
        · rw [completeList_append, hsh.2, completeList, completeList, complete]; rfl

theorem completeCheck_gen : completeCheck Gen.grammar = true := by kdecide

theorem complete_of_valid_gen (t : TTree) (hv : ValidTree Gen.grammar .GherkinDocument t.kinds) :
    Complete t :=
  complete_of_validTree completeCheck_gen _ t hv

theorem builder_no_crash (t : TTree) (ht : t.isDocument = true) (hc : Complete t)
    (hl : ∀ tk ∈ leaves t, WellMatched tk) (hd : DocStringsOpened t) (n : Nat) :
    (∃ β n' d, applyOps (opsOf t) BState.reset n = (.ok (), β, n') ∧ β.result = .ok (some d)) ∨
    Ragged (applyOps (opsOf t) BState.reset n).1 := by
  obtain ⟨hok, herr⟩ := ast_of_tree t ht n
  rcases hr : (astOf (commentsOf t) t).run.run n with ⟨e | v, n'⟩
  · have := astOf_no_crash t hc hl hd (commentsOf t) n
    rw [hr] at this
    rcases this with ⟨_, h⟩ | h
    · cases h
    · obtain ⟨β, hβ⟩ := herr e n' hr
      rw [hβ]
      exact Or.inr (ragged_error h)
  · obtain ⟨β, hβ, -, -, d, -, hres, -⟩ := hok v n' hr
    exact Or.inl ⟨β, n', d, hβ, hres⟩

theorem builder_no_crash_accepted (t : TTree) (hv : ValidTree Gen.grammar .GherkinDocument t.kinds)
    (hl : ∀ tk ∈ leaves t, WellMatched tk) (hd : DocStringsOpened t) (n : Nat) :
    (∃ β n' d, applyOps (opsOf t) BState.reset n = (.ok (), β, n') ∧ β.result = .ok (some d)) ∨
    Ragged (applyOps (opsOf t) BState.reset n).1 := by
  have hs := shaped_of_valid_gen t hv
  have hc := complete_of_valid_gen t hv
  obtain ⟨ch, rfl⟩ := root_of_validTree t hv
  exact builder_no_crash _ (isDocument_of_shaped ch hs) hc hl hd n

end Lemmas
end GV
