/-
  The look-ahead queue is a first-in-first-out buffer of consecutive lines: the main loop reads
  the tokens of lines 1, 2, 3, … in order (C18).

  Invariant of the main loop (`Head`, Lemmas/QueueLoop.lean), with `k` tokens read so far: the
  queue holds the tokens of lines `k+1 … k+|queue|` with their own texts, the scanner stands after
  line `k+|queue|`; and while the queue is not empty the state is a tag state and every queued
  token but the last is stepped over by the look-aheads (so it matches no title kind and keeps the
  state a tag state).
  A look-ahead is therefore entered only with an empty queue (`la_fresh`: it queues consecutive
  fresh lines) or, for a second guarded test of the same state, with exactly what the previous
  look-ahead queued (`la_queue`: it re-reads the same tokens and stops at the same one).
-/
import GherkinVerif.Lemmas.QueueMatch
import GherkinVerif.Lemmas.GluePartition
namespace GV
namespace Lemmas
open Spec

/-- what identifies a token: its physical line and line number -/
def key (t : Token) : Option Str × Nat := (t.line, t.lineNo)

/-- the token of the `i`-th physical line (0-based) of the document with lines `L`; beyond the
    last line: an end-of-file token -/
def srcAt (L : List Str) (i : Nat) : Option Str × Nat := (L[i]?, i + 1)

theorem key_eq {t t' : Token} (h1 : t'.line = t.line) (h2 : t'.lineNo = t.lineNo) : key t' = key t := by
  unfold key; rw [h1, h2]

/-- at `P = skipM …`: a run of stepped-over lines ending in a line that is not stepped over -/
def Good (P : Option Str → Bool) (ls : List (Option Str)) : Prop :=
  ∃ pre last, ls = pre ++ [last] ∧ (∀ x ∈ pre, P x = true) ∧ P last = false

def AllButLast (P : Option Str → Bool) (ls : List (Option Str)) : Prop := ∀ x ∈ ls.dropLast, P x = true

theorem Good.single {P : Option Str → Bool} {l : Option Str} (h : P l = false) : Good P [l] :=
  ⟨[], l, rfl, (by intro x hx; cases hx), h⟩

theorem Good.cons {P : Option Str → Bool} {l : Option Str} {ls : List (Option Str)} (h : P l = true)
    (hg : Good P ls) : Good P (l :: ls) := by
  obtain ⟨pre, last, rfl, hp, hl⟩ := hg
  refine ⟨l :: pre, last, rfl, fun x hx => ?_, hl⟩
  rcases List.mem_cons.1 hx with rfl | hx
  · exact h
  · exact hp x hx

theorem Good.cons_inv {P : Option Str → Bool} {l : Option Str} {ls : List (Option Str)}
    (hg : Good P (l :: ls)) : (ls = [] ∧ P l = false) ∨ (P l = true ∧ Good P ls) := by
  obtain ⟨pre, last, he, hp, hl⟩ := hg
  cases pre with
  | nil =>
    simp only [List.nil_append, List.cons.injEq] at he
    obtain ⟨rfl, rfl⟩ := he
    exact .inl ⟨rfl, hl⟩
  | cons a pre =>
    simp only [List.cons_append, List.cons.injEq] at he
    obtain ⟨rfl, rfl⟩ := he
    exact .inr ⟨hp _ (List.mem_cons_self ..), pre, last, rfl, fun x hx => hp x (List.mem_cons_of_mem _ hx), hl⟩

theorem Good.ne_nil {P : Option Str → Bool} {ls : List (Option Str)} (hg : Good P ls) : ls ≠ [] := by
  obtain ⟨pre, last, rfl, -, -⟩ := hg
  simp

theorem Good.allButLast {P : Option Str → Bool} {ls : List (Option Str)} (hg : Good P ls) : AllButLast P ls := by
  obtain ⟨pre, last, rfl, hp, -⟩ := hg
  unfold AllButLast
  rw [List.dropLast_concat]
  exact hp

/-- `k` tokens read so far, in order; the queue continues with lines `k+1, …`; the scanner stands
    right after the queued lines; the dialect is one of the table; every token handed to the
    builder is a token of the document -/
structure QS (D : List Dialect) (L : List Str) (k : Nat) (c : Ctx) : Prop where
  reads : c.reads = List.range' 1 k
  queue : c.queue.map key = (List.range' k c.queue.length).map (srcAt L)
  lineNo : c.lineNo = k + c.queue.length
  lines : c.lines = L.drop c.lineNo
  mu : c.μ.dialect ∈ D
  builds : ∀ t ∈ c.builds, ∃ i, key t = srcAt L i
  bound : c.lineNo ≤ L.length + 1

section QS
variable {D : List Dialect} {L : List Str} {k : Nat}

theorem QS.footM {c c' : Ctx} (h : QS D L k c) (hf : FootM c c') (hμ : c'.μ.dialect ∈ D) : QS D L k c' := by
  obtain ⟨_, _, _, rfl⟩ := hf
  exact ⟨h.reads, h.queue, h.lineNo, h.lines, hμ, h.builds, h.bound⟩

theorem QS.footE {c c' : Ctx} (h : QS D L k c) (hf : FootE c c') : QS D L k c' := by
  obtain ⟨_, rfl⟩ := hf
  exact ⟨h.reads, h.queue, h.lineNo, h.lines, h.mu, h.builds, h.bound⟩

theorem QS.footB' {c c' : Ctx} (h : QS D L k c) (hf : FootB' c c')
    (hb : ∀ t ∈ c'.builds, ∃ i, key t = srcAt L i) : QS D L k c' := by
  obtain ⟨_, _, _, _, rfl⟩ := hf
  exact ⟨h.reads, h.queue, h.lineNo, h.lines, h.mu, hb, h.bound⟩

theorem FootB'.same {c c' : Ctx} (hf : FootB' c c') : c'.queue = c.queue ∧ c'.μ = c.μ ∧ c'.calls = c.calls := by
  obtain ⟨_, _, _, _, rfl⟩ := hf
  exact ⟨rfl, rfl, rfl⟩

theorem FootM.queue {c c' : Ctx} (hf : FootM c c') : c'.queue = c.queue := hf.scan.1

end QS

theorem run_readToken_cons {c : Ctx} {t : Token} {q : List Token} (h : c.queue = t :: q) :
    run readToken c = (.ok t, { c with queue := q }) := by
  rw [run_readToken, h]

theorem run_readToken_nil {c : Ctx} (h : c.queue = []) :
    run readToken c = (.ok { line := c.lines.head?, lineNo := c.lineNo + 1 },
      { c with lines := c.lines.tail, lineNo := c.lineNo + 1 }) := by
  rw [run_readToken, h]
  dsimp only
  cases c.lines <;> rfl

theorem runProds_builds (cap : Nat) (stop : Bool) (L : List Str) (t : Token) (ht : ∃ i, key t = srcAt L i)
    (ps : List Prod) (c : Ctx) (r : Except Abort Unit) (c' : Ctx)
    (h : run (runProds cap stop t ps) c = (r, c')) (hc : ∀ x ∈ c.builds, ∃ i, key x = srcAt L i) :
    ∀ x ∈ c'.builds, ∃ i, key x = srcAt L i := by
  have hinv : Inv (fun c => ∀ x ∈ c.builds, ∃ i, key x = srcAt L i) (fun _ c => ∀ x ∈ c.builds, ∃ i, key x = srcAt L i)
      (runProds cap stop t ps) := by
    refine Inv.runProds ps fun p _ => Triple.intro fun c r c' hc hr => ?_
    have hstep : ∀ x ∈ c'.builds, ∃ i, key x = srcAt L i := by
      rw [run_runProd] at hr
      split at hr
      · cases hr; exact hc
      · obtain ⟨es, rfl⟩ := liftB_foot _ _ _ _ _ _ hr; exact hc
      · split at hr
        · cases hr
          intro x hx
          rcases List.mem_append.1 hx with hx | hx
          · exact hc x hx
          · rw [List.mem_singleton] at hx; subst hx; exact ht
        · obtain ⟨es, rfl⟩ := liftB_foot _ _ _ _ _ _ hr; exact hc
    cases r <;> exact hstep
  cases r with
  | ok a => exact (hinv c hc).1 _ _ h
  | error e => exact (hinv c hc).2 _ _ h

theorem QS.runProds {D : List Dialect} {L : List Str} {k : Nat} {cap : Nat} {stop : Bool} {t : Token}
    {ps : List Prod} {c : Ctx} {r : Except Abort Unit} {c' : Ctx} (hq : QS D L k c)
    (ht : ∃ i, key t = srcAt L i) (h : run (runProds cap stop t ps) c = (r, c')) :
    QS D L k c' ∧ c'.queue = c.queue ∧ c'.μ = c.μ ∧ c'.calls = c.calls := by
  have hf := runProds_foot' cap stop t ps c r c' h
  exact ⟨hq.footB' hf (runProds_builds cap stop L t ht ps c r c' h hq.builds), hf.same⟩

section lookahead
variable {D : List Dialect} {cap : Nat} {stop : Bool} {la : LookAhead} {sk : List Kind}

/-- matcher calls a look-ahead spends on one token, at most -/
def laCost (la : LookAhead) : Nat := la.expected.length + la.skip.length

theorem lookaheadLoop_foot (D : List Dialect) (cap : Nat) (stop : Bool) (la : LookAhead) (fuel : Nat) (acc : List Token) :
    ∀ c r c', run (lookaheadLoop D cap stop la fuel acc) c = (r, c') → FootL c c' :=
  foot_of_inv FootL FootL.refl fun c0 =>
    PrimsL.lookaheadLoop
      { readToken := Inv.of_foot FootL (fun _ _ _ => FootL.trans) readToken_foot c0
        matchP := fun k t => Inv.of_foot FootL (fun _ _ _ => FootL.trans) (fun c r c' h => (matchP_foot D cap stop k t c r c' h).toL) c0
        modQ := fun q c h => by obtain ⟨_, _, _, _, _, _, rfl⟩ := h; exact ⟨_, _, _, _, _, _, rfl⟩
        fuel := fun c h => h } la fuel acc

theorem stable_of (ks : List Kind) (h : ks.all isSkipKind = true ∨ ks.all Kind.isTitle = true) :
    ks.all stableKind = true := by
  rw [List.all_eq_true]
  intro K hK
  rcases h with h | h
  · simp [stableKind, List.all_eq_true.1 h K hK]
  · simp [stableKind, List.all_eq_true.1 h K hK]

theorem la_unfold (hD : keywordsPlainStart D = true) (hskip : la.skip = sk) (hsk : sk.all isSkipKind = true)
    (hexp : la.expected.all Kind.isTitle = true)
    {c c1 : Ctx} {t : Token} (h0 : run readToken c = (.ok t, c1)) (hμ : c1.μ.dialect ∈ D)
    {fuel : Nat} {acc : List Token} {r : Except Abort (Bool × List Token)} {c' : Ctx}
    (h : run (lookaheadLoop D cap stop la (fuel + 1) acc) c = (r, c')) :
    ∃ c3, FootM c1 c3 ∧ c3.μ = c1.μ ∧ c3.calls ≤ c1.calls + laCost la ∧
      ((skipM D sk c1.μ t.line = true ∧ ∃ t2, t2.line = t.line ∧ t2.lineNo = t.lineNo ∧
          run (lookaheadLoop D cap stop la fuel (acc ++ [t2])) c3 = (r, c')) ∨
       (c' = c3 ∧ ((∃ e, r = .error e) ∨
          (skipM D sk c1.μ t.line = false ∧ ∃ m t2, t2.line = t.line ∧ t2.lineNo = t.lineNo ∧
            r = .ok (m, acc ++ [t2]))))) := by
  have hexp' := stable_of _ (.inr hexp)
  have hsk' : la.skip.all stableKind = true := stable_of _ (.inl (hskip ▸ hsk))
  obtain ⟨t', c1', r1, c2, hr0, hr1, hcase⟩ := lookaheadLoop_step h
  rw [h0] at hr0
  cases hr0
  obtain ⟨hf1, hμ1, hc1, hv1⟩ := matchAny_spec la.expected hexp' hr1
  rcases hcase with ⟨e, rfl, rfl, rfl⟩ | ⟨t1, rfl, rfl, rfl⟩ | ⟨t1, r2, c3, rfl, hr2, hcase⟩
  · exact ⟨_, hf1, hμ1, by unfold laCost; omega, .inr ⟨rfl, .inl ⟨_, rfl⟩⟩⟩
  · obtain ⟨hm1, hl1, hn1⟩ := hv1 true t1 rfl
    refine ⟨_, hf1, hμ1, by unfold laCost; omega, .inr ⟨rfl, .inr ⟨?_, _, t1, hl1, hn1, rfl⟩⟩⟩
    cases hs : skipM D sk c1.μ t.line with
    | false => rfl
    | true =>
      have := skipM_not_titles D D hD c1.μ hμ sk hsk la.expected hexp t.line hs
      rw [← hm1] at this
      cases this
  · obtain ⟨hm1, hl1, hn1⟩ := hv1 false t1 rfl
    obtain ⟨hf2, hμ2, hc2, hv2⟩ := matchAny_spec la.skip hsk' hr2
    refine ⟨c3, hf1.trans hf2, hμ2.trans hμ1, by unfold laCost; omega, ?_⟩
    have hs : ∀ s t2, r2 = .ok (s, t2) →
        s = skipM D sk c1.μ t.line ∧ t2.line = t.line ∧ t2.lineNo = t.lineNo := by
      intro s t2 h2
      obtain ⟨hm2, hl2, hn2⟩ := hv2 s t2 h2
      exact ⟨by rw [hm2, hμ1, hl1, hskip]; rfl, hl2.trans hl1, hn2.trans hn1⟩
    rcases hcase with ⟨e, rfl, rfl, rfl⟩ | ⟨t2, rfl, rfl, rfl⟩ | ⟨t2, rfl, hrec⟩
    · exact .inr ⟨rfl, .inl ⟨_, rfl⟩⟩
    · obtain ⟨h1, h2, h3⟩ := hs false t2 rfl
      exact .inr ⟨rfl, .inr ⟨h1.symm, _, t2, h2, h3, rfl⟩⟩
    · obtain ⟨h1, h2, h3⟩ := hs true t2 rfl
      exact .inl ⟨h1.symm, t2, h2, h3, hrec⟩

theorem la_queue (hD : keywordsPlainStart D = true) (hskip : la.skip = sk) (hsk : sk.all isSkipKind = true)
    (hexp : la.expected.all Kind.isTitle = true) :
    ∀ (q : List Token) (fuel : Nat) (acc : List Token) (c : Ctx), c.queue = q →
      Good (skipM D sk c.μ) (q.map (·.line)) → c.μ.dialect ∈ D →
      ∀ r c', run (lookaheadLoop D cap stop la fuel acc) c = (r, c') →
        c'.μ = c.μ ∧ c'.lineNo = c.lineNo ∧ c'.lines = c.lines ∧
        c'.calls ≤ c.calls + laCost la * q.length ∧
        ∀ m read, r = .ok (m, read) → c'.queue = [] ∧ ∃ q', read = acc ++ q' ∧ q'.map key = q.map key := by
  intro q
  induction q with
  | nil => intro fuel acc c _ hg; exact absurd rfl hg.ne_nil
  | cons a q ih =>
    intro fuel acc c hq hg hμ r c' h
    cases fuel with
    | zero =>
      rw [lookaheadLoop, prun_throw] at h; cases h
      exact ⟨rfl, rfl, rfl, Nat.le_add_right _ _, fun m read he => by cases he⟩
    | succ fuel =>
      have h0 := run_readToken_cons hq
      obtain ⟨c3, hf, hμ3, hcalls, hcase⟩ := la_unfold hD hskip hsk hexp h0 hμ h
      obtain ⟨_, _, _, rfl⟩ := hf
      dsimp only at hμ3 hcalls hcase
      rw [List.map_cons] at hg
      have hlen : laCost la * (a :: q).length = laCost la * q.length + laCost la := by
        simp only [List.length_cons, Nat.mul_add, Nat.mul_one]
      rcases hcase with ⟨hs', t2, hl, hn, hrec⟩ | ⟨rfl, hcase⟩
      · rcases hg.cons_inv with ⟨-, hns⟩ | ⟨hs, hg'⟩
        · rw [hs'] at hns; cases hns
        · have := ih fuel (acc ++ [t2]) _ rfl (by dsimp only; rw [hμ3]; exact hg') (by dsimp only; rw [hμ3]; exact hμ) r c' hrec
          obtain ⟨h2, h3, h4, h5, hok⟩ := this
          dsimp only at h2 h3 h4 h5
          refine ⟨h2.trans hμ3, h3, h4, by rw [hlen]; omega, fun m read he => ?_⟩
          obtain ⟨h1, q', rfl, hq'⟩ := hok m read he
          refine ⟨h1, t2 :: q', by simp, ?_⟩
          simp only [List.map_cons, hq', key_eq hl hn]
      · refine ⟨hμ3, rfl, rfl, by rw [hlen]; dsimp only; omega, fun m read he => ?_⟩
        rcases hcase with ⟨e, rfl⟩ | ⟨hs', m', t2, hl, hn, rfl⟩
        · cases he
        · cases he
          rcases hg.cons_inv with ⟨hnil, -⟩ | ⟨hs, -⟩
          · have hq0 : q = [] := by simpa using hnil
            subst hq0
            refine ⟨rfl, [t2], rfl, ?_⟩
            simp only [List.map_cons, List.map_nil, key_eq hl hn]
          · rw [hs'] at hs; cases hs

theorem la_fresh (hD : keywordsPlainStart D = true) (hskip : la.skip = sk) (hsk : sk.all isSkipKind = true)
    (hexp : la.expected.all Kind.isTitle = true) (L : List Str) :
    ∀ (fuel : Nat) (acc : List Token) (c : Ctx), c.queue = [] → c.μ.dialect ∈ D → c.lines = L.drop c.lineNo →
      ∀ r c', run (lookaheadLoop D cap stop la fuel acc) c = (r, c') →
        c'.μ = c.μ ∧ c'.queue = [] ∧ c.lineNo ≤ c'.lineNo ∧ (c.lineNo ≤ L.length → c'.lineNo ≤ L.length + 1) ∧
        c'.calls ≤ c.calls + laCost la * (c'.lineNo - c.lineNo) ∧
        ∀ m read, r = .ok (m, read) →
          ∃ new, read = acc ++ new ∧ Good (skipM D sk c.μ) (new.map (·.line)) ∧
            new.map key = (List.range' c.lineNo new.length).map (srcAt L) ∧
            c'.lineNo = c.lineNo + new.length ∧ c'.lines = L.drop c'.lineNo := by
  intro fuel
  induction fuel with
  | zero =>
    intro acc c hq _ _ r c' h
    rw [lookaheadLoop, prun_throw] at h; cases h
    exact ⟨rfl, hq, Nat.le_refl _, fun h => by omega, Nat.le_add_right _ _, fun m read he => by cases he⟩
  | succ fuel ih =>
    intro acc c hq hμ hlines r c' h
    have h0 := run_readToken_nil hq
    obtain ⟨c3, hf, hμ3, hcalls, hcase⟩ := la_unfold hD hskip hsk hexp h0 hμ h
    obtain ⟨_, _, _, rfl⟩ := hf
    dsimp only at hμ3 hcalls hcase
    have hline : c.lines.head? = L[c.lineNo]? := by rw [hlines, List.head?_drop]
    rcases hcase with ⟨hs, t2, hl, hn, hrec⟩ | ⟨rfl, hcase⟩
    · have key' := fun h1 h2 h3 => ih (acc ++ [t2]) _ h1 h2 h3 r c' hrec
      have := key' hq (by dsimp only; rw [hμ3]; exact hμ) (by dsimp only; rw [hlines, List.tail_drop])
      obtain ⟨h2, h1, hle, hbd, hcl, hok⟩ := this
      dsimp only at h2 hle hbd hcl hok hl hn
      have hlt : c.lineNo < L.length := by
        rw [hline] at hs
        cases hx : L[c.lineNo]? with
        | none => rw [hx, skipM_eof D sk hsk] at hs; cases hs
        | some x => exact (List.getElem?_eq_some_iff.1 hx).1
      have hsub : c'.lineNo - c.lineNo = (c'.lineNo - (c.lineNo + 1)) + 1 := by omega
      refine ⟨h2.trans hμ3, h1, by omega, fun _ => hbd (by omega), ?_, fun m read he => ?_⟩
      · rw [hsub, Nat.mul_add, Nat.mul_one]; omega
      · obtain ⟨new, rfl, hg, hk, hln, hls⟩ := hok m read he
        rw [hμ3] at hg
        have hkey : key t2 = srcAt L c.lineNo := by
          unfold key srcAt
          rw [hl, hn, hline]
        refine ⟨t2 :: new, by simp, ?_, ?_, ?_, hls⟩
        · rw [List.map_cons]
          exact Good.cons (by rw [hl]; exact hs) hg
        · rw [List.map_cons, hk, hkey, List.length_cons, List.range'_succ, List.map_cons]
        · rw [hln, List.length_cons]; omega
    · have hsub : c.lineNo + 1 - c.lineNo = 1 := by omega
      refine ⟨hμ3, hq, by dsimp only; omega, fun h => by dsimp only; omega, by dsimp only; rw [hsub, Nat.mul_one]; exact hcalls, fun m read he => ?_⟩
      rcases hcase with ⟨e, rfl⟩ | ⟨hs, m', t2, hl, hn, rfl⟩
      · cases he
      · cases he
        have hkey : key t2 = srcAt L c.lineNo := by
          unfold key srcAt
          rw [hl, hn, hline]
        refine ⟨[t2], rfl, ?_, ?_, rfl, ?_⟩
        · rw [List.map_cons, List.map_nil]
          exact Good.single (by rw [hl]; exact hs)
        · simp only [List.map_cons, List.map_nil, List.length_cons, List.length_nil, hkey]
          rfl
        · rw [hlines, List.tail_drop]

theorem lookahead_spec (hD : keywordsPlainStart D = true) (hskip : la.skip = sk) (hsk : sk.all isSkipKind = true)
    (hexp : la.expected.all Kind.isTitle = true) {L : List Str} {k : Nat} {c : Ctx} (hqs : QS D L k c)
    (hpre : (c.queue = [] ∧ k ≤ L.length) ∨ Good (skipM D sk c.μ) (c.queue.map (·.line)))
    {r : Except Abort Bool} {c' : Ctx} (h : run (lookahead D cap stop la) c = (r, c')) :
    c'.reads = c.reads ∧ c'.lineNo ≤ L.length + 1 ∧ k ≤ c'.lineNo ∧
    c'.calls ≤ c.calls + laCost la * (c'.lineNo - k) ∧ (c.queue ≠ [] → c'.lineNo = c.lineNo) ∧
    (∀ b, r = .ok b → QS D L k c' ∧ Good (skipM D sk c'.μ) (c'.queue.map (·.line)) ∧ c'.μ = c.μ ∧
      (c.queue ≠ [] → c'.queue.length = c.queue.length)) := by
  rw [run_lookahead] at h
  rcases hr : run (lookaheadLoop D cap stop la (c.queue.length + c.lines.length + 2) []) c with ⟨r1, c1⟩
  rw [hr] at h
  have hfoot := lookaheadLoop_foot D cap stop la _ _ _ _ _ hr
  obtain ⟨μ1, n1, es1, q1, ls1, ln1, rfl⟩ := hfoot
  rcases hpre with ⟨hq, hk⟩ | hg
  · obtain ⟨h1, h2, h3, h4, h5, hok⟩ := la_fresh hD hskip hsk hexp L _ [] c hq hqs.mu hqs.lines _ _ hr
    dsimp only at h1 h2 h3 h4 h5 hok
    have hln : c.lineNo = k := by
      have := hqs.lineNo
      rw [hq] at this
      simpa using this
    cases r1 with
    | error e =>
      cases h
      exact ⟨rfl, h4 (by omega), by dsimp only; omega, by rw [← hln]; exact h5, fun hne => absurd hq hne, fun b he => by cases he⟩
    | ok r1 =>
      obtain ⟨m, read⟩ := r1
      cases h
      obtain ⟨new, hnew, hg, hk', hln', hls⟩ := hok m read rfl
      rw [List.nil_append] at hnew
      subst hnew h1 h2
      refine ⟨rfl, h4 (by omega), by dsimp only; omega, by dsimp only; rw [← hln]; exact h5, fun hne => absurd hq hne, fun b _ =>
        ⟨⟨hqs.reads, ?_, ?_, hls, hqs.mu, hqs.builds, h4 (by omega)⟩, ?_, rfl, fun hne => absurd hq hne⟩⟩
      · simp only [List.nil_append]; rw [hk', hln]
      · simp only [List.nil_append]; rw [hln', hln]
      · simp only [List.nil_append]; exact hg
  · obtain ⟨h1, h2, h3, h5, hok⟩ := la_queue hD hskip hsk hexp c.queue _ [] c rfl hg hqs.mu _ _ hr
    dsimp only at h1 h2 h3 h5 hok
    have hln := hqs.lineNo
    have hsub : c.lineNo - k = c.queue.length := by omega
    cases r1 with
    | error e =>
      cases h
      subst h2
      exact ⟨rfl, hqs.bound, by dsimp only; omega, by dsimp only; rw [hsub]; exact h5, fun _ => rfl, fun b he => by cases he⟩
    | ok r1 =>
      obtain ⟨m, read⟩ := r1
      cases h
      obtain ⟨hq1, q', hread, hq'⟩ := hok m read rfl
      rw [List.nil_append] at hread
      subst hread h1 h2 h3 hq1
      have hlen : read.length = c.queue.length := by
        have := congrArg List.length hq'
        simpa using this
      have hline : read.map (·.line) = c.queue.map (·.line) := by
        have := congrArg (List.map Prod.fst) hq'
        simpa [List.map_map, key, Function.comp_def] using this
      refine ⟨rfl, hqs.bound, by dsimp only; omega, by dsimp only; rw [hsub]; exact h5, fun _ => rfl, fun b _ =>
        ⟨⟨hqs.reads, ?_, ?_, hqs.lines, hqs.mu, hqs.builds, hqs.bound⟩, ?_, rfl, fun _ => ?_⟩⟩
      · simp only [List.nil_append]; rw [hq', hlen, hqs.queue]
      · simp only [List.nil_append]; rw [hlen]; exact hqs.lineNo
      · simp only [List.nil_append]; rw [hline]; exact hg
      · simp only [List.nil_append]; exact hlen

end lookahead

end Lemmas
end GV
