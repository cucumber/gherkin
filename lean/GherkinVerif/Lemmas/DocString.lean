/-
  Lemmas/DocString.lean — helper lemmas for property C13 (doc strings are opaque).

  Three layers:
    * abstract table level (generic in the table): in a content row every line that is neither
      a doc-string separator nor end of file is taken by the `Other` self-loop;
    * matcher level: `match_Other` always matches and leaves the matcher state alone,
      `match_DocStringSeparator` in active mode matches exactly the lines whose trimmed text
      starts with the active delimiter; shape of the token text; open / close state updates;
    * builder level: `transform_node` on a `DocString` node.
-/
import GherkinVerif.Lemmas.Kinds
import GherkinVerif.Lemmas.PyStr
import GherkinVerif.Lemmas.MatchLine
import GherkinVerif.Lemmas.Builder
import GherkinVerif.Spec.TableFacts
namespace GV.Lemmas

/-- `get_line_text(k)`: drop `k` code points, or all of the line's own indentation if it has less -/
theorem lineText_some (l : Str) (k : Nat) :
    lineText l (some k) = l.drop (min k (lineIndent l)) := by
  unfold lineText
  simp only
  split
  · rename_i h
    rw [trimmed_eq_drop, Nat.min_eq_right (Nat.le_of_lt h)]
  · rename_i h
    rw [Nat.min_eq_left (Nat.le_of_not_gt h)]

theorem pickBranch_content (T : Table) (r : StateRow) (hr : Spec.isContentRow r = true)
    (k : Kind) (fut : List Kind) (h1 : k ≠ .DocStringSeparator) (h2 : k ≠ .EOF) :
    pickBranch T k fut r.branches = some ⟨.Other, none, [.build], r.id⟩ := by
  unfold Spec.isContentRow at hr
  split at hr
  · rename_i b1 b2 hb
    simp only [Bool.and_eq_true, beq_iff_eq] at hr
    obtain ⟨⟨⟨⟨⟨⟨k1, _⟩, _⟩, k2⟩, g2⟩, p2⟩, t2⟩ := hr
    rw [hb]
    have e2 : b2 = ⟨.Other, none, [.build], r.id⟩ := by
      cases b2; simp_all
    simp [pickBranch, k1, e2, passes_docsep_false k h1, passes_other_true k h2, guardOkAbs]
  · simp at hr

theorem row?_id (T : Table) (s : Nat) (r : StateRow) (h : T.row? s = some r) : r.id = s := by
  unfold Table.row? at h
  have := List.find?_some h
  simpa using this

theorem stepAbs_content (T : Table) (s : Nat) (r : StateRow) (hs : T.row? s = some r)
    (hr : Spec.isContentRow r = true) (k : Kind) (fut : List Kind)
    (h1 : k ≠ .DocStringSeparator) (h2 : k ≠ .EOF) :
    stepAbs T s k fut = some ⟨.Other, none, [.build], s⟩ := by
  unfold stepAbs
  rw [hs]
  simp only
  rw [pickBranch_content T r hr k fut h1 h2, row?_id T s r hs]

theorem runAbs_content (T : Table) (s : Nat) (r : StateRow) (hs : T.row? s = some r)
    (hr : Spec.isContentRow r = true) (ks rest : List Kind)
    (h : ∀ k ∈ ks, k ≠ .DocStringSeparator ∧ k ≠ .EOF) :
    runAbs T s (ks ++ rest) =
      (runAbs T s rest).map fun p => (p.1, ks.map (fun _ => Ev.build .Other) ++ p.2) := by
  induction ks with
  | nil =>
    simp only [List.nil_append, List.map_nil]
    cases runAbs T s rest <;> rfl
  | cons k ks ih =>
    have hk := h k (by simp)
    have ih' := ih (fun k' hk' => h k' (by simp [hk']))
    simp only [List.cons_append, runAbs]
    rw [stepAbs_content T s r hs hr k (ks ++ rest) hk.1 hk.2]
    simp only
    rw [ih']
    cases runAbs T s rest <;> simp [prodEvents]

/-- in collecting mode no line of `ks` is reported as unexpected -/
theorem errorsAbs_content (T : Table) (s : Nat) (r : StateRow) (hs : T.row? s = some r)
    (hr : Spec.isContentRow r = true) (ks rest : List Kind) (i : Nat)
    (h : ∀ k ∈ ks, k ≠ .DocStringSeparator ∧ k ≠ .EOF) :
    errorsAbs T s i (ks ++ rest) = errorsAbs T s (i + ks.length) rest := by
  induction ks generalizing i with
  | nil => simp
  | cons k ks ih =>
    have hk := h k (by simp)
    have ih' := ih (i + 1) (fun k' hk' => h k' (by simp [hk']))
    simp only [List.cons_append, errorsAbs]
    rw [stepAbs_content T s r hs hr k (ks ++ rest) hk.1 hk.2]
    simp only
    rw [ih']
    simp only [List.length_cons]
    congr 1
    omega

theorem matchLine_other (D : List Dialect) (μ : MState) (t : Token) (l : Str) :
    matchLine D .Other μ t l =
      ⟨setMatched μ t .Other (text := some (unescapeDoc μ.activeSep (lineText l (some μ.indentToRemove))))
        (indent := some 0), μ, .matched⟩ := rfl

theorem other_text (D : List Dialect) (μ : MState) (t : Token) (l : Str) :
    (matchLine D .Other μ t l).tok.text =
      some (rstripCRLF (unescapeDoc μ.activeSep (l.drop (min μ.indentToRemove (lineIndent l))))) := by
  rw [matchLine_other, ← lineText_some]
  rfl

theorem matchLine_docsep_active (D : List Dialect) (μ : MState) (t : Token) (l sep : Str)
    (ha : μ.activeSep = some sep) (hne : sep ≠ []) :
    matchLine D .DocStringSeparator μ t l =
      if startsWith sep (trimmed l) = true then
        ⟨setMatched { μ with activeSep := none, indentToRemove := 0 } t .DocStringSeparator
            (text := none) (keyword := some sep),
          { μ with activeSep := none, indentToRemove := 0 }, .matched⟩
      else ⟨t, μ, .no⟩ := by
  have he : sep.isEmpty = false := by cases sep <;> simp_all
  by_cases hs : startsWith sep (trimmed l) = true <;>
    simp [matchLine, ha, he, matchDocSep, lineStartsWith, hs]

theorem docsep_active_iff (D : List Dialect) (μ : MState) (t : Token) (l sep : Str)
    (ha : μ.activeSep = some sep) (hne : sep ≠ []) :
    (matchLine D .DocStringSeparator μ t l).res = .matched ↔ startsWith sep (trimmed l) = true := by
  rw [matchLine_docsep_active D μ t l sep ha hne]
  split <;> simp_all

/-- the opening branch: no active delimiter (or the empty one, which Python treats as falsy) -/
def opening (μ : MState) : Prop := μ.activeSep = none ∨ μ.activeSep = some []

theorem matchLine_docsep_opening (D : List Dialect) (μ : MState) (t : Token) (l : Str)
    (ho : opening μ) :
    matchLine D .DocStringSeparator μ t l =
      if startsWith dq3 (trimmed l) = true then
        ⟨setMatched { μ with activeSep := some dq3, indentToRemove := lineIndent l } t .DocStringSeparator
            (text := some (restTrimmed l 3)) (keyword := some dq3),
          { μ with activeSep := some dq3, indentToRemove := lineIndent l }, .matched⟩
      else if startsWith bt3 (trimmed l) = true then
        ⟨setMatched { μ with activeSep := some bt3, indentToRemove := lineIndent l } t .DocStringSeparator
            (text := some (restTrimmed l 3)) (keyword := some bt3),
          { μ with activeSep := some bt3, indentToRemove := lineIndent l }, .matched⟩
      else ⟨t, μ, .no⟩ := by
  have hd : lineDec D .DocStringSeparator μ l = openDec μ l := by
    rcases ho with ho | ho <;> simp only [lineDec, ho] <;> rfl
  rw [matchLine_eq, hd]
  unfold openDec sepDec lineStartsWith
  cases startsWith dq3 (trimmed l) <;> cases startsWith bt3 (trimmed l) <;> rfl

theorem docsep_open (D : List Dialect) (μ : MState) (t : Token) (l : Str) (ho : opening μ)
    (hm : (matchLine D .DocStringSeparator μ t l).res = .matched) :
    ∃ sep, (sep = dq3 ∨ sep = bt3) ∧ startsWith sep (trimmed l) = true ∧
      (matchLine D .DocStringSeparator μ t l).μ =
        { μ with activeSep := some sep, indentToRemove := lineIndent l } ∧
      (matchLine D .DocStringSeparator μ t l).tok.text =
        some (rstripCRLF (strip ((trimmed l).drop 3))) ∧
      (matchLine D .DocStringSeparator μ t l).tok.keyword = some sep ∧
      (matchLine D .DocStringSeparator μ t l).tok.mtype = some .DocStringSeparator := by
  obtain ⟨_, _, _, _, _, _, _, hd, e⟩ := matched_hit hm
  rw [e]
  cases hd with
  | title hk => cases hk
  | sepOpen hsep _ hs => exact ⟨_, hsep, hs, rfl, by rcases hsep with rfl | rfl <;> rfl, rfl, rfl⟩
  | sepClose ha hne =>
    rcases ho with ho | ho <;> rw [ho] at ha <;> cases ha
    cases hne

theorem docsep_close (D : List Dialect) (μ : MState) (t : Token) (l sep : Str)
    (ha : μ.activeSep = some sep) (hne : sep ≠ [])
    (hm : (matchLine D .DocStringSeparator μ t l).res = .matched) :
    (matchLine D .DocStringSeparator μ t l).μ = { μ with activeSep := none, indentToRemove := 0 } ∧
    (matchLine D .DocStringSeparator μ t l).tok.text = none ∧
    (matchLine D .DocStringSeparator μ t l).tok.keyword = some sep ∧
    (matchLine D .DocStringSeparator μ t l).tok.mtype = some .DocStringSeparator := by
  have hs := (docsep_active_iff D μ t l sep ha hne).1 hm
  rw [matchLine_docsep_active D μ t l sep ha hne]
  simp [hs, setMatched]

theorem matchLine_keeps_docstate (D : List Dialect) (k : Kind) (μ : MState) (t : Token) (l : Str)
    (hk : k ≠ .DocStringSeparator) :
    (matchLine D k μ t l).μ.activeSep = μ.activeSep ∧
    (matchLine D k μ t l).μ.indentToRemove = μ.indentToRemove := by
  rw [matchLine_eq]
  cases hd : lineDec D k μ l with
  | hit μs text kw kt ind items μ' =>
    show μ'.activeSep = μ.activeSep ∧ μ'.indentToRemove = μ.indentToRemove
    rcases lineDec_hit_cases hd with rfl | ⟨-, _, _, -, rfl⟩ | ⟨h, -⟩
    · exact ⟨rfl, rfl⟩
    · exact ⟨rfl, rfl⟩
    · exact absurd h hk
  | _ => exact ⟨rfl, rfl⟩

theorem unescapeDoc_none (text : Str) : unescapeDoc none text = text := by
  simp [unescapeDoc]

theorem unescapeDoc_dq (text : Str) :
    unescapeDoc (some dq3) text = replaceAll [92, 34, 92, 34, 92, 34] dq3 text := by
  simp [unescapeDoc]

theorem unescapeDoc_bt (text : Str) :
    unescapeDoc (some bt3) text = replaceAll [92, 96, 92, 96, 92, 96] bt3 text := by
  simp [unescapeDoc, dq3, bt3]

theorem unescapeDoc_other (sep : Option Str) (text : Str) (h1 : sep ≠ some dq3) (h2 : sep ≠ some bt3) :
    unescapeDoc sep text = text := by
  simp [unescapeDoc, h1, h2]

theorem need_some {α} (what : String) (a : α) : need what (some a) = (pure a : BM α) := rfl

theorem mapM'_need_text (what : String) (ts : List Token) (ls : List Str)
    (h : ts.map (·.text) = ls.map some) :
    mapM' (fun (t : Token) => need what t.text) ts = (pure ls : BM (List Str)) := by
  induction ts generalizing ls with
  | nil =>
    cases ls with
    | nil => rfl
    | cons _ _ => simp at h
  | cons t ts ih =>
    cases ls with
    | nil => simp at h
    | cons x xs =>
      simp only [List.map_cons, List.cons.injEq] at h
      simp only [mapM', h.1, need_some, ih xs h.2, pure_bind]

theorem getLocation_none (t : Token) : getLocation t = t.loc := rfl

theorem transformNode_docString (comments : List Comment) (items : List (Key × Val))
    (sep : Token) (rest : List Token) (m d : Str) (ls : List Str)
    (hsep : getTokens items .DocStringSeparator = sep :: rest)
    (hm : sep.text = some m) (hd : sep.keyword = some d)
    (hls : (getTokens items .Other).map (·.text) = ls.map some) :
    transformNode comments ⟨.DocString, items⟩ =
      pure (.docString { loc := sep.loc, content := joinWith [10] ls, delimiter := d,
                         mediaType := if m = [] then none else some m }) := by
  unfold transformNode
  simp only [hsep, hm, hd, need_some, pure_bind, mapM'_need_text _ _ ls hls, getLocation_none]
  cases m <;> simp

theorem getTokens_others_self (others : List Token) :
    getTokens (others.map (fun t => (Key.tok .Other, Val.tok t))) .Other = others := by
  induction others with
  | nil => rfl
  | cons t ts ih =>
    have := getTokens_append [(Key.tok .Other, Val.tok t)]
      (ts.map (fun t => (Key.tok .Other, Val.tok t))) .Other
    simp only [List.map_cons, List.singleton_append] at this ⊢
    rw [this, ih]
    rfl

theorem getTokens_others_sep (others : List Token) :
    getTokens (others.map (fun t => (Key.tok .Other, Val.tok t))) .DocStringSeparator = [] := by
  induction others with
  | nil => rfl
  | cons t ts ih =>
    have := getTokens_append [(Key.tok .Other, Val.tok t)]
      (ts.map (fun t => (Key.tok .Other, Val.tok t))) .DocStringSeparator
    simp only [List.map_cons, List.singleton_append] at this ⊢
    rw [this, ih]
    rfl

theorem getTokens_shape_sep (op cl : Token) (others : List Token) :
    getTokens ([(Key.tok .DocStringSeparator, Val.tok op)] ++
        others.map (fun t => (Key.tok .Other, Val.tok t)) ++
        [(Key.tok .DocStringSeparator, Val.tok cl)]) .DocStringSeparator = [op, cl] := by
  rw [getTokens_append, getTokens_append, getTokens_others_sep]
  rfl

theorem getTokens_shape_other (op cl : Token) (others : List Token) :
    getTokens ([(Key.tok .DocStringSeparator, Val.tok op)] ++
        others.map (fun t => (Key.tok .Other, Val.tok t)) ++
        [(Key.tok .DocStringSeparator, Val.tok cl)]) .Other = others := by
  rw [getTokens_append, getTokens_append, getTokens_others_self]
  simp [getTokens, getItems]

end GV.Lemmas
