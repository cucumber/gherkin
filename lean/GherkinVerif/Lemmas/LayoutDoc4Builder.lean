/-
  Lemmas/LayoutDoc4Builder.lean — the builder under the insertion of a comment line (property C16).
  The stacks of the two runs stay related node by node as in
  Lemmas/LayoutDoc3Builder.lean (`NodeMap`); the comment lists differ: that of the second run is the
  renamed list of the first with the inserted comment at its source-order position (`CommRel`).
  The list of comments is read by one transform only — that of the `GherkinDocument` node, which is
  the node of the start rule and is closed by the final `end_rule` of `parse` — so the relation has
  to know where that node is: `StackRel` keeps it (`dn`) apart from the open nodes above it (`u`,
  none of them a `GherkinDocument`, no item under the key `GherkinDocument` anywhere) and from the
  root node below it.
-/
import GherkinVerif.Lemmas.LayoutDoc3Builder
namespace GV
namespace Layout4
open Lemmas Spec Layout3

variable {f : LocMap}

theorem nomem {α} {P : α → Prop} : ∀ n ∈ ([] : List α), P n := fun _ h => nomatch h

def root0 : Node := ⟨.None_, []⟩

def noDocItem (n : Node) : Prop := getItems n.items (.rule .GherkinDocument) = []

/-- the two stacks: related open nodes `u` (no `GherkinDocument` among them) above the related
    nodes `dn` of the start rule, above the untouched root; no node holds a finished document -/
def StackRel (f : LocMap) (s1 s2 : List Node) : Prop :=
  ∃ u1 u2 dn1 dn2, s1 = u1 ++ [dn1, root0] ∧ s2 = u2 ++ [dn2, root0] ∧ All2 (NodeMap f) u1 u2 ∧
    (∀ n ∈ u1, n.rt ≠ .GherkinDocument) ∧ NodeMap f dn1 dn2 ∧ (∀ n ∈ u1, noDocItem n) ∧ noDocItem dn1

/-- the comment lists: before the insertion (`none`) the renamed list, all comments on lines `≤ k`;
    afterwards the inserted comment `x` sits between those of the lines `≤ k` and the later ones -/
def CommRel (f : LocMap) (k : Nat) : Option Comment → List Comment → List Comment → Prop
  | none, cs1, cs2 => cs2 = cs1.map (mapComment f) ∧ ∀ c ∈ cs1, c.loc.line ≤ k
  | some x, cs1, cs2 => ∃ A B, cs1 = A ++ B ∧ cs2 = A.map (mapComment f) ++ x :: B.map (mapComment f) ∧
      (∀ a ∈ A, a.loc.line ≤ k) ∧ (∀ b ∈ B, k < b.loc.line)

def BRel (f : LocMap) (k : Nat) (xo : Option Comment) (β1 β2 : BState) : Prop :=
  StackRel f β1.stack β2.stack ∧ CommRel f k xo β1.comments β2.comments

theorem BRel.start0 (k : Nat) (r : RuleType) : BRel f k none (BState.reset.startRule r) (BState.reset.startRule r) :=
  ⟨⟨[], [], ⟨r, []⟩, ⟨r, []⟩, rfl, rfl, .nil, nomem, ⟨rfl, .nil⟩, nomem, rfl⟩,
    rfl, nomem⟩

theorem BRel.stack_ne_nil {k : Nat} {xo : Option Comment} {β1 β2 : BState} (h : BRel f k xo β1 β2) :
    β1.stack ≠ [] := by
  obtain ⟨⟨u1, u2, dn1, dn2, e1, -⟩, -⟩ := h
  rw [e1]; simp

theorem BRel.startRule {k : Nat} {xo : Option Comment} {β1 β2 : BState} (h : BRel f k xo β1 β2) {r : RuleType}
    (hr : r ≠ .GherkinDocument) : BRel f k xo (β1.startRule r) (β2.startRule r) := by
  obtain ⟨⟨u1, u2, dn1, dn2, e1, e2, hu, hrt, hdn, hnd, hnd'⟩, hc⟩ := h
  refine ⟨⟨⟨r, []⟩ :: u1, ⟨r, []⟩ :: u2, dn1, dn2, ?_, ?_, .cons ⟨rfl, .nil⟩ hu, ?_, hdn, ?_, hnd'⟩, hc⟩
  · simp [BState.startRule, e1]
  · simp [BState.startRule, e2]
  · intro n hn
    rcases List.mem_cons.1 hn with rfl | hn
    · exact hr
    · exact hrt n hn
  · intro n hn
    rcases List.mem_cons.1 hn with rfl | hn
    · rfl
    · exact hnd n hn

theorem noDocItem_append {n : Node} (h : noDocItem n) {key : Key} (hk : key ≠ .rule .GherkinDocument) (v : Val) :
    noDocItem { n with items := n.items ++ [(key, v)] } := by
  unfold noDocItem getItems at h ⊢
  have : (key == Key.rule RuleType.GherkinDocument) = false := by simpa using hk
  simp only [List.filter_append, List.filter_cons, this, Bool.false_eq_true, ↓reduceIte, List.filter_nil,
    List.append_nil]
  exact h

theorem StackRel.push {s1 s2 : List Node} (h : StackRel f s1 s2) {key : Key}
    (hk : key ≠ .rule .GherkinDocument) {v w : Val} (hv : ValMap f v w) :
    ∃ s1' s2', addToTop s1 key v = some s1' ∧ addToTop s2 key w = some s2' ∧ StackRel f s1' s2' := by
  obtain ⟨u1, u2, dn1, dn2, e1, e2, hu, hrt, hdn, hnd, hnd'⟩ := h
  subst e1 e2
  cases hu with
  | nil =>
    exact ⟨_, _, rfl, rfl, [], [], _, _, rfl, rfl, .nil, nomem,
      ⟨hdn.1, hdn.2.append (.cons key hv .nil)⟩, nomem, noDocItem_append hnd' hk v⟩
  | cons hab ht =>
    rename_i a b as bs
    refine ⟨_, _, rfl, rfl, { a with items := a.items ++ [(key, v)] } :: as,
      { b with items := b.items ++ [(key, w)] } :: bs, dn1, dn2, rfl, rfl,
      .cons ⟨hab.1, hab.2.append (.cons key hv .nil)⟩ ht, ?_, hdn, ?_, hnd'⟩
    · intro n hn
      rcases List.mem_cons.1 hn with rfl | hn
      · exact hrt a List.mem_cons_self
      · exact hrt n (List.mem_cons_of_mem _ hn)
    · intro n hn
      rcases List.mem_cons.1 hn with rfl | hn
      · exact noDocItem_append (hnd a List.mem_cons_self) hk v
      · exact hnd n (List.mem_cons_of_mem _ hn)

theorem StackRel.push_free {s1 s2 : List Node} (h : StackRel f s1 s2) {kd : Kind}
    (hk : freeKey (.tok kd) = true) (v w : Val) :
    ∃ s1' s2', addToTop s1 (.tok kd) v = some s1' ∧ addToTop s2 (.tok kd) w = some s2' ∧ StackRel f s1' s2' := by
  obtain ⟨u1, u2, dn1, dn2, e1, e2, hu, hrt, hdn, hnd, hnd'⟩ := h
  subst e1 e2
  have hkey : Key.tok kd ≠ .rule .GherkinDocument := (fun h => nomatch h)
  cases hu with
  | nil =>
    exact ⟨_, _, rfl, rfl, [], [], _, _, rfl, rfl, .nil, nomem,
      ⟨hdn.1, hdn.2.append (.free _ hk v w .nil)⟩, nomem, noDocItem_append hnd' hkey v⟩
  | cons hab ht =>
    rename_i a b as bs
    refine ⟨_, _, rfl, rfl, { a with items := a.items ++ [(.tok kd, v)] } :: as,
      { b with items := b.items ++ [(.tok kd, w)] } :: bs, dn1, dn2, rfl, rfl,
      .cons ⟨hab.1, hab.2.append (.free _ hk v w .nil)⟩ ht, ?_, hdn, ?_, hnd'⟩
    · intro n hn
      rcases List.mem_cons.1 hn with rfl | hn
      · exact hrt a List.mem_cons_self
      · exact hrt n (List.mem_cons_of_mem _ hn)
    · intro n hn
      rcases List.mem_cons.1 hn with rfl | hn
      · exact noDocItem_append (hnd a List.mem_cons_self) hkey v
      · exact hnd n (List.mem_cons_of_mem _ hn)

/-- the line condition for a comment built by both runs: before the insertion its line is `≤ k`,
    afterwards `> k` -/
def LineOk (k : Nat) (xo : Option Comment) (n : Nat) : Prop :=
  match xo with
  | none => n ≤ k
  | some _ => k < n

theorem BRel.build {k : Nat} {xo : Option Comment} {β1 β2 : BState} (h : BRel f k xo β1 β2) {t1 t2 : Token}
    (ht : TokMap f t1 t2) (hl : LineOk k xo t1.lineNo) :
    (∃ w, β1.build t1 = .error (.crash w) ∧ β2.build t2 = .error (.crash w)) ∨
    (∃ β1' β2', β1.build t1 = .ok β1' ∧ β2.build t2 = .ok β2' ∧ BRel f k xo β1' β2') := by
  cases hm : t1.mtype with
  | none =>
    rw [layBuild_unmatched _ _ hm, layBuild_unmatched _ _ (ht.mtype ▸ hm)]
    exact .inl ⟨_, rfl, rfl⟩
  | some K =>
    have hm2 : t2.mtype = some K := ht.mtype ▸ hm
    by_cases hk : K = .Comment
    · subst hk
      rw [layBuild_comment _ _ hm, layBuild_comment _ _ hm2, ht.text, ht.getLocation_none]
      cases t1.text with
      | none => exact .inl ⟨_, rfl, rfl⟩
      | some tx =>
        refine .inr ⟨_, _, rfl, rfl, h.1, ?_⟩
        have hline : (getLocation t1).line = t1.lineNo := rfl
        cases xo with
        | none =>
          obtain ⟨e, hle⟩ := h.2
          refine ⟨by simp only [e, List.map_append, List.map_cons, List.map_nil, mapComment], fun c hc => ?_⟩
          rcases List.mem_append.1 hc with hc | hc
          · exact hle c hc
          · simp only [List.mem_singleton] at hc; rw [hc]; exact hl
        | some x =>
          obtain ⟨A, B, e1, e2, hA, hB⟩ := h.2
          refine ⟨A, B ++ [⟨getLocation t1, tx⟩], by simp only [e1, List.append_assoc], ?_, hA, fun b hb => ?_⟩
          · simp only [e2, List.map_append, List.map_cons, List.map_nil, mapComment, List.append_assoc,
              List.cons_append]
          · rcases List.mem_append.1 hb with hb | hb
            · exact hB b hb
            · simp only [List.mem_singleton] at hb; rw [hb]; exact hl
    · rw [layBuild_other _ _ K hk hm, layBuild_other _ _ K hk hm2]
      obtain ⟨s1, s2, e1, e2, hs⟩ := h.1.push (key := .tok K) (fun h => nomatch h) (.tok ht)
      rw [e1, e2]
      exact .inr ⟨_, _, rfl, rfl, hs, h.2⟩

theorem BRel.build_free {k : Nat} {xo : Option Comment} {β1 β2 : BState} (h : BRel f k xo β1 β2) {t1 t2 : Token}
    {kd : Kind} (hk : freeKey (.tok kd) = true) (h1 : t1.mtype = some kd) (h2 : t2.mtype = some kd) :
    ∃ β1' β2', β1.build t1 = .ok β1' ∧ β2.build t2 = .ok β2' ∧ BRel f k xo β1' β2' := by
  have hkc : kd ≠ .Comment := by intro e; subst e; cases hk
  rw [layBuild_other _ _ kd hkc h1, layBuild_other _ _ kd hkc h2]
  obtain ⟨s1, s2, e1, e2, hs⟩ := h.1.push_free hk (.tok t1) (.tok t2)
  rw [e1, e2]
  exact ⟨_, _, rfl, rfl, hs, h.2⟩

theorem BRel.build_extra {k : Nat} {β1 β2 : BState} (h : BRel f k none β1 β2) {t : Token} {tx : Str}
    (hm : t.mtype = some .Comment) (htx : t.text = some tx) :
    ∃ β2', β2.build t = .ok β2' ∧ BRel f k (some ⟨getLocation t, tx⟩) β1 β2' := by
  rw [layBuild_comment _ _ hm, htx]
  obtain ⟨e, hle⟩ := h.2
  exact ⟨_, rfl, h.1, β1.comments, [], by simp, by simp [e], hle, nomem⟩

/-- `end_rule` of an open node above the node of the start rule -/
theorem BRel.endRule {k : Nat} {xo : Option Comment} {β1 β2 : BState} (h : BRel f k xo β1 β2)
    (hlen : 3 ≤ β1.stack.length) (n : Nat) :
    (β2.endRule n).1 = (β1.endRule n).1.mapError (mapBErr f) ∧ BRel f k xo (β1.endRule n).2.1 (β2.endRule n).2.1 ∧
    (β2.endRule n).2.2 = (β1.endRule n).2.2 ∧ (∀ e, (β1.endRule n).1 = .error e → BErrOk e) := by
  obtain ⟨s1, c1⟩ := β1
  obtain ⟨s2, c2⟩ := β2
  obtain ⟨⟨u1, u2, dn1, dn2, e1, e2, hu, hrt, hdn, hnd, hnd'⟩, hc⟩ := h
  simp only at e1 e2 hc hlen
  subst e1 e2
  cases hu with
  | nil => simp at hlen
  | cons hab ht =>
    rename_i a b as bs
    obtain ⟨rt, xs⟩ := a
    obtain ⟨rt', ys⟩ := b
    obtain ⟨hrt', hxy⟩ := hab
    simp only at hrt' hxy
    subst hrt'
    have hne : rt ≠ .GherkinDocument := hrt ⟨rt, xs⟩ List.mem_cons_self
    have hrest : StackRel f (as ++ [dn1, root0]) (bs ++ [dn2, root0]) :=
      ⟨as, bs, dn1, dn2, rfl, rfl, ht, fun n hn => hrt n (List.mem_cons_of_mem _ hn), hdn,
        fun n hn => hnd n (List.mem_cons_of_mem _ hn), hnd'⟩
    simp only [BState.endRule, List.cons_append]
    rw [transformNode_comments c2 (c1.map (mapComment f)) _ _ hne]
    rcases transformNode_map c1 rt hxy n with ⟨v, w, n', r1, r2, hvw⟩ | ⟨e, n', r1, r2, hok⟩
    · rw [r1, r2]
      simp only []
      obtain ⟨s1', s2', q1, q2, hs⟩ := hrest.push (key := .rule rt) (by intro h; cases h; exact hne rfl) hvw
      rw [q1, q2]
      exact ⟨rfl, ⟨hs, hc⟩, rfl, fun e he => nomatch he⟩
    · rw [r1, r2]
      exact ⟨rfl, ⟨hrest, hc⟩, rfl, fun e' he => by cases he; exact hok⟩

theorem BRel.result_none {k : Nat} {xo : Option Comment} {β1 β2 : BState} (h : BRel f k xo β1 β2) :
    β1.result = .ok none ∧ β2.result = .ok none := by
  obtain ⟨⟨u1, u2, dn1, dn2, e1, e2, hu, hrt, hdn, hnd, hnd'⟩, hc⟩ := h
  unfold BState.result
  rw [e1, e2]
  have key : ∀ a b : Node, NodeMap f a b → noDocItem a →
      getSingle a.items (.rule .GherkinDocument) = .none ∧ getSingle b.items (.rule .GherkinDocument) = .none := by
    intro a b hab hno
    have h2 := getItems_map hab.2 (.rule .GherkinDocument) rfl
    unfold noDocItem at hno
    unfold getSingle
    rw [hno] at h2 ⊢
    have : getItems b.items (.rule .GherkinDocument) = [] := by
      revert h2
      generalize getItems b.items (.rule .GherkinDocument) = l
      intro h2; cases h2; rfl
    rw [this]
    exact ⟨rfl, rfl⟩
  cases hu with
  | nil =>
    obtain ⟨k1, k2⟩ := key dn1 dn2 hdn hnd'
    simp only [List.nil_append, k1, k2, and_self]
  | cons hab ht =>
    rename_i a b as bs
    obtain ⟨k1, k2⟩ := key a b hab (hnd a List.mem_cons_self)
    simp only [List.cons_append, k1, k2, and_self]

/-- stack length 2: the final `end_rule`, of the node of the start rule -/
theorem BRel.endRule_last {k : Nat} {xo : Option Comment} {β1 β2 : BState} (h : BRel f k xo β1 β2)
    (hlen : β1.stack.length = 2) (n : Nat) :
    (β2.endRule n).1 = (β1.endRule n).1.mapError (mapBErr f) ∧
    (β2.endRule n).2.2 = (β1.endRule n).2.2 ∧ (∀ e, (β1.endRule n).1 = .error e → BErrOk e) ∧
    (((β1.endRule n).2.1.result = .ok none ∧ (β2.endRule n).2.1.result = .ok none) ∨
      ∃ d1 d2, (β1.endRule n).2.1.result = .ok (some d1) ∧ (β2.endRule n).2.1.result = .ok (some d2) ∧
        d2.feature = d1.feature.map (mapFeature f) ∧ CommRel f k xo d1.comments d2.comments) := by
  obtain ⟨s1, c1⟩ := β1
  obtain ⟨s2, c2⟩ := β2
  obtain ⟨⟨u1, u2, dn1, dn2, e1, e2, hu, hrt, hdn, hnd, hnd'⟩, hc⟩ := h
  simp only at e1 e2 hc hlen
  subst e1 e2
  cases hu with
  | cons hab ht => simp at hlen
  | nil =>
    obtain ⟨rt, xs⟩ := dn1
    obtain ⟨rt', ys⟩ := dn2
    obtain ⟨hrt', hxy⟩ := hdn
    simp only at hrt' hxy
    subst hrt'
    simp only [BState.endRule, List.nil_append]
    by_cases hd : rt = .GherkinDocument
    · subst hd
      have hfeat := getSingle_map hxy (.rule .Feature) rfl
      have t1 : ∀ (cs : List Comment) (zs : List (Key × Val)), (transformNode cs ⟨.GherkinDocument, zs⟩).run.run n =
          (.ok (.doc { feature := (match getSingle zs (.rule .Feature) with | .feature x => some x | _ => none),
                       comments := cs }), n) := fun _ _ => rfl
      rw [t1, t1]
      refine ⟨rfl, rfl, ?_, ?_⟩
      · intro e he; cases he
      right
      refine ⟨_, _, rfl, rfl, ?_, hc⟩
      simp only []
      revert hfeat
      generalize getSingle xs (.rule .Feature) = v
      generalize getSingle ys (.rule .Feature) = w
      intro hvw
      cases hvw <;> rfl
    · rw [transformNode_comments c2 (c1.map (mapComment f)) _ _ hd]
      have hkey : (Key.rule rt == Key.rule RuleType.GherkinDocument) = false := by
        simpa using hd
      rcases transformNode_map c1 rt hxy n with ⟨v, w, n', r1, r2, hvw⟩ | ⟨e, n', r1, r2, hok⟩
      · rw [r1, r2]
        refine ⟨rfl, rfl, ?_, ?_⟩
        · intro e he; cases he
        left
        simp only [addToTop, root0, List.nil_append, BState.result, getSingle, getItems, List.filter_cons, hkey,
          Bool.false_eq_true, ↓reduceIte, List.filter_nil, List.map_nil, and_self]
      · rw [r1, r2]
        refine ⟨rfl, rfl, fun e' he => ?_, ?_⟩
        · cases he; exact hok
        · left
          simp only [root0, BState.result, getSingle, getItems, List.filter_nil, List.map_nil, and_self]

def ResRel (f : LocMap) (k : Nat) (xo : Option Comment) (r1 r2 : Except BErr (Option Doc)) : Prop :=
  (r1 = .ok none ∧ r2 = .ok none) ∨
  ∃ d1 d2, r1 = .ok (some d1) ∧ r2 = .ok (some d2) ∧ d2.feature = d1.feature.map (mapFeature f) ∧
    CommRel f k xo d1.comments d2.comments

theorem BRel.endRule_result {k : Nat} {xo : Option Comment} {β1 β2 : BState} (h : BRel f k xo β1 β2) (n : Nat) :
    (β2.endRule n).1 = (β1.endRule n).1.mapError (mapBErr f) ∧
    (β2.endRule n).2.2 = (β1.endRule n).2.2 ∧ (∀ e, (β1.endRule n).1 = .error e → BErrOk e) ∧
    ResRel f k xo (β1.endRule n).2.1.result (β2.endRule n).2.1.result := by
  by_cases hlen : β1.stack.length = 2
  · exact h.endRule_last hlen n
  · have h3 : 3 ≤ β1.stack.length := by
      obtain ⟨⟨u1, u2, dn1, dn2, e1, -⟩, -⟩ := h
      rw [e1] at hlen ⊢
      simp only [List.length_append, List.length_cons, List.length_nil] at hlen ⊢
      omega
    obtain ⟨q1, q2, q3, q4⟩ := h.endRule h3 n
    exact ⟨q1, q3, q4, .inl q2.result_none⟩

end Layout4
end GV
