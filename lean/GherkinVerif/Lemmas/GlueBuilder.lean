/-
  Lemmas/GlueBuilder.lean — what the parser glue needs to know about the AST builder: an
  `AstBuilderException` is always located at a table-row token held by the node being closed,
  and the tokens held directly by the nodes of the stack are exactly those handed to `build`.
-/
import GherkinVerif.Lemmas.BuilderOps
namespace GV
namespace Lemmas

/-- builder computation: results satisfy `Q`, `AstBuilderException`s satisfy `E` -/
abbrev BSpec {α} (m : BM α) (Q : α → Prop) (E : PErr → Prop) : Prop := BInv (fun _ => True) m Q E

theorem BSpec.run {α} {m : BM α} {Q : α → Prop} {E : PErr → Prop} (h : BSpec m Q E) (n : Nat) :
    match (m.run.run n).1 with
    | .ok a => Q a
    | .error (.ast e) => E e
    | .error (.crash _) => True := (h n trivial).2

theorem transformNode_spec (cm : List Comment) (node : Node) :
    BSpec (transformNode cm node) NotTok
      (fun e => ∃ t, (Key.tok .TableRow, Val.tok t) ∈ node.items ∧ e.loc.line = t.lineNo) :=
  transformNode_walk cm node _ _ (fun _ _ _ _ _ => trivial) fun _ =>
    (BInv.getTableRows (fun _ _ => trivial) _).weaken (fun _ h => h) fun _ ⟨t, ht, he⟩ =>
      ⟨t, mem_getTokens ht, by rw [he]; rfl⟩

/-- every token held directly by a node of the stack satisfies `G` -/
def StackOK (G : Token → Prop) (st : List Node) : Prop :=
  ∀ node ∈ st, ∀ k t, (k, Val.tok t) ∈ node.items → G t

theorem StackOK.addToTop {G : Token → Prop} {st st' : List Node} {k : Key} {v : Val}
    (h : StackOK G st) (hv : ∀ t, v = .tok t → G t) (ha : addToTop st k v = some st') : StackOK G st' := by
  unfold GV.addToTop at ha
  split at ha
  · rename_i top rest
    cases ha
    intro node hn k' t hm
    rcases List.mem_cons.1 hn with rfl | hn
    · dsimp only at hm
      rcases List.mem_append.1 hm with hm | hm
      · exact h top (List.mem_cons_self ..) k' t hm
      · simp only [List.mem_singleton, Prod.mk.injEq] at hm
        exact hv t hm.2.symm
    · exact h node (List.mem_cons_of_mem _ hn) k' t hm
  · cases ha

theorem StackOK.startRule {G : Token → Prop} {β : BState} (h : StackOK G β.stack) (r : RuleType) :
    StackOK G (β.startRule r).stack := by
  intro node hn k t hm
  unfold BState.startRule at hn
  rcases List.mem_cons.1 hn with rfl | hn
  · cases hm
  · exact h node hn k t hm

theorem StackOK.build {G : Token → Prop} {β β' : BState} {t : Token} (h : StackOK G β.stack) (ht : G t)
    (hb : β.build t = .ok β') : StackOK G β'.stack := by
  rcases build_ok hb with ⟨_, -, -, rfl⟩ | ⟨k, top, rest, -, -, hs, rfl⟩
  · exact h
  · exact h.addToTop (v := .tok t) (fun t' ht' => by cases ht'; exact ht) (hs ▸ addToTop_cons ..)

theorem StackOK.endRule {G : Token → Prop} {β : BState} (h : StackOK G β.stack) (n : Nat) :
    StackOK G (β.endRule n).2.1.stack ∧
    ∀ e, (β.endRule n).1 = .error (.ast e) → ∃ t, G t ∧ e.loc.line = t.lineNo := by
  rcases endRule_eq β n with ⟨-, he⟩ | ⟨node, rest, e, n', hs, hr, he⟩ | ⟨node, parent, rest, v, n', hs, hr, he⟩ |
    ⟨node, v, n', -, -, he⟩ <;> rw [he]
  · exact ⟨h, fun e he => by cases he⟩
  · have hspec := (transformNode_spec β.comments node).run n
    rw [hr] at hspec
    refine ⟨fun nd hn => h nd (hs ▸ List.mem_cons_of_mem _ hn), fun e' he' => ?_⟩
    cases he'
    obtain ⟨t, hm, hl⟩ := hspec
    exact ⟨t, h node (hs ▸ List.mem_cons_self) _ t hm, hl⟩
  · have hspec := (transformNode_spec β.comments node).run n
    rw [hr] at hspec
    exact ⟨StackOK.addToTop (st := parent :: rest) (fun nd hn => h nd (hs ▸ List.mem_cons_of_mem _ hn))
      (fun t ht => absurd ht (hspec t)) rfl, fun e he => by cases he⟩
  · exact ⟨fun _ hn => (nomatch hn), fun e he => by cases he⟩

end Lemmas
end GV
