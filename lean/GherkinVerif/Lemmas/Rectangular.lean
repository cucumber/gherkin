/-
  Lemmas/Rectangular.lean — every document the parser returns is rectangular.

  The builder (Model/Builder.lean) makes `Row` lists in one place only: `getTableRows`, which
  returns them only when `raggedRow rows = none` (otherwise it raises the ragged-table
  `AstBuilderException`).  So every value built from such parts is rectangular throughout:
  `RectVal`.  That all values on the builder stack are (`StackRect`) is an invariant of
  `start_rule` / `end_rule` / `build`, hence — the other glue operations do not touch the builder —
  of the whole parse loop (`Prims`, Lemmas/GlueBase.lean), for every transition table, dialect
  table, error mode, matcher state, id counter and source text.  The document of an accepted parse
  is the `.doc d` value of the root node: `DocRect d`.
-/
import GherkinVerif.Lemmas.GlueOutcome
import GherkinVerif.Lemmas.BuilderOps
import GherkinVerif.Lemmas.Cells
import GherkinVerif.Lemmas.Compile
namespace GV
namespace Lemmas
namespace Rect

def RowsEq (rows : List Row) : Prop :=
  ∀ r ∈ rows, ∀ r0, rows.head? = some r0 → r.cells.length = r0.cells.length

def TableRect (t : DataTable) : Prop := RowsEq t.rows

def ArgRect : StepArg → Prop
  | .table t => TableRect t
  | _ => True

def StepRect (s : Step) : Prop := ArgRect s.arg

def ExRect (e : Examples) : Prop :=
  ∀ h, e.header = some h → ∀ r ∈ e.body, r.cells.length = h.cells.length

def BgRect (b : Background) : Prop := ∀ s ∈ b.steps, StepRect s

def ScRect (s : Scenario) : Prop := (∀ st ∈ s.steps, StepRect st) ∧ ∀ e ∈ s.examples, ExRect e

def RuleChildRect : RuleChild → Prop
  | .background b => BgRect b
  | .scenario s => ScRect s

def RuleRect (r : Rule) : Prop := ∀ c ∈ r.children, RuleChildRect c

def FeatureChildRect : FeatureChild → Prop
  | .background b => BgRect b
  | .scenario s => ScRect s
  | .rule r => RuleRect r

def FeatureRect (f : Feature) : Prop := ∀ c ∈ f.children, FeatureChildRect c

/-- every data table (of every step of every background and scenario, at feature level and inside
    rules) has rows of equal cell counts, and every examples block's body rows have exactly the
    header's cell count: stronger than the compiler's precondition `Spec.rectangular`
    (`DocRect.rectangular`), which asks of a body row at least as many cells as the header has -/
def DocRect (d : Doc) : Prop := ∀ f, d.feature = some f → FeatureRect f

inductive RectVal : Val → Prop
  | tok (t : Token) : RectVal (.tok t)
  | none : RectVal .none
  | step {s : Step} : StepRect s → RectVal (.step s)
  | docString (d : DocString) : RectVal (.docString d)
  | dataTable {d : DataTable} : TableRect d → RectVal (.dataTable d)
  | background {b : Background} : BgRect b → RectVal (.background b)
  | scenario {s : Scenario} : ScRect s → RectVal (.scenario s)
  | examples {e : Examples} : ExRect e → RectVal (.examples e)
  | rows {rs : List Row} : RowsEq rs → RectVal (.rows rs)
  | descr (s : Str) : RectVal (.descr s)
  | rule {r : Rule} : RuleRect r → RectVal (.rule r)
  | feature {f : Feature} : FeatureRect f → RectVal (.feature f)
  | doc {d : Doc} : DocRect d → RectVal (.doc d)
  | raw (rt : RuleType) (items : List (Key × Val)) : (∀ kv ∈ items, RectVal kv.2) → RectVal (.raw rt items)

def ItemsRect (items : List (Key × Val)) : Prop := ∀ kv ∈ items, RectVal kv.2

theorem getItems_rect {items : List (Key × Val)} (h : ItemsRect items) (k : Key) :
    ∀ v ∈ getItems items k, RectVal v := by
  intro v hv
  unfold getItems at hv
  obtain ⟨kv, hkv, rfl⟩ := List.mem_map.1 hv
  exact h kv (List.mem_filter.1 hkv).1

theorem getSingle_rect {items : List (Key × Val)} (h : ItemsRect items) (k : Key) :
    RectVal (getSingle items k) := by
  unfold getSingle
  split
  · rename_i v vs hv
    exact getItems_rect h k v (by rw [hv]; exact List.mem_cons_self ..)
  · exact RectVal.none

theorem filterMap_rect {α} {g : Val → Option α} {P : α → Prop} (hg : ∀ v a, RectVal v → g v = some a → P a)
    {items : List (Key × Val)} (h : ItemsRect items) (k : Key) : ∀ a ∈ (getItems items k).filterMap g, P a := by
  intro a ha
  obtain ⟨v, hv, hva⟩ := List.mem_filterMap.1 ha
  exact hg v a (getItems_rect h k v hv) hva

theorem getSteps_rect {items : List (Key × Val)} (h : ItemsRect items) : ∀ s ∈ getSteps items, StepRect s :=
  filterMap_rect (fun v a hr e => by cases hr <;> cases e; assumption) h _

theorem getScenarios_rect {items : List (Key × Val)} (h : ItemsRect items) : ∀ s ∈ getScenarios items, ScRect s :=
  filterMap_rect (fun v a hr e => by cases hr <;> cases e; assumption) h _

theorem getExamples_rect {items : List (Key × Val)} (h : ItemsRect items) : ∀ e ∈ Spec.getExamples items, ExRect e :=
  filterMap_rect (fun v a hr e => by cases hr <;> cases e; assumption) h _

theorem getRules_rect {items : List (Key × Val)} (h : ItemsRect items) : ∀ r ∈ Spec.getRules items, RuleRect r :=
  filterMap_rect (fun v a hr e => by cases hr <;> cases e; assumption) h _

theorem getBackground_rect {items : List (Key × Val)} (h : ItemsRect items) :
    ∀ b ∈ (getBackground items).toList, BgRect b := by
  unfold getBackground
  have hr := getSingle_rect h (.rule .Background)
  generalize getSingle items (.rule .Background) = v at hr
  cases hr
  case background b' hb' => intro b hb; rw [List.mem_singleton.1 hb]; exact hb'
  all_goals exact fun _ hb => nomatch hb

theorem stepArgOf_rect {items : List (Key × Val)} (h : ItemsRect items) : ArgRect (Spec.stepArgOf items) := by
  unfold Spec.stepArgOf
  have h1 := getSingle_rect h (.rule .DataTable)
  generalize getSingle items (.rule .DataTable) = v at h1
  cases h1
  case dataTable d hd => exact hd
  all_goals (dsimp only; split <;> exact trivial)

theorem tableOf_rect {ex : List (Key × Val)} (h : ItemsRect ex) (hd : Row) (hhd : (Spec.tableOf ex).head? = some hd) :
    ∀ r ∈ (Spec.tableOf ex).drop 1, r.cells.length = hd.cells.length := by
  unfold Spec.tableOf at hhd ⊢
  have h1 := getSingle_rect h (.rule .ExamplesTable)
  generalize getSingle ex (.rule .ExamplesTable) = v at h1 hhd
  intro r hr
  cases h1
  case rows rs hrs => exact hrs r (List.mem_of_mem_drop hr) hd hhd
  all_goals cases hhd

theorem raw_rect {items is : List (Key × Val)} {k : Key} {rt : RuleType} (h : ItemsRect items)
    (hs : getSingle items k = .raw rt is) : ItemsRect is := by
  have := getSingle_rect h k
  rw [hs] at this
  cases this
  assumption

theorem ruleChildren_rect {items : List (Key × Val)} (h : ItemsRect items) :
    ∀ c ∈ Spec.ruleChildren items, RuleChildRect c := by
  rw [ruleChildren_eq]
  intro c hc
  rcases List.mem_append.1 hc with hc | hc
  · obtain ⟨b, hb, rfl⟩ := List.mem_map.1 hc
    exact getBackground_rect h b hb
  · obtain ⟨s, hs, rfl⟩ := List.mem_map.1 hc
    exact getScenarios_rect h s hs

theorem featureChildren_rect {items : List (Key × Val)} (h : ItemsRect items) :
    ∀ c ∈ Spec.featureChildren items, FeatureChildRect c := by
  rw [featureChildren_eq]
  intro c hc
  rcases List.mem_append.1 hc with hc | hc
  · rcases List.mem_append.1 hc with hc | hc
    · obtain ⟨b, hb, rfl⟩ := List.mem_map.1 hc
      exact getBackground_rect h b hb
    · obtain ⟨s, hs, rfl⟩ := List.mem_map.1 hc
      exact getScenarios_rect h s hs
  · obtain ⟨r, hr, rfl⟩ := List.mem_map.1 hc
    exact getRules_rect h r hr

theorem featureOf_rect {items : List (Key × Val)} (h : ItemsRect items) :
    ∀ f, Spec.featureOf items = some f → FeatureRect f := by
  unfold Spec.featureOf
  have h1 := getSingle_rect h (.rule .Feature)
  generalize getSingle items (.rule .Feature) = v at h1
  intro f hf
  cases h1 <;> cases hf
  assumption

/-- Read off the success equation of each rule type: the value is made of the node's parts, and the
    rows of a table node are those of a `get_table_rows` that did not raise. -/
theorem transformNode_rect (cm : List Comment) (node : Node) (n m : Nat) (v : Val)
    (h : (transformNode cm node).run.run n = (.ok v, m)) (hi : ItemsRect node.items) : RectVal v := by
  obtain ⟨rt, items⟩ := node
  cases rt
  case Step =>
    obtain ⟨_, -, _, -, _, -, _, -, rfl, -⟩ := (step_ok cm items n m v).1 h
    exact .step (stepArgOf_rect hi)
  case DocString =>
    obtain ⟨_, _, -, _, -, _, -, _, -, rfl, -⟩ := (docString_ok cm items n m v).1 h
    exact .docString _
  case DataTable =>
    obtain ⟨hr, _, _, -, rfl, -⟩ := (dataTable_ok cm items n m v).1 h
    exact .dataTable ((raggedRow_none_iff _).1 hr)
  case Background =>
    obtain ⟨_, -, _, -, _, -, _, -, rfl, -⟩ := (background_ok cm items n m v).1 h
    exact .background (getSteps_rect hi)
  case ScenarioDefinition =>
    obtain ⟨_, -, _, sc, hs, _, -, _, -, _, -, _, -, rfl, -⟩ := (scenario_ok cm items n m v).1 h
    exact .scenario ⟨getSteps_rect (raw_rect hi hs), getExamples_rect (raw_rect hi hs)⟩
  case ExamplesDefinition =>
    obtain ⟨_, -, _, ex, hs, _, -, _, -, _, -, _, -, rfl, -⟩ := (examples_ok cm items n m v).1 h
    exact .examples (tableOf_rect (raw_rect hi hs))
  case ExamplesTable =>
    obtain ⟨hr, rfl, -⟩ := (examplesTable_ok cm items n m v).1 h
    exact .rows ((raggedRow_none_iff _).1 hr)
  case Description =>
    obtain ⟨_, -, rfl, -⟩ := (description_ok cm items n m v).1 h
    exact .descr _
  case Rule =>
    by_cases hv : v = .none
    · rw [hv]; exact .none
    · obtain ⟨_, _, -, _, -, _, -, _, -, _, -, _, -, rfl, -⟩ := (rule_ok cm items n m v hv).1 h
      exact .rule (ruleChildren_rect hi)
  case Feature =>
    by_cases hv : v = .none
    · rw [hv]; exact .none
    · obtain ⟨_, _, -, _, -, _, -, _, -, _, -, _, -, rfl, -⟩ := (feature_ok cm items n m v hv).1 h
      exact .feature (featureChildren_rect hi)
  case GherkinDocument =>
    rw [document_eq, res_inj] at h
    obtain ⟨rfl⟩ := Except.ok.inj h.1
    exact .doc (featureOf_rect hi)
  all_goals
    obtain ⟨rfl, -⟩ := (run_pure_ok _ v n m).1 h
    exact .raw _ _ hi

def StackRect (st : List Node) : Prop := ∀ node ∈ st, ItemsRect node.items

theorem StackRect.reset : StackRect BState.reset.stack := by
  intro node hn kv hkv
  simp only [BState.reset, List.mem_singleton] at hn
  subst hn
  cases hkv

theorem StackRect.addToTop {st st' : List Node} {k : Key} {v : Val}
    (h : StackRect st) (hv : RectVal v) (ha : addToTop st k v = some st') : StackRect st' := by
  unfold GV.addToTop at ha
  split at ha
  · rename_i top rest
    cases ha
    intro node hn kv hm
    rcases List.mem_cons.1 hn with rfl | hn
    · dsimp only at hm
      rcases List.mem_append.1 hm with hm | hm
      · exact h top (List.mem_cons_self ..) kv hm
      · simp only [List.mem_singleton] at hm
        subst hm
        exact hv
    · exact h node (List.mem_cons_of_mem _ hn) kv hm
  · cases ha

theorem StackRect.startRule {β : BState} (h : StackRect β.stack) (r : RuleType) :
    StackRect (β.startRule r).stack := by
  intro node hn kv hm
  unfold BState.startRule at hn
  rcases List.mem_cons.1 hn with rfl | hn
  · cases hm
  · exact h node hn kv hm

theorem StackRect.build {β β' : BState} {t : Token} (h : StackRect β.stack)
    (hb : β.build t = .ok β') : StackRect β'.stack := by
  rcases build_ok hb with ⟨_, -, -, rfl⟩ | ⟨k, top, rest, -, -, hs, rfl⟩
  · exact h
  · exact h.addToTop (RectVal.tok t) (hs ▸ addToTop_cons ..)

theorem StackRect.endRule {β : BState} (h : StackRect β.stack) (n : Nat) :
    StackRect (β.endRule n).2.1.stack := by
  rcases endRule_eq β n with ⟨-, he⟩ | ⟨node, rest, e, n', hs, -, he⟩ | ⟨node, parent, rest, v, n', hs, hr, he⟩ |
    ⟨node, v, n', -, -, he⟩ <;> rw [he]
  · exact h
  · exact fun nd hn => h nd (hs ▸ List.mem_cons_of_mem _ hn)
  · exact StackRect.addToTop (st := parent :: rest) (fun nd hn => h nd (hs ▸ List.mem_cons_of_mem _ hn))
      (transformNode_rect β.comments node n n' v hr (h node (hs ▸ List.mem_cons_self))) rfl
  · exact fun _ hn => nomatch hn

theorem result_rect {β : BState} (h : StackRect β.stack) (d : Doc) (hd : β.result = .ok (some d)) :
    DocRect d := by
  unfold BState.result at hd
  split at hd
  · rename_i top rest hst
    have h1 := getSingle_rect (h top (by rw [hst]; exact List.mem_cons_self ..)) (.rule .GherkinDocument)
    generalize getSingle top.items (.rule .GherkinDocument) = v at h1 hd
    cases h1 <;> simp at hd
    subst hd
    assumption
  · cases hd

def P (c : Ctx) : Prop := StackRect c.β.stack

def E (_ : Abort) (_ : Ctx) : Prop := True

theorem inv_of_beta {α} {m : PM α} (h : ∀ c r c', run m c = (r, c') → c'.β = c.β) : Inv P E m := by
  refine Triple.intro fun c r c' hc hr => ?_
  have hb := h c r c' hr
  cases r
  · trivial
  · unfold P; rw [hb]; exact hc

theorem report (cap : Nat) (stop : Bool) : Report cap stop (fun _ => P) P E :=
  ⟨fun _ _ _ _ => trivial, fun _ e => inv_of_beta fun c r c' h => by
    obtain ⟨es, rfl⟩ := addError_foot cap e c r c' h; rfl⟩

theorem runProd_rect (cap : Nat) (stop : Bool) (t : Token) (p : Prod) : Inv P E (runProd cap stop t p) :=
  runProd_rule (report cap stop) t p fun c hc => by
    cases p with
    | start r => exact StackRect.startRule hc r
    | end_ r =>
      dsimp only
      split <;> first | exact StackRect.endRule hc _ | trivial
    | build =>
      dsimp only
      split
      · exact StackRect.build hc ‹_›
      · exact fun _ => trivial

theorem prims (D : List Dialect) (T : Table) (stop : Bool) : Prims D T stop P E :=
  { readToken := inv_of_beta fun c r c' h => by
      obtain ⟨_, _, _, _, _, _, rfl⟩ := readToken_foot c r c' h; rfl
    matchP := fun k t => inv_of_beta fun c r c' h => by
      obtain ⟨_, _, _, rfl⟩ := matchP_foot D T.errorCap stop k t c r c' h; rfl
    modQ := fun _ _ h => h
    fuel := fun _ _ => trivial
    runProd := fun t p => runProd_rect T.errorCap stop t p
    modR := fun _ _ h => h
    crash := fun _ _ _ => trivial
    tail := fun _ t => tail_rule (report T.errorCap stop) t fun _ hc => hc }

theorem parseBody_rect (D : List Dialect) (T : Table) (stop : Bool) (n : Nat) :
    Triple P (parseBody D T stop n) (fun d _ => DocRect d) E :=
  (Triple.parseBody (fun _ hc => StackRect.startRule hc _) ((prims D T stop).parseLoop _ _)
    ((prims D T stop).runProd _ _) (fun _ _ _ => trivial) fun _ _ _ => trivial).post
      fun d _ h => result_rect h.1 d h.2.2

theorem parsed_docRect (D : List Dialect) (T : Table) (stop : Bool) (μ : MState) (ids : Nat) (src : Str)
    (d : Doc) (h : (parseWith D T stop μ ids src).1 = .ok d) : DocRect d := by
  have hb := Triple.parseWith (parseBody_rect D T stop _) (μ := μ) (ids := ids) (src := src) StackRect.reset
  rw [h] at hb
  exact hb

theorem ruleScenarios_rect (f : Feature) (i : Nat) (r : Rule) (hr : RuleRect r) :
    ∀ scs ∈ Spec.ruleScenarios f i r, ScRect scs.2 := by
  intro scs hs
  unfold Spec.ruleScenarios at hs
  obtain ⟨j, _, hj⟩ := List.mem_flatMap.1 hs
  split at hj
  · rename_i sc hc
    simp only [List.mem_singleton] at hj
    subst hj
    exact hr _ (List.mem_of_getElem? hc)
  · cases hj

theorem featureScenarios_rect (f : Feature) (hf : FeatureRect f) :
    ∀ scs ∈ Spec.featureScenarios f, ScRect scs.2 := by
  intro scs hs
  unfold Spec.featureScenarios at hs
  obtain ⟨i, _, hi⟩ := List.mem_flatMap.1 hs
  split at hi
  · rename_i sc hc
    simp only [List.mem_singleton] at hi
    subst hi
    exact hf _ (List.mem_of_getElem? hc)
  · rename_i r hc
    exact ruleScenarios_rect f i r (hf _ (List.mem_of_getElem? hc)) scs hi
  · cases hi

theorem DocRect.examples_exact {d : Doc} (h : DocRect d) :
    ∀ f, d.feature = some f → ∀ scs ∈ Spec.featureScenarios f, ∀ ex ∈ scs.2.examples,
      ∀ hd, ex.header = some hd → ∀ row ∈ ex.body, row.cells.length = hd.cells.length := by
  intro f hf scs hs ex hex hd hhd row hrow
  exact (featureScenarios_rect f (h f hf) scs hs).2 ex hex hd hhd row hrow

/-- the steps of a rule child / feature child / document, backgrounds included -/
def ruleChildSteps : RuleChild → List Step
  | .background b => b.steps
  | .scenario s => s.steps

def featureChildSteps : FeatureChild → List Step
  | .background b => b.steps
  | .scenario s => s.steps
  | .rule r => r.children.flatMap ruleChildSteps

def docSteps (d : Doc) : List Step :=
  match d.feature with
  | none => []
  | some f => f.children.flatMap featureChildSteps

theorem RowsEq.all_equal {rows : List Row} (h : RowsEq rows) :
    ∀ r1 ∈ rows, ∀ r2 ∈ rows, r1.cells.length = r2.cells.length := by
  intro r1 h1 r2 h2
  cases rows with
  | nil => cases h1
  | cons r0 rest => rw [h r1 h1 r0 rfl, h r2 h2 r0 rfl]

theorem DocRect.steps {d : Doc} (h : DocRect d) : ∀ st ∈ docSteps d, StepRect st := by
  intro st hst
  unfold docSteps at hst
  split at hst
  · cases hst
  · rename_i f hf
    obtain ⟨c, hc, hsc⟩ := List.mem_flatMap.1 hst
    have hcr := h f hf c hc
    cases c with
    | background b => exact hcr st hsc
    | scenario s => exact hcr.1 st hsc
    | rule r =>
      obtain ⟨c', hc', hsc'⟩ := List.mem_flatMap.1 hsc
      have hcr' := hcr c' hc'
      cases c' with
      | background b => exact hcr' st hsc'
      | scenario s => exact hcr'.1 st hsc'

theorem DocRect.tables_equal {d : Doc} (h : DocRect d) :
    ∀ st ∈ docSteps d, ∀ t, st.arg = .table t →
      ∀ r1 ∈ t.rows, ∀ r2 ∈ t.rows, r1.cells.length = r2.cells.length := by
  intro st hst t ht
  have hsr := h.steps st hst
  unfold StepRect at hsr
  rw [ht] at hsr
  exact RowsEq.all_equal hsr

theorem DocRect.rectangular {d : Doc} (h : DocRect d) : Spec.rectangular d := by
  intro f hf scs hs ex hex hd hhd row hrow
  exact Nat.le_of_eq (h.examples_exact f hf scs hs ex hex hd hhd row hrow).symm

end Rect
end Lemmas
end GV
