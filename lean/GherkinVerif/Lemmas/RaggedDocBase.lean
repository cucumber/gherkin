/-
  Lemmas/RaggedDocBase.lean — vocabulary and builder-side facts for the document-level
  ragged-table theorems (Props/C12Doc.lean).  The tables of a run are read off the list of built
  tokens (`Spec.tableRuns`), and `Spec.firstDeviating` is `ensure_cell_count` on the tokens of
  one.  On the builder's side `end_rule` raises an `AstBuilderException` iff the node on top is a
  `DataTable` / `ExamplesTable` node whose `TableRow` tokens have a first deviating one, and the
  error is located there (`endRule_cases`); `build` appends the token to the `TableRow` tokens of
  the top node iff it is a `TableRow` token (`build_cases`).
-/
import GherkinVerif.Lemmas.Builder
import GherkinVerif.Lemmas.GlueBuilder
import GherkinVerif.Lemmas.TextErrors
import GherkinVerif.Lemmas.Rectangular
namespace GV
namespace Spec

def isRowTok (t : Token) : Bool := t.mtype == some .TableRow

/-- comment and blank tokens: allowed between the rows of one table -/
def isSkipTok (t : Token) : Bool := t.mtype == some .Comment || t.mtype == some .Empty

def flushRun (cur : List Token) : List (List Token) := if cur.isEmpty then [] else [cur]

/-- (closed groups, open group) after one more built token -/
def runStep (s : List (List Token) × List Token) (t : Token) : List (List Token) × List Token :=
  if isRowTok t then (s.1, s.2 ++ [t])
  else if isSkipTok t then s
  else (s.1 ++ flushRun s.2, [])

def runState (bs : List Token) : List (List Token) × List Token := bs.foldl runStep ([], [])

/-- the groups of row tokens that have been ended by a later built token that is neither a row
    nor a comment nor a blank line -/
def closedRuns (bs : List Token) : List (List Token) := (runState bs).1

/-- the row tokens built since the last built token that is neither row, comment nor blank -/
def openRun (bs : List Token) : List Token := (runState bs).2

/-- **the tables of a list of built tokens**: the maximal groups of `TableRow` tokens separated
    only by comment and blank tokens, in order -/
def tableRuns (bs : List Token) : List (List Token) := closedRuns bs ++ flushRun (openRun bs)

def cellCount (t : Token) : Nat := t.items.length

/-- `ensure_cell_count` on tokens: the first whose cell count differs from the first token's -/
def firstDeviating (run : List Token) : Option Token :=
  match run with
  | [] => none
  | t0 :: _ => run.find? fun t => cellCount t != cellCount t0

/-- the rule types whose `transform_node` calls `get_table_rows` -/
def isTableRt (r : RuleType) : Bool := r == .DataTable || r == .ExamplesTable

def raggedErrAt (t : Token) : PErr :=
  ⟨.raggedTable, t.loc, lit "inconsistent cell count within the table"⟩

def topTable : List RuleType → Bool
  | r :: _ => isTableRt r
  | [] => false

def topRows : List Node → List Token
  | top :: _ => getTokens top.items .TableRow
  | [] => []

end Spec

namespace Lemmas
open Spec

theorem runState_snoc (bs : List Token) (t : Token) : runState (bs ++ [t]) = runStep (runState bs) t := by
  simp [runState, List.foldl_append]

theorem mem_flushRun {cur run : List Token} : run ∈ flushRun cur ↔ run = cur ∧ cur ≠ [] := by
  unfold flushRun
  cases cur with
  | nil => simp
  | cons a l => simp

theorem mem_tableRuns {bs : List Token} {run : List Token} :
    run ∈ tableRuns bs ↔ run ∈ closedRuns bs ∨ (run = openRun bs ∧ openRun bs ≠ []) := by
  unfold tableRuns
  rw [List.mem_append, mem_flushRun]

theorem firstDeviating_ne_nil {run : List Token} {t : Token} (h : firstDeviating run = some t) : run ≠ [] := by
  intro hn; subst hn; cases h

theorem firstDeviating_mem {run : List Token} {t : Token} (h : firstDeviating run = some t) : t ∈ run := by
  unfold firstDeviating at h
  split at h
  · cases h
  · exact List.mem_of_find?_eq_some h

/-- `C12_ragged_first` on tokens -/
theorem firstDeviating_spec {run : List Token} {t : Token} (h : firstDeviating run = some t) :
    ∃ pre post t0, run = pre ++ t :: post ∧ run.head? = some t0 ∧ cellCount t ≠ cellCount t0 ∧
      ∀ x ∈ pre, cellCount x = cellCount t0 := by
  unfold firstDeviating at h
  split at h
  · cases h
  · rename_i t0 rest
    obtain ⟨h1, pre, post, h2, h3⟩ := List.find?_eq_some_iff_append.1 h
    refine ⟨pre, post, t0, h2, rfl, by simpa using h1, fun x hx => ?_⟩
    simpa using h3 x hx

theorem firstDeviating_none {run : List Token} (h : firstDeviating run = none) :
    ∀ t ∈ run, ∀ t0, run.head? = some t0 → cellCount t = cellCount t0 := by
  intro t ht t0 h0
  unfold firstDeviating at h
  split at h
  · cases ht
  · rename_i t0' rest
    cases h0
    have := List.find?_eq_none.1 h t ht
    simpa using this

theorem find_numberRows (toks : List Token) (n c0 : Nat) :
    ((numberRows toks n).find? (fun r => r.cells.length != c0)).map (·.loc) =
    (toks.find? (fun t => cellCount t != c0)).map (·.loc) := by
  induction toks generalizing n with
  | nil => rfl
  | cons t toks ih =>
    rw [numberRows_cons, List.find?_cons, List.find?_cons]
    simp only [getCells_length, cellCount]
    split
    · rfl
    · exact ih (n + 1)

theorem ragged_numberRows (toks : List Token) (n : Nat) :
    (raggedRow (numberRows toks n)).map (·.loc) = (firstDeviating toks).map (·.loc) := by
  cases toks with
  | nil => rfl
  | cons t0 rest =>
    have := find_numberRows (t0 :: rest) n (cellCount t0)
    rw [numberRows_cons] at this ⊢
    simp only [raggedRow, firstDeviating, getCells_length]
    exact this

theorem RB_eq : RB = lit "inconsistent cell count within the table" := rfl

theorem raggedErrAt_good (t : Token) : good (raggedErrAt t) := ⟨rfl, rfl⟩

theorem getTableRows_dev (items : List (Key × Val)) (n : Nat) :
    (∀ t, firstDeviating (getTokens items .TableRow) = some t →
      ((getTableRows items).run.run n).1 = .error (.ast (raggedErrAt t))) ∧
    (firstDeviating (getTokens items .TableRow) = none →
      ∃ rows, ((getTableRows items).run.run n).1 = .ok rows) := by
  rw [run_getTableRows]
  have h := ragged_numberRows (getTokens items .TableRow) n
  cases hr : raggedRow (numberRows (getTokens items .TableRow) n) with
  | none =>
    rw [hr] at h
    refine ⟨fun t ht => ?_, fun _ => ⟨_, rfl⟩⟩
    rw [ht] at h; cases h
  | some r =>
    rw [hr] at h
    refine ⟨fun t ht => ?_, fun hn => ?_⟩
    · rw [ht] at h
      simp only [Option.map_some, Option.some.injEq] at h
      simp only [raggedErrAt, h]
    · rw [hn] at h; cases h

theorem tableNode_run (cs : List Comment) (rt : RuleType) (items : List (Key × Val)) (n : Nat)
    (h : isTableRt rt = true) :
    (∀ t, firstDeviating (getTokens items .TableRow) = some t →
      ((transformNode cs ⟨rt, items⟩).run.run n).1 = .error (.ast (raggedErrAt t))) ∧
    (firstDeviating (getTokens items .TableRow) = none →
      ∀ e, ((transformNode cs ⟨rt, items⟩).run.run n).1 ≠ .error (.ast e)) := by
  obtain ⟨h1, h2⟩ := getTableRows_dev items n
  have hrt : rt = .DataTable ∨ rt = .ExamplesTable := by
    cases rt <;> simp [isTableRt] at h ⊢
  rcases hrt with rfl | rfl
  · simp only [transformNode, run_bind]
    refine ⟨fun t ht => ?_, fun hn e => ?_⟩
    · have := h1 t ht
      rcases hg : (getTableRows items).run.run n with ⟨r, n'⟩
      rw [hg] at this
      simp only at this
      subst this
      rfl
    · obtain ⟨rows, hrows⟩ := h2 hn
      rcases hg : (getTableRows items).run.run n with ⟨r, n'⟩
      rw [hg] at hrows
      simp only at hrows
      subst hrows
      simp only
      cases rows with
      | nil => rw [run_crash]; intro hc; cases hc
      | cons r0 rs => rw [run_pure]; intro hc; cases hc
  · simp only [transformNode, run_bind]
    refine ⟨fun t ht => ?_, fun hn e => ?_⟩
    · have := h1 t ht
      rcases hg : (getTableRows items).run.run n with ⟨r, n'⟩
      rw [hg] at this
      simp only at this
      subst this
      rfl
    · obtain ⟨rows, hrows⟩ := h2 hn
      rcases hg : (getTableRows items).run.run n with ⟨r, n'⟩
      rw [hg] at hrows
      simp only at hrows
      subst hrows
      simp only
      rw [run_pure]; intro hc; cases hc

theorem nonTable_noast (cs : List Comment) (node : Node) (h : isTableRt node.rt = false) :
    BSpec (transformNode cs node) (fun _ => True) (fun _ => False) :=
  (transformNode_noast cs node (fun e => by rw [e] at h; cases h) fun e => by rw [e] at h; cases h).weaken
    (fun _ _ => trivial) fun _ h => h

theorem node_ragged (cs : List Comment) (node : Node) (n : Nat) :
    (∀ e, ((transformNode cs node).run.run n).1 = .error (.ast e) → isTableRt node.rt = true ∧
      ∃ t, firstDeviating (getTokens node.items .TableRow) = some t ∧ e = raggedErrAt t) ∧
    (isTableRt node.rt = true → ∀ t, firstDeviating (getTokens node.items .TableRow) = some t →
      ((transformNode cs node).run.run n).1 = .error (.ast (raggedErrAt t))) := by
  refine ⟨fun e he => ?_, fun ht t hd => (tableNode_run cs node.rt node.items n ht).1 t hd⟩
  cases ht : isTableRt node.rt with
  | false =>
    have := (nonTable_noast cs node ht).run n
    rw [he] at this
    exact this.elim
  | true =>
    refine ⟨rfl, ?_⟩
    obtain ⟨h1, h2⟩ := tableNode_run cs node.rt node.items n ht
    cases hd : firstDeviating (getTokens node.items .TableRow) with
    | none => exact absurd he (h2 hd e)
    | some t =>
      have := h1 t hd
      rw [he] at this
      cases this
      exact ⟨t, rfl, rfl⟩

theorem endRule_cases (β : BState) (n : Nat) :
    (β.endRule n).2.1.stack.map (·.rt) = (β.stack.map (·.rt)).tail ∧
    (∀ e, (β.endRule n).1 = .error (.ast e) → topTable (β.stack.map (·.rt)) = true ∧
      ∃ t, firstDeviating (topRows β.stack) = some t ∧ e = raggedErrAt t) ∧
    (topTable (β.stack.map (·.rt)) = true → ∀ t, firstDeviating (topRows β.stack) = some t →
      (β.endRule n).1 = .error (.ast (raggedErrAt t))) := by
  rcases endRule_eq β n with ⟨hs, he⟩ | ⟨nd, rs, e, n', hs, hr, he⟩ | ⟨nd, parent, rs, v, n', hs, hr, he⟩ |
    ⟨nd, v, n', hs, hr, he⟩ <;> rw [he, hs]
  · exact ⟨rfl, fun e he => (by cases he), fun ht => by cases ht⟩
  all_goals
    obtain ⟨hrun, hdev⟩ := node_ragged β.comments nd n
    rw [hr] at hrun hdev
  · exact ⟨rfl, fun e' he' => by cases he'; exact hrun e' rfl, fun ht t hd => by cases hdev ht t hd; rfl⟩
  · exact ⟨rfl, fun e he => (by cases he), fun ht t hd => by cases hdev ht t hd⟩
  · exact ⟨rfl, fun e he => (by cases he), fun ht t hd => by cases hdev ht t hd⟩

theorem getTokens_snoc (items : List (Key × Val)) (k k' : Kind) (t : Token) :
    getTokens (items ++ [(Key.tok k, Val.tok t)]) k' =
      if k = k' then getTokens items k' ++ [t] else getTokens items k' := by
  unfold getTokens getItems
  by_cases h : k = k'
  · subst h; simp [List.filter_append]
  · have : (Key.tok k == Key.tok k') = false := by simpa using h
    simp [List.filter_append, this, h]

theorem build_cases (β β' : BState) (t : Token) (k : Kind) (hk : t.mtype = some k) (hb : β.build t = .ok β') :
    β'.stack.map (·.rt) = β.stack.map (·.rt) ∧
    topRows β'.stack = if k = .TableRow then topRows β.stack ++ [t] else topRows β.stack := by
  rcases build_ok hb with ⟨_, hc, -, rfl⟩ | ⟨k', top, rest, hk', -, hs, rfl⟩
  · cases hk.symm.trans hc
    exact ⟨rfl, rfl⟩
  · cases hk.symm.trans hk'
    rw [hs]
    exact ⟨rfl, getTokens_snoc _ _ _ _⟩

end Lemmas
end GV
