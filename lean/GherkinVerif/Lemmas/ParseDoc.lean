/-
  Lemmas/ParseDoc.lean — every token handed to the builder is the matcher's output on its own
  physical line, under the matcher state in force there (`Spec.LineToks`, `Spec.stateAt`): the
  document-level corollary of the link, Lemmas/ParseLink.lean.  `parse_accepted` states what is known
  of an accepted document once, as a structure `Accepted` (the tree of the link, the tokens line by
  line, the trace); the document-level theorems of the modules after this one start from it.
-/
import GherkinVerif.Lemmas.ParseLink
namespace GV
namespace Spec

/-- the fresh token the scanner makes of line `l`, the `n`-th of the document -/
def freshTok (l : Str) (n : Nat) : Token := { line := some l, lineNo := n }

/-- line by line: the built token is what a successful `match_<K>` makes of the fresh token of the
    line under the matcher state in force (which is one the matcher can be in: `μ.dialect ∈ D`,
    `sepOK μ`), `K` passes for the line's intrinsic kind, and the state moves on by `muAfter` -/
inductive LineToks (D : List Dialect) : MState → Nat → List Str → List Token → MState → Prop
  | nil (μ : MState) (n : Nat) : LineToks D μ n [] [] μ
  | cons {μ : MState} {n : Nat} {l : Str} {ls : List Str} {toks : List Token} {μf : MState} (K : Kind) :
      μ.dialect ∈ D → sepOK μ = true →
      (matchLine D K μ (freshTok l n) l).res = .matched →
      passes (intrinsicKind D μ l) K = true →
      (μ.inDocString = true →
        K = .DocStringSeparator ∨ (K = .Other ∧ verdict D μ l .DocStringSeparator = false)) →
      LineToks D (muAfter D μ l K) (n + 1) ls toks μf →
      LineToks D μ n (l :: ls) ((matchLine D K μ (freshTok l n) l).tok :: toks) μf

/-- the matcher state in force when line `i` (0-based) is reached: from `μ`, moved on line by line
    by the test that was taken on each earlier line (`muAfter`; the kind of the test is the kind
    recorded on the line's token) -/
def stateAt (D : List Dialect) (μ : MState) : List Str → List Token → Nat → MState
  | l :: ls, t :: ts, i + 1 => stateAt D (muAfter D μ l (t.mtype.getD .Other)) ls ts i
  | _, _, _ => μ

end Spec

namespace Lemmas
open Spec

theorem opToks_prodOps_one (t : Token) (ps : List Prod) :
    opToks (prodOps t ps) = List.replicate (ps.filter (· == .build)).length t := by
  induction ps with
  | nil => rfl
  | cons p ps ih =>
    cases p with
    | start r =>
      rw [List.filter_cons_of_neg (by simp)]; exact ih
    | end_ r =>
      rw [List.filter_cons_of_neg (by simp)]; exact ih
    | build =>
      rw [List.filter_cons_of_pos (by simp)]
      simp only [prodOps, opToks, List.length_cons, List.replicate_succ, ih]

theorem trace_branch_mem {D : List Dialect} {T : Table} {s : Nat} {μ : MState} {ls : List Str} {sf : Nat}
    {steps : List (Branch × Token)} (h : Trace D T s μ ls sf steps) :
    ∀ p ∈ steps, ∃ row ∈ T.rows, p.1 ∈ row.branches := by
  induction h with
  | eof hrow hpick _ _ =>
    intro p hp
    rw [List.mem_singleton] at hp
    subst hp
    exact ⟨_, (row_id_of_row? hrow).2, (pick_mem hpick).1⟩
  | line hrow hpick _ _ _ ih =>
    intro p hp
    rcases List.mem_cons.1 hp with rfl | hp
    · exact ⟨_, (row_id_of_row? hrow).2, (pick_mem hpick).1⟩
    · exact ih p hp

theorem opToks_steps {T : Table} (hB : oneBuildLast T = true) (steps : List (Branch × Token))
    (h : ∀ p ∈ steps, ∃ row ∈ T.rows, p.1 ∈ row.branches) :
    opToks (stepsOps steps) = steps.map (·.2) := by
  induction steps with
  | nil => rfl
  | cons p steps ih =>
    simp only [stepsOps, List.flatMap_cons, opToks_append, List.map_cons]
    obtain ⟨row, hrow, hb⟩ := h p (List.mem_cons_self ..)
    simp only [oneBuildLast, List.all_eq_true, Bool.and_eq_true, beq_iff_eq] at hB
    have h1 := (hB row hrow p.1 hb).2
    rw [opToks_prodOps_one, h1]
    have := ih fun q hq => h q (List.mem_cons_of_mem _ hq)
    simp only [stepsOps] at this
    rw [this]
    rfl

theorem matched_of_isMatched {r r' : MRes} (h : r = r') (hm : r = .matched) : r' = .matched := h ▸ hm

/-- the output of a successful test depends on the token only through its line and number -/
theorem matchTok_fresh {D : List Dialect} {K : Kind} {μ : MState} {t0 : Token} {l : Str}
    (hl : t0.line = some l) (hres : (matchTok D K μ t0).1.res = .matched) :
    (matchLine D K μ (freshTok l t0.lineNo) l).res = .matched ∧
    (matchTok D K μ t0).1.tok = (matchLine D K μ (freshTok l t0.lineNo) l).tok := by
  have hk : sameKey t0 (freshTok l t0.lineNo) := ⟨hl, rfl⟩
  obtain ⟨⟨-, hr, htok⟩, -⟩ := matchTok_rel D K μ hk
  have hfr : matchTok D K μ (freshTok l t0.lineNo) = (matchLine D K μ (freshTok l t0.lineNo) l, true) :=
    matchTok_line (t := freshTok l t0.lineNo) rfl
  rw [hfr] at hr htok
  dsimp only at hr htok
  refine ⟨hr ▸ hres, ?_⟩
  rcases htok with h | ⟨h, -, -⟩
  · exact h
  · rw [hres] at h; cases h

theorem content_pick {T : Table} {row : StateRow} (hr : isContentRow row = true) {k : Kind} {fut : List Kind}
    {b : Branch} (hp : pickBranch T k fut row.branches = some b) :
    b.prods = [.build] ∧ (b.kind = .DocStringSeparator ∨
      (b.kind = .Other ∧ b.target = row.id ∧ passes k .DocStringSeparator = false)) := by
  unfold isContentRow at hr
  split at hr
  · rename_i b1 b2 hb
    simp only [Bool.and_eq_true, beq_iff_eq] at hr
    obtain ⟨⟨⟨⟨⟨⟨k1, g1⟩, p1⟩, k2⟩, -⟩, p2⟩, t2⟩ := hr
    rw [hb] at hp
    simp only [pickBranch] at hp
    split at hp
    · cases hp; exact ⟨p1, .inl k1⟩
    · rename_i hc
      split at hp
      · cases hp
        refine ⟨p2, .inr ⟨k2, t2, ?_⟩⟩
        rw [k1, guardOk_unguarded g1] at hc
        simpa using hc
      · cases hp
  · cases hr

theorem content_row_of {T : Table} (hCR : ((contentStates T).all fun s => (T.row? s).any isContentRow) = true)
    {s : Nat} {row : StateRow} (hrow : T.row? s = some row) (hs : (contentStates T).contains s = true) :
    isContentRow row = true := by
  rw [List.all_eq_true] at hCR
  have := hCR s (List.contains_iff_mem.1 hs)
  rw [hrow] at this
  simpa using this

theorem trace_lineToks {D : List Dialect} {T : Table} (hf : textDialectFacts D = true) (hCE : contentEntry T = true)
    (hCR : ((contentStates T).all fun s => (T.row? s).any isContentRow) = true)
    {s : Nat} {μ : MState} {ls : List Str} {sf : Nat}
    {steps : List (Branch × Token)} (h : Trace D T s μ ls sf steps) (hμ : MuOK D μ)
    (hinv : μ.inDocString = (contentStates T).contains s) (n : Nat)
    (hno : steps.map (·.2.lineNo) = List.range' n (ls.length + 1)) :
    ∃ toks e μf, steps.map (·.2) = toks ++ [e] ∧ LineToks D μ n ls toks μf ∧ μf.inDocString = false ∧
      e.line = none ∧ e.mtype = some .EOF ∧ e.lineNo = n + ls.length := by
  induction h generalizing n with
  | @eof s μ row b t0 hrow hpick ht0 hres =>
    have hbk : b.kind = .EOF := by
      have := (pick_mem hpick).2.1
      rw [passes_EOF] at this
      exact beq_iff_eq.1 this
    refine ⟨[], _, μ, rfl, .nil μ n, ?_, ?_, ?_, ?_⟩
    · rw [hinv]
      cases hc : (contentStates T).contains s with
      | false => rfl
      | true =>
        exfalso
        rcases (content_pick (content_row_of hCR hrow hc) hpick).2 with h1 | ⟨h1, -⟩ <;> (rw [hbk] at h1; cases h1)
    · rw [(matchTok_tok D b.kind μ t0).1]; exact ht0
    · exact (matchTok_well_matched D _ _ _ hres).1.trans (by rw [hbk])
    · simp only [List.map_cons, List.map_nil, List.length_nil, List.range', List.cons.injEq, and_true] at hno
      simpa using hno
  | @line s μ l ls row b t0 sf rest hrow hpick ht0 hres _ ih =>
    simp only [List.map_cons, List.length_cons] at hno
    rw [List.range'_succ] at hno
    obtain ⟨hn, hrest⟩ := List.cons.inj hno
    have hn0 : t0.lineNo = n := by rw [← (matchTok_tok D b.kind μ t0).2]; exact hn
    obtain ⟨hfres, hftok⟩ := matchTok_fresh ht0 hres
    rw [hn0] at hfres hftok
    obtain ⟨hbm, hpass, -⟩ := pick_mem hpick
    obtain ⟨toks, e, μf, hsteps, hlt, hμf, he1, he2, he3⟩ :=
      ih (muAfter_ok D μ hμ l b.kind) (inDocString_next hf hCE hrow hbm hμ hpass hinv) (n + 1) hrest
    refine ⟨(matchLine D b.kind μ (freshTok l n) l).tok :: toks, e, μf, ?_, ?_, hμf, he1, he2, ?_⟩
    · simp only [List.map_cons, List.cons_append, hsteps, hftok]
    · refine .cons b.kind hμ.1 hμ.2 hfres hpass (fun hin => ?_) hlt
      rw [hinv] at hin
      rcases (content_pick (content_row_of hCR hrow hin) hpick).2 with h1 | ⟨h1, -, h2⟩
      · exact .inl h1
      · exact .inr ⟨h1, by rw [kind_unique hf D μ hμ.1 hμ.2 l]; exact h2⟩
    · rw [he3, List.length_cons]; omega

theorem LineToks.length {D : List Dialect} {μ μf : MState} {n : Nat} {ls : List Str} {toks : List Token}
    (h : LineToks D μ n ls toks μf) : toks.length = ls.length := by
  induction h with
  | nil => rfl
  | cons _ _ _ _ _ _ _ ih => simp [ih]

theorem stateAt_cons_succ {D : List Dialect} {μ : MState} {K : Kind} {l : Str} {n : Nat}
    (hres : (matchLine D K μ (freshTok l n) l).res = .matched) (ls : List Str) (toks : List Token) (i : Nat) :
    stateAt D μ (l :: ls) ((matchLine D K μ (freshTok l n) l).tok :: toks) (i + 1) =
      stateAt D (muAfter D μ l K) ls toks i := by
  rw [stateAt, (match_well_matched D K μ _ _ hres).1]; rfl

theorem LineToks.atState {D : List Dialect} {μ μf : MState} {n : Nat} {ls : List Str} {toks : List Token}
    (h : LineToks D μ n ls toks μf) : ∀ (i : Nat) (l : Str), ls[i]? = some l →
      ∃ K, (stateAt D μ ls toks i).dialect ∈ D ∧ sepOK (stateAt D μ ls toks i) = true ∧
        (matchLine D K (stateAt D μ ls toks i) (freshTok l (n + i)) l).res = .matched ∧
        toks[i]? = some (matchLine D K (stateAt D μ ls toks i) (freshTok l (n + i)) l).tok ∧
        passes (intrinsicKind D (stateAt D μ ls toks i) l) K = true ∧
        (matchLine D K (stateAt D μ ls toks i) (freshTok l (n + i)) l).tok.mtype = some K := by
  induction h with
  | nil => intro i l hi; simp at hi
  | @cons μ n l0 ls toks μf K hd hs hres hp _ _ ih =>
    intro i l hi
    cases i with
    | zero =>
      simp only [List.getElem?_cons_zero, Option.some.injEq] at hi
      subst hi
      exact ⟨K, hd, hs, hres, rfl, hp, (match_well_matched D K μ _ _ hres).1⟩
    | succ i =>
      simp only [List.getElem?_cons_succ] at hi
      rw [stateAt_cons_succ hres, List.getElem?_cons_succ, ← Nat.add_assoc, Nat.add_right_comm]
      exact ih i l hi

theorem LineToks.at {D : List Dialect} {μ μf : MState} {n : Nat} {ls : List Str} {toks : List Token}
    (h : LineToks D μ n ls toks μf) (i : Nat) (l : Str) (hi : ls[i]? = some l) :
      ∃ K μi, μi.dialect ∈ D ∧ sepOK μi = true ∧
        (matchLine D K μi (freshTok l (n + i)) l).res = .matched ∧
        toks[i]? = some (matchLine D K μi (freshTok l (n + i)) l).tok ∧
        passes (intrinsicKind D μi l) K = true ∧
        (matchLine D K μi (freshTok l (n + i)) l).tok.mtype = some K :=
  let ⟨K, hK⟩ := LineToks.atState h i l hi
  ⟨K, _, hK⟩

/-- What is known of an accepted document, in one statement: the token tree `t` of the link, rebuilt
    from the calls of a trace; its leaves, the built tokens, are `toks ++ [e]`: `toks` line by line the
    matcher's outputs (`LineToks`, from a state the matcher can be in, outside a doc string exactly if
    the start state is no content state), `e` the end-of-file token; they are numbered from 1.  What the
    table says of the calls after a `start_rule` then holds of the nodes of `t` (`Accepted.docNodes`,
    Lemmas/ParseDocNode.lean; `Accepted.descNodes`, Lemmas/ParseElems.lean). -/
structure Accepted (D : List Dialect) (T : Table) (G : Grammar) (μ0 : MState) (lines : List Str) (d : Doc)
    (builds : List Token) (ids ids' : Nat) (t : TTree) (toks : List Token) (e : Token) (μf : MState) : Prop where
  tree : LinkTree D T G μ0 lines d builds ids ids' t
  builds_eq : builds = toks ++ [e]
  lineToks : LineToks D μ0 1 lines toks μf
  closed : μf.inDocString = false
  eof : e.line = none ∧ e.mtype = some .EOF ∧ e.lineNo = lines.length + 1
  lineNo : builds.map (·.lineNo) = List.range' 1 (lines.length + 1)
  start : MuOK D μ0 ∧ μ0.inDocString = (contentStates T).contains 0
  trace : ∃ steps sf, Trace D T 0 μ0 lines sf steps ∧
    ttreeOf (.start T.startRule :: (stepsOps steps ++ [.end_])) = some t

theorem parse_accepted {D : List Dialect} {T : Table} {G : Grammar} {fuel : Nat} (L : LinkFacts D T G fuel)
    (hB : oneBuildLast T = true)
    (hCR : ((contentStates T).all fun s => (T.row? s).any isContentRow) = true)
    (μ : MState) (ids : Nat) (src : Str) (hμ : (μ.reset D).dialect ∈ D) (d : Doc)
    (h : (parseWith D T false μ ids src).1 = .ok d) :
    ∃ t toks e μf, Accepted D T G (μ.reset D) (splitLines src) d (parseWith D T false μ ids src).2.builds ids
      (parseWith D T false μ ids src).2.ids t toks e μf := by
  obtain ⟨steps, sf, t, htr, ht, hbuilds, hlt⟩ := parse_link_trace L μ ids src hμ d h
  have hseq := (accepted_sequence D T (queueDialectFacts_of_text L.dialects) L.queue hB false μ ids src hμ d h).1
  have hsteps := opToks_steps hB steps (trace_branch_mem htr)
  have hstart : MuOK D (μ.reset D) ∧ (μ.reset D).inDocString = (contentStates T).contains 0 :=
    ⟨⟨hμ, reset_sepOK D μ⟩, L.reset_inv μ⟩
  obtain ⟨toks, e, μf, h1, h2, hf', h3, h4, h5⟩ :=
    trace_lineToks L.dialects L.content hCR htr hstart.1 hstart.2 1
      (by rw [hbuilds, hsteps, List.map_map] at hseq; exact hseq)
  exact ⟨t, toks, e, μf, hlt, by rw [hbuilds, hsteps, h1], h2, hf', ⟨h3, h4, by rw [h5]; omega⟩, hseq, hstart,
    steps, sf, htr, ht⟩

section
variable {D : List Dialect} {T : Table} {G : Grammar} {μ0 : MState} {lines : List Str} {d : Doc}
  {builds : List Token} {ids ids' : Nat} {t : TTree} {toks : List Token} {e : Token} {μf : MState}
  (A : Accepted D T G μ0 lines d builds ids ids' t toks e μf)
include A

theorem Accepted.leaves_eq : leaves t = toks ++ [e] := A.tree.leaves_eq.trans A.builds_eq

theorem Accepted.leaf_cases {tk : Token} (h : tk ∈ leaves t) :
    (∃ (i : Nat) (l : Str) (K : Kind), lines[i]? = some l ∧ toks[i]? = some tk ∧
      (stateAt D μ0 lines toks i).dialect ∈ D ∧ sepOK (stateAt D μ0 lines toks i) = true ∧
      (matchLine D K (stateAt D μ0 lines toks i) (freshTok l (i + 1)) l).res = .matched ∧
      tk = (matchLine D K (stateAt D μ0 lines toks i) (freshTok l (i + 1)) l).tok ∧ tk.mtype = some K) ∨
    tk.mtype = some .EOF := by
  rw [A.leaves_eq, List.mem_append, List.mem_singleton] at h
  rcases h with h | rfl
  · obtain ⟨i, hi, rfl⟩ := List.mem_iff_getElem.1 h
    have hil : i < lines.length := LineToks.length A.lineToks ▸ hi
    obtain ⟨K, hd, hs, hres, htok, -, hmt⟩ := LineToks.atState A.lineToks i _ (List.getElem?_eq_getElem hil)
    rw [Nat.add_comm] at hres htok hmt
    have e := Option.some.inj ((List.getElem?_eq_getElem hi).symm.trans htok)
    exact .inl ⟨i, _, K, List.getElem?_eq_getElem hil, List.getElem?_eq_getElem hi, hd, hs, hres, e, e ▸ hmt⟩
  · exact .inr A.eof.2.1

end

end Lemmas
end GV
