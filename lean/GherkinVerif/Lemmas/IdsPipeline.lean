/-
  Lemmas/IdsPipeline.lean — property C11 for one document, parsed and then compiled with one id
  counter, for any tables that pass the checks of the link (`LinkFacts`).  The AST ids are those of
  the tree behind the parse (`parse_link`, `LinkTree.ast_facts`), the pickle ids follow them
  (`compile_ids`): two adjacent ranges.  The compiler never fails on a parsed document
  (`parsed_docRect`, `compile_total`), and every id a pickle mentions lies in the first range
  (`pipeline_refs`, from Lemmas/IdsPipelineRefs.lean).
-/
import GherkinVerif.Lemmas.ParseLink
import GherkinVerif.Lemmas.Rectangular
import GherkinVerif.Lemmas.IdsPipelineRefs
namespace GV
namespace Lemmas
namespace IdsP
open Spec

section
variable {D : List Dialect} {T : Table} {G : Grammar} {fuel : Nat} (L : LinkFacts D T G fuel)
include L

theorem parse_ids (μ : MState) (ids : Nat) (src : Str)
    (hμ : (μ.reset D).dialect ∈ D) (d : Doc)
    (h : (parseWith D T false μ ids src).1 = .ok d) :
    canonicalIds d =
      List.range' ids ((parseWith D T false μ ids src).2.ids - ids) ∧
    ids ≤ (parseWith D T false μ ids src).2.ids := by
  obtain ⟨t, ht⟩ := parse_link L μ ids src hμ d h
  exact (ht.ast_facts L.shape).2.2.2

theorem pipeline_ids (μ : MState) (ids : Nat) (src : Str)
    (hμ : (μ.reset D).dialect ∈ D) (d : Doc)
    (h : (parseWith D T false μ ids src).1 = .ok d)
    (uri : Str) (ps : List Pickle) (n' : Nat)
    (hc : compile uri d (parseWith D T false μ ids src).2.ids = some (ps, n')) :
    canonicalIds d ++ idOrder ps = List.range' ids (n' - ids) ∧
    ids ≤ (parseWith D T false μ ids src).2.ids ∧
    (parseWith D T false μ ids src).2.ids ≤ n' := by
  obtain ⟨ha, hle⟩ := parse_ids L μ ids src hμ d h
  obtain ⟨hp, hle'⟩ := compile_ids uri d _ ps n' hc
  refine ⟨?_, hle, hle'⟩
  rw [ha, hp]
  exact range'_append_le _ _ _ hle hle'

theorem pipeline_ids_total (μ : MState) (ids : Nat) (src : Str)
    (hμ : (μ.reset D).dialect ∈ D) (d : Doc)
    (h : (parseWith D T false μ ids src).1 = .ok d) (uri : Str) :
    ∃ ps n', compile uri d (parseWith D T false μ ids src).2.ids = some (ps, n') ∧
      canonicalIds d ++ idOrder ps = List.range' ids (n' - ids) := by
  obtain ⟨⟨ps, n'⟩, hc⟩ := compile_total uri d (parseWith D T false μ ids src).2.ids
    (Rect.parsed_docRect D T false μ ids src d h).rectangular
  exact ⟨ps, n', hc, (pipeline_ids L μ ids src hμ d h uri ps n' hc).1⟩

theorem pipeline_ids_distinct (μ : MState) (ids : Nat) (src : Str)
    (hμ : (μ.reset D).dialect ∈ D) (d : Doc)
    (h : (parseWith D T false μ ids src).1 = .ok d)
    (uri : Str) (ps : List Pickle) (n' : Nat)
    (hc : compile uri d (parseWith D T false μ ids src).2.ids = some (ps, n')) :
    (canonicalIds d ++ idOrder ps).Nodup ∧ ∀ a ∈ canonicalIds d, ∀ b ∈ idOrder ps, a < b := by
  refine ⟨(pipeline_ids L μ ids src hμ d h uri ps n' hc).1 ▸ List.nodup_range', ?_⟩
  obtain ⟨ha, hle⟩ := parse_ids L μ ids src hμ d h
  obtain ⟨hp, -⟩ := compile_ids uri d _ ps n' hc
  intro a haa b hb
  rw [ha] at haa
  rw [hp] at hb
  have := List.mem_range'_1.1 haa
  have := List.mem_range'_1.1 hb
  omega

theorem pipeline_ids_fresh (μ : MState) (src : Str)
    (hμ : (μ.reset D).dialect ∈ D) (d : Doc)
    (h : (parseWith D T false μ 0 src).1 = .ok d)
    (uri : Str) (ps : List Pickle) (n' : Nat)
    (hc : compile uri d (parseWith D T false μ 0 src).2.ids = some (ps, n')) :
    canonicalIds d ++ idOrder ps = List.range n' := by
  rw [(pipeline_ids L μ 0 src hμ d h uri ps n' hc).1, Nat.sub_zero, List.range_eq_range']

omit L in
theorem compile_refs (uri : Str) (d : Doc) (n : Nat) (ps : List Pickle) (n' : Nat)
    (h : compile uri d n = some (ps, n')) :
    ∀ p ∈ ps, ∃ f, d.feature = some f ∧ PickleResolves f p ∧ ∀ i ∈ pickleRefs p, i ∈ canonicalIds d := by
  intro p hp
  obtain ⟨f, hf, hr⟩ := compile_resolves uri d n ps n' h p hp
  refine ⟨f, hf, hr, fun i hi => ?_⟩
  unfold canonicalIds
  rw [hf]
  exact refs_mem f p hr i hi

theorem pipeline_refs (μ : MState) (ids : Nat) (src : Str)
    (hμ : (μ.reset D).dialect ∈ D) (d : Doc)
    (h : (parseWith D T false μ ids src).1 = .ok d)
    (uri : Str) (ps : List Pickle) (n' : Nat)
    (hc : compile uri d (parseWith D T false μ ids src).2.ids = some (ps, n')) :
    ∀ p ∈ ps, ∃ f, d.feature = some f ∧ PickleResolves f p ∧
      ∀ i ∈ pickleRefs p, (canonicalIds d).count i = 1 ∧ i ∉ idOrder ps ∧
        ids ≤ i ∧ i < (parseWith D T false μ ids src).2.ids := by
  intro p hp
  obtain ⟨f, hf, hr, hm⟩ := compile_refs uri d _ ps n' hc p hp
  obtain ⟨ha, hle⟩ := parse_ids L μ ids src hμ d h
  obtain ⟨hpk, -⟩ := compile_ids uri d _ ps n' hc
  have hnd : (canonicalIds d).Nodup := ha ▸ List.nodup_range'
  refine ⟨f, hf, hr, fun i hi => ?_⟩
  have hi' := hm i hi
  rw [ha] at hi'
  have hb := List.mem_range'_1.1 hi'
  refine ⟨refs_unique d f hf hnd p hr i hi, ?_, hb.1, by omega⟩
  intro hq
  rw [hpk] at hq
  have := List.mem_range'_1.1 hq
  omega

end

end IdsP
end Lemmas
end GV
