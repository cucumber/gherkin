/-
  Lemmas/TagsAttach.lean — where a node can stand among its siblings.  `RE.after x r` lists what can
  remain of a word of `r` once an `x` has been read; what may come directly after the `x` is then
  read off the derivatives of these residuals, and "`x` is never last" is that none of them is
  nullable.  The Boolean check `attachCheck` on the grammar's right-hand sides and its lift to all
  valid trees (`attach_tree`), used for `C02_tags_attach_forward`.  Generic in the grammar.
-/
import GherkinVerif.Lemmas.NodeRhs
namespace GV.Lemmas

open GV.Spec
open GV.Spec.RE (Lang nullable deriv)

namespace RE
variable {α : Type} [DecidableEq α]

/-- what can remain after an `x`: if `u ++ x :: v` is a word of `r`, then `v` is a word of one of
    these (`after_of_lang`) -/
def after (x : α) : Spec.RE α → List (Spec.RE α)
  | .emp => []
  | .eps => []
  | .sym a => if a = x then [.eps] else []
  | .cat r s => (after x r).map (fun d => .cat d s) ++ after x s
  | .alt r s => after x r ++ after x s
  | .star r => (after x r).map fun d => .cat d (.star r)

theorem after_of_lang {x : α} {r : Spec.RE α} {w : List α} (h : Lang r w) :
    ∀ u v, w = u ++ x :: v → ∃ d ∈ after x r, Lang d v := by
  induction h with
  | eps => intro u v e; simp at e
  | sym a =>
    intro u v e
    cases u with
    | nil =>
      simp only [List.nil_append, List.cons.injEq] at e
      obtain ⟨rfl, rfl⟩ := e
      exact ⟨.eps, by simp [after], Lang.eps⟩
    | cons b u' => simp at e
  | @cat r s w1 w2 h1 h2 ih1 ih2 =>
    intro u v e
    simp only [after, List.mem_append, List.mem_map]
    rcases one_split e with ⟨c, hw1, rfl⟩ | ⟨a, -, hw2⟩
    · obtain ⟨d, hd, hl⟩ := ih1 u c hw1
      exact ⟨.cat d s, .inl ⟨d, hd, rfl⟩, Lang.cat hl h2⟩
    · obtain ⟨d, hd, hl⟩ := ih2 a v hw2
      exact ⟨d, .inr hd, hl⟩
  | altL _ ih =>
    intro u v e
    obtain ⟨d, hd, hl⟩ := ih u v e
    exact ⟨d, by simp only [after, List.mem_append]; exact .inl hd, hl⟩
  | altR _ ih =>
    intro u v e
    obtain ⟨d, hd, hl⟩ := ih u v e
    exact ⟨d, by simp only [after, List.mem_append]; exact .inr hd, hl⟩
  | starNil => intro u v e; simp at e
  | @starCons r w1 w2 h1 h2 ih1 ih2 =>
    intro u v e
    rcases one_split e with ⟨c, hw1, rfl⟩ | ⟨a, -, hw2⟩
    · obtain ⟨d, hd, hl⟩ := ih1 u c hw1
      exact ⟨.cat d (.star r), by simp only [after, List.mem_map]; exact ⟨d, hd, rfl⟩, Lang.cat hl h2⟩
    · exact ih2 a v hw2

end RE

/-- the grammar fact behind `Spec.TagsAttachForward`, for node symbol `x`: in every right-hand
    side where `rule x` occurs, only `pre` tokens can come before it, and whatever remains after it
    is not empty and begins (a derivative other than `∅`) with a symbol `attach` lists for that rule -/
def attachCheck (G : Grammar) (x : RuleType) (attach : List (RuleType × Sym)) (pre : List Kind) : Bool :=
  G.rules.all fun g =>
    if (RE.syms (rhsOf G g.name)).contains (Sym.rule x) = true then
      ((RE.before (Sym.rule x) (rhsOf G g.name)).all fun y =>
        match y with
        | .tok k => pre.contains k
        | .rule _ => false) &&
      ((RE.after (Sym.rule x) (rhsOf G g.name)).all fun d =>
        !nullable d && (RE.syms d).all fun y =>
          decide (deriv y d = .emp) || attach.any fun p => decide (p = (g.name, y)))
    else true

theorem attach_node {G : Grammar} {x : RuleType} {attach : List (RuleType × Sym)} {pre : List Kind}
    (hc : attachCheck G x attach pre = true) {r : RuleType} {cs : List Tree}
    (hv : ValidNode G (.node r cs)) {p ts q : List Tree} (hcs : cs = p ++ .node x ts :: q) :
    (∀ c ∈ p, ∃ k, c = .leaf k ∧ (k ∈ pre ∨ G.ignored.contains k = true)) ∧
    ∃ ign nxt post', q = ign ++ nxt :: post' ∧ (∀ c ∈ ign, IgnorableLeaf G c) ∧ (r, nxt.sym) ∈ attach := by
  cases hv with
  | node _ _ kept hvl hd hl =>
    subst hcs
    rw [← rhsOf_eq] at hl
    obtain ⟨p', q', rfl, hp, hq⟩ := dropIgnored_split (t := .node x ts) nofun hd
    have hw : (p' ++ Tree.node x ts :: q').map Tree.sym
        = p'.map Tree.sym ++ Sym.rule x :: q'.map Tree.sym := by simp [Tree.sym]
    rw [hw] at hl
    have hocc : (RE.syms (rhsOf G r)).contains (Sym.rule x) = true :=
      List.contains_iff_mem.2 (RE.syms_of_lang hl _ (by simp))
    cases hrule : G.rule? r with
    | none => rw [rhsOf_none hrule] at hl; exact absurd hl (RE.not_lang_emp _)
    | some g =>
      obtain ⟨hg, hname⟩ := rule?_some hrule
      have hc' := List.all_eq_true.1 hc g hg
      rw [hname] at hc'
      simp only [hocc, if_true, Bool.and_eq_true, Bool.not_eq_true', List.all_eq_true, Bool.or_eq_true,
        decide_eq_true_eq] at hc'
      obtain ⟨hbefore, hafter⟩ := hc'
      constructor
      · intro c hc
        rcases dropIgnored_mem hp c hc with hin | ⟨k, rfl, hk⟩
        · have hb := RE.before_of_lang hl _ _ rfl c.sym (List.mem_map_of_mem hin)
          have := hbefore _ hb
          cases c with
          | leaf k => exact ⟨k, rfl, Or.inl (by simpa [Tree.sym] using this)⟩
          | node r' cs' => simp [Tree.sym] at this
        · exact ⟨k, rfl, Or.inr hk⟩
      · obtain ⟨d, hd, hdl⟩ := RE.after_of_lang hl (p'.map Tree.sym) (q'.map Tree.sym) rfl
        obtain ⟨hnn, hnext⟩ := hafter d hd
        cases q' with
        | nil => rw [(RE.nullable_iff d).2 hdl] at hnn; cases hnn
        | cons nxt q'' =>
          obtain ⟨ign, post', hq', hign⟩ := dropIgnored_cons hq
          refine ⟨ign, nxt, post', hq', hign, ?_⟩
          rw [List.map_cons] at hdl
          rcases hnext _ (RE.syms_of_lang hdl _ List.mem_cons_self) with he | ha
          · rw [← RE.deriv_correct, he] at hdl
            exact absurd hdl (RE.not_lang_emp _)
          · simp only [List.any_eq_true, decide_eq_true_eq] at ha
            obtain ⟨pr, hpr, rfl⟩ := ha
            exact hpr

theorem valid_sub {G : Grammar} {s t : Tree} (h : Tree.Sub s t) : ValidNode G t → ValidNode G s := by
  induction h with
  | refl => exact id
  | child hmem _ ih =>
    intro hv
    cases hv with
    | node _ _ kept hvl _ _ => exact ih (validList_mem hvl hmem)

theorem attach_tree {G : Grammar} {x : RuleType} {attach : List (RuleType × Sym)} {pre : List Kind}
    (hc : attachCheck G x attach pre = true) {start : RuleType} {t : Tree} (hv : ValidTree G start t)
    (r : RuleType) (cs : List Tree) (hsub : Tree.Sub (.node r cs) t) (p ts q : List Tree)
    (hcs : cs = p ++ .node x ts :: q) :
    (∀ c ∈ p, ∃ k, c = .leaf k ∧ (k ∈ pre ∨ G.ignored.contains k = true)) ∧
    ∃ ign nxt post', q = ign ++ nxt :: post' ∧ (∀ c ∈ ign, IgnorableLeaf G c) ∧ (r, nxt.sym) ∈ attach := by
  obtain ⟨cs0, rfl, hnode⟩ := hv
  generalize hroot : Tree.node start (cs0 ++ [Tree.leaf Kind.EOF]) = root at hsub
  cases hsub with
  | refl =>
    -- the root: `ValidTree` speaks of its children without the final `EOF` leaf, and the `x` node
    -- lies among those
    simp only [Tree.node.injEq] at hroot
    obtain ⟨rfl, hroot⟩ := hroot
    rw [hcs] at hroot
    rcases List.append_eq_append_iff.1 hroot with ⟨a', _, h2⟩ | ⟨c', h1, h2⟩
    · cases a' with
      | nil => simp at h2
      | cons z a'' => simp at h2
    · cases c' with
      | nil => simp at h2
      | cons z c'' =>
        simp only [List.cons_append, List.cons.injEq] at h2
        obtain ⟨rfl, h2⟩ := h2
        obtain ⟨hpre, ign, nxt, post', hq, hign, hat⟩ := attach_node hc hnode h1
        refine ⟨hpre, ign, nxt, post' ++ [.leaf .EOF], ?_, hign, hat⟩
        rw [h2, hq]; simp
  | child hmem hs =>
    simp only [Tree.node.injEq] at hroot
    obtain ⟨rfl, rfl⟩ := hroot
    simp only [List.mem_append, List.mem_singleton] at hmem
    cases hmem with
    | inl hin =>
      cases hnode with
      | node _ _ kept hvl _ _ =>
        exact attach_node hc (valid_sub hs (validList_mem hvl hin)) hcs
    | inr heq =>
      subst heq
      cases hs

end GV.Lemmas
