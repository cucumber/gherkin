/-
  Lemmas/FactsTable.lean — the Boolean facts about the transition table regenerated from parser.py
  that more than one property uses, each evaluated by the kernel once.  What a fact says is
  written at its checker (in Spec/, or in Lemmas/RoundtripFacts.lean for the round trip).
-/
import GherkinVerif.Spec.QueueFacts
import GherkinVerif.Spec.PureFacts
import GherkinVerif.Spec.LayoutDocFacts
import GherkinVerif.Lemmas.RoundtripFacts
import GherkinVerif.Gen.ParserTable
import GherkinVerif.KDecide
namespace GV.Facts

theorem queueFacts_table : Spec.queueFacts Gen.parserTable = true := by kdecide

theorem lookaheadsStopAtEOF_table : Spec.lookaheadsStopAtEOF Gen.parserTable = true := by kdecide

theorem commentBlankTested_table : Spec.commentBlankTested Gen.parserTable = true := by kdecide

theorem blankTaken_table : Spec.blankTaken Gen.parserTable = true := by kdecide

theorem oneBuildLast_table : Spec.oneBuildLast Gen.parserTable = true := by kdecide

theorem guardsOnTagLine_table : Spec.guardsOnTagLine Gen.parserTable = true := by kdecide

theorem contentEntry_table : Spec.contentEntry Gen.parserTable = true := by kdecide

/-- every doc-string content state has a row, and it is a content row -/
theorem contentStates_rows :
    ((Spec.contentStates Gen.parserTable).all fun s =>
      (Gen.parserTable.row? s).any Spec.isContentRow) = true := by kdecide

theorem rt4Facts_table : Lemmas.rt4Facts Gen.parserTable = true := by kdecide

theorem rt5RuleFacts_table : Lemmas.rt5RuleFacts Gen.parserTable = true := by kdecide

theorem levelB_feature_table : Lemmas.levelB Gen.parserTable Lemmas.featureLevel = true := by kdecide

end GV.Facts
