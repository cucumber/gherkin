/-
  Lemmas/RecoverSim.lean — property C14, recovery at document level: the vocabulary of the lock-step
  simulation of two runs of the queue-free parse, on the text with lines `pre ++ post` and on the
  text `pre ++ u :: post` where `u` is reported unexpected.  It is that of Lemmas/LayoutDoc3.lean
  (blank-line insertion) with one thing more: the error list of the second run may hold ONE extra
  error (that for `u`) at a fixed position, so the two runs can differ at the error cap (the escape
  of `PostU`).  The suffix `U` (the *unexpected* line) sets the relations apart from
  those of LayoutDoc3.
-/
import GherkinVerif.Lemmas.LayoutDoc3
import GherkinVerif.Spec.RecoverChecks
import GherkinVerif.Spec.TableFacts
namespace GV
namespace Recover
open Lemmas Spec Layout3

/-- the extra error `e` of the second run, once it has read `u`: `je`, `ju` are the indices at which
    it stands in the error list and its line in `unexpected` -/
structure Extra where
  je : Nat
  ju : Nat
  e : PErr

/-- the error list of the second run: that of the first with the lines behind `k` renumbered, and
    the extra error, if there is one already, put in -/
def insErrs (k : Nat) : Option Extra → List PErr → List PErr
  | none, es => es.map (mapErr (insertMap k))
  | some x, es => insertErr k x.je x.e es

/-- likewise the list of unexpected lines -/
def insUn (k : Nat) : Option Extra → List Nat → List Nat
  | none, us => us.map (insertMap k).ln
  | some x, us => insertLine k x.ju us

/-- the places of the extra error are places of the first run's lists, and it is on line `k + 1` -/
def Valid (k : Nat) (x : Option Extra) (c1 : Ctx) : Prop :=
  ∀ y, x = some y → y.je ≤ c1.errors.length ∧ y.ju ≤ c1.unexpected.length ∧ y.e.loc.line = k + 1

theorem insertMap_ln_ne (k a : Nat) : (insertMap k).ln a ≠ k + 1 := by
  simp only [insertMap]; split <;> omega

theorem insErrs_append (k : Nat) (x : Option Extra) (es : List PErr) (e : PErr)
    (hv : ∀ y, x = some y → y.je ≤ es.length) :
    insErrs k x (es ++ [e]) = insErrs k x es ++ [mapErr (insertMap k) e] := by
  cases x with
  | none => simp [insErrs]
  | some y =>
    have := hv y rfl
    simp only [insErrs, insertErr, List.take_append_of_le_length this, List.drop_append_of_le_length this,
      List.map_append, List.map_cons, List.map_nil, List.append_assoc, List.cons_append]

theorem insUn_append (k : Nat) (x : Option Extra) (us : List Nat) (n : Nat)
    (hv : ∀ y, x = some y → y.ju ≤ us.length) :
    insUn k x (us ++ [n]) = insUn k x us ++ [(insertMap k).ln n] := by
  cases x with
  | none => simp [insUn]
  | some y =>
    have := hv y rfl
    simp only [insUn, insertLine, List.take_append_of_le_length this, List.drop_append_of_le_length this,
      List.map_append, List.map_cons, List.map_nil, List.append_assoc, List.cons_append]

theorem length_le_insErrs (k : Nat) (x : Option Extra) (es : List PErr) :
    es.length ≤ (insErrs k x es).length := by
  cases x with
  | none => simp [insErrs]
  | some y =>
    simp only [insErrs, insertErr, List.length_append, List.length_map, List.length_cons, List.length_take,
      List.length_drop]
    omega

/-- an error at line `k + 1` has a message that no renamed error has: a message starts with its position -/
theorem message_ne_of_line (k : Nat) (e0 : PErr) {e : PErr} (he : e.loc.line = k + 1) :
    (mapErr (insertMap k) e0).message ≠ e.message := by
  intro h
  have := ((message_eq_iff _ _).1 h).1
  simp only [mapErr, insertMap_loc] at this
  rw [he] at this
  exact insertMap_ln_ne k _ this

theorem insErrs_any (k : Nat) (x : Option Extra) (es : List PErr) (e : PErr)
    (hv : ∀ y, x = some y → y.e.loc.line = k + 1) :
    (insErrs k x es).any (fun e' => e'.message == (mapErr (insertMap k) e).message) =
      es.any (fun e' => e'.message == e.message) := by
  have hmap : ∀ l : List PErr, (l.map (mapErr (insertMap k))).any
      (fun e' => e'.message == (mapErr (insertMap k) e).message) = l.any (fun e' => e'.message == e.message) := by
    intro l
    -- not `congr`: it tries `rfl` on the two predicates and unfolds `PErr.message`
    rw [List.any_map]
    exact congrArg l.any (funext fun e' => insertMap_msg k e e')
  cases x with
  | none => exact hmap es
  | some y =>
    have hne := beq_eq_false_iff_ne.2 (message_ne_of_line k e (hv y rfl)).symm
    simp only [insErrs, insertErr, List.any_append, List.any_cons, hmap, hne, Bool.false_or]
    conv => rhs; rw [← List.take_append_drop y.je es, List.any_append]

theorem renumber_eq (k : Nat) (t : Token) : renumber k t = reNo ((insertMap k).ln t.lineNo) t := rfl

/-- the abort of the second run that goes with an abort of the first -/
def mapAbortU (k : Nat) (x : Option Extra) : Abort → Abort
  | .single e => .single (mapErr (insertMap k) e)
  | .composite es => .composite (insErrs k x es)
  | .crash w => .crash w
  | .fuel => .fuel

/-- everything of the two contexts but the unread lines -/
structure CtxU (D : List Dialect) (k : Nat) (x : Option Extra) (c1 c2 : Ctx) : Prop where
  errors : c2.errors = insErrs k x c1.errors
  μ : c2.μ = c1.μ
  β : BMap (insertMap k) c1.β c2.β
  ids : c2.ids = c1.ids
  unexpected : c2.unexpected = insUn k x c1.unexpected
  builds : c2.builds = c1.builds.map (renumber k)
  sane : Sane D c1.μ
  valid : Valid k x c1

/-- both runs end the same way, or the second has run into the error cap `cap`: `Layout3.PostX` for
    `CtxU`.  The start contexts `c1`, `c2` serve the frame clause only: a run that returns has left
    the unread lines alone. -/
abbrev PostU (D : List Dialect) (k : Nat) (x : Option Extra) (cap : Nat) {α} (R : α → α → Prop) (c1 c2 : Ctx)
    (x1 x2 : Except Abort α × Ctx) : Prop :=
  PostX (CtxU D k x) (mapAbortU k x) (fun c => cap < c.errors.length) R c1 c2 x1 x2

section
variable {D : List Dialect} {k : Nat} {x : Option Extra} {cap : Nat}

/-- `CtxU` is a relation the lock-step lemmas of Lemmas/LayoutDoc3.lean apply to.  `add_error`: the
    extra error of the second run has a message of its own, so de-duplication decides alike; the
    cap may be exceeded in the second run only. -/
theorem CtxU.scanRel : ScanRel D k (CtxU D k x) (mapAbortU k x) (fun cap c => cap < c.errors.length) where
  μ h := h.μ
  sane h := h.sane
  scan h _ _ hm hs _ _ _ _ _ _ _ _ := { h with μ := hm, sane := hs }
  single _ := rfl
  crash _ := rfl
  addErr cap e c1 c2 hc := by
    rw [run_addError, run_addError, hc.errors, insErrs_any k x _ _ (fun y hy => (hc.valid y hy).2.2)]
    by_cases hd : c1.errors.any (fun e' => e'.message == e.message) = true
    · rw [if_pos hd, if_pos hd]
      exact .ok ⟨trivial, { hc with errors := by rw [← hc.errors] }, Frame.refl _, Frame.refl _⟩
    · rw [if_neg hd, if_neg hd]
      have happ := insErrs_append k x c1.errors e (fun y hy => (hc.valid y hy).1)
      have hv : Valid k x { c1 with errors := c1.errors ++ [e] } := fun y hy => by
        obtain ⟨h1, h2, h3⟩ := hc.valid y hy
        exact ⟨by simp only [List.length_append]; omega, h2, h3⟩
      have hc' : CtxU D k x { c1 with errors := c1.errors ++ [e] }
          { c2 with errors := insErrs k x c1.errors ++ [mapErr (insertMap k) e] } :=
        { hc with errors := happ.symm, valid := hv }
      by_cases h2 : (insErrs k x c1.errors ++ [mapErr (insertMap k) e]).length > cap
      · rw [if_pos h2]
        exact .esc ⟨_, rfl, h2⟩
      · rw [if_neg h2]
        have h1 : ¬ (c1.errors ++ [e]).length > cap := by
          have := length_le_insErrs k x c1.errors
          simp only [List.length_append, List.length_cons, List.length_nil] at h2 ⊢
          omega
        rw [if_neg h1]
        exact .ok ⟨trivial, hc', ⟨rfl, rfl⟩, ⟨rfl, rfl⟩⟩
  unexp n c1 c2 hc := by
    refine { hc with unexpected := ?_, valid := fun y hy => ?_ }
    · show c2.unexpected ++ _ = insUn k x (c1.unexpected ++ _)
      rw [insUn_append k x _ _ (fun y hy => (hc.valid y hy).2.1), hc.unexpected]
    · obtain ⟨h1, h2, h3⟩ := hc.valid y hy
      exact ⟨h1, by simp only [List.length_append]; omega, h3⟩

end

section
variable {D : List Dialect}

theorem barrier_not_skip {l : Str} (hb : barrierLine l = true) (K : Kind) (hK : isSkipKind K = true) (μ : MState) :
    mm D K μ (some l) = false := by
  cases h : mm D K μ (some l) with
  | false => rfl
  | true =>
    exfalso
    unfold barrierLine at hb
    rcases skip_head D K hK μ l h with he | ⟨r, he | he⟩
    · rw [he] at hb; cases hb
    · rw [he] at hb; simp at hb
    · rw [he] at hb; simp at hb

/-- the table facts used: guards sit on `TagLine` tests only; look-aheads step over skip kinds only -/
structure TableOkU (T : Table) : Prop where
  guards : ∀ s row, T.row? s = some row → ∀ b ∈ row.branches, b.guard = none ∨ b.kind = .TagLine
  skips : ∀ (i : Nat) (la : LookAhead), T.lookaheads[i]? = some la → la.skip.all isSkipKind = true

theorem TableOkU.of_facts {T : Table} (F : QF D T)
    (hG : (T.rows.all fun r => r.branches.all fun b => b.guard.isNone || b.kind == .TagLine) = true) :
    TableOkU T := by
  refine ⟨fun s row hrow b hb => ?_, fun i la hla => ?_⟩
  · have := List.all_eq_true.1 (List.all_eq_true.1 hG row (List.mem_of_find?_eq_some hrow)) b hb
    simpa only [Bool.or_eq_true, Option.isNone_iff_eq_none, beq_iff_eq] using this
  · rw [(F.la i la hla).1]; exact F.skAll

theorem guards_of_guardsOnTagLine {T : Table} (h : guardsOnTagLine T = true) :
    (T.rows.all fun r => r.branches.all fun b => b.guard.isNone || b.kind == .TagLine) = true := by
  rw [List.all_eq_true]
  intro r hr
  rw [List.all_eq_true]
  intro b hb
  have := List.all_eq_true.1 (List.all_eq_true.1 h r hr) b hb
  cases hg : b.guard with
  | none => rfl
  | some i =>
    rw [hg, Bool.and_eq_true] at this
    rw [this.1]; rfl

end
end Recover
end GV
