/-
  Lemmas/Builder.lean — the builder monad `BM` and `transformNode`, for the node-level parts of
  properties C03 and C11 (Props/C03.lean, Props/C11Builder.lean): the `run` equations of the monad's
  primitives, closed forms of `getTags` / `getTableRows` / `getDescription`, and for each rule type
  that is transformed one equivalence "`transformNode` succeeds with this value and this counter  ↔
  the node's items have this shape" (`step_ok` … `docString_ok`); and ONE walk of `transformNode`
  for its effects on the counter and the error channel (`BInv`, `transformNode_walk`), of which
  `mono_transformNode`, `transformNode_noDraw` and the `onlyCrash_*` are instances.

  The first section is the vocabulary the property statements are written in (pure readings of a
  node's item list); everything else lives in `GV.Lemmas`.
-/
import GherkinVerif.Model.Builder
namespace GV

/-! ### vocabulary of the property statements -/
namespace Spec

/-- the description a node carries: its first `Description` item, the empty string if it has
    none; `none` if that item is not a description string (`transformNode` never builds such). -/
def descOf (items : List (Key × Val)) : Option Str :=
  match getItems items (.rule .Description) with
  | [] => some []
  | .descr s :: _ => some s
  | _ => none

/-- the tag-line tokens of a node: those of its first `Tags` item, none if it has no `Tags`
    item; `none` if that item is not a raw node (never built). -/
def tagTokens (items : List (Key × Val)) : Option (List Token) :=
  match getSingle items (.rule .Tags) with
  | .raw _ tagNode => some (getTokens tagNode .TagLine)
  | .none => some []
  | _ => none

/-- all `(tag line, tag item)` pairs of the tag lines, line by line, left to right. -/
def tagPairs (toks : List Token) : List (Token × (Nat × Str)) :=
  toks.flatMap fun t => t.items.map fun it => (t, it)

/-- the tags of these tag lines, numbered consecutively from `n` in source order. -/
def numberTags (toks : List Token) (n : Nat) : List Tag :=
  ((tagPairs toks).zipIdx n).map fun p =>
    { id := p.2, loc := getLocation p.1.1 (some p.1.2.1), name := p.1.2.2 }

/-- the rows of these table-row tokens, numbered consecutively from `n` in source order. -/
def numberRows (toks : List Token) (n : Nat) : List Row :=
  (toks.zipIdx n).map fun p => { id := p.2, loc := getLocation p.1, cells := getCells p.1 }

/-- step argument: the `DataTable` item if present, else the `DocString` item, else none. -/
def stepArgOf (items : List (Key × Val)) : StepArg :=
  match getSingle items (.rule .DataTable) with
  | .dataTable d => .table d
  | _ => match getSingle items (.rule .DocString) with
    | .docString d => .doc d
    | _ => .none

def getExamples (items : List (Key × Val)) : List Examples :=
  (getItems items (.rule .ExamplesDefinition)).filterMap fun v =>
    match v with | .examples e => some e | _ => Option.none

def getRules (items : List (Key × Val)) : List Rule :=
  (getItems items (.rule .Rule)).filterMap fun v =>
    match v with | .rule r => some r | _ => Option.none

def tableOf (items : List (Key × Val)) : List Row :=
  match getSingle items (.rule .ExamplesTable) with
  | .rows rs => rs
  | _ => []

def featureOf (items : List (Key × Val)) : Option Feature :=
  match getSingle items (.rule .Feature) with
  | .feature f => some f
  | _ => Option.none

/-- written with the same `match` as the model; `ruleChildren_eq` is the list form -/
def ruleChildren (items : List (Key × Val)) : List RuleChild :=
  (match getBackground items with | some b => [RuleChild.background b] | Option.none => []) ++
  (getScenarios items).map RuleChild.scenario

def featureChildren (items : List (Key × Val)) : List FeatureChild :=
  (match getBackground items with | some b => [FeatureChild.background b] | Option.none => []) ++
  (getScenarios items).map FeatureChild.scenario ++ (getRules items).map FeatureChild.rule

/-- The ids one `transformNode` call draws, read off its result in the canonical local order:
    rows in order for tables; tags, then the node itself, for tagged nodes; the node itself for
    steps and backgrounds; a feature has no id of its own; nothing else draws ids. -/
def drawnIds : RuleType → Val → List Nat
  | .Step, .step s => [s.id]
  | .Background, .background b => [b.id]
  | .DataTable, .dataTable d => d.rows.map (·.id)
  | .ExamplesTable, .rows rs => rs.map (·.id)
  | .ScenarioDefinition, .scenario s => s.tags.map (·.id) ++ [s.id]
  | .ExamplesDefinition, .examples e => e.tags.map (·.id) ++ [e.id]
  | .Rule, .rule r => r.tags.map (·.id) ++ [r.id]
  | .Feature, .feature f => f.tags.map (·.id)
  | _, _ => []

def tagCount (toks : List Token) : Nat := (tagPairs toks).length

end Spec

namespace Lemmas
open Spec

theorem run_pure {α} (a : α) (n : Nat) : (pure a : BM α).run.run n = (.ok a, n) := rfl

theorem run_bind {α β} (x : BM α) (f : α → BM β) (n : Nat) :
    (x >>= f).run.run n =
      match x.run.run n with
      | (.ok a, n') => (f a).run.run n'
      | (.error e, n') => (.error e, n') := by
  simp only [bind, ExceptT.bind, ExceptT.mk, ExceptT.run, StateT.bind, StateT.run, ExceptT.bindCont]
  rcases x n with ⟨_ | _, _⟩ <;> rfl

theorem run_nextId (n : Nat) : nextId.run.run n = (.ok n, n + 1) := rfl
theorem run_throw {α} (e : BErr) (n : Nat) : (throw e : BM α).run.run n = (.error e, n) := rfl
theorem run_crash {α} (s : String) (n : Nat) : (crash s : BM α).run.run n = (.error (.crash s), n) := rfl

theorem run_need_some {α} (w : String) (a : α) (n : Nat) : (need w (some a)).run.run n = (.ok a, n) := rfl
theorem run_need_none {α} (w : String) (n : Nat) :
    (need w (Option.none : Option α)).run.run n = (.error (.crash s!"missing field {w}"), n) := rfl

/-- results are compared componentwise (the result type is `Id (_ × _)`, which hides the pair
    from `simp`'s own injectivity lemma) -/
theorem res_inj {α} (a a' : Except BErr α) (n n' : Nat) :
    @Eq (Id (Except BErr α × Nat)) (a, n) (a', n') ↔ a = a' ∧ n = n' :=
  Prod.mk.injEq a n a' n' ▸ Iff.rfl

theorem run_bind_ok {α β} (x : BM α) (f : α → BM β) (n m : Nat) (v : β) :
    (x >>= f).run.run n = (.ok v, m) ↔
      ∃ a n₁, x.run.run n = (.ok a, n₁) ∧ (f a).run.run n₁ = (.ok v, m) := by
  rw [run_bind]
  rcases h : x.run.run n with ⟨e | a, n₁⟩
  · simp [res_inj]
  · simp only [res_inj, Except.ok.injEq]
    constructor
    · intro h'; exact ⟨a, n₁, ⟨rfl, rfl⟩, h'⟩
    · rintro ⟨a', n', ⟨rfl, rfl⟩, h'⟩; exact h'

theorem run_pure_ok {α} (a v : α) (n m : Nat) : (pure a : BM α).run.run n = (.ok v, m) ↔ v = a ∧ m = n := by
  rw [run_pure]; simp [res_inj, eq_comm]

theorem run_nextId_ok (n m v : Nat) : nextId.run.run n = (.ok v, m) ↔ v = n ∧ m = n + 1 := by
  rw [run_nextId]; simp [res_inj, eq_comm]

theorem run_crash_ok {α} (s : String) (n m : Nat) (v : α) : (crash s : BM α).run.run n = (.ok v, m) ↔ False := by
  rw [run_crash]; simp [res_inj]

theorem run_throw_ok {α} (e : BErr) (n m : Nat) (v : α) : (throw e : BM α).run.run n = (.ok v, m) ↔ False := by
  rw [run_throw]; simp [res_inj]

theorem run_need_ok {α} (w : String) (o : Option α) (n m : Nat) (v : α) :
    (need w o).run.run n = (.ok v, m) ↔ o = some v ∧ m = n := by
  cases o with
  | none => rw [run_need_none]; simp [res_inj]
  | some a => rw [run_need_some]; simp [res_inj, eq_comm]

theorem run_needToken_tok (items : List (Key × Val)) (k : Kind) (t : Token) (n : Nat)
    (h : getSingle items (.tok k) = .tok t) : (needToken items k).run.run n = (.ok t, n) := by
  simp only [needToken, h]; rfl

theorem run_needToken_ok (items : List (Key × Val)) (k : Kind) (n m : Nat) (t : Token) :
    (needToken items k).run.run n = (.ok t, m) ↔ getSingle items (.tok k) = .tok t ∧ m = n := by
  unfold needToken
  split
  · next t' h => rw [h, run_pure]; simp [res_inj, eq_comm]
  · next h =>
    rw [run_crash]
    constructor
    · intro h'; simp [res_inj] at h'
    · rintro ⟨h', -⟩; exact absurd h' (h t)

theorem run_needToken_not (items : List (Key × Val)) (k : Kind) (n : Nat)
    (h : ∀ t, getSingle items (.tok k) ≠ .tok t) :
    ∃ s, (needToken items k).run.run n = (.error (.crash s), n) := by
  unfold needToken
  split
  · next t' h' => exact absurd h' (h t')
  · exact ⟨_, rfl⟩

def Mono {α} (x : BM α) : Prop := ∀ n, n ≤ (x.run.run n).2
theorem mono_throw {α} (e : BErr) : Mono (throw e : BM α) := fun n => Nat.le_refl n

theorem run_mapM'_nil {α β} (f : α → BM β) (n : Nat) : (mapM' f []).run.run n = (.ok [], n) := rfl

theorem run_mapM'_cons {α β} (f : α → BM β) (a : α) (as : List α) (n : Nat) :
    (mapM' f (a :: as)).run.run n =
      match (f a).run.run n with
      | (.ok b, n') =>
        (match (mapM' f as).run.run n' with
         | (.ok bs, n'') => (.ok (b :: bs), n'')
         | (.error e, n'') => (.error e, n''))
      | (.error e, n') => (.error e, n') := by
  rw [mapM', run_bind]
  rcases (f a).run.run n with ⟨e | b, n'⟩
  · rfl
  · simp only [run_bind, run_pure]
    rcases (mapM' f as).run.run n' with ⟨e | bs, n''⟩ <;> rfl

theorem run_mapM'_numbered {α β} (g : Nat → α → β) : ∀ (as : List α) (n : Nat),
    (mapM' (fun a => do let id ← nextId; pure (g id a)) as).run.run n =
      (.ok ((as.zipIdx n).map fun p => g p.2 p.1), n + as.length)
  | [], n => rfl
  | a :: as, n => by
    rw [run_mapM'_cons, run_bind, run_nextId]
    simp only [run_pure, run_mapM'_numbered g as (n + 1), List.zipIdx_cons, List.map_cons, List.length_cons]
    congr 1; omega

theorem run_mapM'_need {α β} (w : String) (g : α → Option β) : ∀ (as : List α) (bs : List β) (n : Nat),
    as.map g = bs.map some → (mapM' (fun a => need w (g a)) as).run.run n = (.ok bs, n)
  | [], [], _, _ => rfl
  | [], _ :: _, _, h => by simp at h
  | _ :: _, [], _, h => by simp at h
  | a :: as, b :: bs, n, h => by
    simp only [List.map_cons, List.cons.injEq] at h
    rw [run_mapM'_cons, h.1, run_need_some]
    simp only [run_mapM'_need w g as bs n h.2]

theorem run_mapM'_need_ok {α β} (w : String) (g : α → Option β) : ∀ (as : List α) (bs : List β) (n m : Nat),
    (mapM' (fun a => need w (g a)) as).run.run n = (.ok bs, m) → as.map g = bs.map some ∧ m = n
  | [], bs, n, m, h => by
    rw [run_mapM'_nil] at h
    simp only [res_inj, Except.ok.injEq] at h
    obtain ⟨rfl, rfl⟩ := h; exact ⟨rfl, rfl⟩
  | a :: as, bs, n, m, h => by
    rw [run_mapM'_cons] at h
    cases hg : g a with
    | none => rw [hg, run_need_none] at h; simp [res_inj] at h
    | some b =>
      rw [hg, run_need_some] at h
      simp only at h
      rcases hr : (mapM' (fun a => need w (g a)) as).run.run n with ⟨e | bs', n'⟩
      · rw [hr] at h; simp [res_inj] at h
      · rw [hr] at h
        simp only [res_inj, Except.ok.injEq] at h
        obtain ⟨rfl, rfl⟩ := h
        obtain ⟨h1, rfl⟩ := run_mapM'_need_ok w g as bs' n n' hr
        exact ⟨by simp [hg, h1], rfl⟩

theorem run_getDescription (items : List (Key × Val)) (n : Nat) :
    (getDescription items).run.run n =
      (match descOf items with
       | some d => .ok d
       | none => .error (.crash "get_description: not a string"), n) := by
  unfold getDescription descOf
  cases h : getItems items (.rule .Description) with
  | nil => rfl
  | cons v vs => cases v <;> rfl

theorem run_getDescription_some (items : List (Key × Val)) (d : Str) (n : Nat)
    (h : descOf items = some d) : (getDescription items).run.run n = (.ok d, n) := by
  rw [run_getDescription, h]

theorem run_getDescription_ok (items : List (Key × Val)) (d : Str) (n m : Nat) :
    (getDescription items).run.run n = (.ok d, m) ↔ descOf items = some d ∧ m = n := by
  rw [run_getDescription]
  cases descOf items <;> simp [res_inj, eq_comm]

theorem tagPairs_nil : tagPairs [] = [] := rfl
theorem tagPairs_cons (t : Token) (toks : List Token) :
    tagPairs (t :: toks) = t.items.map (fun it => (t, it)) ++ tagPairs toks := rfl

theorem tagCount_cons (t : Token) (toks : List Token) :
    tagCount (t :: toks) = t.items.length + tagCount toks := by
  simp [tagCount, tagPairs_cons]

theorem numberTags_nil (n : Nat) : numberTags [] n = [] := rfl

theorem numberTags_cons (t : Token) (toks : List Token) (n : Nat) :
    numberTags (t :: toks) n =
      ((t.items.zipIdx n).map fun p =>
        ({ id := p.2, loc := getLocation t (some p.1.1), name := p.1.2 } : Tag)) ++
      numberTags toks (n + t.items.length) := by
  simp only [numberTags, tagPairs_cons, List.zipIdx_append, List.map_append, List.zipIdx_map,
    List.map_map, List.length_map]
  rfl

theorem numberTags_length (toks : List Token) (n : Nat) : (numberTags toks n).length = tagCount toks := by
  simp [numberTags, tagCount]

theorem numberTags_ids (toks : List Token) (n : Nat) :
    (numberTags toks n).map (·.id) = List.range' n (tagCount toks) := by
  simp only [numberTags, List.map_map, tagCount]
  rw [← List.zipIdx_map_snd n (tagPairs toks)]
  rfl

theorem numberTags_content (toks : List Token) (n : Nat) :
    (numberTags toks n).map (fun t => (t.loc, t.name)) =
      toks.flatMap fun t => t.items.map fun it => (getLocation t (some it.1), it.2) := by
  induction toks generalizing n with
  | nil => rfl
  | cons t toks ih =>
    rw [numberTags_cons, List.map_append, ih, List.flatMap_cons, List.map_map]
    congr 1
    have : ∀ (l : List (Nat × Str)) (k : Nat),
        List.map ((fun (t : Tag) => (t.loc, t.name)) ∘ fun p =>
          ({ id := p.2, loc := getLocation t (some p.1.1), name := p.1.2 } : Tag)) (l.zipIdx k) =
        l.map fun it => (getLocation t (some it.1), it.2) := by
      intro l
      induction l with
      | nil => intro k; rfl
      | cons a l ihl => intro k; simp only [List.zipIdx_cons, List.map_cons, ihl (k + 1)]; rfl
    exact this _ _

theorem run_tagLines (toks : List Token) : ∀ (n : Nat),
    ∃ perLine, (mapM' (fun (t : Token) =>
        mapM' (fun (it : Nat × Str) => do
          let id ← nextId
          pure ({ id := id, loc := getLocation t (some it.1), name := it.2 } : Tag)) t.items) toks).run.run n
      = (.ok perLine, n + tagCount toks) ∧ perLine.flatten = numberTags toks n := by
  induction toks with
  | nil => intro n; exact ⟨[], rfl, rfl⟩
  | cons t toks ih =>
    intro n
    obtain ⟨pl, h1, h2⟩ := ih (n + t.items.length)
    refine ⟨((t.items.zipIdx n).map fun p =>
        ({ id := p.2, loc := getLocation t (some p.1.1), name := p.1.2 } : Tag)) :: pl, ?_, ?_⟩
    · rw [run_mapM'_cons,
        run_mapM'_numbered (fun id (it : Nat × Str) =>
          ({ id := id, loc := getLocation t (some it.1), name := it.2 } : Tag)) t.items n]
      simp only [h1, tagCount_cons, Nat.add_assoc]
    · rw [List.flatten_cons, h2, numberTags_cons]

theorem run_getTags_some (items : List (Key × Val)) (toks : List Token) (n : Nat)
    (h : tagTokens items = some toks) :
    (getTags items).run.run n = (.ok (numberTags toks n), n + tagCount toks) := by
  unfold tagTokens at h
  unfold getTags
  split at h
  · next rt ti hs =>
    simp only [Option.some.injEq] at h
    subst h
    obtain ⟨pl, h1, h2⟩ := run_tagLines (getTokens ti .TagLine) n
    simp only [hs, run_bind, h1, run_pure, h2]
  · next hs =>
    simp only [Option.some.injEq] at h
    subst h
    simp only [hs]; rfl
  · simp at h

theorem run_getTags_none (items : List (Key × Val)) (n : Nat) (h : tagTokens items = none) :
    (getTags items).run.run n = (.error (.crash "get_tags: Tags is not a node"), n) := by
  unfold tagTokens at h
  unfold getTags
  split at h
  · simp at h
  · simp at h
  · next h1 h2 =>
    split
    · next hs => exact absurd hs (h1 _ _)
    · next hs => exact absurd hs h2
    · rfl

theorem run_getTags_ok (items : List (Key × Val)) (tags : List Tag) (n m : Nat) :
    (getTags items).run.run n = (.ok tags, m) ↔
      ∃ toks, tagTokens items = some toks ∧ tags = numberTags toks n ∧ m = n + tagCount toks := by
  cases h : tagTokens items with
  | none => rw [run_getTags_none items n h]; simp [res_inj]
  | some toks => rw [run_getTags_some items toks n h]; simp [res_inj, eq_comm]

theorem numberRows_length (toks : List Token) (n : Nat) : (numberRows toks n).length = toks.length := by
  simp [numberRows]

theorem numberRows_ids (toks : List Token) (n : Nat) :
    (numberRows toks n).map (·.id) = List.range' n toks.length := by
  simp only [numberRows, List.map_map]
  rw [← List.zipIdx_map_snd n toks]
  rfl

theorem numberRows_content (toks : List Token) (n : Nat) :
    (numberRows toks n).map (fun r => (r.loc, r.cells)) = toks.map fun t => (getLocation t, getCells t) := by
  induction toks generalizing n with
  | nil => rfl
  | cons t toks ih =>
    have := ih (n + 1)
    simp only [numberRows, List.zipIdx_cons, List.map_cons, List.map_map] at this ⊢
    rw [this]

theorem numberRows_cons (t : Token) (toks : List Token) (n : Nat) :
    numberRows (t :: toks) n = { id := n, loc := getLocation t, cells := getCells t } :: numberRows toks (n + 1) := rfl

theorem getCells_length (t : Token) : (getCells t).length = t.items.length := by simp [getCells]

theorem mem_numberRows (toks : List Token) (n : Nat) (r : Row) (h : r ∈ numberRows toks n) :
    ∃ t ∈ toks, r.loc = getLocation t ∧ r.cells = getCells t := by
  induction toks generalizing n with
  | nil => simp [numberRows] at h
  | cons t toks ih =>
    rw [numberRows_cons, List.mem_cons] at h
    rcases h with rfl | h
    · exact ⟨t, List.mem_cons_self, rfl, rfl⟩
    · obtain ⟨t', ht', e⟩ := ih (n + 1) h
      exact ⟨t', List.mem_cons_of_mem _ ht', e⟩

theorem raggedRow_numberRows_none (t0 : Token) (toks : List Token) (n : Nat)
    (h : ∀ t ∈ toks, t.items.length = t0.items.length) :
    raggedRow (numberRows (t0 :: toks) n) = none := by
  rw [numberRows_cons, raggedRow]
  rw [List.find?_eq_none]
  intro r hr
  rw [← numberRows_cons] at hr
  obtain ⟨t, ht, -, hc⟩ := mem_numberRows _ _ _ hr
  have : t.items.length = t0.items.length := by
    rcases List.mem_cons.1 ht with rfl | ht
    · rfl
    · exact h t ht
  simp [hc, getCells_length, this]

theorem run_getTableRows (items : List (Key × Val)) (n : Nat) :
    (getTableRows items).run.run n =
      ((match raggedRow (numberRows (getTokens items .TableRow) n) with
        | some r => .error (.ast ⟨.raggedTable, r.loc, lit "inconsistent cell count within the table"⟩)
        | none => .ok (numberRows (getTokens items .TableRow) n)),
       n + (getTokens items .TableRow).length) := by
  unfold getTableRows
  rw [run_bind, run_mapM'_numbered (fun id (t : Token) => ({ id := id, loc := getLocation t, cells := getCells t } : Row))]
  show (match raggedRow (numberRows (getTokens items .TableRow) n) with
        | some r => _ | none => _ : BM _).run.run _ = _
  cases raggedRow (numberRows (getTokens items .TableRow) n) <;> rfl

theorem run_getTableRows_ok (items : List (Key × Val)) (rows : List Row) (n m : Nat) :
    (getTableRows items).run.run n = (.ok rows, m) ↔
      raggedRow (numberRows (getTokens items .TableRow) n) = none ∧
      rows = numberRows (getTokens items .TableRow) n ∧ m = n + (getTokens items .TableRow).length := by
  rw [run_getTableRows]
  cases raggedRow (numberRows (getTokens items .TableRow) n) <;> simp [res_inj, eq_comm]

theorem bind_nextId_ok {β} (f : Nat → BM β) (n m : Nat) (v : β) :
    (nextId >>= f).run.run n = (.ok v, m) ↔ (f n).run.run (n + 1) = (.ok v, m) := by
  rw [run_bind, run_nextId]

theorem bind_need_ok {α β} (w : String) (o : Option α) (f : α → BM β) (n m : Nat) (v : β) :
    (need w o >>= f).run.run n = (.ok v, m) ↔ ∃ a, o = some a ∧ (f a).run.run n = (.ok v, m) := by
  rw [run_bind]
  cases o with
  | none => rw [run_need_none]; simp [res_inj]
  | some a => rw [run_need_some]; simp

theorem bind_needToken_ok {β} (items : List (Key × Val)) (k : Kind) (f : Token → BM β) (n m : Nat) (v : β) :
    (needToken items k >>= f).run.run n = (.ok v, m) ↔
      ∃ t, getSingle items (.tok k) = .tok t ∧ (f t).run.run n = (.ok v, m) := by
  rw [run_bind_ok]
  simp only [run_needToken_ok]
  constructor
  · rintro ⟨t, _, ⟨h, rfl⟩, h'⟩; exact ⟨t, h, h'⟩
  · rintro ⟨t, h, h'⟩; exact ⟨t, n, ⟨h, rfl⟩, h'⟩

theorem bind_getDescription_ok {β} (items : List (Key × Val)) (f : Str → BM β) (n m : Nat) (v : β) :
    (getDescription items >>= f).run.run n = (.ok v, m) ↔
      ∃ d, descOf items = some d ∧ (f d).run.run n = (.ok v, m) := by
  rw [run_bind_ok]
  simp only [run_getDescription_ok]
  constructor
  · rintro ⟨t, _, ⟨h, rfl⟩, h'⟩; exact ⟨t, h, h'⟩
  · rintro ⟨t, h, h'⟩; exact ⟨t, n, ⟨h, rfl⟩, h'⟩

theorem bind_getTags_ok {β} (items : List (Key × Val)) (f : List Tag → BM β) (n m : Nat) (v : β) :
    (getTags items >>= f).run.run n = (.ok v, m) ↔
      ∃ toks, tagTokens items = some toks ∧
        (f (numberTags toks n)).run.run (n + tagCount toks) = (.ok v, m) := by
  rw [run_bind_ok]
  simp only [run_getTags_ok]
  constructor
  · rintro ⟨_, _, ⟨toks, h, rfl, rfl⟩, h'⟩; exact ⟨toks, h, h'⟩
  · rintro ⟨toks, h, h'⟩; exact ⟨_, _, ⟨toks, h, rfl, rfl⟩, h'⟩

theorem bind_getTableRows_ok {β} (items : List (Key × Val)) (f : List Row → BM β) (n m : Nat) (v : β) :
    (getTableRows items >>= f).run.run n = (.ok v, m) ↔
      raggedRow (numberRows (getTokens items .TableRow) n) = none ∧
        (f (numberRows (getTokens items .TableRow) n)).run.run (n + (getTokens items .TableRow).length) = (.ok v, m) := by
  rw [run_bind_ok]
  simp only [run_getTableRows_ok]
  constructor
  · rintro ⟨_, _, ⟨h, rfl, rfl⟩, h'⟩; exact ⟨h, h'⟩
  · rintro ⟨h, h'⟩; exact ⟨_, _, ⟨h, rfl, rfl⟩, h'⟩

theorem step_ok (cs : List Comment) (items : List (Key × Val)) (n m : Nat) (v : Val) :
    (transformNode cs ⟨.Step, items⟩).run.run n = (.ok v, m) ↔
      ∃ line, getSingle items (.tok .StepLine) = .tok line ∧ ∃ kw, line.keyword = some kw ∧
        ∃ kt, line.ktype = some kt ∧ ∃ tx, line.text = some tx ∧
        v = .step { id := n, loc := getLocation line, keyword := kw, ktype := kt, text := tx,
                    arg := stepArgOf items } ∧ m = n + 1 := by
  simp only [transformNode, bind_nextId_ok, bind_needToken_ok, bind_need_ok, run_pure_ok]
  exact Iff.rfl

theorem background_ok (cs : List Comment) (items : List (Key × Val)) (n m : Nat) (v : Val) :
    (transformNode cs ⟨.Background, items⟩).run.run n = (.ok v, m) ↔
      ∃ line, getSingle items (.tok .BackgroundLine) = .tok line ∧ ∃ d, descOf items = some d ∧
        ∃ kw, line.keyword = some kw ∧ ∃ nm, line.text = some nm ∧
        v = .background { id := n, loc := getLocation line, keyword := kw, name := nm,
                          description := d, steps := getSteps items } ∧ m = n + 1 := by
  simp only [transformNode, bind_nextId_ok, bind_needToken_ok, bind_need_ok, bind_getDescription_ok, run_pure_ok]

theorem dataTable_ok (cs : List Comment) (items : List (Key × Val)) (n m : Nat) (v : Val) :
    (transformNode cs ⟨.DataTable, items⟩).run.run n = (.ok v, m) ↔
      raggedRow (numberRows (getTokens items .TableRow) n) = none ∧
      ∃ t0 rest, getTokens items .TableRow = t0 :: rest ∧
        v = .dataTable { loc := getLocation t0, rows := numberRows (getTokens items .TableRow) n } ∧
        m = n + (getTokens items .TableRow).length := by
  simp only [transformNode, bind_getTableRows_ok]
  cases h : getTokens items .TableRow with
  | nil => simp [numberRows, run_crash_ok]
  | cons t0 rest =>
    simp only [numberRows_cons, run_pure_ok]
    constructor
    · rintro ⟨hr, hv, hm⟩; exact ⟨hr, t0, rest, rfl, hv, hm⟩
    · rintro ⟨hr, _, _, e, hv, hm⟩; cases e; exact ⟨hr, hv, hm⟩

theorem examplesTable_ok (cs : List Comment) (items : List (Key × Val)) (n m : Nat) (v : Val) :
    (transformNode cs ⟨.ExamplesTable, items⟩).run.run n = (.ok v, m) ↔
      raggedRow (numberRows (getTokens items .TableRow) n) = none ∧
        v = .rows (numberRows (getTokens items .TableRow) n) ∧
        m = n + (getTokens items .TableRow).length := by
  simp only [transformNode, bind_getTableRows_ok, run_pure_ok]

theorem scenario_ok (cs : List Comment) (items : List (Key × Val)) (n m : Nat) (v : Val) :
    (transformNode cs ⟨.ScenarioDefinition, items⟩).run.run n = (.ok v, m) ↔
      ∃ toks, tagTokens items = some toks ∧
        ∃ rt sc, getSingle items (.rule .Scenario) = .raw rt sc ∧
        ∃ line, getSingle sc (.tok .ScenarioLine) = .tok line ∧ ∃ d, descOf sc = some d ∧
        ∃ kw, line.keyword = some kw ∧ ∃ nm, line.text = some nm ∧
        v = .scenario { id := n + tagCount toks, tags := numberTags toks n, loc := getLocation line,
                        keyword := kw, name := nm, description := d, steps := getSteps sc,
                        examples := getExamples sc } ∧
        m = n + tagCount toks + 1 := by
  simp only [transformNode, bind_getTags_ok]
  constructor
  · rintro ⟨toks, ht, h⟩
    split at h
    · next rt sc hs =>
      simp only [bind_nextId_ok, bind_needToken_ok, bind_need_ok, bind_getDescription_ok, run_pure_ok] at h
      exact ⟨toks, ht, rt, sc, hs, h⟩
    · rw [run_crash_ok] at h; exact h.elim
  · rintro ⟨toks, ht, rt, sc, hs, rest⟩
    refine ⟨toks, ht, ?_⟩
    rw [hs]
    simp only [bind_nextId_ok, bind_needToken_ok, bind_need_ok, bind_getDescription_ok, run_pure_ok]
    exact rest

theorem examples_ok (cs : List Comment) (items : List (Key × Val)) (n m : Nat) (v : Val) :
    (transformNode cs ⟨.ExamplesDefinition, items⟩).run.run n = (.ok v, m) ↔
      ∃ toks, tagTokens items = some toks ∧
        ∃ rt ex, getSingle items (.rule .Examples) = .raw rt ex ∧
        ∃ line, getSingle ex (.tok .ExamplesLine) = .tok line ∧ ∃ d, descOf ex = some d ∧
        ∃ kw, line.keyword = some kw ∧ ∃ nm, line.text = some nm ∧
        v = .examples { id := n + tagCount toks, tags := numberTags toks n, loc := getLocation line,
                        keyword := kw, name := nm, description := d,
                        header := (tableOf ex).head?, body := (tableOf ex).drop 1 } ∧
        m = n + tagCount toks + 1 := by
  simp only [transformNode, bind_getTags_ok]
  constructor
  · rintro ⟨toks, ht, h⟩
    split at h
    · next rt ex hs =>
      simp only [bind_nextId_ok, bind_needToken_ok, bind_need_ok, bind_getDescription_ok, run_pure_ok] at h
      exact ⟨toks, ht, rt, ex, hs, h⟩
    · rw [run_crash_ok] at h; exact h.elim
  · rintro ⟨toks, ht, rt, ex, hs, rest⟩
    refine ⟨toks, ht, ?_⟩
    rw [hs]
    simp only [bind_nextId_ok, bind_needToken_ok, bind_need_ok, bind_getDescription_ok, run_pure_ok]
    exact rest

theorem rule_ok_at (cs : List Comment) (items : List (Key × Val)) (n m : Nat) (v : Val)
    {rt : RuleType} {header : List (Key × Val)} {line : Token}
    (hh : getSingle items (.rule .RuleHeader) = .raw rt header)
    (hl : getSingle header (.tok .RuleLine) = .tok line) :
    (transformNode cs ⟨.Rule, items⟩).run.run n = (.ok v, m) ↔
      ∃ toks, tagTokens header = some toks ∧ ∃ d, descOf header = some d ∧
        ∃ kw, line.keyword = some kw ∧ ∃ nm, line.text = some nm ∧
        v = .rule { id := n + tagCount toks, tags := numberTags toks n, loc := getLocation line,
                    keyword := kw, name := nm, description := d, children := ruleChildren items } ∧
        m = n + tagCount toks + 1 := by
  simp only [transformNode, hh, hl, bind_getTags_ok, bind_nextId_ok, bind_need_ok, bind_getDescription_ok,
    run_pure_ok]
  exact Iff.rfl

theorem feature_ok_at (cs : List Comment) (items : List (Key × Val)) (n m : Nat) (v : Val)
    {rt : RuleType} {header : List (Key × Val)} {line : Token}
    (hh : getSingle items (.rule .FeatureHeader) = .raw rt header)
    (hl : getSingle header (.tok .FeatureLine) = .tok line) :
    (transformNode cs ⟨.Feature, items⟩).run.run n = (.ok v, m) ↔
      ∃ toks, tagTokens header = some toks ∧ ∃ d, descOf header = some d ∧
        ∃ kw, line.keyword = some kw ∧ ∃ nm, line.text = some nm ∧
        v = .feature { tags := numberTags toks n, loc := getLocation line, language := line.dialect,
                       keyword := kw, name := nm, description := d, children := featureChildren items } ∧
        m = n + tagCount toks := by
  simp only [transformNode, hh, hl, bind_getTags_ok, bind_need_ok, bind_getDescription_ok, run_pure_ok]
  exact Iff.rfl

theorem rule_ok (cs : List Comment) (items : List (Key × Val)) (n m : Nat) (v : Val) (hv : v ≠ .none) :
    (transformNode cs ⟨.Rule, items⟩).run.run n = (.ok v, m) ↔
      ∃ rt header, getSingle items (.rule .RuleHeader) = .raw rt header ∧
        ∃ toks, tagTokens header = some toks ∧
        ∃ line, getSingle header (.tok .RuleLine) = .tok line ∧ ∃ d, descOf header = some d ∧
        ∃ kw, line.keyword = some kw ∧ ∃ nm, line.text = some nm ∧
        v = .rule { id := n + tagCount toks, tags := numberTags toks n, loc := getLocation line,
                    keyword := kw, name := nm, description := d, children := ruleChildren items } ∧
        m = n + tagCount toks + 1 := by
  constructor
  · intro h
    have h0 := h
    simp only [transformNode] at h
    -- without the header, or without its keyword line, the result is `none`
    split at h
    · next rt header hh =>
      obtain ⟨_, _, -, h⟩ := (run_bind_ok _ _ _ _ _).1 h
      split at h
      · next line hl =>
        obtain ⟨toks, ht, rest⟩ := (rule_ok_at cs items n m v hh hl).1 h0
        exact ⟨rt, header, hh, toks, ht, line, hl, rest⟩
      · rw [run_pure_ok] at h; exact absurd h.1 hv
    · rw [run_pure_ok] at h; exact absurd h.1 hv
  · rintro ⟨rt, header, hh, toks, ht, line, hl, rest⟩
    exact (rule_ok_at cs items n m v hh hl).2 ⟨toks, ht, rest⟩

theorem feature_ok (cs : List Comment) (items : List (Key × Val)) (n m : Nat) (v : Val) (hv : v ≠ .none) :
    (transformNode cs ⟨.Feature, items⟩).run.run n = (.ok v, m) ↔
      ∃ rt header, getSingle items (.rule .FeatureHeader) = .raw rt header ∧
        ∃ toks, tagTokens header = some toks ∧
        ∃ line, getSingle header (.tok .FeatureLine) = .tok line ∧ ∃ d, descOf header = some d ∧
        ∃ kw, line.keyword = some kw ∧ ∃ nm, line.text = some nm ∧
        v = .feature { tags := numberTags toks n, loc := getLocation line, language := line.dialect,
                       keyword := kw, name := nm, description := d, children := featureChildren items } ∧
        m = n + tagCount toks := by
  constructor
  · intro h
    have h0 := h
    simp only [transformNode] at h
    split at h
    · next rt header hh =>
      obtain ⟨_, _, -, h⟩ := (run_bind_ok _ _ _ _ _).1 h
      split at h
      · next line hl =>
        obtain ⟨toks, ht, rest⟩ := (feature_ok_at cs items n m v hh hl).1 h0
        exact ⟨rt, header, hh, toks, ht, line, hl, rest⟩
      · rw [run_pure_ok] at h; exact absurd h.1 hv
    · rw [run_pure_ok] at h; exact absurd h.1 hv
  · rintro ⟨rt, header, hh, toks, ht, line, hl, rest⟩
    exact (feature_ok_at cs items n m v hh hl).2 ⟨toks, ht, rest⟩

theorem description_ok (cs : List Comment) (items : List (Key × Val)) (n m : Nat) (v : Val) :
    (transformNode cs ⟨.Description, items⟩).run.run n = (.ok v, m) ↔
      ∃ ls, (getTokens items .Other).map (·.text) = ls.map some ∧
        v = .descr (joinWith [10] (trimDescLines ls)) ∧ m = n := by
  simp only [transformNode, run_bind_ok, run_pure_ok]
  constructor
  · rintro ⟨ls, n₁, h1, hv, rfl⟩
    obtain ⟨h, rfl⟩ := run_mapM'_need_ok _ _ _ ls _ _ h1
    exact ⟨ls, h, hv, rfl⟩
  · rintro ⟨ls, h, hv, rfl⟩
    exact ⟨ls, _, run_mapM'_need _ _ _ ls _ h, hv, rfl⟩

theorem docString_ok (cs : List Comment) (items : List (Key × Val)) (n m : Nat) (v : Val) :
    (transformNode cs ⟨.DocString, items⟩).run.run n = (.ok v, m) ↔
      ∃ sep rest, getTokens items .DocStringSeparator = sep :: rest ∧ ∃ st, sep.text = some st ∧
        ∃ dl, sep.keyword = some dl ∧ ∃ ls, (getTokens items .Other).map (·.text) = ls.map some ∧
        v = .docString { loc := getLocation sep, content := joinWith [10] ls, delimiter := dl,
                         mediaType := if st.length > 0 then some st else none } ∧ m = n := by
  simp only [transformNode]
  cases hs : getTokens items .DocStringSeparator with
  | nil => simp [run_crash_ok]
  | cons sep rest =>
    simp only [run_bind_ok, run_need_ok, run_pure_ok, List.cons.injEq]
    constructor
    · rintro ⟨st, _, ⟨hst, rfl⟩, dl, _, ⟨hdl, rfl⟩, ls, n₁, h1, hv, rfl⟩
      obtain ⟨h, rfl⟩ := run_mapM'_need_ok _ _ _ ls _ _ h1
      exact ⟨sep, rest, ⟨rfl, rfl⟩, st, hst, dl, hdl, ls, h, hv, rfl⟩
    · rintro ⟨_, _, ⟨rfl, rfl⟩, st, hst, dl, hdl, ls, h, hv, rfl⟩
      exact ⟨st, _, ⟨hst, rfl⟩, dl, _, ⟨hdl, rfl⟩, ls, _, run_mapM'_need _ _ _ ls _ h, hv, rfl⟩

theorem description_eq (cs : List Comment) (items : List (Key × Val)) (ls : List Str) (n : Nat)
    (h : (getTokens items .Other).map (·.text) = ls.map some) :
    (transformNode cs ⟨.Description, items⟩).run.run n =
      (.ok (.descr (joinWith [10] (trimDescLines ls))), n) := by
  simp only [transformNode, run_bind,
    run_mapM'_need "description line text" (fun t : Token => t.text) _ ls n h, run_pure]

theorem docString_eq (cs : List Comment) (items : List (Key × Val)) (sep : Token) (rest : List Token)
    (st dl : Str) (ls : List Str) (n : Nat)
    (hsep : getTokens items .DocStringSeparator = sep :: rest)
    (hst : sep.text = some st) (hdl : sep.keyword = some dl)
    (h : (getTokens items .Other).map (·.text) = ls.map some) :
    (transformNode cs ⟨.DocString, items⟩).run.run n =
      (.ok (.docString { loc := getLocation sep, content := joinWith [10] ls, delimiter := dl,
                         mediaType := if st.length > 0 then some st else none }), n) := by
  simp only [transformNode, hsep, hst, hdl, run_bind, run_need_some,
    run_mapM'_need "docstring line text" (fun t : Token => t.text) _ ls n h, run_pure]

theorem document_eq (cs : List Comment) (items : List (Key × Val)) (n : Nat) :
    (transformNode cs ⟨.GherkinDocument, items⟩).run.run n =
      (.ok (.doc { feature := featureOf items, comments := cs }), n) := by
  simp only [transformNode, run_pure]
  rfl

theorem transformNode_comments (cs cs' : List Comment) (r : RuleType) (items : List (Key × Val))
    (h : r ≠ .GherkinDocument) : transformNode cs ⟨r, items⟩ = transformNode cs' ⟨r, items⟩ := by
  cases r <;> first | rfl | exact absurd rfl h

/-- every error the computation can end in is a crash (never an `AstBuilderException`) -/
def OnlyCrash {α} (x : BM α) : Prop := ∀ n e, (x.run.run n).1 = .error e → ∃ s, e = .crash s

/-! ### the effects of `transform_node`

  Which rule types draw ids (all but `Description`, `DocString`, `GherkinDocument`), which can raise an
  `AstBuilderException` (the two table nodes, through `get_table_rows`), and that the result is never
  a bare token.  `BInv J m Q E`: run from a counter satisfying `J`, `m` leaves a counter satisfying
  `J`; its result satisfies `Q`, an `AstBuilderException` satisfies `E`. -/

def BInv (J : Nat → Prop) {α} (m : BM α) (Q : α → Prop) (E : PErr → Prop) : Prop :=
  ∀ n, J n → J (m.run.run n).2 ∧
    match (m.run.run n).1 with
    | .ok a => Q a
    | .error (.ast e) => E e
    | .error (.crash _) => True

section kit
variable {J : Nat → Prop}

theorem BInv.pure {α} {Q : α → Prop} {E} (a : α) (h : Q a) : BInv J (pure a : BM α) Q E :=
  fun _ hn => ⟨hn, h⟩

theorem BInv.crash {α} {Q : α → Prop} {E} (w : String) : BInv J (crash w : BM α) Q E :=
  fun _ hn => ⟨hn, trivial⟩

theorem BInv.throw_ast {α} {Q : α → Prop} {E : PErr → Prop} (e : PErr) (h : E e) :
    BInv J (throw (.ast e) : BM α) Q E := fun _ hn => ⟨hn, h⟩

theorem BInv.bind {α β} {m : BM α} {f : α → BM β} {Q' : α → Prop} {Q : β → Prop} {E}
    (h1 : BInv J m Q' E) (h2 : ∀ a, Q' a → BInv J (f a) Q E) : BInv J (m >>= f) Q E := by
  intro n hn
  rw [run_bind]
  have := h1 n hn
  rcases hm : m.run.run n with ⟨r1, n1⟩
  rw [hm] at this
  cases r1 with
  | ok a => exact h2 a this.2 n1 this.1
  | error e => cases e <;> exact this

theorem BInv.weaken {α} {m : BM α} {Q Q' : α → Prop} {E E' : PErr → Prop} (h : BInv J m Q E)
    (hq : ∀ a, Q a → Q' a) (he : ∀ e, E e → E' e) : BInv J m Q' E' := by
  intro n hn
  have := h n hn
  refine ⟨this.1, ?_⟩
  have h2 := this.2
  revert h2
  generalize (m.run.run n).1 = r
  intro h2
  cases r with
  | ok a => exact hq _ h2
  | error e => cases e with
    | crash w => trivial
    | ast e => exact he _ h2

/-- a step of a `do` block that returns or crashes -/
theorem BInv.step {α β} {m : BM α} {f : α → BM β} {Q : β → Prop} {E} (h : BInv J m (fun _ => True) E)
    (k : ∀ a, BInv J (f a) Q E) : BInv J (m >>= f) Q E := BInv.bind h fun a _ => k a

theorem BInv.nextId {E} (hJ : ∀ n, J n → J (n + 1)) : BInv J nextId (fun _ => True) E :=
  fun n hn => ⟨hJ n hn, trivial⟩

theorem BInv.need {α} {E} (w : String) (o : Option α) : BInv J (need w o) (fun _ => True) E := by
  cases o
  · exact BInv.crash _
  · exact BInv.pure _ trivial

theorem BInv.needToken {E} (items : List (Key × Val)) (k : Kind) :
    BInv J (needToken items k) (fun _ => True) E := by
  unfold GV.needToken
  split
  · exact BInv.pure _ trivial
  · exact BInv.crash _

theorem BInv.getDescription {E} (items : List (Key × Val)) :
    BInv J (getDescription items) (fun _ => True) E := by
  unfold GV.getDescription
  split
  · exact BInv.pure _ trivial
  · exact BInv.pure _ trivial
  · exact BInv.crash _

theorem BInv.mapM' {α β} {E} (f : α → BM β) (R : α → β → Prop) (l : List α)
    (h : ∀ a ∈ l, BInv J (f a) (R a) E) : BInv J (mapM' f l) (fun bs => ∀ b ∈ bs, ∃ a ∈ l, R a b) E := by
  induction l with
  | nil => exact BInv.pure _ (by intro b hb; cases hb)
  | cons a l ih =>
    unfold GV.mapM'
    refine BInv.bind (h a (List.mem_cons_self ..)) fun b hb => ?_
    refine BInv.bind (ih fun a' ha' => h a' (List.mem_cons_of_mem _ ha')) fun bs hbs => ?_
    refine BInv.pure _ ?_
    intro b' hb'
    rcases List.mem_cons.1 hb' with rfl | hb'
    · exact ⟨a, List.mem_cons_self .., hb⟩
    · obtain ⟨a', ha', hr⟩ := hbs b' hb'
      exact ⟨a', List.mem_cons_of_mem _ ha', hr⟩

theorem BInv.mapM'_noast {α β} {E} (f : α → BM β) (l : List α)
    (h : ∀ a, BInv J (f a) (fun _ => True) E) : BInv J (GV.mapM' f l) (fun _ => True) E :=
  BInv.weaken (BInv.mapM' f (fun _ _ => True) l fun a _ => h a) (fun _ _ => trivial) (fun _ h => h)

theorem BInv.getTags {E} (hJ : ∀ n, J n → J (n + 1)) (items : List (Key × Val)) :
    BInv J (getTags items) (fun _ => True) E := by
  unfold GV.getTags
  split
  · exact .step (.mapM'_noast _ _ fun _ => .mapM'_noast _ _ fun _ => .step (.nextId hJ) fun _ => .pure _ trivial)
      fun _ => .pure _ trivial
  · exact BInv.pure _ trivial
  · exact BInv.crash _

theorem BInv.getTableRows (hJ : ∀ n, J n → J (n + 1)) (items : List (Key × Val)) :
    BInv J (getTableRows items) (fun _ => True) (fun e => ∃ t ∈ getTokens items .TableRow,
      e = ⟨.raggedTable, getLocation t, lit "inconsistent cell count within the table"⟩) := by
  unfold GV.getTableRows
  refine .bind (.mapM' _ (fun (t : Token) (r : Row) => r.loc = getLocation t) _ fun t _ =>
    .step (.nextId hJ) fun _ => .pure _ rfl) fun rows hrows => ?_
  split
  · rename_i r hr
    have hmem : r ∈ rows := by
      unfold raggedRow at hr
      split at hr
      · cases hr
      · exact List.mem_of_find?_eq_some hr
    obtain ⟨t, ht, hloc⟩ := hrows r hmem
    exact .throw_ast _ ⟨t, ht, by rw [hloc]⟩
  · exact .pure _ trivial

end kit

/-- a value `transform_node` can return: anything but a bare token -/
def NotTok (v : Val) : Prop := ∀ t, v ≠ .tok t

/-- The walk.  `transform_node` never returns a bare token; ids are drawn by `next_id` (also inside
    `get_tags` and `get_table_rows`), which three rule types never call; an `AstBuilderException`
    can only come out of `get_table_rows`, so only from one of the two kinds of table node: every
    other step of the `do` block of each rule type returns or crashes. -/
theorem transformNode_walk (cm : List Comment) (node : Node) (J : Nat → Prop) (E : PErr → Prop)
    (hJ : node.rt ≠ .Description → node.rt ≠ .DocString → node.rt ≠ .GherkinDocument → ∀ n, J n → J (n + 1))
    (hrows : node.rt = .DataTable ∨ node.rt = .ExamplesTable →
      BInv J (getTableRows node.items) (fun _ => True) E) :
    BInv J (transformNode cm node) NotTok E := by
  obtain ⟨rt, items⟩ := node
  have ret : ∀ v : Val, (∀ t, v ≠ .tok t) → BInv J (pure v : BM Val) NotTok E := BInv.pure
  unfold transformNode
  dsimp only
  -- cases in the order of the `match`: Step, DocString, DataTable, Background, ScenarioDefinition,
  -- ExamplesDefinition, ExamplesTable, Description, Rule, Feature, GherkinDocument, any other
  split
  case h_2 =>
    split
    · exact .crash _
    · exact .step (.need _ _) fun _ => .step (.need _ _) fun _ =>
        .step (.mapM'_noast _ _ fun _ => .need _ _) fun _ => ret _ fun _ h => by cases h
  case h_8 => exact .step (.mapM'_noast _ _ fun _ => .need _ _) fun _ => ret _ fun _ h => by cases h
  case h_11 => exact ret _ fun _ h => by cases h
  case h_12 => exact ret _ fun _ h => by cases h
  all_goals
    have hJ := hJ (by simp) (by simp) (by simp)
  case h_1 =>
    exact .step (.nextId hJ) fun _ => .step (.needToken _ _) fun _ => .step (.need _ _) fun _ =>
      .step (.need _ _) fun _ => .step (.need _ _) fun _ => ret _ fun _ h => by cases h
  case h_3 =>
    refine .step (hrows (.inl rfl)) fun rows => ?_
    split
    · exact .crash _
    · exact ret _ fun _ h => by cases h
  case h_7 => exact .step (hrows (.inr rfl)) fun _ => ret _ fun _ h => by cases h
  case h_4 =>
    exact .step (.needToken _ _) fun _ => .step (.getDescription _) fun _ => .step (.nextId hJ) fun _ =>
      .step (.need _ _) fun _ => .step (.need _ _) fun _ => ret _ fun _ h => by cases h
  case h_5 =>
    refine .step (.getTags hJ _) fun _ => ?_
    split
    · exact .step (.needToken _ _) fun _ => .step (.getDescription _) fun _ => .step (.nextId hJ) fun _ =>
        .step (.need _ _) fun _ => .step (.need _ _) fun _ => ret _ fun _ h => by cases h
    · exact .crash _
  case h_6 =>
    refine .step (.getTags hJ _) fun _ => ?_
    split
    · exact .step (.needToken _ _) fun _ => .step (.getDescription _) fun _ => .step (.nextId hJ) fun _ =>
        .step (.need _ _) fun _ => .step (.need _ _) fun _ => ret _ fun _ h => by cases h
    · exact .crash _
  case h_9 =>
    split
    · refine .step (.getTags hJ _) fun _ => ?_
      split
      · exact .step (.getDescription _) fun _ => .step (.nextId hJ) fun _ =>
          .step (.need _ _) fun _ => .step (.need _ _) fun _ => ret _ fun _ h => by cases h
      · exact ret _ fun _ h => by cases h
    · exact ret _ fun _ h => by cases h
  case h_10 =>
    split
    · refine .step (.getTags hJ _) fun _ => ?_
      split
      · exact .step (.getDescription _) fun _ =>
          .step (.need _ _) fun _ => .step (.need _ _) fun _ => ret _ fun _ h => by cases h
      · exact ret _ fun _ h => by cases h
    · exact ret _ fun _ h => by cases h

theorem mono_transformNode (cs : List Comment) (node : Node) : Mono (transformNode cs node) := fun n =>
  have hJ : ∀ m, n ≤ m → n ≤ m + 1 := fun _ h => Nat.le_succ_of_le h
  (transformNode_walk cs node (n ≤ ·) (fun _ => True) (fun _ _ _ => hJ)
    (fun _ => (BInv.getTableRows hJ _).weaken (fun _ h => h) fun _ _ => trivial) n (Nat.le_refl n)).1

theorem transformNode_noDraw (cs : List Comment) (node : Node) (n : Nat)
    (h : node.rt = .Description ∨ node.rt = .DocString ∨ node.rt = .GherkinDocument) :
    ((transformNode cs node).run.run n).2 = n :=
  (transformNode_walk cs node (· = n) (fun _ => True)
    (fun h1 h2 h3 => by rcases h with h | h | h <;> contradiction)
    (fun ht => by rcases h with h | h | h <;> rcases ht with ht | ht <;> rw [h] at ht <;> cases ht) n rfl).1

theorem transformNode_noast (cs : List Comment) (node : Node) (h : node.rt ≠ .DataTable) (h' : node.rt ≠ .ExamplesTable) :
    BInv (fun _ => True) (transformNode cs node) NotTok (fun _ => False) :=
  transformNode_walk cs node _ _ (fun _ _ _ _ _ => trivial) fun ht => by rcases ht with ht | ht <;> contradiction

theorem onlyCrash_of_noast {α} {Q : α → Prop} {m : BM α} (h : BInv (fun _ => True) m Q (fun _ => False)) :
    OnlyCrash m := by
  intro n e he
  have := (h n trivial).2
  rw [he] at this
  cases e with
  | crash s => exact ⟨s, rfl⟩
  | ast e => exact this.elim

theorem onlyCrash_step (cs : List Comment) (items : List (Key × Val)) :
    OnlyCrash (transformNode cs ⟨.Step, items⟩) :=
  onlyCrash_of_noast (transformNode_noast cs _ nofun nofun)

theorem onlyCrash_background (cs : List Comment) (items : List (Key × Val)) :
    OnlyCrash (transformNode cs ⟨.Background, items⟩) :=
  onlyCrash_of_noast (transformNode_noast cs _ nofun nofun)

theorem range'_snoc (n k : Nat) : List.range' n k ++ [n + k] = List.range' n (n + k + 1 - n) := by
  have : n + k + 1 - n = k + 1 := by omega
  rw [this, List.range'_concat, Nat.one_mul]

theorem node_ids (cs : List Comment) (node : Node) (n n' : Nat) (v : Val) (hv : v ≠ .none)
    (h : (transformNode cs node).run.run n = (.ok v, n')) :
    drawnIds node.rt v = List.range' n (n' - n) ∧ n ≤ n' := by
  refine ⟨?_, by have := mono_transformNode cs node n; rw [h] at this; exact this⟩
  obtain ⟨rt, items⟩ := node
  cases rt
  case Step =>
    obtain ⟨line, -, kw, -, kt, -, tx, -, rfl, rfl⟩ := (step_ok cs items n n' v).1 h
    simp [drawnIds]
  case Background =>
    obtain ⟨line, -, d, -, kw, -, nm, -, rfl, rfl⟩ := (background_ok cs items n n' v).1 h
    simp [drawnIds]
  case DataTable =>
    obtain ⟨-, t0, rest, -, rfl, rfl⟩ := (dataTable_ok cs items n n' v).1 h
    simp [drawnIds, numberRows_ids]
  case ExamplesTable =>
    obtain ⟨-, rfl, rfl⟩ := (examplesTable_ok cs items n n' v).1 h
    simp [drawnIds, numberRows_ids]
  case ScenarioDefinition =>
    obtain ⟨toks, -, rt, sc, -, line, -, d, -, kw, -, nm, -, rfl, rfl⟩ := (scenario_ok cs items n n' v).1 h
    simp only [drawnIds, numberTags_ids]; exact range'_snoc n _
  case ExamplesDefinition =>
    obtain ⟨toks, -, rt, sc, -, line, -, d, -, kw, -, nm, -, rfl, rfl⟩ := (examples_ok cs items n n' v).1 h
    simp only [drawnIds, numberTags_ids]; exact range'_snoc n _
  case Rule =>
    obtain ⟨rt, hd, -, toks, -, line, -, d, -, kw, -, nm, -, rfl, rfl⟩ := (rule_ok cs items n n' v hv).1 h
    simp only [drawnIds, numberTags_ids]; exact range'_snoc n _
  case Feature =>
    obtain ⟨rt, hd, -, toks, -, line, -, d, -, kw, -, nm, -, rfl, rfl⟩ := (feature_ok cs items n n' v hv).1 h
    simp [drawnIds, numberTags_ids]
  case Description =>
    have := transformNode_noDraw cs ⟨.Description, items⟩ n (.inl rfl); rw [h] at this; simp only at this; subst this
    cases v <;> simp [drawnIds]
  case DocString =>
    have := transformNode_noDraw cs ⟨.DocString, items⟩ n (.inr (.inl rfl)); rw [h] at this; simp only at this; subst this
    cases v <;> simp [drawnIds]
  case GherkinDocument =>
    have := transformNode_noDraw cs ⟨.GherkinDocument, items⟩ n (.inr (.inr rfl)); rw [h] at this; simp only at this; subst this
    cases v <;> simp [drawnIds]
  all_goals
    simp only [transformNode, run_pure_ok] at h
    obtain ⟨rfl, rfl⟩ := h
    simp [drawnIds]

theorem getItems_append (xs ys : List (Key × Val)) (k : Key) :
    getItems (xs ++ ys) k = getItems xs k ++ getItems ys k := by
  simp [getItems, List.filter_append]

theorem getTokens_append (xs ys : List (Key × Val)) (k : Kind) :
    getTokens (xs ++ ys) k = getTokens xs k ++ getTokens ys k := by
  simp [getTokens, getItems_append]

theorem mem_getItems (l : List (Key × Val)) (k : Key) (v : Val) (h : v ∈ getItems l k) : (k, v) ∈ l := by
  simp only [getItems, List.mem_map, List.mem_filter, beq_iff_eq] at h
  obtain ⟨⟨k', v'⟩, ⟨hm, hk⟩, rfl⟩ := h
  simp only at hk; subst hk; exact hm

theorem mem_getTokens {is : List (Key × Val)} {k : Kind} {t : Token} (h : t ∈ getTokens is k) :
    (Key.tok k, Val.tok t) ∈ is := by
  simp only [getTokens, List.mem_filterMap] at h
  obtain ⟨v, hv, e⟩ := h
  cases v <;> simp only [Option.some.injEq, reduceCtorEq] at e
  subst e
  exact mem_getItems is _ _ hv

theorem getItems_snoc_same (items : List (Key × Val)) (k : Key) (v : Val) :
    getItems (items ++ [(k, v)]) k = getItems items k ++ [v] := by
  rw [getItems_append]; simp [getItems]

theorem getItems_snoc_other (items : List (Key × Val)) (k k' : Key) (v : Val) (h : k' ≠ k) :
    getItems (items ++ [(k', v)]) k = getItems items k := by
  rw [getItems_append]; simp [getItems, h]

theorem getItems_nil (k : Key) : getItems [] k = [] := rfl

theorem getSingle_eq_head (items : List (Key × Val)) (k : Key) :
    getSingle items k = (getItems items k).headD .none := by
  unfold getSingle; cases getItems items k <;> rfl

theorem getSingle_of_cons (items : List (Key × Val)) (k : Key) (v : Val) (vs : List Val)
    (h : getItems items k = v :: vs) : getSingle items k = v := by
  rw [getSingle_eq_head, h]; rfl

theorem getSingle_of_nil (items : List (Key × Val)) (k : Key)
    (h : getItems items k = []) : getSingle items k = .none := by
  rw [getSingle_eq_head, h]; rfl

theorem getSingle_append_of_ne_nil (items more : List (Key × Val)) (k : Key)
    (h : getItems items k ≠ []) : getSingle (items ++ more) k = getSingle items k := by
  rw [getSingle_eq_head, getSingle_eq_head, getItems_append]
  cases hh : getItems items k with
  | nil => exact absurd hh h
  | cons v vs => rfl

theorem getTokens_snoc_same (items : List (Key × Val)) (k : Kind) (t : Token) :
    getTokens (items ++ [(.tok k, .tok t)]) k = getTokens items k ++ [t] := by
  simp [getTokens, getItems_snoc_same]

theorem getSteps_snoc (items : List (Key × Val)) (s : Step) :
    getSteps (items ++ [(.rule .Step, .step s)]) = getSteps items ++ [s] := by
  simp [getSteps, getItems_snoc_same]

theorem getScenarios_snoc (items : List (Key × Val)) (s : Scenario) :
    getScenarios (items ++ [(.rule .ScenarioDefinition, .scenario s)]) = getScenarios items ++ [s] := by
  simp [getScenarios, getItems_snoc_same]

theorem getExamples_snoc (items : List (Key × Val)) (e : Examples) :
    getExamples (items ++ [(.rule .ExamplesDefinition, .examples e)]) = getExamples items ++ [e] := by
  simp [getExamples, getItems_snoc_same]

theorem getRules_snoc (items : List (Key × Val)) (r : Rule) :
    getRules (items ++ [(.rule .Rule, .rule r)]) = getRules items ++ [r] := by
  simp [getRules, getItems_snoc_same]

theorem ruleChildren_eq (items : List (Key × Val)) :
    ruleChildren items =
      (getBackground items).toList.map RuleChild.background ++ (getScenarios items).map RuleChild.scenario := by
  unfold ruleChildren; cases getBackground items <;> rfl

theorem featureChildren_eq (items : List (Key × Val)) :
    featureChildren items =
      (getBackground items).toList.map FeatureChild.background ++
      (getScenarios items).map FeatureChild.scenario ++ (getRules items).map FeatureChild.rule := by
  unfold featureChildren; cases getBackground items <;> rfl

theorem addToTop_cons (top : Node) (rest : List Node) (k : Key) (v : Val) :
    addToTop (top :: rest) k v = some (⟨top.rt, top.items ++ [(k, v)]⟩ :: rest) := rfl

theorem addToTop_nil (k : Key) (v : Val) : addToTop [] k v = none := rfl

theorem layBuild_unmatched (β : BState) (t : Token) (hm : t.mtype = none) :
    β.build t = .error (.crash "build of unmatched token") := by
  unfold BState.build; rw [hm]

theorem layBuild_comment (β : BState) (t : Token) (hm : t.mtype = some .Comment) :
    β.build t = match t.text with
      | some tx => .ok { β with comments := β.comments ++ [{ loc := getLocation t, text := tx }] }
      | Option.none => .error (.crash "comment without text") := by
  unfold BState.build; rw [hm]; cases t.text <;> rfl

theorem layBuild_other (β : BState) (t : Token) (k : Kind) (hk : k ≠ .Comment) (hm : t.mtype = some k) :
    β.build t = match addToTop β.stack (.tok k) (.tok t) with
      | some st => .ok { β with stack := st }
      | Option.none => .error (.crash "IndexError: current_node of empty stack") := by
  unfold BState.build; rw [hm]
  cases k <;> first | rfl | exact absurd rfl hk

theorem build_token (β : BState) (t : Token) (k : Kind) (top : Node) (rest : List Node)
    (hk : t.mtype = some k) (hc : k ≠ .Comment) (hs : β.stack = top :: rest) :
    β.build t = .ok { stack := ⟨top.rt, top.items ++ [(.tok k, .tok t)]⟩ :: rest, comments := β.comments } := by
  rw [layBuild_other β t k hc hk, hs, addToTop_cons]

theorem build_comment (β : BState) (t : Token) (tx : Str)
    (hk : t.mtype = some .Comment) (ht : t.text = some tx) :
    β.build t = .ok { stack := β.stack, comments := β.comments ++ [{ loc := getLocation t, text := tx }] } := by
  rw [layBuild_comment β t hk, ht]

theorem endRule_ok (β : BState) (node parent : Node) (rest : List Node) (n n' : Nat) (v : Val)
    (hs : β.stack = node :: parent :: rest)
    (h : (transformNode β.comments node).run.run n = (.ok v, n')) :
    β.endRule n = (.ok (), { stack := ⟨parent.rt, parent.items ++ [(.rule node.rt, v)]⟩ :: rest,
                             comments := β.comments }, n') := by
  unfold BState.endRule
  simp only [hs, h, addToTop_cons]

theorem endRule_error (β : BState) (node : Node) (rest : List Node) (n n' : Nat) (e : BErr)
    (hs : β.stack = node :: rest)
    (h : (transformNode β.comments node).run.run n = (.error e, n')) :
    β.endRule n = (.error e, { stack := rest, comments := β.comments }, n') := by
  unfold BState.endRule
  simp only [hs, h]

theorem endRule_mono (β : BState) (n : Nat) : n ≤ (β.endRule n).2.2 := by
  unfold BState.endRule
  split
  · exact Nat.le_refl n
  · next node rest hs =>
    have hm := mono_transformNode β.comments node n
    split
    · next e n' h => rw [h] at hm; exact hm
    · next v n' h =>
      rw [h] at hm
      split <;> exact hm

theorem trimDescLines_spec (ls : List Str) :
    (∃ dropped, ls = trimDescLines ls ++ dropped ∧ ∀ l ∈ dropped, (strip l).isEmpty = true) ∧
    (∀ l, (trimDescLines ls).getLast? = some l → (strip l).isEmpty = false) := by
  unfold trimDescLines
  constructor
  · refine ⟨(ls.reverse.takeWhile fun l => (strip l).isEmpty).reverse, ?_, ?_⟩
    · rw [← List.reverse_append, List.takeWhile_append_dropWhile, List.reverse_reverse]
    · intro l hl
      rw [List.mem_reverse] at hl
      exact List.all_eq_true.1 List.all_takeWhile l hl
  · intro l hl
    rw [List.getLast?_reverse] at hl
    have := List.head?_dropWhile_not (fun l => (strip l).isEmpty) ls.reverse
    rw [hl] at this
    exact this

theorem trimDescLines_unique (ls r dropped : List Str) (h : ls = r ++ dropped)
    (hd : ∀ l ∈ dropped, (strip l).isEmpty = true)
    (hr : ∀ l, r.getLast? = some l → (strip l).isEmpty = false) : trimDescLines ls = r := by
  subst h
  unfold trimDescLines
  rw [List.reverse_append, List.dropWhile_append_of_pos (by intro l hl; exact hd l (List.mem_reverse.1 hl))]
  cases hrr : r.reverse with
  | nil => simp [List.reverse_eq_nil_iff.1 hrr]
  | cons x xs =>
    have : r.getLast? = some x := by rw [← List.head?_reverse, hrr]; rfl
    rw [List.dropWhile_cons_of_neg (by simp [hr x this]), ← hrr, List.reverse_reverse]

theorem step_crash_iff (cs : List Comment) (items : List (Key × Val)) (n : Nat) :
    (∃ s, ((transformNode cs ⟨.Step, items⟩).run.run n).1 = .error (.crash s)) ↔
      ∀ line, getSingle items (.tok .StepLine) = .tok line →
        line.keyword = none ∨ line.ktype = none ∨ line.text = none := by
  constructor
  · rintro ⟨s, hs⟩ line hl
    cases hk : line.keyword with
    | none => exact Or.inl rfl
    | some kw =>
      cases hkt : line.ktype with
      | none => exact Or.inr (Or.inl rfl)
      | some kt =>
        cases ht : line.text with
        | none => exact Or.inr (Or.inr rfl)
        | some tx =>
          have := (step_ok cs items n (n + 1) _).2 ⟨line, hl, kw, hk, kt, hkt, tx, ht, rfl, rfl⟩
          rw [this] at hs; cases hs
  · intro h
    rcases hr : (transformNode cs ⟨.Step, items⟩).run.run n with ⟨e | v, m⟩
    · obtain ⟨s, rfl⟩ := onlyCrash_step cs items n e (by rw [hr])
      exact ⟨s, rfl⟩
    · obtain ⟨line, hl, kw, hk, kt, hkt, tx, ht, -, -⟩ := (step_ok cs items n m v).1 hr
      rcases h line hl with h | h | h
      · rw [hk] at h; cases h
      · rw [hkt] at h; cases h
      · rw [ht] at h; cases h

theorem background_crash_iff (cs : List Comment) (items : List (Key × Val)) (n : Nat) :
    (∃ s, ((transformNode cs ⟨.Background, items⟩).run.run n).1 = .error (.crash s)) ↔
      (descOf items = none ∨
       ∀ line, getSingle items (.tok .BackgroundLine) = .tok line →
        line.keyword = none ∨ line.text = none) := by
  constructor
  · rintro ⟨s, hs⟩
    cases hd : descOf items with
    | none => exact Or.inl rfl
    | some d =>
      refine Or.inr fun line hl => ?_
      cases hk : line.keyword with
      | none => exact Or.inl rfl
      | some kw =>
        cases ht : line.text with
        | none => exact Or.inr rfl
        | some tx =>
          have := (background_ok cs items n (n + 1) _).2 ⟨line, hl, d, hd, kw, hk, tx, ht, rfl, rfl⟩
          rw [this] at hs; cases hs
  · intro h
    rcases hr : (transformNode cs ⟨.Background, items⟩).run.run n with ⟨e | v, m⟩
    · obtain ⟨s, rfl⟩ := onlyCrash_background cs items n e (by rw [hr])
      exact ⟨s, rfl⟩
    · obtain ⟨line, hl, d, hd, kw, hk, tx, ht, -, -⟩ := (background_ok cs items n m v).1 hr
      rcases h with h | h
      · rw [hd] at h; cases h
      · rcases h line hl with h | h
        · rw [hk] at h; cases h
        · rw [ht] at h; cases h

/-! ### success equations under explicit hypotheses (the `←` halves, packaged) -/

theorem raggedRow_numberRows_of_rect (toks : List Token) (n : Nat)
    (h : ∀ t ∈ toks, ∀ t0, toks.head? = some t0 → t.items.length = t0.items.length) :
    raggedRow (numberRows toks n) = none := by
  cases toks with
  | nil => rfl
  | cons t0 rest =>
    exact raggedRow_numberRows_none t0 rest n fun t ht => h t (List.mem_cons_of_mem _ ht) t0 rfl

theorem step_eq (cs : List Comment) (items : List (Key × Val)) (n : Nat) (line : Token)
    (kw tx : Str) (kt : KType)
    (hl : getSingle items (.tok .StepLine) = .tok line)
    (hk : line.keyword = some kw) (hkt : line.ktype = some kt) (ht : line.text = some tx) :
    (transformNode cs ⟨.Step, items⟩).run.run n =
      (.ok (.step { id := n, loc := getLocation line, keyword := kw, ktype := kt, text := tx,
                    arg := stepArgOf items }), n + 1) :=
  (step_ok cs items n _ _).2 ⟨line, hl, kw, hk, kt, hkt, tx, ht, rfl, rfl⟩

theorem background_eq (cs : List Comment) (items : List (Key × Val)) (n : Nat) (line : Token)
    (kw nm d : Str)
    (hl : getSingle items (.tok .BackgroundLine) = .tok line) (hd : descOf items = some d)
    (hk : line.keyword = some kw) (hn : line.text = some nm) :
    (transformNode cs ⟨.Background, items⟩).run.run n =
      (.ok (.background { id := n, loc := getLocation line, keyword := kw, name := nm,
                          description := d, steps := getSteps items }), n + 1) :=
  (background_ok cs items n _ _).2 ⟨line, hl, d, hd, kw, hk, nm, hn, rfl, rfl⟩

theorem dataTable_eq (cs : List Comment) (items : List (Key × Val)) (n : Nat) (t0 : Token) (rest : List Token)
    (ht : getTokens items .TableRow = t0 :: rest)
    (hrect : ∀ t ∈ rest, t.items.length = t0.items.length) :
    (transformNode cs ⟨.DataTable, items⟩).run.run n =
      (.ok (.dataTable { loc := getLocation t0, rows := numberRows (t0 :: rest) n }), n + (rest.length + 1)) := by
  have := (dataTable_ok cs items n (n + (getTokens items .TableRow).length)
    (.dataTable { loc := getLocation t0, rows := numberRows (getTokens items .TableRow) n })).2
    ⟨by rw [ht]; exact raggedRow_numberRows_none t0 rest n hrect, t0, rest, ht, rfl, rfl⟩
  rw [ht] at this; exact this

theorem examplesTable_eq (cs : List Comment) (items : List (Key × Val)) (n : Nat)
    (hrect : ∀ t ∈ getTokens items .TableRow, ∀ t0, (getTokens items .TableRow).head? = some t0 →
      t.items.length = t0.items.length) :
    (transformNode cs ⟨.ExamplesTable, items⟩).run.run n =
      (.ok (.rows (numberRows (getTokens items .TableRow) n)), n + (getTokens items .TableRow).length) :=
  (examplesTable_ok cs items n _ _).2 ⟨raggedRow_numberRows_of_rect _ n hrect, rfl, rfl⟩

/-- a ragged table: the error carries the first deviating row's location, and the ids of all
    rows stay consumed -/
theorem tableRows_ragged (items : List (Key × Val)) (n : Nat) (r : Row)
    (h : raggedRow (numberRows (getTokens items .TableRow) n) = some r) :
    (getTableRows items).run.run n =
      (.error (.ast ⟨.raggedTable, r.loc, lit "inconsistent cell count within the table"⟩),
       n + (getTokens items .TableRow).length) := by
  rw [run_getTableRows, h]

theorem scenario_eq (cs : List Comment) (items sc : List (Key × Val)) (n : Nat) (toks : List Token)
    (rt : RuleType) (line : Token) (kw nm d : Str)
    (htags : tagTokens items = some toks)
    (hs : getSingle items (.rule .Scenario) = .raw rt sc)
    (hl : getSingle sc (.tok .ScenarioLine) = .tok line) (hd : descOf sc = some d)
    (hk : line.keyword = some kw) (hn : line.text = some nm) :
    (transformNode cs ⟨.ScenarioDefinition, items⟩).run.run n =
      (.ok (.scenario { id := n + tagCount toks, tags := numberTags toks n, loc := getLocation line,
                        keyword := kw, name := nm, description := d, steps := getSteps sc,
                        examples := getExamples sc }), n + tagCount toks + 1) :=
  (scenario_ok cs items n _ _).2 ⟨toks, htags, rt, sc, hs, line, hl, d, hd, kw, hk, nm, hn, rfl, rfl⟩

theorem examples_eq (cs : List Comment) (items ex : List (Key × Val)) (n : Nat) (toks : List Token)
    (rt : RuleType) (line : Token) (kw nm d : Str)
    (htags : tagTokens items = some toks)
    (hs : getSingle items (.rule .Examples) = .raw rt ex)
    (hl : getSingle ex (.tok .ExamplesLine) = .tok line) (hd : descOf ex = some d)
    (hk : line.keyword = some kw) (hn : line.text = some nm) :
    (transformNode cs ⟨.ExamplesDefinition, items⟩).run.run n =
      (.ok (.examples { id := n + tagCount toks, tags := numberTags toks n, loc := getLocation line,
                        keyword := kw, name := nm, description := d,
                        header := (tableOf ex).head?, body := (tableOf ex).drop 1 }),
       n + tagCount toks + 1) :=
  (examples_ok cs items n _ _).2 ⟨toks, htags, rt, ex, hs, line, hl, d, hd, kw, hk, nm, hn, rfl, rfl⟩

theorem rule_eq (cs : List Comment) (items header : List (Key × Val)) (n : Nat) (toks : List Token)
    (rt : RuleType) (line : Token) (kw nm d : Str)
    (hh : getSingle items (.rule .RuleHeader) = .raw rt header)
    (htags : tagTokens header = some toks)
    (hl : getSingle header (.tok .RuleLine) = .tok line) (hd : descOf header = some d)
    (hk : line.keyword = some kw) (hn : line.text = some nm) :
    (transformNode cs ⟨.Rule, items⟩).run.run n =
      (.ok (.rule { id := n + tagCount toks, tags := numberTags toks n, loc := getLocation line,
                    keyword := kw, name := nm, description := d,
                    children := (getBackground items).toList.map RuleChild.background ++
                                (getScenarios items).map RuleChild.scenario }),
       n + tagCount toks + 1) := by
  rw [← ruleChildren_eq]
  exact (rule_ok cs items n _ _ (fun h => by cases h)).2
    ⟨rt, header, hh, toks, htags, line, hl, d, hd, kw, hk, nm, hn, rfl, rfl⟩

theorem feature_eq (cs : List Comment) (items header : List (Key × Val)) (n : Nat) (toks : List Token)
    (rt : RuleType) (line : Token) (kw nm d : Str)
    (hh : getSingle items (.rule .FeatureHeader) = .raw rt header)
    (htags : tagTokens header = some toks)
    (hl : getSingle header (.tok .FeatureLine) = .tok line) (hd : descOf header = some d)
    (hk : line.keyword = some kw) (hn : line.text = some nm) :
    (transformNode cs ⟨.Feature, items⟩).run.run n =
      (.ok (.feature { tags := numberTags toks n, loc := getLocation line, language := line.dialect,
                       keyword := kw, name := nm, description := d,
                       children := (getBackground items).toList.map FeatureChild.background ++
                                   (getScenarios items).map FeatureChild.scenario ++
                                   (getRules items).map FeatureChild.rule }),
       n + tagCount toks) := by
  rw [← featureChildren_eq]
  exact (feature_ok cs items n _ _ (fun h => by cases h)).2
    ⟨rt, header, hh, toks, htags, line, hl, d, hd, kw, hk, nm, hn, rfl, rfl⟩

/-- a rule header without its keyword line yields `None` — after the tag ids were drawn (a feature
    header likewise).  The grammar never produces such a header; this is why `node_ids` excludes
    the result `none`. -/
theorem rule_none_after_tags (cs : List Comment) (items header : List (Key × Val)) (n : Nat)
    (toks : List Token) (rt : RuleType)
    (hh : getSingle items (.rule .RuleHeader) = .raw rt header)
    (htags : tagTokens header = some toks)
    (hl : getSingle header (.tok .RuleLine) = .none) :
    (transformNode cs ⟨.Rule, items⟩).run.run n = (.ok .none, n + tagCount toks) := by
  simp only [transformNode, hh, run_bind, run_getTags_some header toks n htags, hl, run_pure]

theorem descOf_none_iff (items : List (Key × Val)) :
    descOf items = none ↔ ∃ v vs, getItems items (.rule .Description) = v :: vs ∧ ∀ s, v ≠ .descr s := by
  unfold descOf
  split
  · next h => simp [h]
  · next s rest h => simp [h]
  · next h1 h2 =>
    refine ⟨fun _ => ?_, fun _ => rfl⟩
    cases hg : getItems items (.rule .Description) with
    | nil => exact absurd hg h1
    | cons v vs => exact ⟨v, vs, rfl, fun s e => h2 s vs (e ▸ hg)⟩

theorem tagCount_eq_sum (toks : List Token) : tagCount toks = (toks.map (·.items.length)).sum := by
  induction toks with
  | nil => rfl
  | cons t toks ih => rw [tagCount_cons, ih]; rfl

theorem tableRows_outcome (items : List (Key × Val)) (n : Nat) :
    ((getTableRows items).run.run n).2 = n + (getTokens items .TableRow).length ∧
    (∀ rows, ((getTableRows items).run.run n).1 = .ok rows →
      rows = numberRows (getTokens items .TableRow) n) ∧
    (∀ e, ((getTableRows items).run.run n).1 = .error e →
      ∃ r ∈ numberRows (getTokens items .TableRow) n,
        e = .ast ⟨.raggedTable, r.loc, lit "inconsistent cell count within the table"⟩) := by
  rw [run_getTableRows]
  refine ⟨rfl, ?_, ?_⟩
  · intro rows h
    cases hr : raggedRow (numberRows (getTokens items .TableRow) n) with
    | none => rw [hr] at h; simp only [Except.ok.injEq] at h; exact h.symm
    | some r => rw [hr] at h; cases h
  · intro e h
    cases hr : raggedRow (numberRows (getTokens items .TableRow) n) with
    | none => rw [hr] at h; cases h
    | some r =>
      rw [hr] at h; simp only [Except.error.injEq] at h
      refine ⟨r, ?_, h.symm⟩
      unfold raggedRow at hr
      split at hr
      · cases hr
      · exact List.mem_of_find?_eq_some hr

theorem node_ids_count (cs : List Comment) (node : Node) (n n' : Nat) (v : Val) (hv : v ≠ .none)
    (h : (transformNode cs node).run.run n = (.ok v, n')) :
    n' = n + (drawnIds node.rt v).length := by
  obtain ⟨h1, h2⟩ := node_ids cs node n n' v hv h
  rw [h1, List.length_range']; omega

/-! ### small concrete tokens and nodes for the non-vacuity examples of the property files -/
namespace Ex

def stepTok : Token :=
  { line := some (lit "  Given x"), lineNo := 3, col := some 3, mtype := some .StepLine,
    text := some (lit "x"), keyword := some (lit "Given "), ktype := some .Context }
def badStepTok : Token := { stepTok with ktype := none }
def bgTok : Token :=
  { line := some (lit "Background: b"), lineNo := 2, col := some 1, mtype := some .BackgroundLine,
    text := some (lit "b"), keyword := some (lit "Background") }
def scTok : Token :=
  { line := some (lit "Scenario: s"), lineNo := 5, col := some 1, mtype := some .ScenarioLine,
    text := some (lit "s"), keyword := some (lit "Scenario") }
def exTok : Token :=
  { line := some (lit "Examples: e"), lineNo := 8, col := some 1, mtype := some .ExamplesLine,
    text := some (lit "e"), keyword := some (lit "Examples") }
def ruleTok : Token :=
  { line := some (lit "Rule: r"), lineNo := 4, col := some 1, mtype := some .RuleLine,
    text := some (lit "r"), keyword := some (lit "Rule") }
def featTok : Token :=
  { line := some (lit "Feature: f"), lineNo := 1, col := some 1, mtype := some .FeatureLine,
    text := some (lit "f"), keyword := some (lit "Feature"), dialect := lit "en" }
def tagTok1 : Token :=
  { line := some (lit "@a @b"), lineNo := 6, col := some 1, mtype := some .TagLine,
    items := [(1, lit "@a"), (4, lit "@b")] }
def tagTok2 : Token :=
  { line := some (lit "  @c"), lineNo := 7, col := some 3, mtype := some .TagLine, items := [(3, lit "@c")] }
def rowTok1 : Token :=
  { line := some (lit "| a | b |"), lineNo := 9, col := some 1, mtype := some .TableRow,
    items := [(3, lit "a"), (7, lit "b")] }
def rowTok2 : Token :=
  { line := some (lit "| 1 | 2 |"), lineNo := 10, col := some 1, mtype := some .TableRow,
    items := [(3, lit "1"), (7, lit "2")] }
def rowTokShort : Token :=
  { line := some (lit "| 1 |"), lineNo := 11, col := some 1, mtype := some .TableRow, items := [(3, lit "1")] }
def otherTok (lineNo : Nat) (s : String) : Token :=
  { line := some (lit s), lineNo := lineNo, col := some 1, mtype := some .Other, text := some (lit s) }
def sepTok : Token :=
  { line := some (lit "```json"), lineNo := 12, col := some 1, mtype := some .DocStringSeparator,
    text := some (lit "json"), keyword := some (lit "```") }
def commentTok : Token :=
  { line := some (lit "# hi"), lineNo := 2, col := some 1, mtype := some .Comment, text := some (lit "# hi") }

def tagsVal : Val := .raw .Tags [(.tok .TagLine, .tok tagTok1), (.tok .TagLine, .tok tagTok2)]

end Ex

end Lemmas
end GV
