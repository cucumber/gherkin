/-
  Lemmas/Roundtrip5Builder.lean — round trip: the builder on a finished `Rule` node and on the finished
  `Feature` node; both read their header and their children the same way.
-/
import GherkinVerif.Spec.Render5
import GherkinVerif.Lemmas.Roundtrip4Builder
namespace GV
namespace Lemmas
open Spec

theorem endRule_raw_ruleheader (its : List (Key × Val)) (rt : RuleType) (items : List (Key × Val))
    (rest : List Node) (cm : List Comment) (i : Nat) :
    (⟨⟨.RuleHeader, its⟩ :: ⟨rt, items⟩ :: rest, cm⟩ : BState).endRule i =
      (.ok (), ⟨⟨rt, items ++ [(.rule .RuleHeader, .raw .RuleHeader its)]⟩ :: rest, cm⟩, i) := rfl

def bgRuleChild (bg : Option Background) : List RuleChild :=
  match bg with
  | some b => [RuleChild.background b]
  | none => []

def mkRule (n m i : Nat) (tags : List Str) (kwd nm : Str) (bg : Option Background) (S : List Scenario) : Rule :=
  { id := i + tags.length, tags := expTags n i tags, loc := ⟨m, some 1⟩, keyword := kwd, name := nm, description := [], children := bgRuleChild bg ++ S.map RuleChild.scenario }

def ruleItems (Rs : List Rule) : List (Key × Val) := Rs.map fun r => (Key.rule .Rule, Val.rule r)

theorem ruleItems_snoc (Rs : List Rule) (r : Rule) :
    ruleItems Rs ++ [(Key.rule .Rule, Val.rule r)] = ruleItems (Rs ++ [r]) := by simp [ruleItems]

theorem header_items (hdr : RuleType) (K : Kind) (μ : MState) (n : Nat) (tags : List Str) (tk : Token)
    (rest : List (Key × Val)) :
    getSingle ((Key.rule hdr, Val.raw hdr (tagsItem μ n tags ++ [(.tok K, .tok tk)])) :: rest) (.rule hdr) =
        Val.raw hdr (tagsItem μ n tags ++ [(.tok K, .tok tk)]) ∧
      tagTokens (tagsItem μ n tags ++ [(.tok K, .tok tk)]) = some (tagToks μ n tags) ∧
      getSingle (tagsItem μ n tags ++ [(Key.tok K, Val.tok tk)]) (.tok K) = .tok tk ∧
      descOf (tagsItem μ n tags ++ [(Key.tok K, Val.tok tk)]) = some [] :=
  ⟨by simp [getSingle, getItems], tagTokens_tagsItem μ n tags _ rfl, getSingle_tagsItem μ n tags _ _ nofun, by
    unfold descOf
    rw [getItems_append, getItems_tagsItem μ n tags _ (by decide)]
    simp [getItems]⟩

theorem container_items (hd : Key × Val) (h₁ : hd.1 ≠ Key.rule .Background)
    (h₂ : hd.1 ≠ Key.rule .ScenarioDefinition) (h₃ : hd.1 ≠ Key.rule .Rule)
    (bg : Option Background) (S : List Scenario) (Rs : List Rule) :
    getBackground (hd :: (bgItems bg ++ scItems S ++ ruleItems Rs)) = bg ∧
      getScenarios (hd :: (bgItems bg ++ scItems S ++ ruleItems Rs)) = S ∧
      getRules (hd :: (bgItems bg ++ scItems S ++ ruleItems Rs)) = Rs := by
  have hget : ∀ k, getItems (hd :: (bgItems bg ++ scItems S ++ ruleItems Rs)) k =
      (if hd.1 = k then [hd.2] else []) ++ (if Key.rule .Background = k then bg.toList.map Val.background else []) ++
        (if Key.rule .ScenarioDefinition = k then S.map Val.scenario else []) ++
        if Key.rule .Rule = k then Rs.map Val.rule else [] := fun k => by
    rw [getItems_cons, getItems_append, getItems_append, getItems_bgItems, scItems, ruleItems, getItems_map, getItems_map]
    split <;> simp
  refine ⟨?_, ?_, ?_⟩
  · unfold getBackground getSingle
    rw [hget]
    cases bg <;> simp [h₁]
  · unfold getScenarios
    rw [hget]
    simpa [h₂] using filterMap_map_some Val.scenario _ (fun _ => rfl) S
  · unfold getRules
    rw [hget]
    simpa [h₃] using filterMap_map_some Val.rule _ (fun _ => rfl) Rs

theorem transform_rule (cm : List Comment) (μ : MState) (n m : Nat) (tags : List Str) (kwd nm : Str)
    (tk : Token) (hk : tk.keyword = some kwd) (ht : tk.text = some nm) (hloc : tk.loc = ⟨m, some 1⟩)
    (bg : Option Background) (S : List Scenario) (i : Nat) :
    (transformNode cm ⟨.Rule, (.rule .RuleHeader, .raw .RuleHeader
        (tagsItem μ n tags ++ [(.tok .RuleLine, .tok tk)])) :: (bgItems bg ++ scItems S)⟩).run.run i =
      (.ok (Val.rule (mkRule n m i tags kwd nm bg S)), i + tags.length + 1) := by
  rw [← List.append_nil (bgItems bg ++ scItems S)]
  obtain ⟨hsingle, htags, hline, hdesc⟩ := header_items .RuleHeader .RuleLine μ n tags tk
    (bgItems bg ++ scItems S ++ ruleItems [])
  obtain ⟨hbg, hsc, -⟩ := container_items (.rule .RuleHeader, .raw .RuleHeader
    (tagsItem μ n tags ++ [(.tok .RuleLine, .tok tk)])) nofun nofun nofun bg S []
  simp only [ruleItems, List.map_nil] at hsingle hbg hsc
  rw [rule_eq cm _ _ i _ .RuleHeader tk kwd nm [] hsingle htags hline hdesc hk ht,
    (numberTags_tagToks μ n i tags).1, (numberTags_tagToks μ n i tags).2, hbg, hsc]
  cases bg <;> simp [getLocation, hloc, mkRule, bgRuleChild]

theorem endRule_rule (cm : List Comment) (μ : MState) (n m : Nat) (tags : List Str) (kwd nm : Str)
    (bg : Option Background) (S : List Scenario) (rt : RuleType) (items : List (Key × Val)) (rest : List Node) (i : Nat) :
    (⟨⟨.Rule, (.rule .RuleHeader, .raw .RuleHeader
        (tagsItem μ n tags ++ [(.tok .RuleLine, .tok (titleTok μ m .RuleLine kwd nm))])) ::
          (bgItems bg ++ scItems S)⟩ :: ⟨rt, items⟩ :: rest, cm⟩ : BState).endRule i =
      (.ok (), ⟨⟨rt, items ++ [(.rule .Rule, Val.rule (mkRule n m i tags kwd nm bg S))]⟩ :: rest, cm⟩,
        i + tags.length + 1) := by
  have h := transform_rule cm μ n m tags kwd nm (titleTok μ m .RuleLine kwd nm) rfl rfl rfl bg S i
  simp only [BState.endRule, h]
  rfl

def mkFeat5 (n m i : Nat) (tags : List Str) (lang kwd nm : Str) (bg : Option Background) (S : List Scenario)
    (Rs : List Rule) : Feature :=
  { tags := expTags n i tags, loc := ⟨m, some 1⟩, language := lang, keyword := kwd, name := nm, description := [], children := bgChild bg ++ S.map FeatureChild.scenario ++ Rs.map FeatureChild.rule }

theorem transform_feature5 (cm : List Comment) (μ : MState) (n m : Nat) (tags : List Str) (lang kwd nm : Str)
    (tk : Token) (hk : tk.keyword = some kwd) (ht : tk.text = some nm) (hloc : tk.loc = ⟨m, some 1⟩)
    (hd : tk.dialect = lang) (bg : Option Background) (S : List Scenario) (Rs : List Rule) (i : Nat) :
    (transformNode cm ⟨.Feature, (.rule .FeatureHeader, .raw .FeatureHeader
        (tagsItem μ n tags ++ [(.tok .FeatureLine, .tok tk)])) :: (bgItems bg ++ scItems S ++ ruleItems Rs)⟩).run.run i =
      (.ok (Val.feature (mkFeat5 n m i tags lang kwd nm bg S Rs)), i + tags.length) := by
  obtain ⟨hsingle, htags, hline, hdesc⟩ := header_items .FeatureHeader .FeatureLine μ n tags tk
    (bgItems bg ++ scItems S ++ ruleItems Rs)
  obtain ⟨hbg, hsc, hrules⟩ := container_items (.rule .FeatureHeader, .raw .FeatureHeader
    (tagsItem μ n tags ++ [(.tok .FeatureLine, .tok tk)])) nofun nofun nofun bg S Rs
  rw [feature_eq cm _ _ i _ .FeatureHeader tk kwd nm [] hsingle htags hline hdesc hk ht,
    (numberTags_tagToks μ n i tags).1, (numberTags_tagToks μ n i tags).2, hbg, hsc, hrules]
  cases bg <;> simp [getLocation, hloc, hd, mkFeat5, bgChild]

theorem endRule_feature5 (cm : List Comment) (μ : MState) (n m : Nat) (tags : List Str) (kwd nm : Str)
    (bg : Option Background) (S : List Scenario) (Rs : List Rule) (rt : RuleType) (items : List (Key × Val)) (rest : List Node) (i : Nat) :
    (⟨⟨.Feature, (.rule .FeatureHeader, .raw .FeatureHeader
        (tagsItem μ n tags ++ [(.tok .FeatureLine, .tok (titleTok μ m .FeatureLine kwd nm))])) ::
          (bgItems bg ++ scItems S ++ ruleItems Rs)⟩ :: ⟨rt, items⟩ :: rest, cm⟩ : BState).endRule i =
      (.ok (), ⟨⟨rt, items ++ [(.rule .Feature, Val.feature (mkFeat5 n m i tags μ.name kwd nm bg S Rs))]⟩ :: rest, cm⟩,
        i + tags.length) := by
  have h := transform_feature5 cm μ n m tags μ.name kwd nm (titleTok μ m .FeatureLine kwd nm) rfl rfl rfl rfl bg S Rs i
  simp only [BState.endRule, h]
  rfl

end Lemmas
end GV
