/-
  Lemmas/LayoutDoc6Builder.lean — an EMPTY `Description` item is invisible to the builder.

  For property C16, a comment line inserted directly after a keyword line and followed
  by a structural line (Props/C16Doc6.lean): the run closes an empty `Description` node, which leaves
  an item `(.rule .Description, .descr "")` in the open node.
  `ItemsD` / `ValD` relate node contents and values that are equal except for such extra items in
  the second — at the top level of a node that has no `Description` item behind that position, and
  anywhere inside finished raw nodes.  `transform_node` on related contents draws the same ids and
  yields the same error or related values — EQUAL ones for every typed result (step, background,
  scenario, examples, rule, feature, document, tables, doc string, description): `transformNode_D`,
  which is `transformNode_nat` of Lemmas/BuilderNat.lean at `reads_D`.
-/
import GherkinVerif.Lemmas.LayoutBuilder
namespace GV
namespace Layout6
open Lemmas Spec

/-- item lists equal up to extra empty-description items in the second; such an item may stand only
    where the first list has no `Description` item from there on -/
inductive ItemsD (R : Val → Val → Prop) : List (Key × Val) → List (Key × Val) → Prop
  | nil : ItemsD R [] []
  | cons (k : Key) {v w : Val} {xs ys : List (Key × Val)} (h : R v w) (t : ItemsD R xs ys) :
      ItemsD R ((k, v) :: xs) ((k, w) :: ys)
  | extraD {xs ys : List (Key × Val)} (t : ItemsD R xs ys) (hd : getItems xs (.rule .Description) = []) :
      ItemsD R xs ((.rule .Description, .descr []) :: ys)

/-- values equal up to extra empty-description items inside raw nodes -/
inductive ValD : Val → Val → Prop
  | refl (v : Val) : ValD v v
  | raw (rt : RuleType) {xs ys : List (Key × Val)} (h : ItemsD ValD xs ys) : ValD (.raw rt xs) (.raw rt ys)

theorem ItemsD.refl : ∀ xs : List (Key × Val), ItemsD ValD xs xs
  | [] => .nil
  | (k, v) :: xs => .cons k (.refl v) (ItemsD.refl xs)

/-- appending related items: no `Description` item may be appended behind a pending extra one -/
theorem ItemsD.append {R : Val → Val → Prop} {xs ys xs' ys' : List (Key × Val)} (h : ItemsD R xs ys)
    (h' : ItemsD R xs' ys') (hd : getItems xs' (.rule .Description) = []) : ItemsD R (xs ++ xs') (ys ++ ys') := by
  induction h with
  | nil => exact h'
  | cons k hv _ ih => exact .cons k hv ih
  | extraD _ hd0 ih => exact .extraD ih (by rw [getItems_append, hd0, hd]; rfl)

/-- … unless the second list has no `Description` item at all (then nothing is pending) -/
theorem ItemsD.append_noDesc {R : Val → Val → Prop} {xs ys xs' ys' : List (Key × Val)} (h : ItemsD R xs ys)
    (h' : ItemsD R xs' ys') (hn : getItems ys (.rule .Description) = []) : ItemsD R (xs ++ xs') (ys ++ ys') := by
  induction h with
  | nil => exact h'
  | cons k hv _ ih =>
    refine .cons k hv (ih ?_)
    unfold getItems at hn ⊢
    simp only [List.filter_cons] at hn
    split at hn
    · simp at hn
    · exact hn
  | extraD _ _ _ =>
    unfold getItems at hn
    simp at hn

theorem getItems_D {R : Val → Val → Prop} {xs ys : List (Key × Val)} (h : ItemsD R xs ys) (k : Key)
    (hk : (Key.rule .Description == k) = false) : All2 R (getItems xs k) (getItems ys k) := by
  induction h with
  | nil => exact .nil
  | cons k' hv _ ih =>
    unfold getItems at ih ⊢
    simp only [List.filter_cons]
    by_cases hk' : (k' == k) = true
    · simp only [hk', ↓reduceIte, List.map_cons]
      exact .cons hv ih
    · simp only [hk', Bool.false_eq_true, ↓reduceIte]
      exact ih
  | extraD _ _ ih =>
    unfold getItems at ih ⊢
    simp only [List.filter_cons, hk, Bool.false_eq_true, ↓reduceIte]
    exact ih

theorem getSingle_D {xs ys : List (Key × Val)} (h : ItemsD ValD xs ys) (k : Key)
    (hk : (Key.rule .Description == k) = false) : ValD (getSingle xs k) (getSingle ys k) := by
  unfold getSingle
  have := getItems_D h k hk
  revert this
  generalize getItems xs k = vs
  generalize getItems ys k = ws
  intro hvw
  cases hvw with
  | nil => exact .refl _
  | cons hv _ => exact hv

theorem getSingle_cases_D {xs ys : List (Key × Val)} (h : ItemsD ValD xs ys) (k : Key)
    (hk : (Key.rule .Description == k) = false) :
    getSingle xs k = getSingle ys k ∨
    (∃ rt is js, ItemsD ValD is js ∧ getSingle xs k = .raw rt is ∧ getSingle ys k = .raw rt js) := by
  have := getSingle_D h k hk
  revert this
  generalize getSingle xs k = v
  generalize getSingle ys k = w
  intro hvw
  cases hvw with
  | refl => exact .inl rfl
  | raw rt hi => exact .inr ⟨rt, _, _, hi, rfl, rfl⟩

theorem filterMap_D {α} {g : Val → Option α} (hg : ∀ rt is, g (.raw rt is) = none) {vs ws : List Val}
    (h : All2 ValD vs ws) : vs.filterMap g = ws.filterMap g := by
  induction h with
  | nil => rfl
  | cons hv _ ih =>
    cases hv with
    | refl => simp only [List.filterMap_cons, ih]
    | raw rt hi => simp only [List.filterMap_cons, hg, ih]

theorem getTokens_D {xs ys : List (Key × Val)} (h : ItemsD ValD xs ys) (k : Kind) : getTokens xs k = getTokens ys k := by
  unfold getTokens
  exact filterMap_D (fun _ _ => rfl) (getItems_D h (.tok k) rfl)

/-- `get_description` takes the first `Description` item and gives the empty string when there is
    none: an extra empty one with none behind it changes nothing -/
theorem descOf_D {xs ys : List (Key × Val)} (h : ItemsD ValD xs ys) : descOf ys = descOf xs := by
  induction h with
  | nil => rfl
  | cons k hv _ ih =>
    unfold descOf getItems at ih ⊢
    simp only [List.filter_cons]
    by_cases hk : (k == Key.rule RuleType.Description) = true
    · simp only [hk, ↓reduceIte, List.map_cons]
      cases hv with
      | refl => rename_i v _ _ _; cases v <;> rfl
      | raw rt hi => rfl
    · simp only [hk, Bool.false_eq_true, ↓reduceIte]
      exact ih
  | extraD _ hd _ =>
    unfold descOf
    rw [hd]
    unfold getItems
    simp

theorem valN_D {v w : Val} : ValN 0 idMap Eq (ItemsD ValD) v w ↔ ValD v w := by
  rw [valN_zero_id]
  constructor
  · intro h
    cases v
    case tok a => obtain ⟨b, rfl, rfl⟩ := h; exact .refl _
    case raw rt xs => obtain ⟨ys, rfl, hxy⟩ := h; exact .raw rt hxy
    all_goals (cases h; exact .refl _)
  · intro h
    cases h
    case raw hxy => exact ⟨_, rfl, hxy⟩
    case refl =>
      cases v
      case tok a => exact ⟨_, rfl, rfl⟩
      case raw rt xs => exact ⟨_, rfl, ItemsD.refl xs⟩
      all_goals rfl

theorem reads_D : Reads 0 idMap Eq Eq (ItemsD ValD) where
  toReadsTok := readsTok_eq
  read {_ _ k} h hk := (getItems_D h k (by
    cases k with
    | tok kd => rfl
    | rule r => cases r <;> first | rfl | cases hk)).mono fun _ _ => valN_D.2
  other h := by rw [getTokens_D h]
  descr := descOf_D

theorem transformNode_D (cs : List Comment) (rt : RuleType) {xs ys : List (Key × Val)} (h : ItemsD ValD xs ys) :
    BSim ValD (transformNode cs ⟨rt, xs⟩) (transformNode cs ⟨rt, ys⟩) := by
  have := transformNode_nat reads_D cs rt h
  rw [funext mapComment_id, List.map_id'] at this
  exact .of_nat this fun _ _ => valN_D.1

def NodeD (a b : Node) : Prop := a.rt = b.rt ∧ ItemsD ValD a.items b.items

/-- the second builder state is the first with extra empty-description items -/
def BD (β1 β2 : BState) : Prop := All2 NodeD β1.stack β2.stack ∧ β2.comments = β1.comments

theorem BD.refl (β : BState) : BD β β := ⟨All2.refl (fun _ => ⟨rfl, ItemsD.refl _⟩) _, rfl⟩

theorem BD.startRule {β1 β2 : BState} (h : BD β1 β2) (r : RuleType) : BD (β1.startRule r) (β2.startRule r) :=
  ⟨.cons ⟨rfl, .nil⟩ h.1, h.2⟩

theorem BD.build {β1 β2 : BState} (h : BD β1 β2) (t : Token) :
    (∃ e, β1.build t = .error e ∧ β2.build t = .error e) ∨
    (∃ β1' β2', β1.build t = .ok β1' ∧ β2.build t = .ok β2' ∧ BD β1' β2') := by
  unfold BState.build
  cases t.mtype with
  | none => exact .inl ⟨_, rfl, rfl⟩
  | some K =>
    have other : ∀ k : Kind,
        (∃ e, (match addToTop β1.stack (.tok k) (.tok t) with
            | some st => (.ok { β1 with stack := st } : Except BErr BState)
            | none => .error (.crash "IndexError: current_node of empty stack")) = .error e ∧
          (match addToTop β2.stack (.tok k) (.tok t) with
            | some st => (.ok { β2 with stack := st } : Except BErr BState)
            | none => .error (.crash "IndexError: current_node of empty stack")) = .error e) ∨
        (∃ β1' β2', (match addToTop β1.stack (.tok k) (.tok t) with
            | some st => (.ok { β1 with stack := st } : Except BErr BState)
            | none => .error (.crash "IndexError: current_node of empty stack")) = .ok β1' ∧
          (match addToTop β2.stack (.tok k) (.tok t) with
            | some st => (.ok { β2 with stack := st } : Except BErr BState)
            | none => .error (.crash "IndexError: current_node of empty stack")) = .ok β2' ∧ BD β1' β2') := by
      intro k
      obtain ⟨hs, hc⟩ := h
      revert hs
      generalize β1.stack = s1
      generalize β2.stack = s2
      intro hs
      cases hs with
      | nil => exact .inl ⟨_, rfl, rfl⟩
      | cons hab ht =>
        refine .inr ⟨_, _, rfl, rfl, .cons ⟨hab.1, ?_⟩ ht, hc⟩
        exact hab.2.append (.cons _ (.refl _) .nil) rfl
    cases K
    case Comment =>
      simp only []
      cases t.text with
      | none => exact .inl ⟨_, rfl, rfl⟩
      | some tx => exact .inr ⟨_, _, rfl, rfl, h.1, by simp only [h.2]⟩
    all_goals exact other _

/-- `hsafe`: the popped node is not a `Description`, or the node that receives it has no
    `Description` item yet -/
theorem BD.endRule {β1 β2 : BState} (h : BD β1 β2) (n : Nat)
    (hsafe : ∀ a b rest, β2.stack = a :: b :: rest → a.rt = .Description →
      getItems b.items (.rule .Description) = []) :
    (β2.endRule n).1 = (β1.endRule n).1 ∧ BD (β1.endRule n).2.1 (β2.endRule n).2.1 ∧
    (β2.endRule n).2.2 = (β1.endRule n).2.2 := by
  obtain ⟨s1, c1⟩ := β1
  obtain ⟨s2, c2⟩ := β2
  obtain ⟨hs, hc⟩ := h
  simp only at hs hc hsafe
  subst hc
  cases hs with
  | nil => exact ⟨rfl, ⟨.nil, rfl⟩, rfl⟩
  | cons hab ht =>
    rename_i a b as bs
    obtain ⟨rt, xs⟩ := a
    obtain ⟨rt', ys⟩ := b
    obtain ⟨hrt, hxy⟩ := hab
    simp only at hrt hxy
    subst hrt
    simp only [BState.endRule]
    rcases transformNode_D _ rt hxy n with ⟨v, w, n', e1, e2, hvw⟩ | ⟨e, n', e1, e2⟩
    · rw [e1, e2]
      simp only []
      cases ht with
      | nil => exact ⟨rfl, ⟨.nil, rfl⟩, rfl⟩
      | cons hcd ht' =>
        rename_i c d cs ds
        refine ⟨rfl, ⟨.cons ⟨hcd.1, ?_⟩ ht', rfl⟩, rfl⟩
        by_cases hD : rt = .Description
        · exact hcd.2.append_noDesc (.cons _ hvw .nil) (hsafe _ _ _ rfl (by rw [hD]))
        · refine hcd.2.append (.cons _ hvw .nil) ?_
          unfold getItems
          have : (Key.rule rt == Key.rule RuleType.Description) = false := by simpa using hD
          simp [this]
    · rw [e1, e2]
      exact ⟨rfl, ⟨ht, rfl⟩, rfl⟩

theorem BD.result {β1 β2 : BState} (h : BD β1 β2) : β2.result = β1.result := by
  unfold BState.result
  obtain ⟨hs, hc⟩ := h
  revert hs
  generalize β1.stack = s1
  generalize β2.stack = s2
  intro hs
  cases hs with
  | nil => rfl
  | cons hab ht =>
    simp only []
    rcases getSingle_cases_D hab.2 (.rule .GherkinDocument) rfl with e | ⟨_, _, _, _, e1, e2⟩
    · rw [e]
    · simp only [e1, e2]

end Layout6
end GV
