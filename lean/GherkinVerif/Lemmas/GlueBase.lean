/-
  The Hoare rules of the parser glue (triples and run equations: Lemmas/GlueRun.lean).  Each rule
  reduces an operation to obligations about single field updates of the context or to triples for
  its parts; the invariant may depend on the token in hand, on the branches still to be tried, on
  the state.  The rules for the tests of a state and for the body of `parse` are about
  `tryBranchesX` and `bodyX` (Lemmas/GlueOps.lean) with any look-ahead and any loop, so that they
  serve the parse with the token queue and the queue-free parse alike.  With one invariant all the
  way the obligations are a `Prims`.
  Then the footprints: which fields an operation can change.
-/
import GherkinVerif.Lemmas.GlueRun
import GherkinVerif.Lemmas.GlueOps
import GherkinVerif.Spec.PureParse
namespace GV
namespace Lemmas

section rules
open Spec
variable {D : List Dialect} {T : Table} {cap : Nat} {stop : Bool}

theorem addError_rule {A P : Ctx → Prop} {E} (e : PErr)
    (hdup : ∀ c, A c → (∃ e' ∈ c.errors, e'.message = e.message) → P c)
    (hadd : ∀ c, A c → P { c with errors := c.errors ++ [e] })
    (hcap : ∀ c, A c → cap < c.errors.length + 1 →
      E (.composite (c.errors ++ [e])) { c with errors := c.errors ++ [e] }) :
    Triple A (addError cap e) (fun _ => P) E := by
  refine Triple.intro fun c r c' hc hr => ?_
  rcases addError_cases hr with ⟨h1, h2, hd⟩ | ⟨h1, -, ⟨h2, -⟩ | ⟨h2, hlen⟩⟩ <;> rw [h1, h2]
  · exact hdup c hc hd
  · exact hadd c hc
  · exact hcap c hc hlen

/-- The one way a parser error `e` is reported: raised as it is in stop mode, recorded by
    `add_error` otherwise.  `A e c`: the error `e` may be reported in the context `c`; `P` holds
    once it is on record. -/
structure Report (cap : Nat) (stop : Bool) (A : PErr → Ctx → Prop) (P : Ctx → Prop) (E : Abort → Ctx → Prop) :
    Prop where
  single : stop = true → ∀ e c, A e c → E (.single e) c
  add : stop = false → ∀ e, Triple (A e) (addError cap e) (fun _ => P) E

theorem Report.raise {α} {A P E} (R : Report cap stop A P E) (e : PErr) (a : α) {Q : α → Ctx → Prop}
    (hq : ∀ c, P c → Q a c) :
    Triple (A e) (if stop then throw (.single e) else do addError cap e; pure a : PM α) Q E := by
  cases hs : stop
  · exact Triple.bind (R.add hs e) fun _ => Triple.pure _ hq
  · exact Triple.throw _ (R.single hs e)

theorem Report.mono {A P P' E} (R : Report cap stop A P E) (h : ∀ c, P c → P' c) : Report cap stop A P' E :=
  ⟨R.single, fun hs e => (R.add hs e).post fun _ => h⟩

theorem matchP_rule {P : Ctx → Prop} {Py : Token → Ctx → Prop} {Tn : Token → Prop} {A E}
    (R : Report cap stop A P E) (k : Kind) (t : Token)
    (hyes : ∀ c n, P c → (matchTok D k c.μ t).1.res = .matched →
      Py (matchTok D k c.μ t).1.tok { c with μ := (matchTok D k c.μ t).1.μ, calls := n })
    (hno : ∀ c n, P c → (matchTok D k c.μ t).1.res ≠ .matched →
      P { c with μ := (matchTok D k c.μ t).1.μ, calls := n } ∧ Tn (matchTok D k c.μ t).1.tok)
    (hraise : ∀ c n e, P c → (matchTok D k c.μ t).1.res = .raised e →
      A e { c with μ := (matchTok D k c.μ t).1.μ, calls := n }) :
    Triple P (matchP D cap stop k t) (fun r c => bif r.1 then Py r.2 c else P c ∧ Tn r.2) E := by
  refine Triple.intro fun c r c' hc hr => ?_
  have hn := fun h => hno c (c.calls + if (matchTok D k c.μ t).2 then 1 else 0) hc h
  obtain ⟨c1, rfl, ⟨m, hm, rfl, rfl⟩ | ⟨e, hres, h⟩⟩ := matchP_cases hr
  · rcases hm with ⟨hres, rfl⟩ | ⟨hres, rfl⟩
    · exact hyes c _ hc hres
    · exact hn (by rw [hres]; nofun)
  · have ha := hraise c (c.calls + if (matchTok D k c.μ t).2 then 1 else 0) e hc hres
    rcases h with ⟨hs, rfl, rfl⟩ | ⟨hs, r2, h2, rfl⟩
    · exact R.single hs e _ ha
    · have := (R.add hs e).elim ha h2
      cases r2 with
      | ok u => exact ⟨this, (hn (by rw [hres]; nofun)).2⟩
      | error x => exact this

theorem matchP_inv_rule {P : Ctx → Prop} {A E} (R : Report cap stop A P E) (k : Kind) (t : Token)
    (hupd : ∀ c n, P c → P { c with μ := (matchTok D k c.μ t).1.μ, calls := n })
    (hraise : ∀ c n e, P c → (matchTok D k c.μ t).1.res = .raised e →
      A e { c with μ := (matchTok D k c.μ t).1.μ, calls := n }) : Inv P E (matchP D cap stop k t) :=
  (matchP_rule (Py := fun _ => P) (Tn := fun _ => True) R k t (fun c n hc _ => hupd c n hc)
    (fun c n hc _ => ⟨hupd c n hc, trivial⟩) hraise).post fun r c hc => by
      cases hr : r.1 <;> rw [hr] at hc
      · exact hc.1
      · exact hc

/-- the builder's verdict through `handle_ast_error` -/
theorem liftB_rule {A P E} (R : Report cap stop A P E) (x : Except BErr Unit) :
    Triple (fun c => match x with
        | .ok _ => P c
        | .error (.ast e) => A e c
        | .error (.crash w) => E (.crash w) c)
      (liftB cap stop x) (fun _ => P) E := by
  unfold GV.liftB
  cases x with
  | ok u => cases u; exact Triple.pure _ fun _ h => h
  | error b =>
    cases b with
    | crash w => exact Triple.throw _ fun _ h => h
    | ast e =>
      cases hs : stop
      · exact R.add hs e
      · exact Triple.throw _ (R.single hs e)

theorem runProd_rule {P Q : Ctx → Prop} {A E} (R : Report cap stop A Q E) (t : Token) (p : Prod)
    (h : ∀ c, P c → match p with
      | .start r => Q { c with β := c.β.startRule r }
      | .end_ _ =>
        match (c.β.endRule c.ids).1 with
        | .ok _ => Q { c with β := (c.β.endRule c.ids).2.1, ids := (c.β.endRule c.ids).2.2 }
        | .error (.ast e) => A e { c with β := (c.β.endRule c.ids).2.1, ids := (c.β.endRule c.ids).2.2 }
        | .error (.crash w) => E (.crash w) { c with β := (c.β.endRule c.ids).2.1, ids := (c.β.endRule c.ids).2.2 }
      | .build =>
        match c.β.build t with
        | .ok β' => Q { c with β := β', builds := c.builds ++ [t] }
        | .error _ => ∀ w, E (.crash w) c) :
    Triple P (runProd cap stop t p) (fun _ => Q) E := by
  refine Triple.intro fun c r c' hc hr => ?_
  have h := h c hc
  rw [run_runProd] at hr
  cases p with
  | start x => cases hr; exact h
  | end_ x =>
    have := liftB_rule R (c.β.endRule c.ids).1 _ h
    cases r with
    | ok u => exact this.1 _ _ hr
    | error a => exact this.2 _ _ hr
  | build =>
    dsimp only at hr h
    split at hr
    · next β' hb => rw [hb] at h; cases hr; exact h
    · next e hb =>
      rw [hb] at h
      obtain ⟨w, rfl⟩ := build_error _ _ _ hb
      rw [run_liftB] at hr
      cases hr
      exact h w

theorem tail_rule {P : Ctx → Prop} {Q : Nat → Ctx → Prop} {A E} {row : StateRow}
    (R : Report T.errorCap stop A (Q row.errTarget) E) (t : Token)
    (h : ∀ c, P c → A (unexpectedErr row t) { c with unexpected := c.unexpected ++ [t.lineNo] }) :
    Triple P (tryBranches D T stop row [] t) Q E := by
  unfold GV.tryBranches
  exact Triple.bind (Triple.modify _ h) fun _ => R.raise _ _ fun _ hc => hc

end rules

theorem matchLine_tok (D : List Dialect) (k : Kind) (μ : MState) (t : Token) (l : Str) :
    (matchLine D k μ t l).tok.line = t.line ∧ (matchLine D k μ t l).tok.lineNo = t.lineNo := by
  rw [matchLine_eq]
  cases lineDec D k μ l <;> exact ⟨rfl, rfl⟩

theorem matchTok_tok (D : List Dialect) (k : Kind) (μ : MState) (t : Token) :
    (matchTok D k μ t).1.tok.line = t.line ∧ (matchTok D k μ t).1.tok.lineNo = t.lineNo := by
  unfold matchTok
  split
  · split <;> exact ⟨rfl, rfl⟩
  · exact matchLine_tok D k μ t _

theorem matchTok_raised (D : List Dialect) (k : Kind) (μ : MState) (t : Token) (e : PErr)
    (h : (matchTok D k μ t).1.res = .raised e) : t.line ≠ none ∧ e.loc.line = t.lineNo := by
  unfold matchTok at h
  split at h
  · split at h <;> cases h
  · rename_i l hl
    exact ⟨(by rw [hl]; intro h'; cases h'), matchLine_raised D k μ t l e h⟩

def TokKeep (t : Token) (r : Bool × Token) : Prop := r.2.line = t.line ∧ r.2.lineNo = t.lineNo

theorem matchP_tok (D : List Dialect) (cap : Nat) (stop : Bool) (k : Kind) (t : Token) (c : Ctx)
    (r : Bool × Token) (c' : Ctx) (h : run (matchP D cap stop k t) c = (.ok r, c')) : TokKeep t r := by
  obtain ⟨c1, -, ⟨m, -, hr, -⟩ | ⟨e, -, ⟨-, hr, -⟩ | ⟨-, r2, -, hr⟩⟩⟩ := matchP_cases h
  · cases hr; exact matchTok_tok D k c.μ t
  · cases hr
  · cases r2 <;> cases hr
    exact matchTok_tok D k c.μ t

section
variable {D : List Dialect} {cap : Nat} {stop : Bool} {E : Abort → Ctx → Prop}

theorem Triple.matchAny {I : Token → Ctx → Prop}
    (h : ∀ k t, Triple (I t) (matchP D cap stop k t) (fun r => I r.2) E) (ks : List Kind) (t : Token) :
    Triple (I t) (matchAny D cap stop ks t) (fun r => I r.2) E := by
  induction ks generalizing t with
  | nil => exact Triple.pure _ fun _ h => h
  | cons k ks ih =>
    unfold GV.matchAny
    refine Triple.bind (h k t) fun r => ?_
    obtain ⟨m, t'⟩ := r
    dsimp only
    split
    · exact Triple.pure _ fun _ h => h
    · exact ih _

end

theorem matchAny_tok (D : List Dialect) (cap : Nat) (stop : Bool) (ks : List Kind) (t : Token) (c : Ctx)
    (r : Bool × Token) (c' : Ctx) (h : run (matchAny D cap stop ks t) c = (.ok r, c')) : TokKeep t r :=
  (Triple.matchAny (I := fun u _ => u.line = t.line ∧ u.lineNo = t.lineNo) (E := fun _ _ => True)
    (fun k u => Triple.intro fun c r c' hu hr => by
      cases r with
      | error e => trivial
      | ok a => exact ⟨(matchP_tok D cap stop k u c a c' hr).1.trans hu.1, (matchP_tok D cap stop k u c a c' hr).2.trans hu.2⟩)
    ks t c ⟨rfl, rfl⟩).1 r c' h

section rules
open Spec
variable {D : List Dialect} {T : Table} {cap : Nat} {stop : Bool}

/-- `Tk` is a property of the line and the line number of a token -/
def TokStable (Tk : Token → Prop) : Prop :=
  ∀ t t' : Token, t'.line = t.line → t'.lineNo = t.lineNo → Tk t → Tk t'

theorem matchAny_rule {P : Ctx → Prop} {E} {Tk : Token → Prop} (hk : TokStable Tk) (ks : List Kind)
    (h : ∀ k ∈ ks, ∀ t, Tk t → Inv P E (GV.matchP D cap stop k t)) (t : Token) (ht : Tk t) :
    Triple P (GV.matchAny D cap stop ks t) (fun r c => P c ∧ Tk r.2) E :=
  Triple.with_fact (Q := fun _ => P)
    (by
      induction ks generalizing t with
      | nil => exact Inv.pure _
      | cons k ks ih =>
        unfold GV.matchAny
        refine Triple.bind (Triple.with_fact (h k List.mem_cons_self t ht) (matchP_tok D cap stop k t)) fun r => ?_
        obtain ⟨m, t'⟩ := r
        refine Triple.pre_fact (fun c hc => ⟨hc.2, hc.1⟩) fun hkeep => ?_
        dsimp only
        split
        · exact Inv.pure _
        · exact ih (fun k hk => h k (List.mem_cons_of_mem _ hk)) t' (hk t t' hkeep.1 hkeep.2 ht))
    fun c r c' hr => hk t r.2 (matchAny_tok D cap stop ks t c r c' hr).1 (matchAny_tok D cap stop ks t c r c' hr).2 ht

/-- the tokens a peek reads: the lines `ls`, numbered from `n` on, then (`i = ls.length`) the end of file -/
theorem peekLoop_rule {P : Ctx → Prop} {E} {Tk : Token → Prop} (hk : TokStable Tk)
    (h : ∀ k t, Tk t → Inv P E (GV.matchP D cap stop k t)) (la : LookAhead) :
    ∀ (ls : List Str) (n : Nat), (∀ i, i ≤ ls.length → Tk { line := ls[i]?, lineNo := n + i }) →
      Inv P E (Spec.peekLoop D cap stop la ls n) := by
  intro ls
  induction ls with
  | nil =>
    intro n hfresh
    unfold Spec.peekLoop
    refine Triple.bind (matchAny_rule hk _ (fun k _ => h k) _ (hfresh 0 (Nat.le_refl _))) fun r => ?_
    obtain ⟨b, t1⟩ := r
    refine Triple.pre_fact (fun c hc => ⟨hc.2, hc.1⟩) fun ht1 => ?_
    dsimp only
    split
    · exact Inv.pure _
    · exact Triple.bind (matchAny_rule hk _ (fun k _ => h k) _ ht1) fun _ => Triple.pure _ fun _ hc => hc.1
  | cons l ls ih =>
    intro n hfresh
    unfold Spec.peekLoop
    refine Triple.bind (matchAny_rule hk _ (fun k _ => h k) _ (hfresh 0 (Nat.zero_le _))) fun r => ?_
    obtain ⟨b, t1⟩ := r
    refine Triple.pre_fact (fun c hc => ⟨hc.2, hc.1⟩) fun ht1 => ?_
    dsimp only
    split
    · exact Inv.pure _
    · refine Triple.bind (matchAny_rule hk _ (fun k _ => h k) _ ht1) fun r => ?_
      obtain ⟨s, t2⟩ := r
      dsimp only
      split
      · refine Triple.pre (ih (n + 1) fun i hi => ?_) fun _ hc => hc.1
        have := hfresh (i + 1) (Nat.succ_le_succ hi)
        rwa [List.getElem?_cons_succ, ← Nat.add_assoc, Nat.add_right_comm] at this
      · exact Triple.pure _ fun _ hc => hc.1

theorem lookaheadPure_rule {P : Ctx → Prop} {E} {Tk : Token → Prop} (hk : TokStable Tk)
    (h : ∀ k t, Tk t → Inv P E (GV.matchP D cap stop k t)) (la : LookAhead)
    (hfresh : ∀ c, P c → ∀ i, i ≤ c.lines.length → Tk { line := c.lines[i]?, lineNo := c.lineNo + 1 + i }) :
    Inv P E (Spec.lookaheadPure D cap stop la) := by
  unfold Spec.lookaheadPure
  refine Triple.bind Triple.get fun c0 => ?_
  exact Triple.pre_fact (fun c hc => ⟨hfresh c0 (hc.1 ▸ hc.2), hc.2⟩) fun hf => peekLoop_rule hk h la _ _ hf

theorem lookaheadLoop_rule {P : Ctx → Prop} {E} (la : LookAhead) (hread : Inv P E readToken)
    (hmatch : ∀ k ∈ la.expected ++ la.skip, ∀ t, Inv P E (matchP D cap stop k t)) (hfuel : ∀ c, P c → E .fuel c) :
    ∀ fuel acc, Inv P E (lookaheadLoop D cap stop la fuel acc) := by
  have hany : ∀ ks, (∀ k ∈ ks, k ∈ la.expected ++ la.skip) → ∀ t, Inv P E (matchAny D cap stop ks t) :=
    fun ks hks t => (matchAny_rule (Tk := fun _ => True) (fun _ _ _ _ h => h) ks
      (fun k hk t _ => hmatch k (hks k hk) t) t trivial).post fun _ _ h => h.1
  intro fuel
  induction fuel with
  | zero => intro acc; exact Triple.throw _ hfuel
  | succ n ih =>
    intro acc
    unfold GV.lookaheadLoop
    refine Inv.bind hread fun t => Inv.bind (hany _ (fun k hk => List.mem_append_left _ hk) _) fun r => ?_
    obtain ⟨m, t1⟩ := r
    dsimp only
    split
    · exact Inv.pure _
    · refine Inv.bind (hany _ (fun k hk => List.mem_append_right _ hk) _) fun r => ?_
      obtain ⟨s, t2⟩ := r
      dsimp only
      split
      · exact ih _
      · exact Inv.pure _

theorem lookahead_rule {P : Ctx → Prop} {E} (la : LookAhead) (hread : Inv P E readToken)
    (hmatch : ∀ k ∈ la.expected ++ la.skip, ∀ t, Inv P E (matchP D cap stop k t))
    (hq : ∀ q c, P c → P { c with queue := c.queue ++ q }) (hfuel : ∀ c, P c → E .fuel c) :
    Inv P E (lookahead D cap stop la) := by
  unfold GV.lookahead
  refine Triple.bind Triple.get fun c0 =>
    Triple.bind ((lookaheadLoop_rule la hread hmatch hfuel _ _).pre fun _ hc => hc.2) fun r => ?_
  exact Triple.bind (Triple.modify _ fun c hc => hq _ c hc) fun _ => Inv.pure _

/-- The tests of one state, in order.  `P`: what holds between two tests; `Tk bs t`: what is known
    of the token `t` in hand and the branches `bs` still to be tried; `Pm b t'`: what holds once the
    test of `b` has matched and made `t'` of the token.  The obligations about the test are those
    of `matchP_rule`.  A failed guard must lead back to `P` and to `Tk` of the rest, which a matching
    test therefore provides whenever `b` is guarded. -/
theorem branches_rule {look : LookAhead → PM Bool} {P : Ctx → Prop} {Tk : List Branch → Token → Prop}
    {Pm : Branch → Token → Ctx → Prop} {Q : Nat → Ctx → Prop} {A E} (row : StateRow)
    (R : Report T.errorCap stop A P E)
    (hyes : ∀ b bs t, Tk (b :: bs) t → ∀ c n, P c → (matchTok D b.kind c.μ t).1.res = .matched →
      Pm b (matchTok D b.kind c.μ t).1.tok { c with μ := (matchTok D b.kind c.μ t).1.μ, calls := n } ∧
      (b.guard ≠ none → Tk bs (matchTok D b.kind c.μ t).1.tok))
    (hno : ∀ b bs t, Tk (b :: bs) t → ∀ c n, P c → (matchTok D b.kind c.μ t).1.res ≠ .matched →
      P { c with μ := (matchTok D b.kind c.μ t).1.μ, calls := n } ∧ Tk bs (matchTok D b.kind c.μ t).1.tok)
    (hraise : ∀ b bs t, Tk (b :: bs) t → ∀ c n e, P c → (matchTok D b.kind c.μ t).1.res = .raised e →
      A e { c with μ := (matchTok D b.kind c.μ t).1.μ, calls := n })
    (hlook : ∀ b bs t t' i la, Tk (b :: bs) t → b.guard = some i → T.lookaheads[i]? = some la →
      Triple (Pm b t') (look la) (fun ok c => bif ok then Pm b t' c else P c) E)
    (hnola : ∀ b bs t t' i w c, Tk (b :: bs) t → b.guard = some i → T.lookaheads[i]? = none → Pm b t' c →
      E (.crash w) c)
    (hprods : ∀ b bs t t', Tk (b :: bs) t →
      Triple (Pm b t') (runProds T.errorCap stop t' b.prods) (fun _ => Q b.target) E)
    (htail : ∀ t, Tk [] t → Triple P (tryBranches D T stop row [] t) Q E) :
    ∀ bs t, Tk bs t → Triple P (tryBranchesX (GV.matchP D T.errorCap stop) look (GV.runProd T.errorCap stop) T
      (tryBranches D T stop row []) bs t) Q E := by
  intro bs
  induction bs with
  | nil => exact htail
  | cons b bs ih =>
    intro t ht
    unfold tryBranchesX
    refine Triple.bind (matchP_rule (Py := fun t' c => Pm b t' c ∧ (b.guard ≠ none → Tk bs t')) (Tn := Tk bs) R b.kind t
      (hyes b bs t ht) (hno b bs t ht) (hraise b bs t ht)) fun r => ?_
    obtain ⟨m, t'⟩ := r
    cases m with
    | false =>
      simp only [Bool.false_eq_true, if_false]
      exact Triple.pre_fact (fun c hc => ⟨hc.2, hc.1⟩) (ih t')
    | true =>
      simp only [if_true]
      refine Triple.pre_fact (fun c hc => ⟨hc.2, hc.1⟩) fun hnext => ?_
      have cont : ∀ ok : Bool, (ok = false → b.guard ≠ none) →
          Triple (fun c => bif ok then Pm b t' c else P c)
            (if ok = true then do
                runProdsX (GV.runProd T.errorCap stop t') b.prods
                pure b.target
              else tryBranchesX (GV.matchP D T.errorCap stop) look (GV.runProd T.errorCap stop) T
                (tryBranches D T stop row []) bs t') Q E := by
        intro ok hok
        cases ok with
        | false =>
          simp only [Bool.false_eq_true, if_false]
          exact ih t' (hnext (hok rfl))
        | true =>
          simp only [if_true]
          rw [← runProds_eq_X]
          exact Triple.bind (hprods b bs t t' ht) fun _ => Triple.pure _ fun _ h => h
      unfold guardX
      split
      · exact Triple.pure_bind (cont true fun h => nomatch h)
      · next i hg =>
        have hne : b.guard ≠ none := by rw [hg]; exact fun h => nomatch h
        split
        · next la hla => exact Triple.bind (hlook b bs t t' i la ht hg hla) fun ok => cont ok fun _ => hne
        · next hla => exact Triple.throw_bind _ _ fun c hc => hnola b bs t t' i _ c ht hg hla hc

theorem matchToken_rule {P : Ctx → Prop} {Q : Nat → Ctx → Prop} {E} (s : Nat) (t : Token)
    (hrow : ∀ row, T.row? s = some row → Triple P (tryBranches D T stop row row.branches t) Q E)
    (hcrash : ∀ w c, T.row? s = none → P c → E (.crash w) c) : Triple P (matchToken D T stop s t) Q E := by
  unfold GV.matchToken
  split
  · next row h => exact hrow row h
  · next h => exact Triple.throw _ fun c => hcrash _ c h

theorem matchTokenPure_rule {P : Ctx → Prop} {Q : Nat → Ctx → Prop} {E} (s : Nat) (t : Token)
    (hrow : ∀ row, T.row? s = some row → Triple P (tryBranchesPure D T stop row row.branches t) Q E)
    (hcrash : ∀ w c, T.row? s = none → P c → E (.crash w) c) : Triple P (matchTokenPure D T stop s t) Q E := by
  unfold Spec.matchTokenPure
  split
  · next row h => exact hrow row h
  · next h => exact Triple.throw _ fun c => hcrash _ c h

/-- the body of `parse` with the AST builder around any main loop: `parseBody` is it by
    `parseBody_eq_X`, `parseBodyPure` by `rfl` -/
abbrev bodyA (T : Table) (stop : Bool) (loop : PM Nat) : PM Doc :=
  bodyX (modify fun c => { c with β := c.β.startRule T.startRule }) loop
    (GV.runProd T.errorCap stop default (.end_ T.startRule)) astResult

theorem body_rule {P0 P1 P3 : Ctx → Prop} {P2 : Nat → Ctx → Prop} {E} {loop : PM Nat}
    (hstart : ∀ c, P0 c → P1 { c with β := c.β.startRule T.startRule })
    (hloop : Triple P1 loop P2 E)
    (hend : ∀ s, Triple (P2 s) (GV.runProd T.errorCap stop default (.end_ T.startRule)) (fun _ => P3) E)
    (hcomp : ∀ c, P3 c → c.errors ≠ [] → E (.composite c.errors) c)
    (hcrash : ∀ w c, P3 c → c.errors = [] → (∀ d, c.β.result ≠ .ok (some d)) → E (.crash w) c) :
    Triple P0 (bodyA T stop loop) (fun d c => P3 c ∧ c.errors = [] ∧ c.β.result = .ok (some d)) E := by
  unfold bodyA bodyX finishX astResult
  refine Triple.bind (Triple.modify _ hstart) fun _ => Triple.bind hloop fun s => Triple.bind (hend s) fun _ => ?_
  refine Triple.bind Triple.get fun c0 => ?_
  dsimp only
  split
  · next hne =>
    refine Triple.throw_bind _ _ fun c hc => ?_
    obtain ⟨rfl, hc⟩ := hc
    exact hcomp _ hc fun h0 => by simp [h0] at hne
  · next hne =>
    have he : c0.errors = [] := by
      cases he : c0.errors with
      | nil => rfl
      | cons a l => simp [he] at hne
    refine Triple.pure_bind ?_
    split
    · next d hd => exact Triple.pure _ fun c hc => by obtain ⟨rfl, hc⟩ := hc; exact ⟨hc, he, hd⟩
    · next hd => exact Triple.throw _ fun c hc => hc.1 ▸ hcrash _ _ (hc.1 ▸ hc.2) he fun d h => by rw [hd] at h; cases h
    · next hd => exact Triple.throw _ fun c hc => hc.1 ▸ hcrash _ _ (hc.1 ▸ hc.2) he fun d h => by rw [hd] at h; cases h
    · next e hd => exact absurd hd (result_not_ast _ _)

theorem body_ok {loop : PM Nat} {p : Ctx} {d : Doc} {c' : Ctx} (h : run (bodyA T stop loop) p = (.ok d, c')) :
    ∃ s c1, run loop { p with β := p.β.startRule T.startRule } = (.ok s, c1) ∧
      run (GV.runProd T.errorCap stop default (.end_ T.startRule)) c1 = (.ok (), c') ∧
      c'.errors = [] ∧ c'.β.result = .ok (some d) := by
  have key := body_rule (T := T) (stop := stop) (loop := loop) (E := fun _ _ => True) (P0 := fun c => c = p)
    (P1 := fun c => c = { p with β := p.β.startRule T.startRule })
    (P2 := fun s c => run loop { p with β := p.β.startRule T.startRule } = (.ok s, c))
    (P3 := fun c => ∃ s c1, run loop { p with β := p.β.startRule T.startRule } = (.ok s, c1) ∧
      run (GV.runProd T.errorCap stop default (.end_ T.startRule)) c1 = (.ok (), c))
    (fun c hc => by rw [hc])
    (Triple.intro fun c r c1 hc hr => by
      subst hc
      cases r with
      | ok s => exact hr
      | error a => trivial)
    (fun s => Triple.intro fun c r c2 hc hr => by
      cases r with
      | ok u => exact ⟨s, c, hc, hr⟩
      | error a => trivial)
    (fun _ _ _ => trivial) fun _ _ _ _ _ => trivial
  obtain ⟨⟨s, c1, h1, h2⟩, he, hres⟩ := key.elim rfl h
  exact ⟨s, c1, h1, h2, he, hres⟩

end rules

/-- what the scanner-side primitives must satisfy for `P`/`E` to go through a look-ahead -/
structure PrimsL (D : List Dialect) (cap : Nat) (stop : Bool) (P : Ctx → Prop) (E : Abort → Ctx → Prop) : Prop where
  readToken : Inv P E readToken
  matchP : ∀ k t, Inv P E (matchP D cap stop k t)
  modQ : ∀ q c, P c → P { c with queue := c.queue ++ q }
  fuel : ∀ c, P c → E .fuel c

/-- what the primitive operations must satisfy for `P`/`E` to go through the whole parse loop -/
structure Prims (D : List Dialect) (T : Table) (stop : Bool) (P : Ctx → Prop) (E : Abort → Ctx → Prop) : Prop
    extends PrimsL D T.errorCap stop P E where
  runProd : ∀ t p, Inv P E (runProd T.errorCap stop t p)
  modR : ∀ n c, P c → P { c with reads := c.reads ++ [n] }
  crash : ∀ w c, P c → E (.crash w) c
  tail : ∀ row t, Inv P E (tryBranches D T stop row [] t)

section generic
variable {D : List Dialect} {T : Table} {cap : Nat} {stop : Bool} {P : Ctx → Prop} {E : Abort → Ctx → Prop}

theorem Inv.matchAny (h : ∀ k t, Inv P E (matchP D cap stop k t)) (ks : List Kind) (t : Token) :
    Inv P E (matchAny D cap stop ks t) := Triple.matchAny (I := fun _ => P) h ks t

theorem PrimsL.matchAny (h : PrimsL D cap stop P E) (ks : List Kind) (t : Token) :
    Inv P E (GV.matchAny D cap stop ks t) := Inv.matchAny h.matchP ks t

theorem PrimsL.lookaheadLoop (h : PrimsL D cap stop P E) (la : LookAhead) (fuel : Nat) (acc : List Token) :
    Inv P E (lookaheadLoop D cap stop la fuel acc) :=
  lookaheadLoop_rule la h.readToken (fun k _ => h.matchP k) h.fuel fuel acc

theorem PrimsL.lookahead (h : PrimsL D cap stop P E) (la : LookAhead) :
    Inv P E (lookahead D cap stop la) :=
  lookahead_rule la h.readToken (fun k _ => h.matchP k) h.modQ h.fuel

theorem Inv.runProds {t : Token} (ps : List Prod) (h : ∀ p ∈ ps, Inv P E (runProd cap stop t p)) :
    Inv P E (runProds cap stop t ps) := by
  induction ps with
  | nil => exact Inv.pure _
  | cons p ps ih =>
    exact Inv.bind (h p (List.mem_cons_self ..)) fun _ => ih fun p hp => h p (List.mem_cons_of_mem _ hp)

theorem Prims.matchAny (h : Prims D T stop P E) (ks : List Kind) (t : Token) :
    Inv P E (GV.matchAny D T.errorCap stop ks t) := h.toPrimsL.matchAny ks t

theorem Prims.lookahead (h : Prims D T stop P E) (la : LookAhead) :
    Inv P E (GV.lookahead D T.errorCap stop la) := h.toPrimsL.lookahead la

theorem Prims.runProds (h : Prims D T stop P E) (t : Token) (ps : List Prod) :
    Inv P E (runProds T.errorCap stop t ps) := by
  exact Inv.runProds ps fun p _ => h.runProd t p

/-- what one `match_token` needs: the look-aheads are a field, so that they may be proved for those
    of the table only; no fuel clause -/
structure PrimsT (D : List Dialect) (T : Table) (stop : Bool) (P : Ctx → Prop) (E : Abort → Ctx → Prop) : Prop where
  matchP : ∀ k t, Inv P E (GV.matchP D T.errorCap stop k t)
  lookahead : ∀ (i : Nat) (la : LookAhead), T.lookaheads[i]? = some la → Inv P E (GV.lookahead D T.errorCap stop la)
  runProd : ∀ t p, Inv P E (GV.runProd T.errorCap stop t p)
  crash : ∀ w c, P c → E (.crash w) c
  tail : ∀ row t, Inv P E (GV.tryBranches D T stop row [] t)

theorem Prims.toPrimsT (h : Prims D T stop P E) : PrimsT D T stop P E :=
  { matchP := h.matchP, lookahead := fun _ la _ => h.lookahead la, runProd := h.runProd,
    crash := h.crash, tail := h.tail }

/-- The tests of a state under one invariant `I t` that may mention the token in hand; the
    obligations are triples of the primitives.  (`branches_rule` is the finer rule: its obligations
    are about `matchTok`, and what holds once a test has matched may differ from branch to branch.) -/
theorem Triple.tryBranches {look : LookAhead → PM Bool} {I : Token → Ctx → Prop} {Post : Nat → Ctx → Prop}
    (hmatch : ∀ k t, Triple (I t) (matchP D T.errorCap stop k t) (fun r => I r.2) E)
    (hla : ∀ (i : Nat) (la : LookAhead) t, T.lookaheads[i]? = some la → Inv (I t) E (look la))
    (hcrash : ∀ w t c, I t c → E (.crash w) c) (row : StateRow)
    (htail : ∀ t, Triple (I t) (GV.tryBranches D T stop row [] t) Post E) (bs : List Branch)
    (hfire : ∀ b ∈ bs, ∀ t, Triple (I t) (runProds T.errorCap stop t b.prods) (fun _ => Post b.target) E)
    (t : Token) :
    Triple (I t) (tryBranchesX (GV.matchP D T.errorCap stop) look (GV.runProd T.errorCap stop) T
      (GV.tryBranches D T stop row []) bs t) Post E := by
  induction bs generalizing t with
  | nil => exact htail t
  | cons b bs ih =>
    have ih := ih fun b hb => hfire b (List.mem_cons_of_mem _ hb)
    unfold tryBranchesX
    refine Triple.bind (hmatch _ _) fun r => ?_
    obtain ⟨m, t'⟩ := r
    dsimp only
    split
    · have cont : ∀ ok : Bool, Triple (I t') (if ok = true then do
            runProdsX (GV.runProd T.errorCap stop t') b.prods
            Pure.pure b.target
          else tryBranchesX (GV.matchP D T.errorCap stop) look (GV.runProd T.errorCap stop) T
            (GV.tryBranches D T stop row []) bs t') Post E := by
        intro ok
        split
        · rw [← runProds_eq_X]
          exact Triple.bind (hfire b (List.mem_cons_self ..) t') fun _ => Triple.pure _ fun _ h => h
        · exact ih _
      unfold guardX
      split
      · exact Triple.bind (Inv.pure _) cont
      · split
        · rename_i hla'
          exact Triple.bind (hla _ _ _ hla') cont
        · exact Triple.throw_bind _ _ (hcrash _ _)
    · exact ih _

theorem PrimsT.tryBranches (h : PrimsT D T stop P E) (row : StateRow) (bs : List Branch) (t : Token) :
    Inv P E (tryBranches D T stop row bs t) := by
  rw [tryBranches_eq_X]
  exact Triple.tryBranches (I := fun _ => P) h.matchP (fun i la _ => h.lookahead i la) (fun w _ => h.crash w) row
    (h.tail row) bs (fun _ _ t => Inv.runProds _ fun p _ => h.runProd t p) t

theorem PrimsT.matchToken (h : PrimsT D T stop P E) (state : Nat) (t : Token) :
    Inv P E (matchToken D T stop state t) := by
  unfold GV.matchToken
  split
  · exact h.tryBranches _ _ _
  · exact Triple.throw _ (h.crash _)

theorem Prims.tryBranches (h : Prims D T stop P E) (row : StateRow) (bs : List Branch) (t : Token) :
    Inv P E (tryBranches D T stop row bs t) := h.toPrimsT.tryBranches row bs t

theorem Prims.matchToken (h : Prims D T stop P E) (state : Nat) (t : Token) :
    Inv P E (matchToken D T stop state t) := h.toPrimsT.matchToken state t

/-- `H n s` at the head with fuel `n` in state `s`, `M n s t` once the token `t` has been read and
    recorded, `Done` when the end-of-file token has been handled -/
theorem Triple.parseLoop {H : Nat → Nat → Ctx → Prop} {M : Nat → Nat → Token → Ctx → Prop}
    {Done : Nat → Ctx → Prop} (hfuel : ∀ s c, H 0 s c → E .fuel c)
    (hread : ∀ n s, Triple (H (n + 1) s) readToken
      (fun t c => M n s t { c with reads := c.reads ++ [t.lineNo] }) E)
    (hstep : ∀ n s t, Triple (M n s t) (matchToken D T stop s t)
      (fun s' c => if t.eof then Done s' c else H n s' c) E) (fuel state : Nat) :
    Triple (H fuel state) (GV.parseLoop D T stop fuel state) Done E := by
  induction fuel generalizing state with
  | zero => exact Triple.throw _ (hfuel state)
  | succ n ih =>
    unfold GV.parseLoop
    refine Triple.bind (hread n state) fun t => ?_
    refine Triple.bind (Q := fun _ => M n state t) (Triple.modify _ fun c hc => hc) fun _ => ?_
    refine Triple.bind (hstep n state t) fun s' => ?_
    split
    · exact Triple.pure _ fun _ hc => hc
    · exact ih s'

theorem Prims.parseLoop (h : Prims D T stop P E) (fuel state : Nat) :
    Inv P E (parseLoop D T stop fuel state) :=
  Triple.parseLoop (H := fun _ _ => P) (M := fun _ _ _ => P) (Done := fun _ => P) (fun _ => h.fuel)
    (fun _ _ => Triple.conseq h.readToken (fun _ hc => hc) (fun t c hc => h.modR t.lineNo c hc) fun _ _ he => he)
    (fun _ s t => Triple.conseq (h.matchToken s t) (fun _ hc => hc) (fun _ _ hc => by split <;> exact hc)
      fun _ _ he => he) fuel state

theorem Triple.parseBody {P L Done Fin : Ctx → Prop} {n : Nat}
    (hstart : ∀ c, P c → L { c with β := c.β.startRule T.startRule })
    (hloop : Triple L (GV.parseLoop D T stop (n + 2) 0) (fun _ => Done) E)
    (hend : Triple Done (runProd T.errorCap stop default (.end_ T.startRule)) (fun _ => Fin) E)
    (hcomp : ∀ c, Fin c → c.errors ≠ [] → E (.composite c.errors) c) (hcrash : ∀ w c, Fin c → E (.crash w) c) :
    Triple P (GV.parseBody D T stop n)
      (fun d c => Fin c ∧ c.errors = [] ∧ c.β.result = .ok (some d)) E :=
  body_rule (loop := GV.parseLoop D T stop (n + 2) 0) hstart hloop (fun _ => hend) hcomp fun w c h _ _ => hcrash w c h

theorem Prims.parseBody (h : Prims D T stop P E)
    (modB : ∀ r c, P c → P { c with β := c.β.startRule r })
    (hcomp : ∀ c, P c → c.errors ≠ [] → E (.composite c.errors) c) (n : Nat) :
    Triple P (parseBody D T stop n) (fun _ c => P c ∧ c.errors = []) E :=
  Triple.conseq (Triple.parseBody (modB _) (h.parseLoop _ _) (h.runProd _ _) hcomp h.crash)
    (fun _ hc => hc) (fun _ _ hc => ⟨hc.1, hc.2.1⟩) fun _ _ he => he

theorem Prims.of_errOnly
    (hdep : ∀ c c' : Ctx, c'.errors = c.errors → c'.unexpected = c.unexpected → P c → P c')
    (hadd : stop = false → ∀ e, Inv P E (addError T.errorCap e))
    (hsingle : stop = true → ∀ e c, P c → E (.single e) c)
    (hcrash : ∀ w c, P c → E (.crash w) c) (hfuel : ∀ c, P c → E .fuel c)
    (htail : ∀ row t, Inv P E (GV.tryBranches D T stop row [] t)) : Prims D T stop P E :=
  have R : Report T.errorCap stop (fun _ => P) P E := ⟨fun hs e c h => hsingle hs e c h, hadd⟩
  have same : ∀ {c c' : Ctx}, P c → c'.errors = c.errors → c'.unexpected = c.unexpected → P c' :=
    fun h h1 h2 => hdep _ _ h1 h2 h
  { modQ := fun _ _ h => same h rfl rfl
    fuel := hfuel
    readToken := Triple.intro fun c r c' hc hr => by
      rw [run_readToken] at hr
      split at hr
      · cases hr; exact same hc rfl rfl
      · split at hr <;> (cases hr; exact same hc rfl rfl)
    matchP := fun k t => matchP_inv_rule R k t (fun _ _ hc => same hc rfl rfl) fun _ _ _ hc _ => same hc rfl rfl
    runProd := fun t p => runProd_rule R t p fun c hc => by
      cases p with
      | start r => exact same hc rfl rfl
      | end_ r =>
        dsimp only
        split
        · exact same hc rfl rfl
        · exact same hc rfl rfl
        · exact hcrash _ _ (same hc rfl rfl)
      | build =>
        dsimp only
        split
        · exact same hc rfl rfl
        · exact fun w => hcrash w c hc
    modR := fun _ _ h => same h rfl rfl
    crash := hcrash
    tail := htail }

end generic

/-- Footprints, by what writes them: `E` `add_error`; `M` a test (matcher state, calls, errors); `L` a
    look-ahead (also the queue and the scanner); `B` a production other than `build` (builder, ids,
    errors); `B'` any production (also `builds`). -/
def FootE (c0 c : Ctx) : Prop := ∃ es, c = { c0 with errors := es }
def FootM (c0 c : Ctx) : Prop := ∃ μ n es, c = { c0 with μ := μ, calls := n, errors := es }
def FootL (c0 c : Ctx) : Prop :=
  ∃ μ n es q ls ln, c = { c0 with μ := μ, calls := n, errors := es, queue := q, lines := ls, lineNo := ln }
def FootB (c0 c : Ctx) : Prop := ∃ β i es, c = { c0 with β := β, ids := i, errors := es }
def FootB' (c0 c : Ctx) : Prop := ∃ β i es b, c = { c0 with β := β, ids := i, errors := es, builds := b }

theorem FootE.refl (c : Ctx) : FootE c c := ⟨_, rfl⟩
theorem FootM.refl (c : Ctx) : FootM c c := ⟨_, _, _, rfl⟩
theorem FootL.refl (c : Ctx) : FootL c c := ⟨_, _, _, _, _, _, rfl⟩
theorem FootB.refl (c : Ctx) : FootB c c := ⟨_, _, _, rfl⟩
theorem FootB'.refl (c : Ctx) : FootB' c c := ⟨_, _, _, _, rfl⟩
theorem FootM.trans {a b c : Ctx} (h1 : FootM a b) (h2 : FootM b c) : FootM a c := by
  obtain ⟨_, _, _, rfl⟩ := h1; obtain ⟨_, _, _, rfl⟩ := h2; exact ⟨_, _, _, rfl⟩
theorem FootL.trans {a b c : Ctx} (h1 : FootL a b) (h2 : FootL b c) : FootL a c := by
  obtain ⟨_, _, _, _, _, _, rfl⟩ := h1; obtain ⟨_, _, _, _, _, _, rfl⟩ := h2; exact ⟨_, _, _, _, _, _, rfl⟩
theorem FootB.trans {a b c : Ctx} (h1 : FootB a b) (h2 : FootB b c) : FootB a c := by
  obtain ⟨_, _, _, rfl⟩ := h1; obtain ⟨_, _, _, rfl⟩ := h2; exact ⟨_, _, _, rfl⟩
theorem FootB'.trans {a b c : Ctx} (h1 : FootB' a b) (h2 : FootB' b c) : FootB' a c := by
  obtain ⟨_, _, _, _, rfl⟩ := h1; obtain ⟨_, _, _, _, rfl⟩ := h2; exact ⟨_, _, _, _, rfl⟩
theorem FootE.toM {a b : Ctx} (h : FootE a b) : FootM a b := by obtain ⟨_, rfl⟩ := h; exact ⟨_, _, _, rfl⟩
theorem FootE.toB {a b : Ctx} (h : FootE a b) : FootB a b := by obtain ⟨_, rfl⟩ := h; exact ⟨_, _, _, rfl⟩
theorem FootM.toL {a b : Ctx} (h : FootM a b) : FootL a b := by
  obtain ⟨_, _, _, rfl⟩ := h; exact ⟨_, _, _, _, _, _, rfl⟩
theorem FootB.toB' {a b : Ctx} (h : FootB a b) : FootB' a b := by
  obtain ⟨_, _, _, rfl⟩ := h; exact ⟨_, _, _, _, rfl⟩

def ScanEq (c c' : Ctx) : Prop := c'.queue = c.queue ∧ c'.lines = c.lines ∧ c'.lineNo = c.lineNo

theorem ScanEq.rfl' (c : Ctx) : ScanEq c c := ⟨rfl, rfl, rfl⟩
theorem FootM.scan {c c' : Ctx} (h : FootM c c') : ScanEq c c' := by
  obtain ⟨_, _, _, rfl⟩ := h; exact ⟨rfl, rfl, rfl⟩
theorem FootB'.scan {c c' : Ctx} (h : FootB' c c') : ScanEq c c' := by
  obtain ⟨_, _, _, _, rfl⟩ := h; exact ⟨rfl, rfl, rfl⟩
theorem ScanEq.trans {a b c : Ctx} (h1 : ScanEq a b) (h2 : ScanEq b c) : ScanEq a c :=
  ⟨h2.1.trans h1.1, h2.2.1.trans h1.2.1, h2.2.2.trans h1.2.2⟩

theorem Inv.of_foot {α} (R : Ctx → Ctx → Prop) (htrans : ∀ a b c, R a b → R b c → R a c) {m : PM α}
    (h : ∀ c r c', run m c = (r, c') → R c c') (c0 : Ctx) : Inv (R c0) (fun _ => R c0) m :=
  Inv.of_run fun _ _ _ hr hc => htrans _ _ _ hc (h _ _ _ hr)

theorem foot_of_inv {α} (R : Ctx → Ctx → Prop) (hrefl : ∀ c, R c c) {m : PM α}
    (h : ∀ c0, Inv (R c0) (fun _ => R c0) m) : ∀ c r c', run m c = (r, c') → R c c' := by
  intro c r c' hr
  cases r with
  | ok a => exact ((h c) c (hrefl c)).1 _ _ hr
  | error e => exact ((h c) c (hrefl c)).2 _ _ hr

theorem readToken_foot (c : Ctx) (r : Except Abort Token) (c' : Ctx) (h : run readToken c = (r, c')) :
    FootL c c' := by
  rw [run_readToken] at h
  split at h
  · cases h; exact ⟨_, _, _, _, _, _, rfl⟩
  · split at h <;> (cases h; exact ⟨_, _, _, _, _, _, rfl⟩)

theorem addError_foot (cap : Nat) (e : PErr) (c : Ctx) (r : Except Abort Unit) (c' : Ctx)
    (h : run (addError cap e) c = (r, c')) : FootE c c' := by
  rcases addError_cases h with ⟨rfl, -⟩ | ⟨rfl, -⟩ <;> exact ⟨_, rfl⟩

theorem matchP_foot (D : List Dialect) (cap : Nat) (stop : Bool) (k : Kind) (t : Token) (c : Ctx)
    (r : Except Abort (Bool × Token)) (c' : Ctx) (h : run (matchP D cap stop k t) c = (r, c')) : FootM c c' := by
  obtain ⟨es, rfl⟩ := matchP_state h
  exact ⟨_, _, _, rfl⟩

theorem liftB_foot (cap : Nat) (stop : Bool) (x : Except BErr Unit) (c : Ctx) (r : Except Abort Unit) (c' : Ctx)
    (h : run (liftB cap stop x) c = (r, c')) : FootE c c' := by
  rw [run_liftB] at h
  split at h
  · cases h; exact FootE.refl _
  · cases h; exact FootE.refl _
  · split at h
    · cases h; exact FootE.refl _
    · exact addError_foot _ _ _ _ _ h

theorem tail_spec (D : List Dialect) (T : Table) (stop : Bool) (row : StateRow) (t : Token) {c : Ctx}
    {r : Except Abort Nat} {c' : Ctx} (h : run (tryBranches D T stop row [] t) c = (r, c')) :
    (∃ es un, c' = { c with errors := es, unexpected := un }) ∧ ∀ s, r = .ok s → s = row.errTarget := by
  rw [tryBranches, prun_bind, run_modify] at h
  dsimp only at h
  split at h
  · rw [prun_throw] at h; cases h
    exact ⟨⟨_, _, rfl⟩, fun s hs => by cases hs⟩
  · rw [prun_bind] at h
    rcases hr : run (addError T.errorCap (unexpectedErr row t)) _ with ⟨r2, c2⟩
    rw [hr] at h
    obtain ⟨es, hes⟩ := addError_foot _ _ _ _ _ hr
    cases r2 with
    | ok _ =>
      dsimp only at h
      rw [prun_pure] at h; cases h
      exact ⟨⟨_, _, hes⟩, fun s hs => by cases hs; rfl⟩
    | error e => cases h; exact ⟨⟨_, _, hes⟩, fun s hs => by cases hs⟩

theorem runProd_foot (cap : Nat) (stop : Bool) (t : Token) (p : Prod) (hp : p ≠ .build) (c : Ctx)
    (r : Except Abort Unit) (c' : Ctx) (h : run (runProd cap stop t p) c = (r, c')) : FootB c c' := by
  rw [run_runProd] at h
  split at h
  · cases h; exact ⟨_, _, _, rfl⟩
  · obtain ⟨es, rfl⟩ := liftB_foot _ _ _ _ _ _ h
    exact ⟨_, _, _, rfl⟩
  · exact absurd rfl hp

theorem runProd_foot' (cap : Nat) (stop : Bool) (t : Token) (p : Prod) (c : Ctx)
    (r : Except Abort Unit) (c' : Ctx) (h : run (runProd cap stop t p) c = (r, c')) : FootB' c c' := by
  by_cases hp : p = .build
  · subst hp
    rw [run_runProd] at h
    dsimp only at h
    split at h
    · cases h; exact ⟨_, _, _, _, rfl⟩
    · obtain ⟨es, rfl⟩ := liftB_foot _ _ _ _ _ _ h
      exact ⟨_, _, _, _, rfl⟩
  · exact (runProd_foot cap stop t p hp c r c' h).toB'

theorem matchAny_foot (D : List Dialect) (cap : Nat) (stop : Bool) (ks : List Kind) (t : Token) :
    ∀ c r c', run (matchAny D cap stop ks t) c = (r, c') → FootM c c' :=
  foot_of_inv FootM FootM.refl fun c0 =>
    Inv.matchAny (fun k t => Inv.of_foot FootM (fun _ _ _ => FootM.trans) (matchP_foot D cap stop k t) c0) ks t

theorem lookahead_foot (D : List Dialect) (cap : Nat) (stop : Bool) (la : LookAhead) :
    ∀ c r c', run (lookahead D cap stop la) c = (r, c') → FootL c c' :=
  foot_of_inv FootL FootL.refl fun c0 =>
    PrimsL.lookahead
      { readToken := Inv.of_foot FootL (fun _ _ _ => FootL.trans) readToken_foot c0
        matchP := fun k t => Inv.of_foot FootL (fun _ _ _ => FootL.trans) (fun c r c' h => (matchP_foot D cap stop k t c r c' h).toL) c0
        modQ := fun q c h => by obtain ⟨_, _, _, _, _, _, rfl⟩ := h; exact ⟨_, _, _, _, _, _, rfl⟩
        fuel := fun c h => h } la

theorem runProds_foot' (cap : Nat) (stop : Bool) (t : Token) (ps : List Prod) :
    ∀ c r c', run (runProds cap stop t ps) c = (r, c') → FootB' c c' :=
  foot_of_inv FootB' FootB'.refl fun c0 =>
    Inv.runProds ps fun p _ => Inv.of_foot FootB' (fun _ _ _ => FootB'.trans) (runProd_foot' cap stop t p) c0

theorem runProds_foot (cap : Nat) (stop : Bool) (t : Token) (ps : List Prod) (hps : ∀ p ∈ ps, p ≠ .build) :
    ∀ c r c', run (runProds cap stop t ps) c = (r, c') → FootB c c' :=
  foot_of_inv FootB FootB.refl fun c0 =>
    Inv.runProds ps fun p hp => Inv.of_foot FootB (fun _ _ _ => FootB.trans) (runProd_foot cap stop t p (hps p hp)) c0

end Lemmas
end GV
