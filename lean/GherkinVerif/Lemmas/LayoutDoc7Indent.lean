/-
  Lemmas/LayoutDoc7Indent.lean — property C16, a doc string moving as one block: the matcher.

  One test on a line `s` under the matcher state `μ` and on the moved line `ws ++ s` under
  `shiftMu d μ`, `d` the shift of the open doc string (`matchTok_blk`):
    * `Other` on a line moved by exactly `d` yields the same text (`lineText_indent`) — column 1 in
      both runs; on a line moved by another amount it is the escape (`BadPair7`);
    * every other test goes in two steps.  Same matcher state, `s` against `ws ++ s`
      (`matchTok_blk0`): the outcome is renamed, an opening `DocStringSeparator` records an
      indentation larger by `ws.length`, a closing one resets it alike (`nextShift`); `Comment`
      and `Language` on a moved line are the escape.  Same token, `μ` against `shiftMu d μ`
      (`matchTok_shiftMu`): the test does not look at `indentToRemove`, and `DocStringSeparator`
      overwrites it on a match.
-/
import GherkinVerif.Lemmas.LayoutDoc4Indent
import GherkinVerif.Lemmas.LayoutDoc7Builder
import GherkinVerif.Spec.LayoutChecks5
namespace GV
namespace Layout7
open Lemmas Spec Layout3 Layout4

def shiftMu (d : Nat) (μ : MState) : MState := { μ with indentToRemove := μ.indentToRemove + d }

theorem shiftMu_zero (μ : MState) : shiftMu 0 μ = μ := by cases μ; rfl

theorem shiftMu_of_muShift {d : Nat} {ν ν' : MState} (h : MuShift d ν ν') : ν' = shiftMu d ν := by
  obtain ⟨h1, h2, h3, h4, h5⟩ := h
  cases ν; cases ν'
  simp only at h1 h2 h3 h4 h5
  subst h1 h2 h3 h4 h5
  rfl

theorem indentableB_eq (K : Kind) : Spec.indentableB K = indentable K := by cases K <;> rfl

theorem shiftMu_dialect (d : Nat) (μ : MState) : (shiftMu d μ).dialect = μ.dialect := rfl
theorem shiftMu_activeSep (d : Nat) (μ : MState) : (shiftMu d μ).activeSep = μ.activeSep := rfl

theorem setMatched_shiftMu (d : Nat) (μ : MState) (t : Token) (ty : Kind) (text keyword : Option Str)
    (ktype : Option KType) (indent : Option Nat) (items : List (Nat × Str)) :
    setMatched (shiftMu d μ) t ty text keyword ktype indent items = setMatched μ t ty text keyword ktype indent items :=
  rfl

theorem matchTitle_shiftMu (d : Nat) (μ : MState) (t : Token) (l : Str) (ty : Kind) (kws : List Str) :
    matchTitle (shiftMu d μ) t l ty kws = matchTitle μ t l ty kws := rfl

theorem matchDocSep_shiftMu (d : Nat) (μ : MState) (t : Token) (l sep : Str) (o : Bool) :
    matchDocSep (shiftMu d μ) t l sep o = matchDocSep μ t l sep o := rfl

theorem matchLine_shiftMu (D : List Dialect) (K : Kind) (μ : MState) (t : Token) (l : Str) (d : Nat)
    (hK : K ≠ .Other) :
    matchLine D K (shiftMu d μ) t l =
      ⟨(matchLine D K μ t l).tok,
        if K = .DocStringSeparator ∧ isMatched (matchLine D K μ t l).res = true then (matchLine D K μ t l).μ
        else shiftMu d (matchLine D K μ t l).μ,
        (matchLine D K μ t l).res⟩ := by
  by_cases hS : K = .DocStringSeparator
  · subst hS
    simp only [matchLine, matchDocSep_shiftMu, shiftMu_activeSep, true_and]
    split <;> rfl
  · rw [if_neg fun h => hS h.1]
    cases K with
    | Other => exact absurd rfl hK
    | DocStringSeparator => exact absurd rfl hS
    | EOF => rfl
    | FeatureLine | RuleLine | BackgroundLine | ExamplesLine =>
      simp only [matchLine, matchTitle_shiftMu, shiftMu_dialect]
      cases matchTitle μ t l _ _ <;> rfl
    | ScenarioLine =>
      simp only [matchLine, matchTitle_shiftMu, shiftMu_dialect]
      cases matchTitle μ t l _ μ.dialect.scenario with
      | some x => rfl
      | none => cases matchTitle μ t l _ _ <;> rfl
    | TableRow | Comment | Empty =>
      simp only [matchLine, setMatched_shiftMu]
      split <;> rfl
    | StepLine =>
      simp only [matchLine, setMatched_shiftMu, shiftMu_dialect]
      cases List.find? _ _ <;> rfl
    | Language =>
      simp only [matchLine, setMatched_shiftMu]
      cases languageRe _ with
      | none => rfl
      | some name => dsimp only; cases findDialect D name <;> rfl
    | TagLine =>
      simp only [matchLine, setMatched_shiftMu]
      split
      · cases lineTags l <;> rfl
      · rfl

theorem matchTok_shiftMu (D : List Dialect) (K : Kind) (μ : MState) (t : Token) (d : Nat) (hK : K ≠ .Other) :
    matchTok D K (shiftMu d μ) t =
      (⟨(matchTok D K μ t).1.tok,
        if K = .DocStringSeparator ∧ isMatched (matchTok D K μ t).1.res = true then (matchTok D K μ t).1.μ
        else shiftMu d (matchTok D K μ t).1.μ,
        (matchTok D K μ t).1.res⟩, (matchTok D K μ t).2) := by
  cases hl : t.line with
  | some l => rw [matchTok_line hl, matchTok_line hl, matchLine_shiftMu D K μ t l d hK]
  | none =>
    simp only [matchTok_of_eof hl]
    by_cases hE : K = .EOF
    · subst hE; rfl
    · have hb : (K == .EOF) = false := by simpa using hE
      simp only [hb, Bool.false_eq_true, ↓reduceIte]
      rw [if_neg fun h => nomatch h.2]

theorem other_blk_text (D : List Dialect) (μ : MState) (t1 t2 : Token) (s ws : Str) (hws : AllSpace ws) :
    (matchLine D .Other (shiftMu ws.length μ) t2 (ws ++ s)).tok.text = (matchLine D .Other μ t1 s).tok.text := by
  simp only [matchLine, shiftMu, setMatched, lineText_indent hws]

/-- tokens the builder may be handed: as in `Layout3.BuildOK`, or two `Other` tokens with the same text -/
def BuildOK7 (w : Nat → Nat) (t1 t2 : Token) : Prop :=
  BuildOK w t1 t2 ∨ (t1.mtype = some .Other ∧ t2.mtype = some .Other ∧ t2.text = t1.text)

/-- both tokens have been matched as the same kind, and the first is on a line that may not be
    moved the way it is while the shift of the open doc string is `d` -/
def BadPair7 (w : Nat → Nat) (d : Nat) (t1 t2 : Token) : Prop :=
  ∃ K, t1.mtype = some K ∧ t2.mtype = some K ∧ blockTokOk w d t1 = false ∧
    (K = .Comment → t1.text.isSome = true ∧ t2.text.isSome = true)

/-- the second outcome is the renamed first one; the matcher states differ by the shift of the open
    doc string, before (`d`) and after -/
structure GoodOut7 (w : Nat → Nat) (d : Nat) (K : Kind) (o1 o2 : MOut) : Prop where
  res : o2.res = mapRes (indentMap w) o1.res
  μ : o2.μ = shiftMu (if isMatched o1.res = true then nextShift w d o1.tok else d) o1.μ
  tok : isMatched o1.res = false → TokInd w o1.tok o2.tok
  build : isMatched o1.res = true → BuildOK7 w o1.tok o2.tok
  tokS : isMatched o1.res = true → K ∈ Spec.structural → TokInd w o1.tok o2.tok
  mtype : isMatched o1.res = true → o1.tok.mtype = some K

def BadOut7 (w : Nat → Nat) (d : Nat) (K : Kind) (o1 o2 : MOut) : Prop :=
  o1.res = .matched ∧ o2.res = .matched ∧ BadPair7 w d o1.tok o2.tok ∧ indentable K = false ∧
  (K ≠ .Language → o2.μ = shiftMu d o1.μ)

theorem nextShift_of_ne {w : Nat → Nat} {d : Nat} {t : Token} {K : Kind} (h : t.mtype = some K)
    (hK : K ≠ .DocStringSeparator) : nextShift w d t = d := by
  unfold nextShift
  rw [h]
  cases K <;> first | rfl | exact absurd rfl hK

theorem nextShift_docsep {w : Nat → Nat} (d : Nat) {t : Token} (h : t.mtype = some .DocStringSeparator) :
    nextShift w d t = if t.text.isSome = true then w (t.lineNo - 1) else 0 := by
  unfold nextShift
  rw [h]

theorem nextShift_zero {w : Nat → Nat} {t : Token} (h0 : w (t.lineNo - 1) = 0) : nextShift w 0 t = 0 := by
  unfold nextShift
  split
  · rw [h0]; exact ite_self 0
  · rfl

theorem blockTokOk_of_ne {w : Nat → Nat} (d : Nat) {t : Token} {K : Kind} (h : t.mtype = some K) (hK : K ≠ .Other) :
    blockTokOk w d t = blockTokOk w 0 t := by
  unfold blockTokOk
  rw [h]
  cases K <;> first | rfl | exact absurd rfl hK

theorem res_matched_of {r : MRes} (h : isMatched r = true) : r = .matched := by
  cases r <;> first | rfl | cases h

theorem goodOut7_no {w : Nat → Nat} {t1 t2 : Token} (ht : TokInd w t1 t2) (μ : MState) (d : Nat) (K : Kind) :
    GoodOut7 w d K ⟨t1, μ, .no⟩ ⟨t2, shiftMu d μ, .no⟩ :=
  ⟨rfl, rfl, fun _ => ht, nofun, nofun, nofun⟩

/-- from equal matcher states to states that differ by `d`, for a test other than `Other`: what
    `matchTok_shiftMu` makes of the second outcome -/
theorem GoodOut7.shift {w : Nat → Nat} {K : Kind} {o1 o2 : MOut} (d : Nat) (hK : K ≠ .Other)
    (h : GoodOut7 w 0 K o1 o2) :
    GoodOut7 w d K o1
      ⟨o2.tok, if K = .DocStringSeparator ∧ isMatched o2.res = true then o2.μ else shiftMu d o2.μ, o2.res⟩ := by
  have hm2 : isMatched o2.res = isMatched o1.res := by rw [h.res]; cases o1.res <;> rfl
  refine ⟨h.res, ?_, h.tok, h.build, h.tokS, h.mtype⟩
  show (if K = .DocStringSeparator ∧ isMatched o2.res = true then o2.μ else shiftMu d o2.μ) = _
  rw [h.μ, hm2]
  cases hm : isMatched o1.res with
  | false =>
    simp only [Bool.false_eq_true, and_false, ↓reduceIte]
    rw [shiftMu_zero]
  | true =>
    simp only [and_true, ↓reduceIte]
    by_cases hS : K = .DocStringSeparator
    · subst hS
      rw [if_pos rfl, nextShift_docsep 0 (h.mtype hm), nextShift_docsep d (h.mtype hm)]
    · rw [if_neg hS, nextShift_of_ne (h.mtype hm) hS, nextShift_of_ne (h.mtype hm) hS, shiftMu_zero]

theorem BadOut7.shift {w : Nat → Nat} {K : Kind} {o1 o2 : MOut} (d : Nat) (hK : K ≠ .Other)
    (hmt : o1.tok.mtype = some K) (h : BadOut7 w 0 K o1 o2) :
    BadOut7 w d K o1
      ⟨o2.tok, if K = .DocStringSeparator ∧ isMatched o2.res = true then o2.μ else shiftMu d o2.μ, o2.res⟩ := by
  obtain ⟨m1, m2, ⟨K', k1, k2, hb, htxt⟩, hi, hμ⟩ := h
  have hS : K ≠ .DocStringSeparator := by
    rintro rfl
    unfold blockTokOk at hb
    rw [hmt] at hb
    cases hb
  refine ⟨m1, m2, ⟨K', k1, k2, by rw [blockTokOk_of_ne d hmt hK]; exact hb, htxt⟩, hi, fun hL => ?_⟩
  show (if K = .DocStringSeparator ∧ isMatched o2.res = true then o2.μ else shiftMu d o2.μ) = _
  rw [if_neg fun h => hS h.1, hμ hL, shiftMu_zero]

theorem matchTok_blk0 (w : Nat → Nat) (D : List Dialect) (K : Kind) (μ : MState) (hO : K ≠ .Other) {t1 t2 : Token}
    (ht : TokInd w t1 t2) :
    (matchTok D K μ t1).2 = (matchTok D K μ t2).2 ∧
    (GoodOut7 w 0 K (matchTok D K μ t1).1 (matchTok D K μ t2).1 ∨
      BadOut7 w 0 K (matchTok D K μ t1).1 (matchTok D K μ t2).1) := by
  rcases ht with ⟨rfl, ⟨h0, hl⟩ | ⟨hl, hc⟩⟩ | ⟨s, ws, hs1, hs2, hws, hne, hlen, hno, hfld⟩
  · -- the same line, not moved: the same outcome
    have h0' : w ((matchTok D K μ t2).1.tok.lineNo - 1) = 0 := by rw [matchTok_lineNo']; exact h0
    have same : TokInd w (matchTok D K μ t2).1.tok (matchTok D K μ t2).1.tok :=
      .inl ⟨rfl, .inl ⟨h0', by rw [matchTok_line']; exact hl⟩⟩
    refine ⟨rfl, .inl ⟨(mapRes_id_of_zero h0).symm, ?_, fun _ => same,
      fun hm => .inl (.inl (tokMap_refl_of_zero h0' (matchTok_matched_col0 D K μ t2 (res_matched_of hm)))),
      fun _ _ => same, fun hm => matchTok_matched_mtype D K μ t2 (res_matched_of hm)⟩⟩
    rw [nextShift_zero h0', ite_self, shiftMu_zero]
  · -- the end-of-file token
    simp only [matchTok_of_eof hl]
    by_cases hE : K = .EOF
    · subst hE
      exact ⟨trivial, .inl ⟨rfl, rfl, nofun, fun _ => .inl (.inr ⟨.EOF, rfl, rfl, rfl⟩),
        fun _ h => absurd h (by decide), fun _ => rfl⟩⟩
    · have hb : (K == .EOF) = false := by simpa using hE
      simp only [hb, Bool.false_eq_true, ↓reduceIte]
      exact ⟨trivial, .inl (goodOut7_no (.inl ⟨rfl, .inr ⟨hl, hc⟩⟩) μ 0 K)⟩
  · -- a line and the same line moved right
    have ht : TokInd w t1 t2 := .inr ⟨s, ws, hs1, hs2, hws, hne, hlen, hno, hfld⟩
    have hres : shiftRes ws.length (matchTok D K μ t1).1.res = mapRes (indentMap w) (matchTok D K μ t1).1.res :=
      mapRes_of_shift hlen
    rw [matchTok_line hs1] at hres
    rw [matchTok_line hs1, matchTok_line hs2]
    refine ⟨rfl, ?_⟩
    dsimp only at hres ⊢
    have hpos : 0 < w (t1.lineNo - 1) := by rw [← hlen]; exact List.length_pos_iff.2 hne
    have hln1 : (matchLine D K μ t1 s).tok.lineNo = t1.lineNo := (matchLine_tok D K μ t1 s).2
    -- tokens the test has moved alike are related again
    have moved : TokShift ws.length (matchLine D K μ t1 s).tok (matchLine D K μ t2 (ws ++ s)).tok →
        (∃ i, (matchLine D K μ t1 s).tok.col = some (i + 1)) →
        TokInd w (matchLine D K μ t1 s).tok (matchLine D K μ t2 (ws ++ s)).tok := fun hsh hcol =>
      .inr ⟨s, ws, by rw [(matchLine_tok D K μ t1 s).1, hs1], by rw [(matchLine_tok D K μ t2 _).1, hs2], hws, hne,
        by rw [hln1]; exact hlen, by rw [hln1, (matchLine_tok D K μ t2 _).2, hno], .inr ⟨hsh, hcol⟩⟩
    -- a test that fails on both and is not `Language` leaves both tokens alone
    have hunm : K ≠ .Language → isMatched (matchLine D K μ t1 s).res = false →
        (matchLine D K μ t2 (ws ++ s)).res = shiftRes ws.length (matchLine D K μ t1 s).res →
        TokInd w (matchLine D K μ t1 s).tok (matchLine D K μ t2 (ws ++ s)).tok := by
      intro hK hm hr
      have hm2 : isMatched (matchLine D K μ t2 (ws ++ s)).res = false := by rw [hr, isMatched_shiftRes]; exact hm
      rcases matchLine_unmatched_tok D K μ t1 s hm with h1 | ⟨h1, -⟩
      · rcases matchLine_unmatched_tok D K μ t2 _ hm2 with h2 | ⟨h2, -⟩
        · rw [h1, h2]; exact ht
        · exact absurd h2 hK
      · exact absurd h1 hK
    -- `Comment`, `Language` succeeding on the moved line: the escape
    have bad : indentable K = false → K ≠ .DocStringSeparator →
        (matchLine D K μ t1 s).res = .matched → (matchLine D K μ t2 (ws ++ s)).res = .matched →
        (K ≠ .Language → (matchLine D K μ t2 (ws ++ s)).μ = (matchLine D K μ t1 s).μ) →
        BadOut7 w 0 K (matchLine D K μ t1 s) (matchLine D K μ t2 (ws ++ s)) := by
      intro hi hS m1 m2 hμ
      have f1 := matchLine_fresh D K μ t1 s m1
      have f2 := matchLine_fresh D K μ t2 _ m2
      refine ⟨m1, m2, ⟨K, f1.1, f2.1, ?_, fun hc => ⟨f1.2.2.1 hc, f2.2.2.1 hc⟩⟩, hi,
        fun hL => by rw [hμ hL, shiftMu_zero]⟩
      have hw : (w (t1.lineNo - 1) == 0) = false := by simp only [beq_eq_false_iff_ne, ne_eq]; omega
      unfold blockTokOk
      rw [f1.1, hln1]
      cases K <;> first
        | exact absurd rfl hO
        | exact absurd rfl hS
        | (show (w (t1.lineNo - 1) == 0 || _) = false; rw [hw]; rfl)
        | cases hi
    -- the structural kinds: the renamed outcome; a delimiter records its own indentation
    have hstruct : K ∈ Spec.structural →
        GoodOut7 w 0 K (matchLine D K μ t1 s) (matchLine D K μ t2 (ws ++ s)) := by
      intro hK
      have hKL : K ≠ .Language := by rintro rfl; revert hK; decide
      obtain ⟨R1, R2, R3, -⟩ := shift_struct D hK μ hs1 hs2 hno hws
      cases hm : isMatched (matchLine D K μ t1 s).res with
      | true =>
        have m1 := res_matched_of hm
        have hfr := matchLine_fresh D K μ t1 s m1
        refine ⟨by rw [R1, hres], ?_, fun h => Bool.noConfusion (hm.symm.trans h),
          fun _ => .inl (.inl (tokMap_of_shift (R3 hm) (by rw [hln1]; exact hlen) hfr.2.1
            (matchLine_matched_col0 D K μ t1 s m1))),
          fun _ _ => moved (R3 hm) hfr.2.2.2, fun _ => hfr.1⟩
        rw [shiftMu_of_muShift R2, hm]
        by_cases hS : K = .DocStringSeparator
        · subst hS
          rw [nextShift_docsep 0 hfr.1, docsep_text D μ t1 s m1, hln1, hlen]
          simp only [true_and, ↓reduceIte]
        · rw [nextShift_of_ne hfr.1 hS]
          simp only [hS, false_and, ↓reduceIte]
      | false =>
        refine ⟨by rw [R1, hres], ?_, fun _ => hunm hKL hm R1, fun h => Bool.noConfusion (hm.symm.trans h),
          fun h => Bool.noConfusion (hm.symm.trans h), fun h => Bool.noConfusion (hm.symm.trans h)⟩
        rw [shiftMu_of_muShift R2, hm]
        simp only [Bool.false_eq_true, false_and, and_false, ↓reduceIte]
    cases K with
    | Other => exact absurd rfl hO
    | FeatureLine | RuleLine | BackgroundLine | ScenarioLine | ExamplesLine | StepLine | TagLine | TableRow
    | DocStringSeparator => exact .inl (hstruct (by decide))
    | EOF => exact .inl (goodOut7_no ht μ 0 _)
    | Language =>
      obtain ⟨R1, R2, R3, R4⟩ := shift_language D μ hs1 hs2 hno hws
      cases hm : isMatched (matchLine D .Language μ t1 s).res with
      | true =>
        have m1 := res_matched_of hm
        exact .inr (bad rfl (by decide) m1 (by rw [R1, m1]; rfl) fun h => absurd rfl h)
      | false =>
        refine .inl ⟨by rw [R1, hres], by rw [R2, hm]; exact (shiftMu_zero _).symm, fun _ => ?_,
          fun h => Bool.noConfusion (hm.symm.trans h), fun h => Bool.noConfusion (hm.symm.trans h), fun h => Bool.noConfusion (hm.symm.trans h)⟩
        rcases R4 hm with ⟨h1, h2⟩ | ⟨hsh, hcol⟩
        · rw [h1, h2]; exact ht
        · exact moved hsh hcol
    | Empty =>
      have he : lineIsEmpty (ws ++ s) = lineIsEmpty s := by unfold lineIsEmpty; rw [trimmed_indent hws]
      simp only [matchLine, he]
      split
      · exact .inl ⟨rfl, rfl, nofun, fun _ => .inl (.inr ⟨.Empty, rfl, rfl, rfl⟩),
          fun _ h => absurd h (by decide), fun _ => rfl⟩
      · exact .inl (goodOut7_no ht μ 0 _)
    | Comment =>
      by_cases hc : lineStartsWith s [35] = true
      · refine .inr (bad rfl (by decide) ?_ ?_ fun _ => ?_) <;>
          simp only [matchLine, lineStartsWith_indent hws, hc, ↓reduceIte]
      · have e1 : matchLine D .Comment μ t1 s = ⟨t1, μ, .no⟩ := by simp only [matchLine, hc]; rfl
        have e2 : matchLine D .Comment μ t2 (ws ++ s) = ⟨t2, μ, .no⟩ := by
          simp only [matchLine, lineStartsWith_indent hws, hc]; rfl
        rw [e1, e2]
        exact .inl (goodOut7_no ht μ 0 _)

theorem matchTok_blk (w : Nat → Nat) (D : List Dialect) (K : Kind) (μ : MState) (d : Nat) {t1 t2 : Token}
    (ht : TokInd w t1 t2) :
    (matchTok D K μ t1).2 = (matchTok D K (shiftMu d μ) t2).2 ∧
    (GoodOut7 w d K (matchTok D K μ t1).1 (matchTok D K (shiftMu d μ) t2).1 ∨
      BadOut7 w d K (matchTok D K μ t1).1 (matchTok D K (shiftMu d μ) t2).1) := by
  by_cases hO : K = .Other
  · subst hO
    -- a line `s` and the line `ws ++ s` (`ws` possibly empty)
    have key : ∀ s ws, t1.line = some s → t2.line = some (ws ++ s) → AllSpace ws → t2.lineNo = t1.lineNo →
        ws.length = w (t1.lineNo - 1) →
        (matchTok D .Other μ t1).2 = (matchTok D .Other (shiftMu d μ) t2).2 ∧
        (GoodOut7 w d .Other (matchTok D .Other μ t1).1 (matchTok D .Other (shiftMu d μ) t2).1 ∨
          BadOut7 w d .Other (matchTok D .Other μ t1).1 (matchTok D .Other (shiftMu d μ) t2).1) := by
      intro s ws hs1 hs2 hws hno hlen
      rw [matchTok_line hs1, matchTok_line hs2]
      refine ⟨rfl, ?_⟩
      by_cases hd : ws.length = d
      · subst hd
        exact .inl ⟨rfl, rfl, nofun, fun _ => .inr ⟨rfl, rfl, other_blk_text D μ t1 t2 s ws hws⟩,
          fun _ h => absurd h (by decide), fun _ => rfl⟩
      · refine .inr ⟨rfl, rfl, ⟨.Other, rfl, rfl, ?_, nofun⟩, rfl, fun _ => rfl⟩
        show (w (t1.lineNo - 1) == d) = false
        rw [← hlen]
        simpa using hd
    rcases ht with ⟨rfl, ⟨h0, hl⟩ | ⟨hl, hc⟩⟩ | ⟨s, ws, hs1, hs2, hws, hne, hlen, hno, hfld⟩
    · cases hline : t2.line with
      | none => exact absurd hline hl
      | some s => exact key s [] hline (by simpa using hline) (fun _ h => by cases h) rfl (by simpa using h0.symm)
    · have e : ∀ ν, matchTok D .Other ν t2 = (⟨t2, ν, .no⟩, false) := fun ν => by rw [matchTok_of_eof hl]; rfl
      rw [e, e]
      exact ⟨rfl, .inl (goodOut7_no (.inl ⟨rfl, .inr ⟨hl, hc⟩⟩) μ d _)⟩
    · exact key s ws hs1 hs2 hws hno hlen
  · obtain ⟨hf, hgb⟩ := matchTok_blk0 w D K μ hO ht
    rw [matchTok_shiftMu D K μ t2 d hO]
    exact ⟨hf, hgb.imp (GoodOut7.shift d hO) fun hb =>
      BadOut7.shift d hO (matchTok_matched_mtype D K μ t1 hb.1) hb⟩

end Layout7
end GV
