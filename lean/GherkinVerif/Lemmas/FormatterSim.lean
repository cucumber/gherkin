/-
  The parse with the AST builder against the parse with the token-formatter builder
  (Model/Formatter.lean), in lock step.

  A simulation between the two runs of the same glue from contexts that agree on everything but
  the builder state and the id counter (`Eqv`):
    * either both runs do the same thing (related results, contexts still `Eqv`),
    * or the AST builder has failed in the first run (`Failed`): it crashed, or raised its
      ragged-table error — in stop mode the run then ends with that error, in collecting mode the
      error list from then on contains an error with the builder's message body (`HasB`, an
      invariant of every glue operation: errors only accumulate).
  The walk through the compound operations is that of Lemmas/RelWalk.lean.
-/
import GherkinVerif.Lemmas.FormatterGlue
import GherkinVerif.Lemmas.TextErrors
import GherkinVerif.Lemmas.StopFirst
namespace GV
namespace Lemmas
namespace Fmt

def wB (c : Ctx) (b : BState) (i : Nat) : Ctx := { c with β := b, ids := i }

/-- same context up to the builder state and the id counter -/
def Eqv (c cF : Ctx) : Prop := ∃ b i, cF = wB c b i

theorem Eqv.ofCtx {c cF : Ctx} (h : Eqv c cF) : CtxF.ofCtx c = CtxF.ofCtx cF := by
  obtain ⟨b, i, rfl⟩ := h; rfl

/-- the error list contains an error with the message body of the builder's error -/
def HasB (c : Ctx) : Prop := ∃ e ∈ c.errors, e.body = RB

def KeepsB {α} (m : PM α) : Prop := ∀ c, HasB c → HasB (run m c).2

theorem addError_hasB (cap : Nat) (e : PErr) : Inv HasB (fun _ => HasB) (addError cap e) := by
  refine Triple.intro fun c r c' hc hr => ?_
  obtain ⟨x, hx, hb⟩ := hc
  obtain ⟨-, -, hcase⟩ := addError_spec hr
  have : HasB c' := by
    rcases hcase with ⟨h1, -⟩ | h1
    · exact ⟨x, by rw [h1]; exact hx, hb⟩
    · exact ⟨x, by rw [h1]; exact List.mem_append_left _ hx, hb⟩
  cases r <;> exact this

theorem addError_good_hasB (cap : Nat) (e : PErr) (he : e.body = RB) (c : Ctx) :
    HasB (run (addError cap e) c).2 := by
  rcases hr : run (addError cap e) c with ⟨r, c'⟩
  obtain ⟨-, -, hcase⟩ := addError_spec hr
  rcases hcase with ⟨h1, e', he', hm⟩ | h1
  · exact ⟨e', by rw [h1]; exact he', (body_of_message hm).trans he⟩
  · exact ⟨e, by rw [h1]; simp, he⟩

theorem hasB_prims (D : List Dialect) (T : Table) (stop : Bool) : Prims D T stop HasB (fun _ => HasB) := by
  refine Prims.of_errOnly (fun c c' h1 _ h => ?_) (fun _ e' => addError_hasB _ e') (fun _ _ _ h => h)
    (fun _ _ h => h) (fun _ h => h) (fun row t => ?_)
  · obtain ⟨e, he, hb⟩ := h
    exact ⟨e, by rw [h1]; exact he, hb⟩
  · unfold GV.tryBranches
    refine Triple.bind (Q := fun _ => HasB) (Triple.modify _ fun c hc => hc) fun _ => ?_
    cases stop
    · exact Inv.bind (addError_hasB _ _) fun _ => Inv.pure _
    · exact Triple.throw _ fun _ h => h

theorem KeepsB.of_inv {α} {m : PM α} (h : Inv HasB (fun _ => HasB) m) : KeepsB m := by
  intro c hc
  rcases hr : run m c with ⟨r, c'⟩
  cases r with
  | ok a => exact (h c hc).1 _ _ hr
  | error a => exact (h c hc).2 _ _ hr

theorem KeepsB.bind {α β} {m : PM α} {f : α → PM β} (h1 : KeepsB m) (h2 : ∀ a, KeepsB (f a)) :
    KeepsB (m >>= f) := by
  intro c hc
  rw [prun_bind]
  have := h1 c hc
  rcases hr : run m c with ⟨r, c'⟩
  rw [hr] at this
  cases r with
  | ok a => exact h2 a c' this
  | error a => exact this

/-- the AST builder has failed in the first run -/
def Failed (x1 _x2 : Option Abort × Ctx) : Prop :=
  HasB x1.2 ∨ match x1.1 with
    | some (.single e) => e.body = RB
    | some (.crash _) => True
    | _ => False

/-- AST-builder run against formatter run (Lemmas/RelWalk.lean): common aborts are equal; the escape
    `Failed` stays taken while the first run keeps `HasB` -/
def fmtWalk : Walk where
  J := Eqv
  A _ := Eqv
  X := Failed
  K1 := KeepsB
  K2 _ := True

theorem fmtWalk_ok : fmtWalk.OK where
  k1 := ⟨fun _ _ h => h, fun _ _ h => h, fun _ h => h, fun _ h => h, KeepsB.bind⟩
  k2 := ⟨fun _ => trivial, fun _ => trivial, trivial, trivial, fun _ _ => trivial⟩
  sticky := fun hk _ m1 m2 c1 c2 h => by
    rw [prun_bind (m := m1)]
    rcases hr : run m1 c1 with ⟨r, c'⟩
    rw [hr] at h
    cases r with
    | ok a => exact h.elim (fun h => .inl (hk a c' h)) fun h => h.elim
    | error a => exact h
  crash _ _ _ h := h
  fuel _ _ h := h
  len _ _ h := by obtain ⟨b, i, rfl⟩ := h; rfl

/-- equal results from contexts that agree up to the builder -/
abbrev Sim {α} (mA mF : PM α) : Prop := SimJ fmtWalk mA mF

theorem Sim.modify (f : Ctx → Ctx) (hf : ∀ c b i, f (wB c b i) = wB (f c) b i) (he : ∀ c, (f c).errors = c.errors) :
    Sim (modify f : PM PUnit) (modify f) := by
  refine ⟨fun c cF hc => .ok ⟨rfl, ?_⟩, fun c hc => ?_, trivial⟩
  · obtain ⟨b, i, rfl⟩ := hc
    exact ⟨b, i, hf c b i⟩
  · obtain ⟨e, h1, h2⟩ := hc
    exact ⟨e, by rw [run_modify]; dsimp only; rw [he]; exact h1, h2⟩

/-- an operation that neither reads nor writes the builder state and the id counter -/
def Frame {α} (m : PM α) : Prop := ∀ c b i, run m (wB c b i) = ((run m c).1, wB (run m c).2 b i)

theorem Sim.of_frame {α} {m : PM α} (h : Frame m) (hk : KeepsB m) : Sim m m := by
  refine ⟨fun c cF hc => ?_, hk, trivial⟩
  obtain ⟨b, i, rfl⟩ := hc
  rw [h]
  rcases run m c with ⟨r, c'⟩
  cases r with
  | ok a => exact .ok ⟨rfl, b, i, rfl⟩
  | error e => exact .err ⟨rfl, b, i, rfl⟩

theorem readToken_frame : Frame readToken := by
  intro c b i
  rw [run_readToken, run_readToken]
  simp only [wB]
  cases c.queue with
  | cons t q => rfl
  | nil => cases c.lines <;> rfl

theorem addError_frame (cap : Nat) (e : PErr) : Frame (addError cap e) := by
  intro c b i
  rw [run_addError, run_addError]
  by_cases h1 : (c.errors.any fun e' => e'.message == e.message) = true
  · have h1' : ((wB c b i).errors.any fun e' => e'.message == e.message) = true := h1
    rw [if_pos h1, if_pos h1']
  · have h1' : ¬ ((wB c b i).errors.any fun e' => e'.message == e.message) = true := h1
    rw [if_neg h1, if_neg h1']
    by_cases h2 : (c.errors ++ [e]).length > cap
    · have h2' : ((wB c b i).errors ++ [e]).length > cap := h2
      rw [if_pos h2, if_pos h2']; rfl
    · have h2' : ¬ ((wB c b i).errors ++ [e]).length > cap := h2
      rw [if_neg h2, if_neg h2']; rfl

theorem matchP_frame_aux (cap : Nat) (e : PErr) (c1 : Ctx) (b : BState) (i : Nat) (tok : Token) :
    (match run (addError cap e) (wB c1 b i) with
      | (.ok _, c2) => ((.ok (false, tok) : Except Abort (Bool × Token)), c2)
      | (.error e, c2) => (.error e, c2)) =
    ((match run (addError cap e) c1 with
      | (.ok _, c2) => ((.ok (false, tok) : Except Abort (Bool × Token)), c2)
      | (.error e, c2) => (.error e, c2)).1,
     wB (match run (addError cap e) c1 with
      | (.ok _, c2) => ((.ok (false, tok) : Except Abort (Bool × Token)), c2)
      | (.error e, c2) => (.error e, c2)).2 b i) := by
  rw [addError_frame]
  rcases run (addError cap e) c1 with ⟨r2, c2⟩
  cases r2 <;> rfl

theorem matchP_frame (D : List Dialect) (cap : Nat) (stop : Bool) (k : Kind) (t : Token) :
    Frame (matchP D cap stop k t) := by
  intro c b i
  rw [run_matchP, run_matchP]
  dsimp only [wB]
  cases (matchTok D k c.μ t).1.res with
  | matched => rfl
  | no => rfl
  | raised e =>
    cases stop
    · exact matchP_frame_aux cap e
        { c with μ := (matchTok D k c.μ t).1.μ,
                 calls := c.calls + (if (matchTok D k c.μ t).2 then 1 else 0) } b i _
    · rfl

theorem Sim.readToken : Sim readToken readToken :=
  Sim.of_frame readToken_frame (KeepsB.of_inv (hasB_prims [] default false).readToken)

section glue
variable (D : List Dialect) (T : Table) (stop : Bool)

theorem matchP_simF (k : Kind) (t : Token) : Sim (matchP D T.errorCap stop k t) (matchP D T.errorCap stop k t) :=
  Sim.of_frame (matchP_frame D _ stop k t) (KeepsB.of_inv ((hasB_prims D T stop).matchP k t))

theorem addError_simF (e : PErr) : Sim (addError T.errorCap e) (addError T.errorCap e) :=
  Sim.of_frame (addError_frame _ e) (KeepsB.of_inv (addError_hasB _ e))

theorem runProd_simF (t : Token) (p : Prod) : Sim (runProd T.errorCap stop t p) (runProdG fmtBuilder t p) := by
  refine ⟨fun c cF hc => ?_, KeepsB.of_inv ((hasB_prims [] T stop).runProd t p), trivial⟩
  rw [run_runProd]
  cases p with
  | start r =>
    obtain ⟨b, i, rfl⟩ := hc
    exact .ok ⟨rfl, _, _, rfl⟩
  | end_ r =>
    dsimp only
    rw [run_liftB]
    cases hr : (c.β.endRule c.ids).1 with
    | ok u =>
      obtain ⟨b, i, rfl⟩ := hc
      exact .ok ⟨rfl, _, _, rfl⟩
    | error e =>
      cases e with
      | crash w => exact .esc (.inr True.intro)
      | ast e =>
        have hg := (endRule_good _ _ _ hr).2
        dsimp only
        cases stop
        · exact .esc (.inl (addError_good_hasB _ e hg _))
        · exact .esc (.inr hg)
  | build =>
    dsimp only
    cases hb : c.β.build t with
    | ok β' =>
      obtain ⟨b, i, rfl⟩ := hc
      exact .ok ⟨rfl, _, _, rfl⟩
    | error e =>
      obtain ⟨w, rfl⟩ := build_error _ _ _ hb
      dsimp only
      rw [run_liftB]
      exact .esc (.inr True.intro)

theorem tail_simF (row : StateRow) (t : Token) :
    Sim (tryBranches D T stop row [] t) (tryBranches D T stop row [] t) := by
  unfold GV.tryBranches
  refine SimR.bind fmtWalk_ok (Sim.modify _ (fun _ _ _ => rfl) fun _ => rfl) fun _ => ?_
  cases stop
  · exact SimR.bind fmtWalk_ok (addError_simF T _) fun _ => SimR.pure fmtWalk_ok rfl
  · exact ⟨fun c cF hc => .err ⟨rfl, hc⟩, fun _ hc => hc, trivial⟩

theorem lookahead_simF (la : LookAhead) : Sim (lookahead D T.errorCap stop la) (lookahead D T.errorCap stop la) :=
  SimJ.lookahead fmtWalk_ok la Sim.readToken (fun k _ => matchP_simF D T stop k)
    fun _ => Sim.modify _ (fun _ _ _ => rfl) fun _ => rfl

theorem tryBranches_simF (row : StateRow) (bs : List Branch) (t : Token) :
    Sim (tryBranches D T stop row bs t) (tryBranchesG fmtBuilder D T stop row bs t) := by
  rw [tryBranches_eq_X, tryBranchesG_eq_X]
  exact SimJ.tryBranchesX fmtWalk_ok (matchP_simF D T stop) (lookahead_simF D T stop) (runProd_simF T stop)
    (tail_simF D T stop row) bs t

theorem parseLoop_simF (fuel state : Nat) :
    Sim (parseLoop D T stop fuel state) (parseLoopG fmtBuilder D T stop fuel state) := by
  rw [parseLoop_eq_X, parseLoopG_eq_X]
  refine SimJ.loopX fmtWalk_ok Sim.readToken (fun _ => Sim.modify _ (fun _ _ _ => rfl) fun _ => rfl) (fun s t => ?_)
    fuel state
  exact SimJ.matchRow fmtWalk_ok s _ fun row => tryBranches_simF D T stop row _ t

/-- whole bodies; the results (a document, a listing) are unrelated -/
theorem parseBody_simF (n : Nat) :
    SimR fmtWalk (fun _ _ => True) (parseBody D T stop n) (parseBodyG fmtBuilder D T stop n) := by
  rw [parseBody_eq_X, parseBodyG_eq_X]
  refine SimR.bodyX fmtWalk_ok ⟨fun c cF hc => .ok ⟨rfl, ?_⟩, fun c hc => hc, trivial⟩
    (parseLoop_simF D T stop _ _) (runProd_simF T stop _ _)
    (SimR.finishX (fun c cF h => ?_) (fun c cF h _ => ?_) (fun c hc => ?_) trivial)
  · obtain ⟨b, i, rfl⟩ := hc
    exact ⟨_, _, rfl⟩
  · obtain ⟨b, i, rfl⟩ := h
    exact ⟨rfl, fun _ => ⟨b, i, rfl⟩⟩
  · -- the formatter returns its listing; the AST builder its document, or it has failed
    have hF : run fmtBuilder.result cF = (.ok (formatListing cF.builds), cF) := rfl
    rw [hF]
    unfold astResult
    split
    · exact .ok ⟨True.intro, h⟩
    · exact .esc (.inr True.intro)
    · exact .esc (.inr True.intro)
    · next e hres => exact absurd hres (result_not_ast _ _)
  · unfold finishX
    rw [prun_bind, run_get]
    dsimp only
    split
    · rw [prun_bind, prun_throw]; exact hc
    · unfold astResult
      split <;> exact hc

end glue

/-- same class of outcome: both accept, or both reject with the same errors in the same way, or
    both crash the same way -/
def SameClass : Outcome → OutcomeF → Prop
  | .ok _, .ok _ => True
  | .rejected es comp, .rejected es' comp' => es = es' ∧ comp = comp'
  | .crash w, .crash w' => w = w'
  | .fuel, .fuel => True
  | _, _ => False

/-- the AST builder has failed in a run with this outcome and final context: a crash, its error in
    the final error list, or (stop mode) its error as the outcome -/
def BuilderFailed (o : Outcome) (c : Ctx) : Prop :=
  (∃ w, o = .crash w) ∨ (∃ e ∈ c.errors, e.body = RB) ∨ (∃ e, o = .rejected [e] false ∧ e.body = RB)

theorem parse_lockstep (D : List Dialect) (T : Table) (stop : Bool) (μ : MState) (ids : Nat) (src : Str) :
    (SameClass (parseWith D T stop μ ids src).1 (parseWithF D T stop μ src).1 ∧
      CtxF.ofCtx (parseWith D T stop μ ids src).2 = (parseWithF D T stop μ src).2) ∨
    BuilderFailed (parseWith D T stop μ ids src).1 (parseWith D T stop μ ids src).2 := by
  have hsim := (parseBody_simF D T stop (splitLines src).length).rel (ctx0 D μ ids src) (ctx0F D μ src)
    ⟨{}, 0, rfl⟩
  rw [parseWith_eq, parseWithF_eq]
  rcases hsim with ⟨d, s, cA, cF, hA, hF, -, he⟩ | ⟨e, _, cA, cF, hA, hF, rfl, he⟩ | hb
  · rw [hA, hF]
    exact .inl ⟨True.intro, he.ofCtx⟩
  · rw [hA, hF]
    refine .inl ?_
    cases e <;> exact ⟨by first | exact ⟨rfl, rfl⟩ | exact rfl | exact True.intro, he.ofCtx⟩
  · refine .inr ?_
    rcases hA : run (parseBody D T stop (splitLines src).length) (ctx0 D μ ids src) with ⟨rA, cA⟩
    rw [hA] at hb
    rcases hb with hb | hb
    · refine .inr (.inl ?_)
      cases rA with
      | ok d => exact hb
      | error e => cases e <;> exact hb
    · cases rA with
      | ok d => exact (hb : False).elim
      | error e =>
        cases e with
        | single e => exact .inr (.inr ⟨e, rfl, hb⟩)
        | composite es => exact (hb : False).elim
        | crash w => exact .inl ⟨w, rfl⟩
        | fuel => exact (hb : False).elim

theorem accepted_same_tokens (D : List Dialect) (T : Table) (stop : Bool) (μ : MState) (ids : Nat) (src : Str)
    (d : Doc) (h : (parseWith D T stop μ ids src).1 = .ok d) :
    (∃ s, (parseWithF D T stop μ src).1 = .ok s) ∧
    (parseWithF D T stop μ src).2 = CtxF.ofCtx (parseWith D T stop μ ids src).2 := by
  have herr : (parseWith D T stop μ ids src).2.errors = [] := by
    rw [parseWith_eq] at h ⊢
    rcases hA : run (parseBody D T stop (splitLines src).length) (ctx0 D μ ids src) with ⟨rA, cA⟩
    rw [hA] at h
    cases rA with
    | ok d' => exact parseBody_ok_errors D T stop μ ids src d' cA hA
    | error e => cases e <;> cases h
  rcases parse_lockstep D T stop μ ids src with ⟨hc, hctx⟩ | ⟨w, hw⟩ | ⟨e, he, -⟩ | ⟨e, he, -⟩
  · refine ⟨?_, hctx.symm⟩
    rw [h] at hc
    cases hF : (parseWithF D T stop μ src).1 with
    | ok s => exact ⟨s, rfl⟩
    | rejected es comp => rw [hF] at hc; exact (hc : False).elim
    | crash w => rw [hF] at hc; exact (hc : False).elim
    | fuel => rw [hF] at hc; exact (hc : False).elim
  · rw [h] at hw; cases hw
  · rw [herr] at he; cases he
  · rw [h] at he; cases he

end Fmt
end Lemmas
end GV
