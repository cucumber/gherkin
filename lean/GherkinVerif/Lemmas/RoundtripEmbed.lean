/-
  Lemmas/RoundtripEmbed.lean — property C03, round trip: each document model is the part of the next
  one without the added element (`toModel2` … `toModel5`): same rendered text, same well-formedness,
  same expected document, same id counter.  The round trip of a model therefore follows from that of
  the next.
-/
import GherkinVerif.Spec.Render5
namespace GV
namespace Lemmas
open Spec

def toStep2 (p : MStep) : MStep2 := ⟨p.kw, p.text, []⟩

def toScenario2 (s : MScenario) : MScenario2 := ⟨s.tags, s.kw, s.name, s.steps.map toStep2⟩

theorem toModel2_eq (m : MFeature) : m.toModel2 = ⟨m.tags, m.kw, m.name, m.scenarios.map toScenario2⟩ := rfl

theorem stepLines2_toStep2 (steps : List MStep) : (steps.map toStep2).flatMap stepLines2 = steps.map stepLineOf := by
  induction steps with
  | nil => rfl
  | cons p steps ih => simp [stepLines2, toStep2, MStep2.core, ih]

theorem stepsLines_toStep2 (steps : List MStep) : stepsLines (steps.map toStep2) = steps.length := by
  induction steps with
  | nil => rfl
  | cons p steps ih => simp_all [stepsLines, stepLineCount, toStep2]; omega

theorem stepsIds_toStep2 (steps : List MStep) : stepsIds (steps.map toStep2) = steps.length := by
  induction steps with
  | nil => rfl
  | cons p steps ih => simp_all [stepsIds, stepIdCount, toStep2]; omega

theorem expSteps2_toStep2 (d : Dialect) (steps : List MStep) (line i : Nat) :
    expSteps2 d line i (steps.map toStep2) = expSteps d line i steps := by
  induction steps generalizing line i with
  | nil => rfl
  | cons p steps ih => simp [expSteps2, expSteps, expStep2, expArg, stepLineCount, stepIdCount, toStep2, ih, Nat.add_comm]

theorem stepOK2_toStep2 (d : Dialect) (p : MStep) : stepOK2 d (toStep2 p) = stepOK d p := by
  simp [stepOK2, tableOK, toStep2, MStep2.core]

theorem scenarioLines2_toScenario2 (s : MScenario) : scenarioLines2 (toScenario2 s) = scenarioLines s := by
  simp [scenarioLines2, scenarioLines, toScenario2, stepLines2_toStep2]

theorem scLines2_toScenario2 (s : MScenario) : scLines2 (toScenario2 s) = scLines s := by
  simp [scLines2, scLines, toScenario2, stepsLines_toStep2]

theorem scIds2_toScenario2 (s : MScenario) : scIds2 (toScenario2 s) = scIds s := by
  simp [scIds2, scIds, toScenario2, stepsIds_toStep2]

theorem expScenario2_toScenario2 (d : Dialect) (line i : Nat) (s : MScenario) :
    expScenario2 d line i (toScenario2 s) = expScenario d line i s := by
  simp [expScenario2, expScenario, toScenario2, stepsIds_toStep2, expSteps2_toStep2]

theorem scenarioOK2_toScenario2 (d : Dialect) (s : MScenario) : scenarioOK2 d (toScenario2 s) = scenarioOK d s := by
  simp [scenarioOK2, scenarioOK, toScenario2, List.all_map, Function.comp_def, stepOK2_toStep2]

theorem expScenarios2_toScenario2 (d : Dialect) (scs : List MScenario) (line i : Nat) :
    expScenarios2 d line i (scs.map toScenario2) = expScenarios d line i scs := by
  induction scs generalizing line i with
  | nil => rfl
  | cons s scs ih => simp [expScenarios2, expScenarios, expScenario2_toScenario2, scLines2_toScenario2, scIds2_toScenario2, ih]

theorem idsOfScenarios2_toScenario2 (scs : List MScenario) : idsOfScenarios2 (scs.map toScenario2) = idsOfScenarios scs := by
  simp [idsOfScenarios2, idsOfScenarios, Function.comp_def, scIds2_toScenario2]

theorem render2_toModel2 (m : MFeature) : render2 m.toModel2 = render m := by
  simp [render2, render, lineBodies2, lineBodies, toModel2_eq, List.flatMap_map, scenarioLines2_toScenario2]

theorem WF2_toModel2 (d : Dialect) (m : MFeature) : WF2 d m.toModel2 = WF d m := by
  simp [WF2, WF, toModel2_eq, List.all_map, Function.comp_def, scenarioOK2_toScenario2]

theorem expectedDoc2_toModel2 (d : Dialect) (lang : Str) (m : MFeature) (i : Nat) :
    expectedDoc2 d lang m.toModel2 i = expectedDoc d lang m i := by
  simp [expectedDoc2, expectedDoc, toModel2_eq, idsOfScenarios2_toScenario2, expScenarios2_toScenario2]

theorem idsAfter2_toModel2 (m : MFeature) (i : Nat) : idsAfter2 m.toModel2 i = idsAfter m i := by
  simp [idsAfter2, idsAfter, toModel2_eq, idsOfScenarios2_toScenario2]

theorem render3_toModel3 (m : MFeature2) : render3 m.toModel3 = render2 m := by
  simp [render3, render2, lineBodies3, lineBodies2, MFeature2.toModel3, bgLinesOf]

theorem WF3_toModel3 (d : Dialect) (m : MFeature2) : WF3 d m.toModel3 = WF2 d m := by
  simp [WF3, WF2, MFeature2.toModel3]

theorem expectedDoc3_toModel3 (d : Dialect) (lang : Str) (m : MFeature2) (i : Nat) :
    expectedDoc3 d lang m.toModel3 i = expectedDoc2 d lang m i := by
  simp [expectedDoc3, expectedDoc2, MFeature2.toModel3, bgIdCount, bgLineCount, expBgChild]

theorem idsAfter3_toModel3 (m : MFeature2) (i : Nat) : idsAfter3 m.toModel3 i = idsAfter2 m i := by
  simp [idsAfter3, idsAfter2, MFeature2.toModel3, bgIdCount]

def toScenario4 (s : MScenario2) : MScenario4 := ⟨s.tags, s.kw, s.name, s.steps, []⟩

theorem toModel4_eq (m : MFeature3) :
    m.toModel4 = ⟨m.tags, m.kw, m.name, m.background, m.scenarios.map toScenario4⟩ := rfl

theorem scenarioLines4_toScenario4 (s : MScenario2) : scenarioLines4 (toScenario4 s) = scenarioLines2 s := by
  simp [scenarioLines4, toScenario4, MScenario4.core]

theorem scLines4_toScenario4 (s : MScenario2) : scLines4 (toScenario4 s) = scLines2 s := by
  simp [scLines4, scLines2, toScenario4, exsLines]

theorem scIds4_toScenario4 (s : MScenario2) : scIds4 (toScenario4 s) = scIds2 s := by
  simp [scIds4, scIds2, toScenario4, exsIds]

theorem expScenario4_toScenario4 (d : Dialect) (line i : Nat) (s : MScenario2) :
    expScenario4 d line i (toScenario4 s) = expScenario2 d line i s := by
  simp [expScenario4, expScenario2, toScenario4, exsIds, expExamplesList]

theorem scenarioOK4_toScenario4 (d : Dialect) (s : MScenario2) : scenarioOK4 d (toScenario4 s) = scenarioOK2 d s := by
  simp [scenarioOK4, toScenario4, MScenario4.core]

theorem expScenarios4_toScenario4 (d : Dialect) (scs : List MScenario2) (line i : Nat) :
    expScenarios4 d line i (scs.map toScenario4) = expScenarios2 d line i scs := by
  induction scs generalizing line i with
  | nil => rfl
  | cons s scs ih => simp [expScenarios4, expScenarios2, expScenario4_toScenario4, scLines4_toScenario4, scIds4_toScenario4, ih]

theorem idsOfScenarios4_toScenario4 (scs : List MScenario2) :
    idsOfScenarios4 (scs.map toScenario4) = idsOfScenarios2 scs := by
  simp [idsOfScenarios4, idsOfScenarios2, Function.comp_def, scIds4_toScenario4]

theorem render4_toModel4 (m : MFeature3) : render4 m.toModel4 = render3 m := by
  simp [render4, render3, lineBodies4, lineBodies3, toModel4_eq, List.flatMap_map, scenarioLines4_toScenario4]

theorem WF4_toModel4 (d : Dialect) (m : MFeature3) : WF4 d m.toModel4 = WF3 d m := by
  simp [WF4, WF3, toModel4_eq, List.all_map, Function.comp_def, scenarioOK4_toScenario4]
  rfl

theorem expectedDoc4_toModel4 (d : Dialect) (lang : Str) (m : MFeature3) (i : Nat) :
    expectedDoc4 d lang m.toModel4 i = expectedDoc3 d lang m i := by
  simp [expectedDoc4, expectedDoc3, toModel4_eq, idsOfScenarios4_toScenario4, expScenarios4_toScenario4]

theorem idsAfter4_toModel4 (m : MFeature3) (i : Nat) : idsAfter4 m.toModel4 i = idsAfter3 m i := by
  simp [idsAfter4, idsAfter3, toModel4_eq, idsOfScenarios4_toScenario4]

theorem render5_toModel5 (m : MFeature4) : render5 m.toModel5 = render4 m := by
  simp [render5, render4, lineBodies5, MFeature4.toModel5, MFeature5.core]

theorem WF5_toModel5 (d : Dialect) (m : MFeature4) : WF5 d m.toModel5 = WF4 d m := by
  simp [WF5, MFeature4.toModel5, MFeature5.core]

theorem expectedDoc5_toModel5 (d : Dialect) (lang : Str) (m : MFeature4) (i : Nat) :
    expectedDoc5 d lang m.toModel5 i = expectedDoc4 d lang m i := by
  simp [expectedDoc5, expectedDoc4, MFeature4.toModel5, expRules, idsOfRules]

theorem idsAfter5_toModel5 (m : MFeature4) (i : Nat) : idsAfter5 m.toModel5 i = idsAfter4 m i := by
  simp [idsAfter5, idsAfter4, MFeature4.toModel5, idsOfRules]

end Lemmas
end GV
