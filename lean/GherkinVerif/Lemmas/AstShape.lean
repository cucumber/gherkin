/-
  Lemmas/AstShape.lean — the shape `Spec.shaped` (which child nodes a node may have, which at
  most once, which before which, which header lines must be there) follows from the grammar:
  `shapeCheck G` is a Boolean check on the right-hand sides of `G` (rules without `!` inlined),
  lifted to all valid derivation trees of `G` by `shaped_of_validTree` (generic in `G`), and
  evaluated by the kernel on the regenerated `Gen.grammar` (`shapeCheck_gen`).
-/
import GherkinVerif.Lemmas.NodeRhs
import GherkinVerif.Gen.Grammar
import GherkinVerif.Lemmas.AstItems
import GherkinVerif.KDecide
namespace GV
namespace Lemmas
open Spec

namespace RE
variable {α : Type} [DecidableEq α]

/-- every word of `r` contains `x` (sound, not complete) -/
def must (x : α) : Spec.RE α → Bool
  | .emp => true
  | .eps => false
  | .sym a => decide (a = x)
  | .cat r s => must x r || must x s
  | .alt r s => must x r && must x s
  | .star _ => false

theorem must_of_lang {x : α} {r : Spec.RE α} {w : List α} (h : Spec.RE.Lang r w) :
    must x r = true → x ∈ w := by
  induction h with
  | eps => intro hm; simp [must] at hm
  | sym a => intro hm; simp only [must, decide_eq_true_eq] at hm; simp [hm]
  | cat _ _ ih1 ih2 =>
    intro hm
    simp only [must, Bool.or_eq_true] at hm
    rw [List.mem_append]
    exact hm.imp ih1 ih2
  | altL _ ih => intro hm; simp only [must, Bool.and_eq_true] at hm; exact ih hm.1
  | altR _ ih => intro hm; simp only [must, Bool.and_eq_true] at hm; exact ih hm.2
  | starNil => intro hm; simp [must] at hm
  | starCons _ _ _ _ => intro hm; simp [must] at hm

end RE

def allRuleTypes : List RuleType :=
  [.None_, .GherkinDocument, .Feature, .FeatureHeader, .Rule, .RuleHeader, .Background,
   .ScenarioDefinition, .Scenario, .ExamplesDefinition, .Examples, .ExamplesTable, .Step,
   .StepArg, .DataTable, .DocString, .Tags, .DescriptionHelper, .Description]

theorem mem_allRuleTypes (r : RuleType) : r ∈ allRuleTypes := by cases r <;> decide

def symNotIgnored (G : Grammar) : Sym → Bool
  | .tok k => !G.ignored.contains k
  | .rule _ => true

/-- the grammar facts behind `Spec.nodeShape`, rule by rule: only allowed nodes and
    element-carrying lines occur in the right-hand side; for an order pair `(a, b)` no `b` can
    stand before an `a` (and neither is an ignorable line); the needed children occur in every
    word -/
def shapeCheckAt (G : Grammar) (r : RuleType) : Bool :=
  ((RE.syms (rhsOf G r)).all fun y =>
    match y with
    | .rule x => (nodeShape r).allowed.contains x
    | .tok k => !elemKinds.contains k || (nodeShape r).lines.contains k) &&
  ((nodeShape r).order.all fun p =>
    symNotIgnored G p.1 && symNotIgnored G p.2 && !(RE.before p.1 (rhsOf G r)).contains p.2) &&
  ((nodeShape r).needs.all fun x => RE.must x (rhsOf G r))

def shapeCheck (G : Grammar) : Bool :=
  (G.ignored.all fun k => !elemKinds.contains k) && allRuleTypes.all (shapeCheckAt G)

theorem kindsList_eq_map (ch : List TTree) : kindsList ch = ch.map TTree.kinds := by
  induction ch with
  | nil => rfl
  | cons c ch ih => rw [kindsList, ih]; rfl

theorem noBefore_of_splits {α} (A B : α → Bool) (l : List α)
    (h : ∀ p y q, l = p ++ y :: q → A y = true → ∀ x ∈ p, B x = false) : noBefore A B l = true := by
  induction l with
  | nil => rfl
  | cons x l ih =>
    rw [noBefore_cons]
    constructor
    · intro hb y hy
      obtain ⟨p, q, rfl⟩ := List.append_of_mem hy
      cases hA : A y with
      | false => rfl
      | true =>
        have := h (x :: p) y q rfl hA x List.mem_cons_self
        rw [hb] at this; cases this
    · exact ih fun p y q e hA z hz => h (x :: p) y q (by rw [e]; rfl) hA z (List.mem_cons_of_mem _ hz)

theorem noBefore_snoc_neutral {α} (A B : α → Bool) (l : List α) (x : α) (hA : A x = false)
    (h : noBefore A B l = true) : noBefore A B (l ++ [x]) = true := by
  induction l with
  | nil =>
    rw [List.nil_append, noBefore_cons]
    refine ⟨fun _ y hy => ?_, rfl⟩
    cases hy
  | cons y l ih =>
    rw [noBefore_cons] at h
    rw [List.cons_append, noBefore_cons]
    refine ⟨fun hb z hz => ?_, ih h.2⟩
    rcases List.mem_append.1 hz with hz | hz
    · exact h.1 hb z hz
    · simp only [List.mem_singleton] at hz; subst hz; exact hA

theorem dropIgnored_sub {G : Grammar} {p p' : List Tree} (h : DropIgnored G p p') : ∀ y ∈ p', y ∈ p := by
  induction h with
  | nil => intro y hy; cases hy
  | keep t _ ih =>
    intro y hy
    cases hy with
    | head => exact List.mem_cons_self
    | tail _ hy' => exact List.mem_cons_of_mem _ (ih y hy')
  | drop k _ _ ih => intro y hy; exact List.mem_cons_of_mem _ (ih y hy)

theorem kinds_node_iff (c : TTree) (r : RuleType) (ts : List Tree) :
    c.kinds = .node r ts → ∃ ch, c = .node r ch := by
  cases c with
  | leaf t => intro h; simp [TTree.kinds] at h
  | node r' ch => intro h; simp only [TTree.kinds, Tree.node.injEq] at h; exact ⟨ch, by rw [h.1]⟩

theorem other_not_needed (r : RuleType) : Sym.tok .Other ∉ (nodeShape r).needs := by
  cases r <;> decide

theorem sym_kinds_of_isSym (c : TTree) (a : Sym) (h : c.isSym a = true) : c.kinds.sym = a := by
  cases c with
  | leaf t =>
    cases a with
    | rule r => simp [TTree.isSym] at h
    | tok k => simp only [TTree.isSym, beq_iff_eq] at h; simp [TTree.kinds, Tree.sym, h]
  | node r' ch =>
    cases a with
    | rule r => simp only [TTree.isSym, beq_iff_eq] at h; simp [TTree.kinds, Tree.sym, h]
    | tok k => simp [TTree.isSym] at h

theorem isSym_of_sym_kinds (c : TTree) (a : Sym) (ha : a ≠ .tok .Other) (h : c.kinds.sym = a) :
    c.isSym a = true := by
  cases c with
  | leaf t =>
    simp only [TTree.kinds, Tree.sym] at h
    subst h
    cases hm : t.mtype with
    | none => rw [hm] at ha; exact absurd rfl ha
    | some k => simp [TTree.isSym, hm]
  | node r' ch =>
    simp only [TTree.kinds, Tree.sym] at h
    subst h; simp [TTree.isSym]

theorem not_ignored_of_sym {G : Grammar} (t : Tree) (a : Sym) (h : t.sym = a) (hn : symNotIgnored G a = true) :
    ∀ k, t = .leaf k → G.ignored.contains k = false := by
  intro k e
  subst e
  simp only [Tree.sym] at h
  subst h
  simpa [symNotIgnored] using hn

theorem nodeOK_of_valid {G : Grammar} (hign : (G.ignored.all fun k => !elemKinds.contains k) = true)
    (r : RuleType) (hc : shapeCheckAt G r = true) (ch : List TTree)
    (kept : List Tree) (hd : DropIgnored G (kindsList ch) kept)
    (hl : Spec.RE.Lang (rhsOf G r) (kept.map Tree.sym)) : nodeOK r ch = true := by
  simp only [shapeCheckAt, Bool.and_eq_true, List.all_eq_true] at hc
  obtain ⟨⟨cal, cord⟩, cnn⟩ := hc
  have hmemk : ∀ c ∈ ch, c.kinds ∈ kindsList ch := fun c hc => by
    rw [kindsList_eq_map]; exact List.mem_map_of_mem hc
  simp only [nodeOK, Bool.and_eq_true, List.all_eq_true]
  refine ⟨⟨?_, ?_⟩, ?_⟩
  · intro c hcm
    cases c with
    | leaf t =>
      cases hm : t.mtype with
      | none => simp only [hm]
      | some k =>
        rcases dropIgnored_mem hd _ (hmemk _ hcm) with hin | ⟨k', hk, hk'⟩
        · have := cal _ (RE.syms_of_lang hl _ (List.mem_map_of_mem hin))
          simpa [TTree.kinds, Tree.sym, hm] using this
        · simp only [TTree.kinds, hm, Option.getD_some, Tree.leaf.injEq] at hk
          subst hk
          have := List.all_eq_true.1 hign k (List.contains_iff_mem.1 hk')
          simp only [hm, this, Bool.true_or]
    | node r' ch' =>
      rcases dropIgnored_mem hd _ (hmemk _ hcm) with hin | ⟨k, hk, _⟩
      · have := cal _ (RE.syms_of_lang hl _ (List.mem_map_of_mem hin))
        simpa [TTree.kinds, Tree.sym] using this
      · simp [TTree.kinds] at hk
  · -- split the children at a `p.1` child `y` with a `p.2` child `x` before it: neither is an ignorable
    -- line, so both survive `DropIgnored`, and `x` before `y` in a word of the right-hand side
    -- contradicts the Boolean check (`RE.before_of_lang`)
    intro p hp
    obtain ⟨⟨hn1, hn2⟩, hbef⟩ := cord p hp
    apply noBefore_of_splits
    intro pre y post hsplit hA x hx
    cases hB : x.isSym p.2 with
    | false => rfl
    | true =>
      exfalso
      have hy := sym_kinds_of_isSym y p.1 hA
      have hxs := sym_kinds_of_isSym x p.2 hB
      have hk : kindsList ch = kindsList pre ++ y.kinds :: kindsList post := by
        rw [hsplit]; simp [kindsList_eq_map]
      rw [hk] at hd
      obtain ⟨p', q', rfl, hp', _⟩ := dropIgnored_split (not_ignored_of_sym _ _ hy hn1) hd
      have hxin : x.kinds ∈ p' := by
        rcases dropIgnored_mem hp' _ (by rw [kindsList_eq_map]; exact List.mem_map_of_mem hx) with h | ⟨k, hk', hk''⟩
        · exact h
        · rw [not_ignored_of_sym _ _ hxs hn2 k hk'] at hk''; cases hk''
      have hw : (p' ++ y.kinds :: q').map Tree.sym = p'.map Tree.sym ++ p.1 :: q'.map Tree.sym := by
        simp [hy]
      rw [hw] at hl
      have hb := RE.before_of_lang hl _ _ rfl _ (List.mem_map_of_mem hxin)
      rw [hxs] at hb
      rw [List.contains_iff_mem.2 hb] at hbef
      cases hbef
  · intro x hx
    have hm := RE.must_of_lang hl (cnn x hx)
    obtain ⟨t, ht, hs⟩ := List.mem_map.1 hm
    have := dropIgnored_sub hd _ ht
    rw [kindsList_eq_map] at this
    obtain ⟨c, hcm, hck⟩ := List.mem_map.1 this
    refine List.any_eq_true.2 ⟨c, hcm, isSym_of_sym_kinds c x ?_ (by rw [hck, hs])⟩
    rintro rfl
    exact other_not_needed r hx

theorem validList_cons_inv {G : Grammar} {t : Tree} {ts : List Tree} (h : ValidList G (t :: ts)) :
    ValidNode G t ∧ ValidList G ts := by
  cases h with
  | cons h1 h2 => exact ⟨h1, h2⟩

mutual
theorem shaped_of_validNode {G : Grammar} (hc : shapeCheck G = true) :
    ∀ t : TTree, ValidNode G t.kinds → shaped t = true
  | .leaf _, _ => rfl
  | .node r ch, hv => by
    rw [TTree.kinds] at hv
    cases hv with
    | node _ _ kept hvl hd hl =>
      rw [← rhsOf_eq] at hl
      rw [shaped, Bool.and_eq_true]
      have hc' := hc
      rw [shapeCheck, Bool.and_eq_true] at hc'
      exact ⟨nodeOK_of_valid hc'.1 r (List.all_eq_true.1 hc'.2 r (mem_allRuleTypes r)) ch kept hd hl,
        shapedList_of_validList hc ch hvl⟩
theorem shapedList_of_validList {G : Grammar} (hc : shapeCheck G = true) :
    ∀ ts : List TTree, ValidList G (kindsList ts) → shapedList ts = true
  | [], _ => rfl
  | c :: ts, hv => by
    rw [kindsList] at hv
    obtain ⟨h1, h2⟩ := validList_cons_inv hv
    rw [shapedList, Bool.and_eq_true]
    exact ⟨shaped_of_validNode hc c h1, shapedList_of_validList hc ts h2⟩
end

theorem shapedList_append (a b : List TTree) : shapedList (a ++ b) = (shapedList a && shapedList b) := by
  induction a with
  | nil => rfl
  | cons c a ih => rw [List.cons_append, shapedList, shapedList, ih, Bool.and_assoc]

theorem eof_not_in_order (r : RuleType) : ∀ p ∈ (nodeShape r).order, p.1 ≠ .tok .EOF := by
  cases r <;> decide

theorem nodeOK_snoc_leaf (r : RuleType) (ch : List TTree) (t : Token) (ht : t.mtype = some .EOF)
    (h : nodeOK r ch = true) : nodeOK r (ch ++ [.leaf t]) = true := by
  simp only [nodeOK, Bool.and_eq_true, List.all_eq_true] at h ⊢
  obtain ⟨⟨h1, h2⟩, h3⟩ := h
  refine ⟨⟨?_, ?_⟩, ?_⟩
  · intro c hc
    rcases List.mem_append.1 hc with hc | hc
    · exact h1 c hc
    · simp only [List.mem_singleton] at hc; subst hc; simp only [ht]; rfl
  · intro p hp
    refine noBefore_snoc_neutral _ _ _ _ ?_ (h2 p hp)
    have := eof_not_in_order r p hp
    cases hp1 : p.1 with
    | rule x => rfl
    | tok k =>
      simp only [TTree.isSym, ht, beq_eq_false_iff_ne, ne_eq, Option.some.injEq]
      rintro rfl; exact this hp1
  · intro x hx
    rw [List.any_append, h3 x hx]; rfl

/-- `ValidTree` is `node start (cs ++ [leaf EOF])` with `ValidNode` of `node start cs` only
    (Spec/Tree.lean): the end-of-file leaf is added to the root afterwards, hence `nodeOK_snoc_leaf`. -/
theorem shaped_of_validTree {G : Grammar} (hc : shapeCheck G = true) (start : RuleType) (t : TTree)
    (hv : ValidTree G start t.kinds) : shaped t = true := by
  obtain ⟨cs, e, hnode⟩ := hv
  cases t with
  | leaf tk => simp [TTree.kinds] at e
  | node r ch =>
    simp only [TTree.kinds, Tree.node.injEq] at e
    obtain ⟨rfl, e⟩ := e
    rw [kindsList_eq_map] at e
    obtain ⟨ch', l, rfl, e1, e2⟩ := List.map_eq_append_iff.1 e
    cases l with
    | nil => simp at e2
    | cons c l =>
      simp only [List.map_cons, List.cons.injEq, List.map_eq_nil_iff] at e2
      obtain ⟨hc1, rfl⟩ := e2
      cases c with
      | node r' ch'' => simp [TTree.kinds] at hc1
      | leaf tk =>
        have hsh : shaped (.node r ch') = true :=
          shaped_of_validNode hc (.node r ch') (by rw [TTree.kinds, kindsList_eq_map, e1]; exact hnode)
        rw [shaped, Bool.and_eq_true] at hsh ⊢
        have hm : tk.mtype = some .EOF := by
          simp only [TTree.kinds, Tree.leaf.injEq] at hc1
          cases hmt : tk.mtype with
          | none => rw [hmt] at hc1; cases hc1
          | some k => rw [hmt] at hc1; simp only [Option.getD_some] at hc1; rw [hc1]
        refine ⟨nodeOK_snoc_leaf r ch' tk hm hsh.1, ?_⟩
        rw [shapedList_append, hsh.2]; rfl

theorem shapeCheck_gen : shapeCheck Gen.grammar = true := by kdecide

theorem shaped_of_valid_gen (t : TTree) (hv : ValidTree Gen.grammar .GherkinDocument t.kinds) :
    GrammarShaped t :=
  shaped_of_validTree shapeCheck_gen _ t hv

theorem doc_not_allowed (r : RuleType) : RuleType.GherkinDocument ∉ (nodeShape r).allowed := by
  cases r <;> decide

def childrenDocFree : TTree → Bool
  | .leaf _ => true
  | .node _ ch => docFreeList ch

theorem docFreeList_of_forall (ts : List TTree) (h : ∀ c ∈ ts, docFree c = true) : docFreeList ts = true := by
  induction ts with
  | nil => rfl
  | cons c ts ih =>
    rw [docFreeList, Bool.and_eq_true]
    exact ⟨h c List.mem_cons_self, ih fun y hy => h y (List.mem_cons_of_mem _ hy)⟩

mutual
theorem childrenDocFree_of_shaped : ∀ t : TTree, shaped t = true → childrenDocFree t = true
  | .leaf _, _ => rfl
  | .node r ch, h => by
    rw [shaped, Bool.and_eq_true] at h
    have hch := childrenDocFree_of_shapedList ch h.2
    simp only [nodeOK, Bool.and_eq_true, List.all_eq_true] at h
    obtain ⟨⟨⟨hal, -⟩, -⟩, -⟩ := h
    rw [childrenDocFree]
    apply docFreeList_of_forall
    intro c hc
    cases c with
    | leaf t => rfl
    | node r' ch' =>
      have h1 := hal _ hc
      have h2 := hch _ hc
      simp only [List.contains_iff_mem] at h1
      rw [childrenDocFree] at h2
      rw [docFree, Bool.and_eq_true]
      refine ⟨?_, h2⟩
      simp only [bne_iff_ne, ne_eq]
      rintro rfl
      exact doc_not_allowed r h1
theorem childrenDocFree_of_shapedList : ∀ ts : List TTree, shapedList ts = true →
    ∀ c ∈ ts, childrenDocFree c = true
  | [], _ => fun _ h => by cases h
  | c :: ts, h => by
    rw [shapedList, Bool.and_eq_true] at h
    intro y hy
    rcases List.mem_cons.1 hy with e | hy
    · rw [e]; exact childrenDocFree_of_shaped c h.1
    · exact childrenDocFree_of_shapedList ts h.2 y hy
end

theorem isDocument_of_shaped (ch : List TTree) (h : shaped (.node .GherkinDocument ch) = true) :
    (TTree.node .GherkinDocument ch).isDocument = true :=
  childrenDocFree_of_shaped _ h

theorem root_of_validTree {G : Grammar} (t : TTree) (hv : ValidTree G .GherkinDocument t.kinds) :
    ∃ ch, t = .node .GherkinDocument ch := by
  obtain ⟨cs, e, -⟩ := hv
  cases t with
  | leaf tk => simp [TTree.kinds] at e
  | node r ch => simp only [TTree.kinds, Tree.node.injEq] at e; exact ⟨ch, by rw [e.1]⟩

end Lemmas
end GV
