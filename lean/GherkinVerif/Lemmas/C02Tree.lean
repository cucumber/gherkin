/-
  Lemmas/C02Tree.lean — the typed-stack check of property C02 on the regenerated table and
  grammar.  `typedCheck` (Lemmas/TypedStack.lean) computes the typing of the states by
  exploration from the start state and verifies it; the kernel evaluates it (`kdecide`).
  `attachCheck` is the fact about the grammar's right-hand sides behind `C02_tags_attach_forward`.
  Nothing here is specific to today's table: the typing is computed, then checked.
-/
import GherkinVerif.Lemmas.TypedStack
import GherkinVerif.Lemmas.TagsAttach
import GherkinVerif.Gen.ParserTable
import GherkinVerif.Gen.Grammar
import GherkinVerif.KDecide
namespace GV.Lemmas

open GV.Spec

theorem typedCheck_gen : typedCheck Gen.grammar Gen.parserTable 100000 = true := by
  kdecide

theorem startRule_gen : Gen.parserTable.startRule = .GherkinDocument := by kdecide

theorem events_valid_tree (ks : List Kind) (h : Kind.EOF ∉ ks) (evs : List Ev)
    (he : eventsAbs Gen.parserTable ks = some evs) :
    ∃ t, treeOf evs = some t ∧ ValidTree Gen.grammar .GherkinDocument t ∧
      ReadsAs (ks ++ [.EOF]) t.leaves := by
  have := events_valid_tree_gen typedCheck_gen ks h evs he
  rwa [startRule_gen] at this

/-- in the grammar's right-hand sides (rules without `!` inlined), `Tags` is preceded by at most
    the `# language` line, is never last, and is followed by what `Spec.tagsAttach` says -/
theorem attachCheck_gen : attachCheck Gen.grammar .Tags tagsAttach [.Language] = true := by
  kdecide

theorem tags_attach_forward {t : Tree} (hv : ValidTree Gen.grammar .GherkinDocument t) :
    TagsAttachForward Gen.grammar t := by
  intro r cs hsub pre ts post hcs
  obtain ⟨hpre, hpost⟩ := attach_tree attachCheck_gen hv r cs hsub pre ts post hcs
  refine ⟨?_, hpost⟩
  intro c hc
  obtain ⟨k, hk, h⟩ := hpre c hc
  exact ⟨k, hk, h.imp (by simp) id⟩

end GV.Lemmas
