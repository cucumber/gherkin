/-
  Lemmas/LayoutDoc3Indent.lean — property C16, indenting lines changes only columns: the matcher on
  a line `s` and on the same line with whitespace in front, `ws ++ s`.  With `f = indentMap w` the
  outcome of a structural test (`shift_struct`) or of `Language` (`shift_language`) on the moved line
  is the `f`-image of the outcome on the original; `Comment` and `Other` keep the indentation in
  the token text, an opening `DocStringSeparator` records it in the matcher state.  Columns start
  at 1 (`Fresh`), which is what keeps `col ≠ 0` under the renaming.
-/
import GherkinVerif.Lemmas.LayoutDoc3
namespace GV
namespace Layout3
open Lemmas Spec

theorem indentMap_loc (w : Nat → Nat) (l : Loc) :
    (indentMap w).loc l = ⟨l.line, l.col.map (· + w (l.line - 1))⟩ := rfl

theorem indentMap_shiftErr (w : Nat → Nat) (e : PErr) :
    mapErr (indentMap w) e = shiftErr (w (e.loc.line - 1)) e := rfl

/-- de-duplication of errors by message is insensitive to the renaming, for errors whose column
    is not 0 -/
theorem indentMap_msg (w : Nat → Nat) (e e' : PErr) (h : e.loc.col ≠ some 0) (h' : e'.loc.col ≠ some 0) :
    ((mapErr (indentMap w) e').message == (mapErr (indentMap w) e).message) = (e'.message == e.message) := by
  have key : (mapErr (indentMap w) e').message = (mapErr (indentMap w) e).message ↔ e'.message = e.message := by
    rw [message_eq_iff, message_eq_iff]
    simp only [mapErr, indentMap_loc]
    constructor
    · rintro ⟨h1, h2, h3⟩
      refine ⟨h1, ?_, h3⟩
      rw [h1] at h2
      revert h2 h h'
      cases e.loc.col <;> cases e'.loc.col <;> simp <;> omega
    · rintro ⟨h1, h2, h3⟩
      refine ⟨h1, ?_, h3⟩
      rw [h1]
      revert h2 h h'
      cases e.loc.col <;> cases e'.loc.col <;> simp <;> omega
  by_cases hm : e'.message = e.message
  · rw [beq_iff_eq.2 hm, beq_iff_eq.2 (key.2 hm)]
  · rw [beq_eq_false_iff_ne.2 hm, beq_eq_false_iff_ne.2 (fun h' => hm (key.1 h'))]

theorem splitCells_pos : ∀ (n : Nat) (row : Str), row.length ≤ n → ∀ (col start : Nat) (cell : Str) (first : Bool),
    1 ≤ start → ∀ p ∈ splitCells row col start cell first, 1 ≤ p.2 := by
  intro n
  induction n with
  | zero =>
    intro row hn col start cell first _ p hp
    have : row = [] := List.eq_nil_of_length_eq_zero (Nat.le_zero.1 hn)
    subst this
    simp [splitCells] at hp
  | succ n ih =>
    intro row hn col start cell first hs p hp
    cases row with
    | nil => simp [splitCells] at hp
    | cons c rest =>
      have hr : rest.length ≤ n := by simp at hn; omega
      unfold splitCells at hp
      split at hp
      · split at hp
        · exact ih rest hr _ _ _ _ (by omega) p hp
        · rcases List.mem_cons.1 hp with rfl | hp
          · exact hs
          · exact ih rest hr _ _ _ _ (by omega) p hp
      · split at hp
        · cases rest with
          | nil => simp at hp
          | cons d rest' =>
            have hr' : rest'.length ≤ n := by simp at hr; omega
            simp only at hp
            split at hp
            · exact ih rest' hr' _ _ _ _ hs p hp
            · split at hp
              · exact ih rest' hr' _ _ _ _ hs p hp
              · exact ih rest' hr' _ _ _ _ hs p hp
        · exact ih rest hr _ _ _ _ hs p hp

theorem tableCells_pos (l : Str) : ∀ it ∈ tableCells l, it.1 ≠ 0 := by
  intro it hit
  unfold tableCells at hit
  obtain ⟨p, hp, rfl⟩ := List.mem_map.1 hit
  have := splitCells_pos _ _ (Nat.le_refl _) 0 1 [] true (Nat.le_refl _) p hp
  obtain ⟨cell, col⟩ := p
  simp only at this ⊢
  omega

theorem tagItems_pos : ∀ (items : List Str) (column : Nat) (ts : List (Nat × Str)),
    tagItems items column = .ok ts → ∀ it ∈ ts, column ≤ it.1 := by
  intro items
  induction items with
  | nil => intro column ts h it hit; cases h; cases hit
  | cons item rest ih =>
    intro column ts h it hit
    unfold tagItems at h
    simp only at h
    split at h
    · cases h
    · cases hr : tagItems rest (column + item.length + 1) with
      | error c => rw [hr] at h; cases h
      | ok ts' =>
        rw [hr] at h
        cases h
        rcases List.mem_cons.1 hit with rfl | hit
        · exact Nat.le_refl _
        · have := ih _ _ hr it hit
          omega

theorem lineTags_pos (l : Str) (ts : List (Nat × Str)) (h : lineTags l = .ok ts) : ∀ it ∈ ts, it.1 ≠ 0 := by
  intro it hit
  unfold lineTags at h
  have := tagItems_pos _ _ _ h it hit
  omega

/-- what the simulation needs of a token that has just been matched as `K` -/
def Fresh (K : Kind) (t : Token) : Prop :=
  t.mtype = some K ∧ (∀ it ∈ t.items, it.1 ≠ 0) ∧ (K = .Comment → t.text.isSome = true) ∧ ∃ i, t.col = some (i + 1)

theorem fresh_setMatched (μ : MState) (t : Token) (K : Kind) (text keyword : Option Str)
    (ktype : Option KType) (indent : Option Nat) (items : List (Nat × Str))
    (hi : ∀ it ∈ items, it.1 ≠ 0) (ht : K = .Comment → text.isSome = true) :
    Fresh K (setMatched μ t K text keyword ktype indent items) := by
  refine ⟨rfl, hi, fun hK => ?_, _, rfl⟩
  have := ht hK
  simp only [setMatched, Option.isSome_map]
  exact this

theorem lineDec_hit_items {D : List Dialect} {k : Kind} {μ : MState} {l : Str} {μs μ' : MState}
    {text kw : Option Str} {kt : Option KType} {ind : Option Nat} {items : List (Nat × Str)}
    (h : lineDec D k μ l = .hit μs text kw kt ind items μ') :
    (∀ it ∈ items, it.1 ≠ 0) ∧ (k = .Comment → text.isSome = true) := by
  have nil0 : ∀ it ∈ ([] : List (Nat × Str)), it.1 ≠ 0 := fun _ h => by cases h
  cases Decides.of_eq h nofun with
  | row => exact ⟨tableCells_pos l, nofun⟩
  | tags _ ht => exact ⟨lineTags_pos l _ ht, nofun⟩
  | comment => exact ⟨nil0, fun _ => rfl⟩
  | title hk => exact ⟨nil0, fun h => by rw [h] at hk; cases hk⟩
  | _ => exact ⟨nil0, nofun⟩

theorem matchLine_fresh (D : List Dialect) (k : Kind) (μ : MState) (t : Token) (l : Str)
    (h : (matchLine D k μ t l).res = .matched) : Fresh k (matchLine D k μ t l).tok := by
  rw [matchLine_eq] at h ⊢
  cases hd : lineDec D k μ l with
  | hit μs text kw kt ind items μ' =>
    obtain ⟨hi, hc⟩ := lineDec_hit_items hd
    exact fresh_setMatched _ _ _ _ _ _ _ _ hi hc
  | no => rw [hd] at h; cases h
  | tagErr c => rw [hd] at h; cases h
  | langErr n => rw [hd] at h; cases h

theorem matchLine_unmatched_tok (D : List Dialect) (k : Kind) (μ : MState) (t : Token) (l : Str)
    (h : isMatched (matchLine D k μ t l).res = false) :
    (matchLine D k μ t l).tok = t ∨
    (k = .Language ∧ ∃ name, (matchLine D k μ t l).tok = setMatched μ t .Language (text := some name)) :=
  Lemmas.matchLine_unmatched_tok D k μ t l fun hm => by rw [hm] at h; cases h

theorem withLine_self {t : Token} {s : Str} (h : t.line = some s) : withLine t s = t := by
  cases t; simp only at h; subst h; rfl

theorem tokSame_withLine_left (t : Token) (l : Str) : TokSame (withLine t l) t :=
  ⟨rfl, rfl, rfl, rfl, rfl, rfl, rfl, rfl, rfl⟩

theorem TokSame.shift {d : Nat} {a b c : Token} (h : TokSame a b) (g : TokShift d b c) : TokShift d a c := by
  obtain ⟨h1, h2, h3, h4, h5, h6, h7, h8, h9⟩ := h
  obtain ⟨g1, g2, g3, g4, g5, g6, g7, g8, g9⟩ := g
  exact ⟨by rw [g1, h1], by rw [g2, h2], by rw [g3, h3], by rw [g4, h4], by rw [g5, h5], by rw [g6, h6],
    by rw [g7, h7], by rw [g8, h8], by rw [g9, h9]⟩

theorem shiftRes_matched {d : Nat} {r : MRes} (h : isMatched r = true) : shiftRes d r = .matched := by
  cases r <;> first | rfl | cases h

theorem isMatched_shiftRes (d : Nat) (r : MRes) : isMatched (shiftRes d r) = isMatched r := by
  cases r <;> rfl

theorem shift_struct (D : List Dialect) {K : Kind} (hK : K ∈ Spec.structural) (μ : MState) {t1 t2 : Token}
    {s ws : Str} (hs1 : t1.line = some s) (hs2 : t2.line = some (ws ++ s)) (hno : t2.lineNo = t1.lineNo)
    (hws : AllSpace ws) :
    (matchLine D K μ t2 (ws ++ s)).res = shiftRes ws.length (matchLine D K μ t1 s).res ∧
    MuShift (if K = .DocStringSeparator ∧ isMatched (matchLine D K μ t1 s).res = true ∧
        (matchLine D K μ t1 s).μ.activeSep.isSome = true then ws.length else 0)
      (matchLine D K μ t1 s).μ (matchLine D K μ t2 (ws ++ s)).μ ∧
    (isMatched (matchLine D K μ t1 s).res = true →
      TokShift ws.length (matchLine D K μ t1 s).tok (matchLine D K μ t2 (ws ++ s)).tok) ∧
    (isMatched (matchLine D K μ t1 s).res = false →
      TokSame (matchLine D K μ t1 s).tok (matchLine D K μ t2 (ws ++ s)).tok ∨
      ((matchLine D K μ t2 (ws ++ s)).tok = t2 ∧ TokSame (matchLine D K μ t1 s).tok t1)) := by
  have SM := shiftMatch_indent D K μ t1 ws s hws hK
  rw [withLine_self hs1] at SM
  obtain ⟨hμ, hres, htok⟩ := matchLine_rel D K μ (t := t2) (t' := withLine t1 (ws ++ s)) ⟨hs2, hno⟩ (ws ++ s)
  obtain ⟨S1, S2, S3⟩ := SM
  refine ⟨by rw [hres, S1], by rw [hμ]; exact S2, fun hm => ?_, fun hm => ?_⟩
  · rw [hm] at S3
    simp only [↓reduceIte] at S3
    rcases htok with e | ⟨hn, -, -⟩
    · rw [e]; exact S3
    · rw [hres, S1, shiftRes_matched hm] at hn; cases hn
  · rw [hm] at S3
    simp only [Bool.false_eq_true, ↓reduceIte] at S3
    rcases htok with e | ⟨-, e2, e1⟩
    · rw [e]; exact .inl S3
    · refine .inr ⟨e2, ?_⟩
      rw [e1] at S3
      exact S3.trans (tokSame_withLine_left t1 _)

theorem shift_language (D : List Dialect) (μ : MState) {t1 t2 : Token}
    {s ws : Str} (hs1 : t1.line = some s) (hs2 : t2.line = some (ws ++ s)) (hno : t2.lineNo = t1.lineNo)
    (hws : AllSpace ws) :
    (matchLine D .Language μ t2 (ws ++ s)).res = shiftRes ws.length (matchLine D .Language μ t1 s).res ∧
    (matchLine D .Language μ t2 (ws ++ s)).μ = (matchLine D .Language μ t1 s).μ ∧
    (isMatched (matchLine D .Language μ t1 s).res = true →
      TokShift ws.length (matchLine D .Language μ t1 s).tok (matchLine D .Language μ t2 (ws ++ s)).tok) ∧
    (isMatched (matchLine D .Language μ t1 s).res = false →
      ((matchLine D .Language μ t1 s).tok = t1 ∧ (matchLine D .Language μ t2 (ws ++ s)).tok = t2) ∨
      (TokShift ws.length (matchLine D .Language μ t1 s).tok (matchLine D .Language μ t2 (ws ++ s)).tok ∧
        ∃ i, (matchLine D .Language μ t1 s).tok.col = some (i + 1))) := by
  have hd : lineDec D .Language μ (ws ++ s) = lineDec D .Language μ s := by
    dsimp only [lineDec]
    rw [show lineText (ws ++ s) none = lineText s none from trimmed_indent hws s]
  have hsh : ∀ name, TokShift ws.length (setMatched μ t1 .Language (text := some name))
      (setMatched μ t2 .Language (text := some name)) := fun name => by
    refine ⟨hno, ?_, rfl, rfl, rfl, rfl, ?_, rfl, rfl⟩
    · simp only [setMatched, hs1, hs2, lineIndent_indent hws, Option.map_some, Option.some.injEq]
      omega
    · simp only [setMatched, hs1, hs2, lineIndent_indent hws]
  rw [matchLine_eq, matchLine_eq, hd]
  cases hdec : lineDec D .Language μ s with
  | no => exact ⟨rfl, rfl, nofun, fun _ => .inl ⟨rfl, rfl⟩⟩
  | tagErr c => cases lineDec_err.1 c hdec
  | langErr name =>
    refine ⟨?_, rfl, nofun, fun _ => .inr ⟨hsh name, _, rfl⟩⟩
    simp only [LineDec.out, shiftRes, shiftErr, shiftLoc, Token.loc, MRes.raised.injEq, PErr.mk.injEq, true_and,
      and_true]
    rw [(hsh name).1, (hsh name).2.1]
  | hit =>
    cases Decides.of_eq hdec nofun with
    | title hk => cases hk
    | language => exact ⟨rfl, rfl, fun _ => hsh _, nofun⟩

/-- the kinds under which an indented line may have been built -/
def indentable : Kind → Bool
  | .FeatureLine | .RuleLine | .BackgroundLine | .ScenarioLine | .ExamplesLine | .StepLine | .TagLine
  | .TableRow | .Empty => true
  | _ => false

/-- in-flight tokens of the two runs: the same token (line not moved; or end of file, untouched),
    or tokens of a line `s` and of `ws ++ s` whose matcher-written fields are equal or moved -/
def TokInd (w : Nat → Nat) (t1 t2 : Token) : Prop :=
  (t2 = t1 ∧ ((w (t1.lineNo - 1) = 0 ∧ t1.line ≠ none) ∨ (t1.line = none ∧ t1.col = none))) ∨
  (∃ s ws, t1.line = some s ∧ t2.line = some (ws ++ s) ∧ AllSpace ws ∧ ws ≠ [] ∧
    ws.length = w (t1.lineNo - 1) ∧ t2.lineNo = t1.lineNo ∧
    ((TokSame t1 t2 ∧ t1.col = none) ∨ (TokShift ws.length t1 t2 ∧ ∃ i, t1.col = some (i + 1))))

/-- tokens the builder may be handed: renamed ones, or tokens of a kind no transform reads -/
def BuildOK (w : Nat → Nat) (t1 t2 : Token) : Prop :=
  TokMap (indentMap w) t1 t2 ∨ ∃ k, freeKey (.tok k) = true ∧ t1.mtype = some k ∧ t2.mtype = some k

def mapRes (f : LocMap) : MRes → MRes
  | .raised e => .raised (mapErr f e)
  | r => r

theorem tokMap_refl_of_zero {w : Nat → Nat} {t : Token} (h0 : w (t.lineNo - 1) = 0) (hc : t.col ≠ some 0) :
    TokMap (indentMap w) t t := by
  refine ⟨rfl, ?_, rfl, rfl, rfl, rfl, rfl, ?_, fun it _ => ?_, hc⟩
  · show t.col = t.col.map fun c => c + w (t.lineNo - 1)
    rw [h0]; cases t.col <;> rfl
  · show t.items = t.items.map fun it => (it.1 + w (t.lineNo - 1), it.2)
    rw [h0]; simp
  · show (it.1 + w (t.lineNo - 1) == 0) = (it.1 == 0)
    rw [h0]; rfl

theorem tokMap_of_shift {w : Nat → Nat} {d : Nat} {a b : Token} (h : TokShift d a b) (hd : d = w (a.lineNo - 1))
    (hi : ∀ it ∈ a.items, it.1 ≠ 0) (hc : a.col ≠ some 0) : TokMap (indentMap w) a b := by
  obtain ⟨h1, h2, h3, h4, h5, h6, -, h8, h9⟩ := h
  subst hd
  refine ⟨h1, h2, h3, h4, h5, h6, h9, h8, fun it hit => ?_, hc⟩
  show (it.1 + w (a.lineNo - 1) == 0) = (it.1 == 0)
  have := hi it hit
  have e1 : (it.1 == 0) = false := by simpa using this
  have e2 : (it.1 + w (a.lineNo - 1) == 0) = false := by
    simp only [beq_eq_false_iff_ne, ne_eq]; omega
  rw [e1, e2]

theorem mapRes_of_shift {w : Nat → Nat} {D : List Dialect} {K : Kind} {μ : MState} {t : Token} {d : Nat}
    (hd : d = w (t.lineNo - 1)) :
    shiftRes d (matchTok D K μ t).1.res = mapRes (indentMap w) (matchTok D K μ t).1.res := by
  cases hr : (matchTok D K μ t).1.res with
  | matched => rfl
  | no => rfl
  | raised e =>
    have := matchTok_raised_line D K μ t e hr
    simp only [shiftRes, mapRes, indentMap_shiftErr, this, hd]

theorem mapRes_id_of_zero {w : Nat → Nat} {D : List Dialect} {K : Kind} {μ : MState} {t : Token}
    (h0 : w (t.lineNo - 1) = 0) :
    mapRes (indentMap w) (matchTok D K μ t).1.res = (matchTok D K μ t).1.res := by
  cases hr : (matchTok D K μ t).1.res with
  | matched => rfl
  | no => rfl
  | raised e =>
    have := matchTok_raised_line D K μ t e hr
    obtain ⟨kind, ⟨line, col⟩, body⟩ := e
    simp only at this
    subst this
    simp only [mapRes, mapErr, indentMap_loc, h0]
    cases col <;> simp

theorem matchTok_line' (D : List Dialect) (k : Kind) (μ : MState) (t : Token) :
    (matchTok D k μ t).1.tok.line = t.line :=
  (matchTok_tok D k μ t).1

theorem tagItems_err_pos : ∀ (items : List Str) (column c : Nat), tagItems items column = .error c → column ≤ c := by
  intro items
  induction items with
  | nil => intro column c h; cases h
  | cons item rest ih =>
    intro column c h
    unfold tagItems at h
    simp only at h
    split at h
    · cases h; exact Nat.le_refl _
    · cases hr : tagItems rest (column + item.length + 1) with
      | error c' =>
        rw [hr] at h
        cases h
        have := ih _ _ hr
        omega
      | ok ts => rw [hr] at h; cases h

theorem matchLine_raised_col0 (D : List Dialect) (k : Kind) (μ : MState) (t : Token) (l : Str) (e : PErr)
    (h : (matchLine D k μ t l).res = .raised e) : e.loc.col ≠ some 0 := by
  rw [matchLine_eq] at h
  cases hd : lineDec D k μ l with
  | no => rw [hd] at h; cases h
  | hit μs text kw kt ind items μ' => rw [hd] at h; cases h
  | tagErr col =>
    rw [hd] at h
    cases h
    cases Decides.of_eq hd nofun with
    | tagErr _ hc =>
      have := tagItems_err_pos _ _ _ (by unfold lineTags at hc; exact hc)
      simp only [ne_eq, Option.some.injEq]
      omega
  | langErr name =>
    rw [hd] at h
    cases h
    simp [setMatched, Token.loc]

theorem matchTok_raised_col0 (D : List Dialect) (k : Kind) (μ : MState) (t : Token) (e : PErr)
    (h : (matchTok D k μ t).1.res = .raised e) : e.loc.col ≠ some 0 := by
  unfold matchTok at h
  split at h
  · split at h <;> cases h
  · exact matchLine_raised_col0 D k μ t _ e h

theorem unexpectedErr_ind {w : Nat → Nat} (row : StateRow) {t1 t2 : Token} (ht : TokInd w t1 t2) :
    unexpectedErr row t2 = mapErr (indentMap w) (unexpectedErr row t1) ∧
    (unexpectedErr row t1).loc.col ≠ some 0 ∧ t2.lineNo = t1.lineNo := by
  rcases ht with ⟨rfl, h0⟩ | ⟨s, ws, hs1, hs2, hws, hne, hlen, hno, hfld⟩
  · obtain ⟨line, lineNo, col, a3, a4, a5, a6, a7, a8, a9⟩ := t2
    rcases h0 with ⟨h0, hl⟩ | ⟨hl, hc⟩
    · simp only at h0 hl
      cases line with
      | none => exact absurd rfl hl
      | some l =>
        simp only [unexpectedErr, Token.loc, mapErr, indentMap_loc]
        cases col with
        | none => simp [h0]
        | some c => by_cases hc : (c == 0) = true <;> simp [hc, h0] <;> simpa using hc
    · simp only at hl hc
      subst hl hc
      simp [unexpectedErr, Token.loc, mapErr, indentMap_loc]
  · obtain ⟨line1, lineNo1, col1, a3, a4, a5, a6, a7, a8, a9⟩ := t1
    obtain ⟨line2, lineNo2, col2, b3, b4, b5, b6, b7, b8, b9⟩ := t2
    simp only at hs1 hs2 hlen hno hfld
    subst hs1 hs2 hno
    have hI := lineIndent_indent hws s
    have hT := trimmed_indent hws s
    rcases hfld with ⟨hs, hc⟩ | ⟨hs, i, hc⟩
    · have hc2 : col2 = col1 := hs.2.1.symm
      subst hc2 hc
      simp [unexpectedErr, mapErr, indentMap_loc, hT, hI, ← hlen]
      omega
    · have hc2 : col2 = col1.map (· + ws.length) := hs.2.1
      subst hc2 hc
      have e2 : (i + 1 + ws.length == 0) = false := by simp only [beq_eq_false_iff_ne, ne_eq]; omega
      simp [unexpectedErr, Token.loc, mapErr, indentMap_loc, hT, ← hlen, e2]

end Layout3
end GV
