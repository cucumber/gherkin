/-
  Vocabulary and matcher-level lemmas for the document-level classification of parse errors
  (Props/C14ErrorsDoc.lean).

  `Spec.ErrClass D T L un e`: the error `e` is one of the five faults of a document with the
  physical lines `L` (`un` = the run's ghost list of line numbers that reached an error tail):
  unexpected line, unexpected end of file, tag with whitespace, unknown language, ragged table.
  Each class fixes kind, location and message body of `e` in terms of the SOURCE LINE with the
  error's line number.

  Matcher level: what `match_<K>` can raise on a token that carries a line of the source
  (`matchTok_raised_cls`: a tag-whitespace or an unknown-language error of that line, nothing else),
  which column a test leaves in the token (`colOK_match`: none, or indent + 1, as long as the test
  did not match or was a `TagLine` test — the only guarded tests), and that a whitespace-only line
  passes every `Empty` and `Other` test (`blank_matches`).
-/
import GherkinVerif.Lemmas.AnyRun
import GherkinVerif.Lemmas.TextErrors
import GherkinVerif.Lemmas.Keywords
import GherkinVerif.Spec.LayoutDocFacts
namespace GV
namespace Spec

/-- the expected list of a state as an error message prints it -/
def expectedText (row : StateRow) : Str := joinWith (lit ", ") (row.expected.map lit)

/-- (a) line `i` of the source, text `l`, not whitespace-only, reached the error tail of state `row` -/
def IsUnexpectedLine (T : Table) (L : List Str) (un : List Nat) (e : PErr) : Prop :=
  ∃ i l row, L[i - 1]? = some l ∧ 1 ≤ i ∧ i ∈ un ∧ row ∈ T.rows ∧ lineIsEmpty l = false ∧
    e = ⟨.unexpectedToken, ⟨i, some (lineIndent l + 1)⟩,
      lit "expected: " ++ expectedText row ++ lit ", got '" ++ strip (trimmed l) ++ lit "'"⟩

/-- (b) the end of file (one line past the last, no column) reached the error tail of state `row` -/
def IsUnexpectedEOF (T : Table) (L : List Str) (un : List Nat) (e : PErr) : Prop :=
  ∃ row, row ∈ T.rows ∧ (L.length + 1) ∈ un ∧
    e = ⟨.unexpectedEOF, ⟨L.length + 1, none⟩, lit "unexpected end of file, expected: " ++ expectedText row⟩

/-- (c) line `i` starts (after indentation) with `@` and its tag at column `c` contains whitespace -/
def IsTagWhitespace (L : List Str) (e : PErr) : Prop :=
  ∃ i l c, L[i - 1]? = some l ∧ 1 ≤ i ∧ lineStartsWith l [64] = true ∧ lineTags l = .error c ∧
    e = ⟨.tagWhitespace, ⟨i, some c⟩, lit "A tag may not contain whitespace"⟩

/-- (d) line `i` is a language header naming `name`, which is no dialect of the table -/
def IsUnknownLanguage (D : List Dialect) (L : List Str) (e : PErr) : Prop :=
  ∃ i l name, L[i - 1]? = some l ∧ 1 ≤ i ∧ languageRe l = some name ∧ findDialect D name = none ∧
    e = ⟨.noSuchLanguage, ⟨i, some (lineIndent l + 1)⟩, lit "Language not supported: " ++ name⟩

/-- (e) the builder's only error -/
def IsRagged (e : PErr) : Prop :=
  e.kind = .raggedTable ∧ e.body = lit "inconsistent cell count within the table"

/-- the classes that do not depend on the ghost list -/
def ErrClassM (D : List Dialect) (L : List Str) (e : PErr) : Prop :=
  IsTagWhitespace L e ∨ IsUnknownLanguage D L e ∨ IsRagged e

def ErrClass (D : List Dialect) (T : Table) (L : List Str) (un : List Nat) (e : PErr) : Prop :=
  IsUnexpectedLine T L un e ∨ IsUnexpectedEOF T L un e ∨ ErrClassM D L e

theorem ErrClass.mono {D : List Dialect} {T : Table} {L : List Str} {un un' : List Nat} {e : PErr}
    (h : ErrClass D T L un e) (hs : ∀ i ∈ un, i ∈ un') : ErrClass D T L un' e := by
  rcases h with ⟨i, l, row, h1, h2, h3, h4⟩ | ⟨row, h1, h2, h3⟩ | h
  · exact .inl ⟨i, l, row, h1, h2, hs i h3, h4⟩
  · exact .inr (.inl ⟨row, h1, hs _ h2, h3⟩)
  · exact .inr (.inr h)

theorem ErrClass.kind {D : List Dialect} {T : Table} {L : List Str} {un : List Nat} {e : PErr}
    (h : ErrClass D T L un e) :
    (e.kind = .unexpectedToken ↔ IsUnexpectedLine T L un e) ∧
    (e.kind = .unexpectedEOF ↔ IsUnexpectedEOF T L un e) ∧
    (e.kind = .tagWhitespace ↔ IsTagWhitespace L e) ∧
    (e.kind = .noSuchLanguage ↔ IsUnknownLanguage D L e) ∧
    (e.kind = .raggedTable ↔ IsRagged e) := by
  have k1 : IsUnexpectedLine T L un e → e.kind = .unexpectedToken := by
    rintro ⟨_, _, _, _, _, _, _, _, rfl⟩; rfl
  have k2 : IsUnexpectedEOF T L un e → e.kind = .unexpectedEOF := by
    rintro ⟨_, _, _, rfl⟩; rfl
  have k3 : IsTagWhitespace L e → e.kind = .tagWhitespace := by
    rintro ⟨_, _, _, _, _, _, _, rfl⟩; rfl
  have k4 : IsUnknownLanguage D L e → e.kind = .noSuchLanguage := by
    rintro ⟨_, _, _, _, _, _, _, rfl⟩; rfl
  have k5 : IsRagged e → e.kind = .raggedTable := fun h => h.1
  -- the class that holds fixes the kind; a class of another kind is then as false as that kind
  have other : ∀ {K K' : ErrKind} {p : Prop}, e.kind = K → (p → e.kind = K') → K ≠ K' → (e.kind = K' ↔ p) :=
    fun hk hp hne => iff_of_false (fun x => hne (hk.symm.trans x)) fun hp' => hne (hk.symm.trans (hp hp'))
  rcases h with h | h | h | h | h
  · exact ⟨iff_of_true (k1 h) h, other (k1 h) k2 nofun, other (k1 h) k3 nofun, other (k1 h) k4 nofun,
      other (k1 h) k5 nofun⟩
  · exact ⟨other (k2 h) k1 nofun, iff_of_true (k2 h) h, other (k2 h) k3 nofun, other (k2 h) k4 nofun,
      other (k2 h) k5 nofun⟩
  · exact ⟨other (k3 h) k1 nofun, other (k3 h) k2 nofun, iff_of_true (k3 h) h, other (k3 h) k4 nofun,
      other (k3 h) k5 nofun⟩
  · exact ⟨other (k4 h) k1 nofun, other (k4 h) k2 nofun, other (k4 h) k3 nofun, iff_of_true (k4 h) h,
      other (k4 h) k5 nofun⟩
  · exact ⟨other (k5 h) k1 nofun, other (k5 h) k2 nofun, other (k5 h) k3 nofun, other (k5 h) k4 nofun,
      iff_of_true (k5 h) h⟩

theorem ErrClass.line_range {D : List Dialect} {T : Table} {L : List Str} {un : List Nat} {e : PErr}
    (h : ErrClass D T L un e) (hr : ¬ IsRagged e) : 1 ≤ e.loc.line ∧ e.loc.line ≤ L.length + 1 := by
  have hget : ∀ (i : Nat) (l : Str), L[i - 1]? = some l → 1 ≤ i → i ≤ L.length + 1 := by
    intro i l h _
    have := (List.getElem?_eq_some_iff.1 h).1
    omega
  rcases h with ⟨i, l, _, h1, h2, _, _, _, rfl⟩ | ⟨_, _, _, rfl⟩ | ⟨i, l, _, h1, h2, _, _, rfl⟩ |
    ⟨i, l, _, h1, h2, _, _, rfl⟩ | h
  · exact ⟨h2, hget i l h1 h2⟩
  · exact ⟨Nat.le_add_left _ _, Nat.le_refl _⟩
  · exact ⟨h2, hget i l h1 h2⟩
  · exact ⟨h2, hget i l h1 h2⟩
  · exact absurd h hr

/-- a token that carries a line carries the line of the source with its number -/
def LineOf (L : List Str) (t : Token) : Prop :=
  ∀ l, t.line = some l → L[t.lineNo - 1]? = some l ∧ 1 ≤ t.lineNo

end Spec

namespace ErrorsDoc
open Lemmas Spec

theorem SrcTok.lineOf {L : List Str} {t : Token} (h : SrcTok L t) : LineOf L t := by
  intro l hl
  rcases h with ⟨h1, _⟩ | ⟨l', h1, h2, h3⟩
  · rw [h1] at hl; cases hl
  · rw [h3] at hl; cases hl; exact ⟨h1, h2⟩

theorem lineOf_of_keep {L : List Str} {t t' : Token} (h : LineOf L t) (h1 : t'.line = t.line)
    (h2 : t'.lineNo = t.lineNo) : LineOf L t' := by
  intro l hl
  rw [h1] at hl
  rw [h2]
  exact h l hl

theorem matchLine_raised_cls (D : List Dialect) (k : Kind) (μ : MState) (t : Token) (l : Str) (e : PErr)
    (hl : t.line = some l) (h : (matchLine D k μ t l).res = .raised e) :
    (lineStartsWith l [64] = true ∧ ∃ c, lineTags l = .error c ∧
      e = ⟨.tagWhitespace, ⟨t.lineNo, some c⟩, lit "A tag may not contain whitespace"⟩) ∨
    (∃ name, languageRe l = some name ∧ findDialect D name = none ∧
      e = ⟨.noSuchLanguage, ⟨t.lineNo, some (lineIndent l + 1)⟩, lit "Language not supported: " ++ name⟩) := by
  rw [matchLine_eq] at h
  cases hd : lineDec D k μ l with
  | no => rw [hd] at h; cases h
  | hit => rw [hd] at h; cases h
  | tagErr c =>
    rw [hd] at h
    cases Decides.of_eq hd nofun with
    | tagErr hs ht => cases h; exact .inl ⟨hs, c, ht, rfl⟩
  | langErr name =>
    rw [hd] at h
    cases Decides.of_eq hd nofun with
    | langErr hre hf =>
      cases h
      refine .inr ⟨name, by rw [← languageRe_lstrip]; exact hre, hf, ?_⟩
      simp only [setMatched, hl, Token.loc]

theorem matchTok_raised_cls {D : List Dialect} {L : List Str} {k : Kind} {μ : MState} {t : Token} {e : PErr}
    (ht : LineOf L t) (h : (matchTok D k μ t).1.res = .raised e) : ErrClassM D L e := by
  unfold matchTok at h
  split at h
  · split at h <;> cases h
  · rename_i l hl
    obtain ⟨h1, h2⟩ := ht l hl
    rcases matchLine_raised_cls D k μ t l e hl h with ⟨hs, c, hc, he⟩ | ⟨name, hre, hd, he⟩
    · exact .inl ⟨t.lineNo, l, c, h1, h2, hs, hc, he⟩
    · exact .inr (.inl ⟨t.lineNo, l, name, h1, h2, hre, hd, he⟩)

theorem colOK_matchLine (D : List Dialect) (k : Kind) (μ : MState) (t : Token) (l : Str) (hl : t.line = some l)
    (ht : colOK t) (h : (matchLine D k μ t l).res ≠ .matched ∨ k = .TagLine) :
    colOK (matchLine D k μ t l).tok := by
  by_cases hm : (matchLine D k μ t l).res = .matched
  · rcases h with h | rfl
    · exact absurd hm h
    · obtain ⟨_, _, _, _, _, _, _, hd, e⟩ := matched_hit hm
      rw [e]
      cases hd with
      | title hk => cases hk
      | tags => exact colOK_setMatched_none μ t _ _ _ _ _ l hl
  · rcases matchLine_unmatched_tok D k μ t l hm with h1 | ⟨-, name, h1⟩
    · rw [h1]; exact ht
    · rw [h1]; exact colOK_setMatched_none μ t _ _ _ _ _ l hl

theorem colOK_match {D : List Dialect} {k : Kind} {μ : MState} {t : Token} (ht : colOK t)
    (h : (matchTok D k μ t).1.res ≠ .matched ∨ k = .TagLine) : colOK (matchTok D k μ t).1.tok := by
  unfold matchTok at h ⊢
  split
  · rename_i hl
    simp only [hl] at h
    split
    · rename_i hk
      simp only [hk, if_true] at h
      rcases h with h | rfl
      · exact absurd rfl h
      · cases hk
    · exact ht
  · rename_i l hl
    simp only [hl] at h
    exact colOK_matchLine D k μ t l hl ht h

theorem blank_matches (D : List Dialect) (k : Kind) (μ : MState) (t : Token) (l : Str) (hl : t.line = some l)
    (hb : lineIsEmpty l = true) (hk : k = .Empty ∨ k = .Other) : (matchTok D k μ t).1.res = .matched := by
  unfold matchTok
  simp only [hl]
  rcases hk with rfl | rfl
  · simp only [matchLine, hb, if_true]
  · simp only [matchLine]

theorem unexpectedErr_line (row : StateRow) (t : Token) (l : Str) (hl : t.line = some l)
    (hc : colOK t) :
    unexpectedErr row t = ⟨.unexpectedToken, ⟨t.lineNo, some (lineIndent l + 1)⟩,
      lit "expected: " ++ expectedText row ++ lit ", got '" ++ strip (trimmed l) ++ lit "'"⟩ := by
  simp only [colOK, hl] at hc
  unfold unexpectedErr expectedText
  simp only [hl]
  rcases hc with hc | hc
  · simp only [hc]
  · have : (lineIndent l + 1 == 0) = false := by simp
    simp only [hc, this, Token.loc, Bool.false_eq_true, if_false]

theorem unexpectedErr_eof (row : StateRow) (t : Token) (hl : t.line = none) (hc : colOK t) :
    unexpectedErr row t = ⟨.unexpectedEOF, ⟨t.lineNo, none⟩,
      lit "unexpected end of file, expected: " ++ expectedText row⟩ := by
  simp only [colOK, hl] at hc
  unfold unexpectedErr expectedText
  simp only [hl, Token.loc, hc]

theorem unexpectedErr_fresh (row : StateRow) (l : Str) (i : Nat) :
    unexpectedErr row (freshTok l i) = ⟨.unexpectedToken, ⟨i, some (lineIndent l + 1)⟩,
      lit "expected: " ++ expectedText row ++ lit ", got '" ++ strip (trimmed l) ++ lit "'"⟩ := rfl

theorem unexpectedErr_eofTok (row : StateRow) (n : Nat) :
    unexpectedErr row { line := none, lineNo := n } = ⟨.unexpectedEOF, ⟨n, none⟩,
      lit "unexpected end of file, expected: " ++ expectedText row⟩ := rfl

end ErrorsDoc
end GV
