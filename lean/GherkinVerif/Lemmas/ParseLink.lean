/-
  Lemmas/ParseLink.lean — the LINK: for every accepted document the AST the parser returns is
  `Spec.astOf` of a token tree whose leaves are the tokens handed to the builder, whose kind
  projection is the derivation tree of the kind-level run on the intrinsic line kinds, whose leaves
  are well matched and whose doc strings are opened.

  `body_clean`: the accepted queue-free parse = a `Trace` + the builder ran the trace's calls
  between `start_rule(startRule)` and the final `end_rule`.  `pure_link`: the tree, for the
  queue-free parse.  `parse_link`: transferred to the parser with its queue by
  `queue_refines_peek` (outcome, `builds` and `ids` are observable; `parse_link_trace` keeps the
  trace).  Generic in the dialect table, the parser table and the grammar, under Boolean facts
  (`LinkFacts`).
-/
import GherkinVerif.Lemmas.ParseClean
import GherkinVerif.Lemmas.TypedStack
import GherkinVerif.Lemmas.StopFirst
import GherkinVerif.Lemmas.AstLocs
import GherkinVerif.Lemmas.AstIds
namespace GV
namespace Lemmas
open Spec

theorem body_clean {D : List Dialect} {T : Table} (hf : textDialectFacts D = true) (F : QF D T) (n : Nat) (p : Ctx)
    (hμ : MuOK D p.μ) {d : Doc} {c' : Ctx} (h : run (parseBodyPure D T false n) p = (.ok d, c')) :
    ∃ steps sf, Trace D T 0 p.μ p.lines sf steps ∧
      applyOps (.start T.startRule :: (stepsOps steps ++ [.end_])) p.β p.ids = (.ok (), c'.β, c'.ids) ∧
      c'.builds = p.builds ++ opToks (stepsOps steps) ∧ c'.β.result = .ok (some d) := by
  obtain ⟨s1, c1, hr1, hr2, hemp, hres⟩ := body_ok (T := T) (stop := false) (loop := parseLinesPure D T false (n + 2) 0) h
  obtain ⟨hend, -, hc1⟩ := runProd_clean hr2 hemp
  obtain ⟨steps, htr, hops, hbuilds⟩ :=
    lines_clean hf F (n + 2) 0 { p with β := p.β.startRule T.startRule } hμ s1 c1 hr1 hc1
  refine ⟨steps, s1, htr, ?_, ?_, hres⟩
  · rw [applyOps_start, applyOps_append_ok _ _ _ _ _ _ hops]
    exact hend.1
  · rw [hend.2.1, hbuilds]
    simp [prodOps, opToks]

theorem opsEvs_steps (steps : List (Branch × Token)) (h : ∀ p ∈ steps, p.2.mtype = some p.1.kind) :
    OpsEvs (stepsOps steps) (stepsEvs steps) := by
  induction steps with
  | nil => exact .nil
  | cons p steps ih =>
    simp only [stepsOps, stepsEvs, List.flatMap_cons]
    exact OpsEvs.append (opsEvs_prod p.2 p.1.kind (h p (List.mem_cons_self ..)) p.1.prods)
      (ih fun q hq => h q (List.mem_cons_of_mem _ hq))

theorem adjOK_steps (steps : List (Branch × Token)) (h : ∀ p ∈ steps, adjOK (prodOps p.2 p.1.prods)) :
    adjOK (stepsOps steps) := by
  induction steps with
  | nil => trivial
  | cons p steps ih =>
    simp only [stepsOps, List.flatMap_cons]
    exact adjOK_append (h p (List.mem_cons_self ..)) (ih fun q hq => h q (List.mem_cons_of_mem _ hq))

theorem mem_opToks_steps (steps : List (Branch × Token)) (tk : Token) (h : tk ∈ opToks (stepsOps steps)) :
    ∃ p ∈ steps, tk = p.2 := by
  induction steps with
  | nil => cases h
  | cons p steps ih =>
    simp only [stepsOps, List.flatMap_cons, opToks_append, List.mem_append] at h
    rcases h with h | h
    · exact ⟨p, List.mem_cons_self .., opToks_prodOps_mem _ _ _ h⟩
    · obtain ⟨q, hq, hqe⟩ := ih h
      exact ⟨q, List.mem_cons_of_mem _ hq, hqe⟩

theorem reset_inDocString (D : List Dialect) (μ : MState) : (μ.reset D).inDocString = false := by
  unfold MState.reset MState.inDocString
  rfl

/-- the Boolean facts about the dialect table, the parser table and the grammar the link uses -/
structure LinkFacts (D : List Dialect) (T : Table) (G : Grammar) (fuel : Nat) : Prop where
  dialects : textDialectFacts D = true
  queue : queueFacts T = true
  commentBlank : commentBlankTested T = true
  content : contentEntry T = true
  docOpens : docStringOpens T = true
  typed : typedCheck G T fuel = true
  shape : shapeCheck G = true
  start : T.startRule = .GherkinDocument

/-- what the link says about an accepted document `d`, the tokens `builds` handed to the builder,
    the incoming counter `ids` and the counter `ids'` afterwards -/
def LinkTree (D : List Dialect) (T : Table) (G : Grammar) (μ0 : MState) (lines : List Str)
    (d : Doc) (builds : List Token) (ids ids' : Nat) (t : TTree) : Prop :=
  t.isDocument = true ∧ leaves t = builds ∧
  ValidTree G .GherkinDocument t.kinds ∧
  (∃ evs, eventsAbs T (textKinds D T 0 μ0 lines) = some evs ∧ treeOf evs = some t.kinds) ∧
  (∀ tk ∈ leaves t, WellMatched tk) ∧ DocStringsOpened t ∧
  (astOf (commentsOf t) t).run.run ids = (.ok (.doc d), ids')

theorem LinkFacts.reset_inv {D : List Dialect} {T : Table} {G : Grammar} {fuel : Nat} (L : LinkFacts D T G fuel)
    (μ : MState) : (μ.reset D).inDocString = (contentStates T).contains 0 := by
  rw [reset_inDocString]
  have := L.docOpens
  simp only [docStringOpens, Bool.and_eq_true, Bool.not_eq_true'] at this
  exact this.1.symm

theorem pure_link {D : List Dialect} {T : Table} {G : Grammar} {fuel : Nat} (L : LinkFacts D T G fuel)
    (μ : MState) (ids : Nat) (src : Str) (hμ : (μ.reset D).dialect ∈ D) (d : Doc)
    (h : (parseWithPure D T false μ ids src).1 = .ok d) :
    ∃ steps sf t, Trace D T 0 (μ.reset D) (splitLines src) sf steps ∧
      ttreeOf (.start T.startRule :: (stepsOps steps ++ [.end_])) = some t ∧
      (parseWithPure D T false μ ids src).2.builds = opToks (stepsOps steps) ∧
      LinkTree D T G (μ.reset D) (splitLines src) d (parseWithPure D T false μ ids src).2.builds ids
        (parseWithPure D T false μ ids src).2.ids t := by
  have F := QF.of_facts (queueDialectFacts_of_text L.dialects) L.queue
  have hr := parseWithPure_ok h
  generalize (parseWithPure D T false μ ids src).2 = c at hr ⊢
  have hμ0 : MuOK D (ctx0 D μ ids src).μ := ⟨hμ, reset_sepOK D μ⟩
  obtain ⟨steps, sf, htr, hops, hbuilds, hres⟩ := body_clean L.dialects F _ _ hμ0 hr
  have htr' : Trace D T 0 (μ.reset D) (splitLines src) sf steps := htr
  have hops' : applyOps (.start T.startRule :: (stepsOps steps ++ [.end_])) BState.reset ids = (.ok (), c.β, c.ids) := hops
  have hbuilds' : c.builds = opToks (stepsOps steps) := by
    rw [hbuilds]; rfl
  have hrun := trace_runAbs F htr'
  have heva : eventsAbs T (textKinds D T 0 (μ.reset D) (splitLines src)) =
      some ([.start T.startRule] ++ stepsEvs steps ++ [.end_ T.startRule]) := by
    unfold eventsAbs; rw [hrun]; rfl
  obtain ⟨tk, htree, hvalid, -⟩ := events_valid_tree_gen L.typed _
    (textKinds_no_EOF D T (splitLines src) 0 (μ.reset D)) _ heva
  have htoks := trace_tokens htr'
  have hoe : OpsEvs (.start T.startRule :: (stepsOps steps ++ [.end_]))
      ([.start T.startRule] ++ stepsEvs steps ++ [.end_ T.startRule]) := by
    have h1 := opsEvs_steps steps fun p hp => (htoks p hp).1
    have h2 : OpsEvs [.end_] [.end_ T.startRule] := .cons (.end_ _) .nil
    simpa using OpsEvs.cons (.start T.startRule) (OpsEvs.append h1 h2)
  obtain ⟨t, ht, hk⟩ := ttreeOf_kinds _ _ hoe tk htree
  obtain ⟨hopsOf, hleaves⟩ := ttreeOf_flat _ t ht
  have hleaves' : leaves t = opToks (stepsOps steps) := by
    rw [hleaves]; simp [opToks, opToks_append]
  have hv : ValidTree G .GherkinDocument t.kinds := by rw [hk, ← L.start]; exact hvalid
  have hs : shaped t = true := shaped_of_validTree L.shape _ t hv
  have hdoc : t.isDocument = true := by
    obtain ⟨ch, rfl⟩ := root_of_validTree t hv
    exact isDocument_of_shaped ch hs
  have hadj : adjOK (.start T.startRule :: (stepsOps steps ++ [.end_])) := by
    refine ⟨fun hr => ?_, adjOK_append (adjOK_steps steps
      (trace_adj L.dialects L.content L.docOpens htr' hμ0 (L.reset_inv μ))) trivial⟩
    rw [L.start] at hr; cases hr
  refine ⟨steps, sf, t, htr', ht, hbuilds', hdoc, by rw [hleaves', hbuilds'], hv,
    ⟨_, heva, by rw [hk]; exact htree⟩, ?_, ttreeOf_opened _ t hadj ht, ?_⟩
  · intro x hx
    rw [hleaves'] at hx
    obtain ⟨p, hp, rfl⟩ := mem_opToks_steps steps x hx
    exact (htoks p hp).2
  · -- the builder ran the calls of `t` to the result `d`: so does `astOf`
    rw [← hopsOf] at hops'
    obtain ⟨hok, herr⟩ := ast_of_tree t hdoc ids
    rcases hra : (astOf (commentsOf t) t).run.run ids with ⟨ra, n'⟩
    cases ra with
    | error e =>
      obtain ⟨β, hβ⟩ := herr e n' hra
      rw [hops'] at hβ
      cases hβ
    | ok v =>
      obtain ⟨β, hβ, -, -, d', rfl, hres', -⟩ := hok v n' hra
      rw [hops'] at hβ
      cases hβ
      rw [hres] at hres'
      cases hres'
      rfl

theorem parse_link_trace {D : List Dialect} {T : Table} {G : Grammar} {fuel : Nat} (L : LinkFacts D T G fuel)
    (μ : MState) (ids : Nat) (src : Str) (hμ : (μ.reset D).dialect ∈ D) (d : Doc)
    (h : (parseWith D T false μ ids src).1 = .ok d) :
    ∃ steps sf t, Trace D T 0 (μ.reset D) (splitLines src) sf steps ∧
      ttreeOf (.start T.startRule :: (stepsOps steps ++ [.end_])) = some t ∧
      (parseWith D T false μ ids src).2.builds = opToks (stepsOps steps) ∧
      LinkTree D T G (μ.reset D) (splitLines src) d (parseWith D T false μ ids src).2.builds ids
        (parseWith D T false μ ids src).2.ids t := by
  obtain ⟨ho, hb, -, -, -, -, hi, -⟩ := observe_fields
    (queue_refines_peek D T (queueDialectFacts_of_text L.dialects) L.queue L.commentBlank false μ ids src hμ)
  rw [hb, hi]
  exact pure_link L μ ids src hμ d (ho ▸ h)

theorem parse_link {D : List Dialect} {T : Table} {G : Grammar} {fuel : Nat} (L : LinkFacts D T G fuel)
    (μ : MState) (ids : Nat) (src : Str) (hμ : (μ.reset D).dialect ∈ D) (d : Doc)
    (h : (parseWith D T false μ ids src).1 = .ok d) :
    ∃ t, LinkTree D T G (μ.reset D) (splitLines src) d (parseWith D T false μ ids src).2.builds ids
      (parseWith D T false μ ids src).2.ids t :=
  let ⟨_, _, t, _, _, _, ht⟩ := parse_link_trace L μ ids src hμ d h
  ⟨t, ht⟩

/-- an accepted run is the same run in both modes (`accept_same_run`) -/
theorem parse_link_stop {D : List Dialect} {T : Table} {G : Grammar} {fuel : Nat} (L : LinkFacts D T G fuel)
    (μ : MState) (ids : Nat) (src : Str) (hμ : (μ.reset D).dialect ∈ D) (d : Doc)
    (h : (parseWith D T true μ ids src).1 = .ok d) :
    ∃ t, LinkTree D T G (μ.reset D) (splitLines src) d (parseWith D T true μ ids src).2.builds ids
      (parseWith D T true μ ids src).2.ids t := by
  have heq := accept_same_run D T μ ids src d (.inl h)
  rw [heq] at h ⊢
  exact parse_link L μ ids src hμ d h

section
variable {D : List Dialect} {T : Table} {G : Grammar} {μ0 : MState} {lines : List Str} {d : Doc}
  {builds : List Token} {ids ids' : Nat} {t : TTree} (h : LinkTree D T G μ0 lines d builds ids ids' t)
include h

theorem LinkTree.isDocument : t.isDocument = true := h.1
theorem LinkTree.leaves_eq : leaves t = builds := h.2.1
theorem LinkTree.valid : ValidTree G .GherkinDocument t.kinds := h.2.2.1
theorem LinkTree.opened : DocStringsOpened t := h.2.2.2.2.2.1
theorem LinkTree.ast : (astOf (commentsOf t) t).run.run ids = (.ok (.doc d), ids') := h.2.2.2.2.2.2

end

theorem LinkTree.shaped {D : List Dialect} {T : Table} {G : Grammar} (hSh : shapeCheck G = true) {μ0 : MState}
    {lines : List Str} {d : Doc} {builds : List Token} {ids ids' : Nat} {t : TTree}
    (h : LinkTree D T G μ0 lines d builds ids ids' t) : shaped t = true :=
  shaped_of_validTree hSh _ t h.valid

theorem LinkTree.ast_facts {D : List Dialect} {T : Table} {G : Grammar} (hSh : shapeCheck G = true) {μ0 : MState}
    {lines : List Str} {d : Doc} {builds : List Token} {ids ids' : Nat} {t : TTree}
    (h : LinkTree D T G μ0 lines d builds ids ids' t) :
    srcLocs d = elemLocs t ∧ srcLines d = elemLines t ∧ d.comments = commentsOf t ∧
    canonicalIds d = List.range' ids (ids' - ids) ∧ ids ≤ ids' := by
  have hs := h.shaped hSh
  have hast := h.ast
  obtain ⟨β, -, -, -, d', hd', -, hcm⟩ := (ast_of_tree t h.isDocument ids).1 _ _ hast
  cases hd'
  exact ⟨leaves_once_in_order t hs _ ids ids' d hast, lines_once_in_order t hs _ ids ids' d hast, hcm,
    ast_ids_canonical t hs _ ids ids' d hast⟩

end Lemmas
end GV
