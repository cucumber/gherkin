/-
  Lemmas/LayoutDoc6Sim.lean — property C16, a comment line inserted where it opens a description:
  the SAME program run from two contexts that agree outside the builder and whose builder states
  are related by `BD` (the second has extra empty-description items).  Matchers and look-aheads do
  not look at the builder (`Indep`); `start_rule`, `build` and `end_rule` keep `BD` — the side
  condition of `BD.endRule` (no node receives a second `Description` item) comes from the invariant
  `StackA` of the second run (Lemmas/LayoutDoc6Flags.lean).  Result: `simD_matchTokenPure` (one step
  of the main loop) and `simD_bodyTail` (the final `end_rule` and `get_result`): both runs end
  alike, with EQUAL documents.
-/
import GherkinVerif.Lemmas.LayoutDoc6Flags
import GherkinVerif.Lemmas.LayoutDoc6Indep
namespace GV
namespace Layout6
open Lemmas Spec Layout3 Layout4 Layout5

def RD (fs : List ANode) (c c' : Ctx) : Prop := CtxD c c' ∧ StackA c'.β.stack fs

theorem CtxD.keep {c c' d d' : Ctx} (h : CtxD c c') (hE : CtxE d d') (h1 : d.β = c.β) (h2 : d'.β = c'.β) : CtxD d d' :=
  ⟨hE, by rw [h1, h2]; exact h.2⟩

theorem RD.keep {fs : List ANode} {c c' d d' : Ctx} (h : RD fs c c') (hE : CtxE d d') (h1 : d.β = c.β) (h2 : d'.β = c'.β) :
    RD fs d d' := ⟨h.1.keep hE h1 h2, by rw [h2]; exact h.2⟩

theorem Indep.simD {α} {m : PM α} (h : Indep m) : SimG CtxD (fun _ d d' => CtxD d d') m m :=
  h.simG (fun _ _ hr => hr.1) fun _ _ _ _ hr hE h1 h2 => hr.keep hE h1 h2

theorem Indep.simRD {α} {m : PM α} (h : Indep m) (fs : List ANode) : SimG (RD fs) (fun _ d d' => RD fs d d') m m :=
  h.simG (fun _ _ hr => hr.1.1) fun _ _ _ _ hr hE h1 h2 => hr.keep hE h1 h2

theorem SimG.and_right {α} {R : Ctx → Ctx → Prop} {Q : α → Ctx → Ctx → Prop} {m1 m2 : PM α} (h : SimG R Q m1 m2)
    {P : α → Ctx → Prop} (hP : ∀ c c' a d', R c c' → run m2 c' = (.ok a, d') → P a d') :
    SimG R (fun a d d' => Q a d d' ∧ P a d') m1 m2 := by
  intro c c' hr
  have h1 := h c c' hr
  have h2 := hP c c'
  revert h1 h2
  rcases run m1 c with ⟨r1, d⟩
  rcases run m2 c' with ⟨r2, d'⟩
  intro h1 h2
  cases r1 <;> cases r2 <;> simp only [PostG] at h1 ⊢
  · exact h1
  · obtain ⟨rfl, hq⟩ := h1
    exact ⟨rfl, hq, h2 _ _ hr rfl⟩

theorem SimG.skip_left {α β} {R R' : Ctx → Ctx → Prop} {Q : β → Ctx → Ctx → Prop} {m1 : PM α} {f1 : α → PM β}
    {m2 : PM β} (a : α) (h : ∀ c c', R c c' → ∃ d, run m1 c = (.ok a, d) ∧ R' d c') (hs : SimG R' Q (f1 a) m2) :
    SimG R Q (m1 >>= f1) m2 := by
  intro c c' hr
  obtain ⟨d, hd, hr'⟩ := h c c' hr
  have e := prun_bind m1 f1 c
  rw [e, hd]
  exact hs d c' hr'

theorem SimG.skip_right {α β} {R R' : Ctx → Ctx → Prop} {Q : β → Ctx → Ctx → Prop} {m1 : PM β} {m2 : PM α}
    {f2 : α → PM β} (a : α) (h : ∀ c c', R c c' → ∃ d', run m2 c' = (.ok a, d') ∧ R' c d') (hs : SimG R' Q m1 (f2 a)) :
    SimG R Q m1 (m2 >>= f2) := by
  intro c c' hr
  obtain ⟨d', hd, hr'⟩ := h c c' hr
  have e := prun_bind m2 f2 c'
  rw [e, hd]
  exact hs c d' hr'

theorem simD_runProd (cap : Nat) (stop : Bool) (t : Token) (p : Prod) {fs fs' : List ANode}
    (hp : applyProdA p fs = some fs') :
    SimG (RD fs) (fun _ d d' => RD fs' d d') (runProd cap stop t p) (runProd cap stop t p) := by
  have key : SimG (RD fs) (fun _ d d' => CtxD d d') (runProd cap stop t p) (runProd cap stop t p) := by
    intro c c' hr
    obtain ⟨⟨hE, hB⟩, hA⟩ := hr
    rw [run_runProd, run_runProd]
    cases p with
    | start r =>
      exact ⟨rfl, ⟨hE.lines, hE.lineNo, hE.errors, hE.μ, hE.ids, hE.unexpected⟩, hB.startRule r⟩
    | end_ X =>
      simp only []
      obtain ⟨h1, h2, h3⟩ := hB.endRule c.ids (endRule_safe hA (by rw [hp]; rfl))
      rw [hE.ids, h1, h3]
      exact (indep_liftB cap stop _).simD _ _
        ⟨⟨hE.lines, hE.lineNo, hE.errors, hE.μ, rfl, hE.unexpected⟩, h2⟩
    | build =>
      simp only []
      rcases hB.build t with ⟨e, e1, e2⟩ | ⟨β1', β2', e1, e2, hb⟩
      · rw [e1, e2]
        exact (indep_liftB cap stop _).simD _ _ ⟨hE, hB⟩
      · rw [e1, e2]
        exact ⟨rfl, ⟨hE.lines, hE.lineNo, hE.errors, hE.μ, hE.ids, hE.unexpected⟩, hb⟩
  exact key.and_right fun c c' a d' hr hrun => stackA_runProd cap stop t p hr.2 hp hrun

theorem simD_runProds (cap : Nat) (stop : Bool) (t : Token) : ∀ (ps : List Prod) {fs fs' : List ANode},
    applyProdsA ps fs = some fs' →
    SimG (RD fs) (fun _ d d' => RD fs' d d') (runProds cap stop t ps) (runProds cap stop t ps)
  | [], fs, fs', hp => by
    simp only [applyProdsA, Option.some.injEq] at hp
    subst hp
    exact SimG.pure _ fun _ _ h => h
  | p :: ps, fs, fs', hp => by
    simp only [applyProdsA] at hp
    cases h1 : applyProdA p fs with
    | none => rw [h1] at hp; cases hp
    | some fs1 =>
      rw [h1] at hp
      simp only [Option.bind_some] at hp
      unfold runProds
      exact SimG.bind (simD_runProd cap stop t p h1) fun _ => simD_runProds cap stop t ps hp

theorem simD_tryBranchesPure (D : List Dialect) (T : Table) (stop : Bool) (row : StateRow) (fs : List ANode) :
    ∀ (bs : List Branch), (∀ b ∈ bs, ∃ d, applyProdsA b.prods fs = some d) → ∀ (t : Token),
      SimG (RD fs) (fun _ d d' => CtxD d d') (tryBranchesPure D T stop row bs t) (tryBranchesPure D T stop row bs t) := by
  intro bs
  induction bs with
  | nil =>
    intro _ t
    unfold tryBranchesPure
    refine SimG.bind (Q := fun _ d d' => CtxD d d') ?_ fun _ => ?_
    · intro c c' hr
      rw [run_modify, run_modify]
      exact ⟨rfl, ⟨hr.1.1.lines, hr.1.1.lineNo, hr.1.1.errors, hr.1.1.μ, hr.1.1.ids,
        by simp only [hr.1.1.unexpected]⟩, hr.1.2⟩
    · cases stop with
      | true => exact SimG.throw _ fun _ _ h => h.1
      | false =>
        simp only [Bool.false_eq_true, ↓reduceIte]
        exact SimG.bind (indep_addError _ _).simD fun _ => SimG.pure _ fun _ _ h => h
  | cons b bs ih =>
    intro hbs t
    have hbs' : ∀ b' ∈ bs, ∃ d, applyProdsA b'.prods fs = some d := fun b' h => hbs b' (List.mem_cons_of_mem _ h)
    obtain ⟨d0, hd0⟩ := hbs b List.mem_cons_self
    unfold tryBranchesPure
    refine SimG.bind ((indep_matchP D T.errorCap stop b.kind t).simRD fs) fun mt => ?_
    obtain ⟨m, t'⟩ := mt
    dsimp only
    cases m with
    | false =>
      simp only [Bool.false_eq_true, ↓reduceIte]
      exact ih hbs' t'
    | true =>
      simp only [↓reduceIte]
      have cont : ∀ ok : Bool, SimG (RD fs) (fun _ d d' => CtxD d d')
          (if ok = true then (do runProds T.errorCap stop t' b.prods; Pure.pure b.target : PM Nat)
            else tryBranchesPure D T stop row bs t')
          (if ok = true then (do runProds T.errorCap stop t' b.prods; Pure.pure b.target : PM Nat)
            else tryBranchesPure D T stop row bs t') := by
        intro ok
        cases ok with
        | false =>
          simp only [Bool.false_eq_true, ↓reduceIte]
          exact ih hbs' t'
        | true =>
          simp only [↓reduceIte]
          exact SimG.bind (simD_runProds T.errorCap stop t' b.prods hd0) fun _ => SimG.pure _ fun _ _ h => h.1
      cases b.guard with
      | none => exact SimG.bind (SimG.pure _ fun _ _ h => h) cont
      | some i =>
        simp only []
        cases T.lookaheads[i]? with
        | none => exact SimG.bind (SimG.throw _ fun _ _ h => h.1.1) cont
        | some la => exact SimG.bind ((indep_lookaheadPure D T.errorCap stop la).simRD fs) cont

theorem simD_matchTokenPure (D : List Dialect) {T : Table} {fl : List (Nat × List ANode)}
    (h : descStacksOk T fl = true) (stop : Bool) (s : Nat) (t : Token) :
    SimG (RD (absAt fl s)) (fun a d d' => RD (absAt fl a) d d') (matchTokenPure D T stop s t) (matchTokenPure D T stop s t) := by
  have key : SimG (RD (absAt fl s)) (fun _ d d' => CtxD d d') (matchTokenPure D T stop s t) (matchTokenPure D T stop s t) := by
    unfold matchTokenPure
    cases hrow : T.row? s with
    | none => exact SimG.throw _ fun _ _ h => h.1.1
    | some row =>
      simp only []
      obtain ⟨-, -, -, h4⟩ := descStacksOk_row h hrow
      exact simD_tryBranchesPure D T stop row _ row.branches (fun b hb => by
        obtain ⟨d, hd, -⟩ := h4 b hb
        exact ⟨d, hd⟩) t
  exact key.and_right fun c c' a d' hr hrun => stackA_matchTokenPure D h stop s t c' a d' hr.2 hrun

theorem simD_bodyTail (T : Table) (stop : Bool) (fs : List ANode) (ht : topOkA fs = true) :
    SimG (RD fs) (fun _ d d' => CtxE d d') (bodyTail T stop) (bodyTail T stop) := by
  unfold bodyTail finishX astResult
  refine SimG.bind (Q := fun _ d d' => CtxD d d') ?_ fun _ => ?_
  · intro c c' hr
    obtain ⟨⟨hE, hB⟩, hA⟩ := hr
    rw [run_runProd, run_runProd]
    simp only []
    obtain ⟨h1, h2, h3⟩ := hB.endRule c.ids (topOk_safe hA ht)
    rw [hE.ids, h1, h3]
    exact (indep_liftB T.errorCap stop _).simD _ _
      ⟨⟨hE.lines, hE.lineNo, hE.errors, hE.μ, rfl, hE.unexpected⟩, h2⟩
  · intro c c' hr
    obtain ⟨hE, hB⟩ := hr
    rw [prun_bind, prun_bind, run_get, run_get]
    simp only []
    rw [hE.errors, hB.result]
    by_cases he : (!c.errors.isEmpty) = true
    · rw [if_pos he, prun_bind, prun_bind, prun_throw, prun_throw]
      exact ⟨rfl, hE⟩
    · rw [if_neg he]
      cases c.β.result with
      | error e =>
        cases e with
        | crash w => exact ⟨rfl, hE⟩
        | ast e => exact ⟨rfl, hE⟩
      | ok o =>
        cases o with
        | none => exact ⟨rfl, hE⟩
        | some d => exact ⟨rfl, hE⟩

end Layout6
end GV
