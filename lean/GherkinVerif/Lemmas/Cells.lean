/-
  Lemmas/Cells.lean — for property C12: the single-pass loop `splitCells` computes the two-phase
  reading of Spec/Cells.lean (tokenize, then cut at the pipes: `tableCells_eq_spec`); reading a
  rendered row gives the cells back (`cellTexts_renderRow`, `tableCells_renderRow`); `raggedRow`.
-/
import GherkinVerif.Spec.Cells
import GherkinVerif.Model.Builder
import GherkinVerif.Lemmas.PyStr
namespace GV
namespace Lemmas
open Spec

theorem splitCells_nil (col start : Nat) (cell : Str) (first : Bool) :
    splitCells [] col start cell first = [] := by
  rw [splitCells.eq_def]

theorem splitCells_pipe_false (rest : Str) (col start : Nat) (cell : Str) :
    splitCells (124 :: rest) col start cell false
      = (cell, start) :: splitCells rest (col + 1) (col + 2) [] false := by
  rw [splitCells.eq_def]; simp

theorem splitCells_pipe_true (rest : Str) (col start : Nat) (cell : Str) :
    splitCells (124 :: rest) col start cell true = splitCells rest (col + 1) (col + 2) [] false := by
  rw [splitCells.eq_def]; simp

theorem splitCells_bs_nil (col start : Nat) (cell : Str) (first : Bool) :
    splitCells [92] col start cell first = [] := by
  rw [splitCells.eq_def]; simp

theorem splitCells_bs_cons (d : Nat) (rest : Str) (col start : Nat) (cell : Str) (first : Bool) :
    splitCells (92 :: d :: rest) col start cell first
      = splitCells rest (col + 2) start (cell ++ (CTok.esc d).value) first := by
  rw [splitCells.eq_def]
  simp only [show ((92:Nat) == 124) = false from rfl, Bool.false_eq_true, if_false,
    show ((92:Nat) == 92) = true from rfl, if_true, CTok.value]
  cases h1 : (d == 110) <;> cases h2 : (d == 124 || d == 92) <;>
    simp only [if_true, if_false, Bool.false_eq_true]

theorem splitCells_chr (c : Nat) (rest : Str) (col start : Nat) (cell : Str) (first : Bool)
    (h1 : c ≠ 124) (h2 : c ≠ 92) :
    splitCells (c :: rest) col start cell first = splitCells rest (col + 1) start (cell ++ [c]) first := by
  rw [splitCells.eq_def]; simp [h1, h2]

theorem tokenize_nil : tokenize [] = [] := by rw [tokenize.eq_def]

theorem tokenize_pipe (rest : Str) : tokenize (124 :: rest) = .pipe :: tokenize rest := by
  rw [tokenize.eq_def]; simp

theorem tokenize_bs_nil : tokenize [92] = [.dangling] := by
  rw [tokenize.eq_def]; simp

theorem tokenize_bs_cons (d : Nat) (rest : Str) : tokenize (92 :: d :: rest) = .esc d :: tokenize rest := by
  rw [tokenize.eq_def]; simp

theorem tokenize_chr (c : Nat) (rest : Str) (h1 : c ≠ 124) (h2 : c ≠ 92) :
    tokenize (c :: rest) = .chr c :: tokenize rest := by
  rw [tokenize.eq_def]; simp [h1, h2]

@[simp] theorem segments_nil (off : Nat) (cur : List CTok) (cs : Nat) :
    segments [] off cur cs = [(cs, cur)] := rfl
@[simp] theorem segments_pipe (ts : List CTok) (off : Nat) (cur : List CTok) (cs : Nat) :
    segments (.pipe :: ts) off cur cs = (cs, cur) :: segments ts (off + 1) [] (off + 1) := rfl
@[simp] theorem segments_esc (d : Nat) (ts : List CTok) (off : Nat) (cur : List CTok) (cs : Nat) :
    segments (.esc d :: ts) off cur cs = segments ts (off + 2) (cur ++ [.esc d]) cs := rfl
@[simp] theorem segments_chr (d : Nat) (ts : List CTok) (off : Nat) (cur : List CTok) (cs : Nat) :
    segments (.chr d :: ts) off cur cs = segments ts (off + 1) (cur ++ [.chr d]) cs := rfl
@[simp] theorem segments_dangling (ts : List CTok) (off : Nat) (cur : List CTok) (cs : Nat) :
    segments (.dangling :: ts) off cur cs = segments ts (off + 1) (cur ++ [.dangling]) cs := rfl

theorem segments_ne_nil : ∀ (ts : List CTok) (off : Nat) (cur : List CTok) (cs : Nat),
    segments ts off cur cs ≠ []
  | [], _, _, _ => by simp
  | .pipe :: _, _, _, _ => by simp
  | .esc _ :: ts, _, _, _ => by simp only [segments_esc]; exact segments_ne_nil ts _ _ _
  | .chr _ :: ts, _, _, _ => by simp only [segments_chr]; exact segments_ne_nil ts _ _ _
  | .dangling :: ts, _, _, _ => by simp only [segments_dangling]; exact segments_ne_nil ts _ _ _

theorem unescape_nil : unescape [] = [] := rfl

theorem unescape_snoc (cur : List CTok) (t : CTok) : unescape (cur ++ [t]) = unescape cur ++ t.value := by
  simp [unescape]

/-- how a segment is reported by the loop: unescaped text, 1-based start column -/
def segOut (seg : Nat × List CTok) : Str × Nat := (unescape seg.2, seg.1 + 1)

/-- after the first pipe: the loop emits every segment except the pending last one -/
theorem splitCells_false_aux : ∀ (n : Nat) (row : Str), row.length ≤ n →
    ∀ (col : Nat) (cur : List CTok) (cs : Nat),
    splitCells row col (cs + 1) (unescape cur) false
      = (segments (tokenize row) col cur cs).dropLast.map segOut := by
  intro n
  induction n with
  | zero =>
    intro row h col cur cs
    have : row = [] := List.eq_nil_of_length_eq_zero (by omega)
    subst this
    simp [splitCells_nil, tokenize_nil]
  | succ n ih =>
    intro row h col cur cs
    match row, h with
    | [], _ => simp [splitCells_nil, tokenize_nil]
    | c :: rest, h =>
      have hr : rest.length ≤ n := by simpa using h
      by_cases hc : c = 124
      · subst hc
        have := ih rest hr (col + 1) [] (col + 1)
        rw [unescape_nil] at this
        rw [splitCells_pipe_false, tokenize_pipe, segments_pipe,
          List.dropLast_cons_of_ne_nil (segments_ne_nil _ _ _ _), List.map_cons, this]
        rfl
      · by_cases hb : c = 92
        · subst hb
          match rest, hr with
          | [], _ => simp [splitCells_bs_nil, tokenize_bs_nil]
          | d :: rest', hr =>
            have hr' : rest'.length ≤ n := by simp at hr; omega
            have := ih rest' hr' (col + 2) (cur ++ [.esc d]) cs
            rw [unescape_snoc] at this
            rw [splitCells_bs_cons, tokenize_bs_cons, segments_esc, this]
        · have := ih rest hr (col + 1) (cur ++ [.chr c]) cs
          rw [unescape_snoc] at this
          rw [splitCells_chr _ _ _ _ _ _ hc hb, tokenize_chr _ _ hc hb, segments_chr, ← this]
          rfl

theorem splitCells_false (row : Str) (col : Nat) (cur : List CTok) (cs : Nat) :
    splitCells row col (cs + 1) (unescape cur) false
      = (segments (tokenize row) col cur cs).dropLast.map segOut :=
  splitCells_false_aux row.length row (Nat.le_refl _) col cur cs

/-- before the first pipe: nothing is emitted, the first segment is skipped -/
theorem splitCells_true_aux : ∀ (n : Nat) (row : Str), row.length ≤ n →
    ∀ (col start : Nat) (cell : Str) (cur : List CTok) (cs : Nat),
    splitCells row col start cell true
      = ((segments (tokenize row) col cur cs).drop 1).dropLast.map segOut := by
  intro n
  induction n with
  | zero =>
    intro row h col start cell cur cs
    have : row = [] := List.eq_nil_of_length_eq_zero (by omega)
    subst this
    simp [splitCells_nil, tokenize_nil]
  | succ n ih =>
    intro row h col start cell cur cs
    match row, h with
    | [], _ => simp [splitCells_nil, tokenize_nil]
    | c :: rest, h =>
      have hr : rest.length ≤ n := by simpa using h
      by_cases hc : c = 124
      · subst hc
        have := splitCells_false rest (col + 1) [] (col + 1)
        rw [unescape_nil] at this
        rw [splitCells_pipe_true, tokenize_pipe, segments_pipe, this]
        rfl
      · by_cases hb : c = 92
        · subst hb
          match rest, hr with
          | [], _ => simp [splitCells_bs_nil, tokenize_bs_nil]
          | d :: rest', hr =>
            have hr' : rest'.length ≤ n := by simp at hr; omega
            rw [splitCells_bs_cons, tokenize_bs_cons, segments_esc]
            exact ih rest' hr' _ _ _ _ _
        · rw [splitCells_chr _ _ _ _ _ _ hc hb, tokenize_chr _ _ hc hb, segments_chr]
          exact ih rest hr _ _ _ _ _

theorem splitCells_eq_cellSegments (row : Str) :
    splitCells row 0 1 [] true = (cellSegments row).map segOut :=
  splitCells_true_aux row.length row (Nat.le_refl _) 0 1 [] [] 0

theorem length_eq_leadingBlanks_add : ∀ s : Str, s.length = leadingBlanks s + (lstripBlank s).length
  | [] => rfl
  | c :: cs => by
    by_cases h : isBlank c = true
    · simp only [leadingBlanks, lstripBlank, h, if_true, List.length_cons,
        length_eq_leadingBlanks_add cs]
      omega
    · simp [leadingBlanks, lstripBlank, h]

theorem tableCells_eq_spec (line : Str) : tableCells line = Spec.cells line := by
  unfold tableCells Spec.cells
  rw [splitCells_eq_cellSegments, List.map_map]
  apply List.map_congr_left
  intro seg _
  have := length_eq_leadingBlanks_add (unescape seg.2)
  simp only [Function.comp, segOut, trimBlanks, Prod.mk.injEq, and_true]
  omega

def segs : List CTok → List CTok → List (List CTok)
  | [], cur => [cur]
  | .pipe :: ts, _cur => _cur :: segs ts []
  | .esc d :: ts, cur => segs ts (cur ++ [.esc d])
  | .chr d :: ts, cur => segs ts (cur ++ [.chr d])
  | .dangling :: ts, cur => segs ts (cur ++ [.dangling])

theorem segments_map_snd : ∀ (ts : List CTok) (off : Nat) (cur : List CTok) (cs : Nat),
    (segments ts off cur cs).map (·.2) = segs ts cur
  | [], _, _, _ => rfl
  | .pipe :: ts, off, cur, cs => by
    simp only [segments_pipe, List.map_cons, segs, segments_map_snd ts]
  | .esc _ :: ts, _, _, _ => by simp only [segments_esc, segs, segments_map_snd ts]
  | .chr _ :: ts, _, _, _ => by simp only [segments_chr, segs, segments_map_snd ts]
  | .dangling :: ts, _, _, _ => by simp only [segments_dangling, segs, segments_map_snd ts]

theorem cellTexts_eq (row : Str) :
    cellTexts row = (((segs (tokenize row) []).drop 1).dropLast).map fun s => trimBlanks (unescape s) := by
  unfold cellTexts cellSegments
  rw [← segments_map_snd (tokenize row) 0 [] 0, ← List.map_drop, ← List.map_dropLast, List.map_map]
  rfl

/-- the token an escaped cell character is read back as -/
def cellTok (c : Nat) : CTok :=
  if c == 10 then .esc 110 else if c == 124 then .esc 124 else if c == 92 then .esc 92 else .chr c

theorem cellTok_value (c : Nat) : (cellTok c).value = [c] := by
  unfold cellTok
  by_cases h1 : c = 10
  · subst h1; rfl
  · by_cases h2 : c = 124
    · subst h2; rfl
    · by_cases h3 : c = 92
      · subst h3; rfl
      · simp [h1, h2, h3, CTok.value]

theorem tokenize_escapeCell_append : ∀ (c s : Str),
    tokenize (escapeCell c ++ s) = c.map cellTok ++ tokenize s
  | [], s => by simp [escapeCell]
  | x :: c, s => by
    have ih := tokenize_escapeCell_append c s
    by_cases h1 : x = 10
    · subst h1
      simp only [escapeCell, show ((10:Nat) == 10) = true from rfl, if_true, List.cons_append,
        List.nil_append, tokenize_bs_cons, ih, List.map_cons]
      rfl
    · by_cases h2 : x = 124
      · subst h2
        simp only [escapeCell, show ((124:Nat) == 10) = false from rfl,
          show ((124:Nat) == 124) = true from rfl, Bool.false_eq_true, if_false, if_true,
          List.cons_append, List.nil_append, tokenize_bs_cons, ih, List.map_cons]
        rfl
      · by_cases h3 : x = 92
        · subst h3
          simp only [escapeCell, show ((92:Nat) == 10) = false from rfl,
            show ((92:Nat) == 124) = false from rfl,
            show ((92:Nat) == 92) = true from rfl, Bool.false_eq_true, if_false, if_true,
            List.cons_append, List.nil_append, tokenize_bs_cons, ih, List.map_cons]
          rfl
        · have e : escapeCell (x :: c) = x :: escapeCell c := by simp [escapeCell, h1, h2, h3]
          have t : cellTok x = .chr x := by simp [cellTok, h1, h2, h3]
          rw [e, List.cons_append, tokenize_chr _ _ h2 h3, ih, List.map_cons, t, List.cons_append]

theorem isBlank_ne (c : Nat) (h : isBlank c = true) : c ≠ 124 ∧ c ≠ 92 := by
  constructor <;> (intro e; subst e; revert h; decide)

theorem tokenize_blank_append : ∀ (l s : Str), (∀ c ∈ l, isBlank c = true) →
    tokenize (l ++ s) = l.map CTok.chr ++ tokenize s
  | [], s, _ => by simp
  | x :: l, s, h => by
    have hx := isBlank_ne x (h x (by simp))
    rw [List.cons_append, tokenize_chr _ _ hx.1 hx.2,
      tokenize_blank_append l s (fun c hc => h c (by simp [hc]))]
    rfl

def Plain : CTok → Prop
  | .pipe => False
  | _ => True

theorem segs_plain_append : ∀ (ts rest cur : List CTok), (∀ t ∈ ts, Plain t) →
    segs (ts ++ rest) cur = segs rest (cur ++ ts)
  | [], rest, cur, _ => by simp
  | .pipe :: ts, _, _, h => absurd (h .pipe (by simp)) (by simp [Plain])
  | .esc d :: ts, rest, cur, h => by
    simp only [List.cons_append, segs]
    rw [segs_plain_append ts rest _ (fun t ht => h t (by simp [ht]))]; simp
  | .chr d :: ts, rest, cur, h => by
    simp only [List.cons_append, segs]
    rw [segs_plain_append ts rest _ (fun t ht => h t (by simp [ht]))]; simp
  | .dangling :: ts, rest, cur, h => by
    simp only [List.cons_append, segs]
    rw [segs_plain_append ts rest _ (fun t ht => h t (by simp [ht]))]; simp

theorem cellTok_plain (c : Nat) : Plain (cellTok c) := by
  unfold cellTok; repeat' split
  all_goals trivial

/-- tokens of one rendered cell with its padding -/
def cellToks (x : Str × Str × Str) : List CTok :=
  x.1.map CTok.chr ++ x.2.1.map cellTok ++ x.2.2.map CTok.chr

theorem cellToks_plain (x : Str × Str × Str) : ∀ t ∈ cellToks x, Plain t := by
  intro t ht
  simp only [cellToks, List.mem_append, List.mem_map] at ht
  rcases ht with (⟨_, _, rfl⟩ | ⟨_, _, rfl⟩) | ⟨_, _, rfl⟩
  · trivial
  · exact cellTok_plain _
  · trivial

theorem tokenize_renderRow_cons (l c r : Str) (rest : List (Str × Str × Str))
    (hl : ∀ a ∈ l, isBlank a = true) (hr : ∀ a ∈ r, isBlank a = true) :
    tokenize (renderRow ((l, c, r) :: rest))
      = .pipe :: (cellToks (l, c, r) ++ tokenize (renderRow rest)) := by
  simp only [renderRow, List.cons_append, List.nil_append, List.append_assoc, tokenize_pipe]
  rw [tokenize_blank_append _ _ hl, tokenize_escapeCell_append, tokenize_blank_append _ _ hr]
  simp [cellToks]

theorem segs_renderRow : ∀ (cells : List (Str × Str × Str)) (cur : List CTok),
    (∀ x ∈ cells, (∀ c ∈ x.1, isBlank c = true) ∧ (∀ c ∈ x.2.2, isBlank c = true)) →
    segs (tokenize (renderRow cells)) cur = cur :: (cells.map cellToks ++ [[]])
  | [], cur, _ => by simp [renderRow, tokenize_pipe, tokenize_nil, segs]
  | (l, c, r) :: rest, cur, h => by
    have hx := h (l, c, r) (by simp)
    rw [tokenize_renderRow_cons l c r rest hx.1 hx.2]
    simp only [segs]
    rw [segs_plain_append _ _ _ (cellToks_plain _),
      segs_renderRow rest _ (fun x hx => h x (by simp [hx]))]
    simp

theorem unescape_cellToks (x : Str × Str × Str) : unescape (cellToks x) = x.1 ++ x.2.1 ++ x.2.2 := by
  have h1 : ∀ l : Str, List.flatMap CTok.value (l.map CTok.chr) = l := by
    intro l; induction l with
    | nil => rfl
    | cons a l ih => simp [CTok.value, ih]
  have h2 : ∀ l : Str, List.flatMap CTok.value (l.map cellTok) = l := by
    intro l; induction l with
    | nil => rfl
    | cons a l ih => simp [cellTok_value, ih]
  simp [unescape, cellToks, h1, h2]

theorem lstripBlank_length_le : ∀ s : Str, (lstripBlank s).length ≤ s.length
  | [] => by simp [lstripBlank]
  | c :: cs => by
    have := lstripBlank_length_le cs
    simp only [lstripBlank]; split <;> simp <;> omega

theorem dropWhileEnd_length_le (p : Nat → Bool) : ∀ s : Str, (dropWhileEnd p s).length ≤ s.length
  | [] => by simp [dropWhileEnd]
  | c :: cs => by
    have := dropWhileEnd_length_le p cs
    simp only [dropWhileEnd]
    split
    · split <;> simp
    · rename_i h; simp only [List.length_cons]; omega

theorem lstripBlank_blank_append : ∀ (l s : Str), (∀ c ∈ l, isBlank c = true) →
    lstripBlank (l ++ s) = lstripBlank s
  | [], _, _ => rfl
  | x :: l, s, h => by
    simp only [List.cons_append, lstripBlank, h x (by simp), if_true]
    exact lstripBlank_blank_append l s (fun c hc => h c (by simp [hc]))

theorem lstripBlank_blank (l : Str) (h : ∀ c ∈ l, isBlank c = true) : lstripBlank l = [] := by
  have := lstripBlank_blank_append l [] h
  simpa [lstripBlank] using this

theorem dropWhileEnd_append_stable (p : Nat → Bool) (b : Str) (hb : b ≠ []) (h : dropWhileEnd p b = b) :
    ∀ a : Str, dropWhileEnd p (a ++ b) = a ++ b
  | [] => h
  | x :: a => by
    have ih := dropWhileEnd_append_stable p b hb h a
    simp only [List.cons_append, dropWhileEnd, ih]
    split
    · rename_i e; simp [hb] at e
    · rfl

theorem lstripBlank_eq_self_of_trimmed (c : Str) (h : Trimmed c) : lstripBlank c = c ∧ rstripBlank c = c := by
  unfold Trimmed trimBlanks at h
  have h1 := lstripBlank_length_le c
  have h2 := dropWhileEnd_length_le isBlank (lstripBlank c)
  have hl : (lstripBlank c).length = c.length := by
    have := congrArg List.length h
    unfold rstripBlank at this
    omega
  have e : lstripBlank c = c := by
    cases c with
    | nil => rfl
    | cons x c =>
      simp only [lstripBlank] at hl ⊢
      split
      · rename_i hx
        simp only [hx, if_true] at hl
        have := lstripBlank_length_le c
        simp at hl; omega
      · rfl
  exact ⟨e, by rw [e] at h; exact h⟩

theorem trimBlanks_pad (l c r : Str) (hl : ∀ a ∈ l, isBlank a = true) (hr : ∀ a ∈ r, isBlank a = true)
    (hc : Trimmed c) : trimBlanks (l ++ c ++ r) = c := by
  obtain ⟨e1, e2⟩ := lstripBlank_eq_self_of_trimmed c hc
  unfold trimBlanks
  rw [List.append_assoc, lstripBlank_blank_append l _ hl]
  cases c with
  | nil =>
    simp only [List.nil_append, lstripBlank_blank r hr]; rfl
  | cons x c =>
    have hx : isBlank x = false := by
      cases hb : isBlank x with
      | false => rfl
      | true =>
        simp only [lstripBlank, hb, if_true] at e1
        have := lstripBlank_length_le c
        have := congrArg List.length e1
        simp at this; omega
    have : lstripBlank (x :: c ++ r) = x :: c ++ r := by
      simp [lstripBlank, hx]
    rw [this]
    unfold rstripBlank at e2 ⊢
    rw [dropWhileEnd_append_all _ hr, e2]

theorem cellTexts_renderRow (cells : List (Str × Str × Str))
    (h : ∀ x ∈ cells, (∀ c ∈ x.1, isBlank c = true) ∧ (∀ c ∈ x.2.2, isBlank c = true) ∧ Spec.Trimmed x.2.1) :
    Spec.cellTexts (Spec.renderRow cells) = cells.map (·.2.1) := by
  rw [cellTexts_eq, segs_renderRow cells [] (fun x hx => ⟨(h x hx).1, (h x hx).2.1⟩)]
  simp only [List.drop_succ_cons, List.drop_zero, List.dropLast_concat, List.map_map]
  apply List.map_congr_left
  intro x hx
  obtain ⟨h1, h2, h3⟩ := h x hx
  simp only [Function.comp, unescape_cellToks]
  exact trimBlanks_pad _ _ _ h1 h2 h3

theorem renderRow_head (cells : List (Str × Str × Str)) : ∃ t, renderRow cells = 124 :: t := by
  cases cells with
  | nil => exact ⟨[], rfl⟩
  | cons x rest => obtain ⟨l, c, r⟩ := x; exact ⟨_, by simp [renderRow]; rfl⟩

theorem rstrip_renderRow : ∀ cells : List (Str × Str × Str), rstrip (renderRow cells) = renderRow cells
  | [] => by decide
  | (l, c, r) :: rest => by
    obtain ⟨t, ht⟩ := renderRow_head rest
    have ih := rstrip_renderRow rest
    unfold rstrip at ih ⊢
    simp only [renderRow]
    exact dropWhileEnd_append_stable isSpace _ (by simp [ht]) ih _

theorem strip_trimmed_line (ind tail : Str) (cells : List (Str × Str × Str))
    (hi : ∀ c ∈ ind, isSpace c = true) (ht : ∀ c ∈ tail, isSpace c = true) :
    strip (trimmed (ind ++ renderRow cells ++ tail)) = renderRow cells := by
  obtain ⟨t, e⟩ := renderRow_head cells
  unfold strip trimmed
  rw [List.append_assoc, lstrip_ws_append ind _ hi]
  have : lstrip (renderRow cells ++ tail) = renderRow cells ++ tail := by
    rw [e]; simp only [List.cons_append, lstrip]
    rw [if_neg (by decide)]
  rw [this, this]
  unfold rstrip
  rw [dropWhileEnd_append_all _ ht]
  exact rstrip_renderRow cells

theorem tableCells_renderRow (ind tail : Str) (cells : List (Str × Str × Str))
    (hi : ∀ c ∈ ind, isSpace c = true) (ht : ∀ c ∈ tail, isSpace c = true)
    (h : ∀ x ∈ cells, (∀ c ∈ x.1, isBlank c = true) ∧ (∀ c ∈ x.2.2, isBlank c = true) ∧ Spec.Trimmed x.2.1) :
    (tableCells (ind ++ Spec.renderRow cells ++ tail)).map (·.2) = cells.map (·.2.1) := by
  rw [tableCells_eq_spec, ← cellTexts_renderRow cells h]
  unfold Spec.cells cellTexts
  rw [strip_trimmed_line ind tail cells hi ht, List.map_map]
  rfl

theorem raggedRow_none_iff (rows : List Row) :
    raggedRow rows = none ↔ ∀ r ∈ rows, ∀ r0, rows.head? = some r0 → r.cells.length = r0.cells.length := by
  cases rows with
  | nil => simp [raggedRow]
  | cons r0 rest => simp [raggedRow]

theorem raggedRow_some_first (rows : List Row) (r : Row) (h : raggedRow rows = some r) :
    ∃ pre post r0, rows = pre ++ r :: post ∧ rows.head? = some r0 ∧
      r.cells.length ≠ r0.cells.length ∧ ∀ x ∈ pre, x.cells.length = r0.cells.length := by
  cases rows with
  | nil => simp [raggedRow] at h
  | cons r0 rest =>
    simp only [raggedRow] at h
    rw [List.find?_eq_some_iff_append] at h
    obtain ⟨hr, pre, post, e, hpre⟩ := h
    refine ⟨pre, post, r0, e, rfl, by simpa using hr, ?_⟩
    intro x hx
    simpa using hpre x hx

end Lemmas
end GV
