/-
  Lemmas/ParseLang.lean — property C05 at document level: the `language` of the feature of an
  accepted document is the dialect name in force at the feature line — the matcher's default
  name, unless a `# language:` header was read as such before it, in which case the name in the
  last such header.

  (a) `feature_language_leaf`: through the fold `astOf`: the feature's `language` is the `dialect`
      field of a leaf read as `FeatureLine` (items come from children: `itemsOfList_mem`;
      `feature_ok` of Lemmas/Builder.lean).
  (b) a token matched as a title line carries the name of the dialect in force
      (`matchLine_title_dialect`, = `C05_dialect_reported`).
  (c) along `LineToks` the name changes only at lines read as `Language`, to the name in the header
      (`matchLine_name`, `LineToks.stateAt_name`).
-/
import GherkinVerif.Lemmas.ParseDoc
namespace GV
namespace Spec

/-- the dialect name in force when line `i` is reached, starting from `dflt`: the name in the last
    line before `i` whose token was read as a `# language:` header -/
def nameAt (dflt : Str) : List Str → List Token → Nat → Str
  | l :: ls, t :: ts, i + 1 =>
    nameAt (if t.mtype = some .Language then (languageRe l).getD dflt else dflt) ls ts i
  | _, _, _ => dflt

end Spec

namespace Lemmas
open Spec

/-! ### (c) the name along the lines -/

theorem matchDocSep_name {μ μ' : MState} {t t' : Token} {l sep : Str} {o : Bool}
    (h : matchDocSep μ t l sep o = some (t', μ')) : μ'.name = μ.name := by
  unfold matchDocSep at h
  split at h
  · split at h <;> (cases h; rfl)
  · cases h

theorem matchLine_name (D : List Dialect) (K : Kind) (μ : MState) (t : Token) (l : Str)
    (h : (matchLine D K μ t l).res = .matched) :
    (matchLine D K μ t l).μ.name = if K = .Language then (languageRe l).getD μ.name else μ.name := by
  have hor : ∀ t' μ', ((matchDocSep μ t l dq3 true).orElse fun _ => matchDocSep μ t l bt3 true) = some (t', μ') →
      μ'.name = μ.name := by
    intro t' μ' hm
    cases ha : matchDocSep μ t l dq3 true with
    | some x => rw [ha] at hm; simp only [Option.orElse] at hm; cases hm; exact matchDocSep_name ha
    | none => rw [ha] at hm; simp only [Option.orElse] at hm; exact matchDocSep_name hm
  cases K
  case Language =>
    simp only [matchLine] at h ⊢
    cases hre : languageRe (lineText l none) with
    | none => rw [hre] at h; cases h
    | some name =>
      have hl : languageRe l = some name := by
        simpa [lineText, trimmed, languageRe_lstrip] using hre
      rw [hre] at h
      dsimp only at h ⊢
      cases hd : findDialect D name with
      | none => rw [hd] at h; cases h
      | some d => simp [hl]
  case DocStringSeparator =>
    simp only [matchLine] at h ⊢
    split
    · rename_i t' μ' hr
      simp only [reduceCtorEq, if_false]
      split at hr
      · exact hor _ _ hr
      · split at hr
        · exact hor _ _ hr
        · exact matchDocSep_name hr
    · rfl
  case FeatureLine => rw [matchLine_title D _ rfl]; simp only [reduceCtorEq, if_false]; exact congrArg MState.name (ofOpt_mu ..)
  case RuleLine => rw [matchLine_title D _ rfl]; simp only [reduceCtorEq, if_false]; exact congrArg MState.name (ofOpt_mu ..)
  case BackgroundLine => rw [matchLine_title D _ rfl]; simp only [reduceCtorEq, if_false]; exact congrArg MState.name (ofOpt_mu ..)
  case ScenarioLine => rw [matchLine_title D _ rfl]; simp only [reduceCtorEq, if_false]; exact congrArg MState.name (ofOpt_mu ..)
  case ExamplesLine => rw [matchLine_title D _ rfl]; simp only [reduceCtorEq, if_false]; exact congrArg MState.name (ofOpt_mu ..)
  case EOF => rfl
  case Other => rfl
  case TableRow => simp only [matchLine]; split <;> rfl
  case StepLine => simp only [matchLine]; split <;> rfl
  case Comment => simp only [matchLine]; split <;> rfl
  case Empty => simp only [matchLine]; split <;> rfl
  case TagLine =>
    simp only [matchLine]
    split
    · split <;> rfl
    · rfl

theorem LineToks.stateAt_name {D : List Dialect} {μ μf : MState} {n : Nat} {ls : List Str} {toks : List Token}
    (h : LineToks D μ n ls toks μf) : ∀ i, i < ls.length → (stateAt D μ ls toks i).name = Spec.nameAt μ.name ls toks i := by
  induction h with
  | nil => intro i hi; cases hi
  | @cons μ n l0 ls toks μf K hd hs hres hp _ _ ih =>
    intro i hi
    cases i with
    | zero => rfl
    | succ i =>
      have hmt := (match_well_matched D K μ (freshTok l0 n) l0 hres).1
      rw [stateAt_cons_succ hres, ih i (by simpa using hi)]
      have hname : (muAfter D μ l0 K).name = if K = .Language then (languageRe l0).getD μ.name else μ.name := by
        have hpr : (matchLine D K μ (probe l0) l0).res = .matched := by
          have hsh := (matchLine_indep D K μ (freshTok l0 n) (probe l0) l0).2
          rw [hres] at hsh
          cases hr : (matchLine D K μ (probe l0) l0).res with
          | matched => rfl
          | no => rw [hr] at hsh; cases hsh
          | raised e => rw [hr] at hsh; cases hsh
        exact matchLine_name D K μ (probe l0) l0 hpr
      rw [hname]
      show _ = Spec.nameAt (if (matchLine D K μ (freshTok l0 n) l0).tok.mtype = some Kind.Language then _ else _) ls toks i
      rw [hmt]
      by_cases hK : K = .Language
      · simp [hK]
      · have : ¬ (some K = some Kind.Language) := fun e => hK (Option.some.inj e)
        simp [hK, this]

theorem nameAt_default (dflt : Str) : ∀ (ls : List Str) (toks : List Token) (i : Nat),
    (∀ j tk, j < i → toks[j]? = some tk → tk.mtype ≠ some .Language) → Spec.nameAt dflt ls toks i = dflt := by
  intro ls
  induction ls with
  | nil => intro toks i _; cases toks <;> cases i <;> rfl
  | cons l ls ih =>
    intro toks i h
    cases toks with
    | nil => cases i <;> rfl
    | cons t ts =>
      cases i with
      | zero => rfl
      | succ i =>
        have h0 : t.mtype ≠ some .Language := h 0 t (by omega) rfl
        simp only [Spec.nameAt, h0, if_false]
        exact ih ts i fun j tk hj hjt => h (j + 1) tk (by omega) (by simpa using hjt)

/-! ### (a) the feature's `language` is the `dialect` field of a `FeatureLine` leaf -/

theorem itemsOfList_mem (cs : List Comment) : ∀ (ts : List TTree) (n : Nat) (is : List (Key × Val)) (n' : Nat),
    (itemsOfList cs ts).run.run n = (.ok is, n') → ∀ kv ∈ is,
      (∃ k tk, TTree.leaf tk ∈ ts ∧ kv = (Key.tok k, Val.tok tk) ∧ tk.mtype = some k) ∨
      (∃ r chR n1 n2 v, TTree.node r chR ∈ ts ∧ kv = (Key.rule r, v) ∧
        (astOf cs (.node r chR)).run.run n1 = (.ok v, n2)) := by
  intro ts
  induction ts with
  | nil =>
    intro n is n' h kv hkv
    rw [itemsOfList, run_pure_ok] at h
    rw [h.1] at hkv; cases hkv
  | cons c ts ih =>
    intro n is n' h kv hkv
    obtain ⟨i, n1, is2, h1, h2, rfl⟩ := (run_itemsOfList_cons_ok cs c ts n n' is).1 h
    rcases List.mem_append.1 hkv with hkv | hkv
    · cases c with
      | leaf tk =>
        rw [itemsOf] at h1
        obtain ⟨-, rfl⟩ := run_leafItems_ok tk n n1 i h1
        rcases keyOf_leaf_cases tk with h0 | ⟨k, h0, hm, -⟩ <;> rw [h0] at hkv
        · cases hkv
        · exact .inl ⟨k, tk, List.mem_cons_self .., List.mem_singleton.1 hkv, hm⟩
      | node r chR =>
        obtain ⟨is₁, n₁, v, a1, a2, rfl⟩ := (run_itemsOf_node_ok cs r chR n n1 i).1 h1
        exact .inr ⟨r, chR, n, n1, v, List.mem_cons_self .., List.mem_singleton.1 hkv,
          (run_astOf_node_ok cs r chR n n1 v).2 ⟨is₁, n₁, a1, a2⟩⟩
    · rcases ih n1 is2 n' h2 kv hkv with ⟨k, tk, hm, h3, h4⟩ | ⟨r, chR, m1, m2, v, hm, h3, h4⟩
      · exact .inl ⟨k, tk, List.mem_cons_of_mem _ hm, h3, h4⟩
      · exact .inr ⟨r, chR, m1, m2, v, List.mem_cons_of_mem _ hm, h3, h4⟩

theorem leaf_mem_leavesList {tk : Token} {ts : List TTree} (h : TTree.leaf tk ∈ ts) : tk ∈ leavesList ts := by
  induction ts with
  | nil => cases h
  | cons c ts ih =>
    simp only [leavesList, List.mem_append]
    rcases List.mem_cons.1 h with rfl | h
    · exact .inl (by simp [leaves])
    · exact .inr (ih h)

theorem node_leaves_sub {r : RuleType} {ch ts : List TTree} (h : TTree.node r ch ∈ ts) :
    ∀ x ∈ leavesList ch, x ∈ leavesList ts := by
  induction ts with
  | nil => cases h
  | cons c ts ih =>
    intro x hx
    simp only [leavesList, List.mem_append]
    rcases List.mem_cons.1 h with rfl | h
    · exact .inl (by simpa [leaves] using hx)
    · exact .inr (ih h x hx)

theorem feature_language_leaf (t : TTree) (hdoc : t.isDocument = true) (cs : List Comment) (n n' : Nat) (d : Doc)
    (h : (astOf cs t).run.run n = (.ok (.doc d), n')) (f : Feature) (hf : d.feature = some f) :
    ∃ line ∈ leaves t, line.mtype = some .FeatureLine ∧ f.language = line.dialect := by
  obtain ⟨ch, rfl, -⟩ := (isDocument_iff t).1 hdoc
  -- the document node: its feature is the value of a `Feature` child
  obtain ⟨is, n1, hr, h⟩ := (run_astOf_node_ok cs _ ch n n' _).1 h
  rw [document_eq, res_inj] at h
  cases h.1
  have hgs : getSingle is (.rule .Feature) = .feature f := by
    simp only [featureOf] at hf
    split at hf
    · rename_i f' hg; cases hf; exact hg
    · cases hf
  rcases itemsOfList_mem cs ch n is n1 hr _ (getSingle_mem is _ _ hgs (fun e => by cases e)) with
    ⟨k, tk, -, e, -⟩ | ⟨r, chF, m1, m2, v, hchF, e, hv⟩
  · cases e
  cases e
  -- the feature node: its language is the dialect of the keyword line of its header
  obtain ⟨isF, m3, hrF, hv⟩ := (run_astOf_node_ok cs _ chF m1 m2 _).1 hv
  obtain ⟨rt, header, hh, toks, -, line, hl, dsc, -, kw, -, nm, -, hval, -⟩ :=
    (feature_ok cs isF m3 m2 _ (fun e => by cases e)).1 hv
  have hlang : f.language = line.dialect := by cases hval; rfl
  rcases itemsOfList_mem cs chF m1 isF m3 hrF _ (getSingle_mem isF _ _ hh (fun e => by cases e)) with
    ⟨k, tk, -, e, -⟩ | ⟨r, chH, p1, p2, v, hchH, e, hvH⟩
  · cases e
  cases e
  -- the header node: its items are those of its children, the keyword line among them
  obtain ⟨isH, p3, hrH, hvH⟩ := (run_astOf_node_ok cs _ chH p1 p2 _).1 hvH
  cases (raw_ok cs _ isH p3 p2 _ rfl hvH).1
  rcases itemsOfList_mem cs chH p1 header p3 hrH _ (getSingle_mem header _ _ hl (fun e => by cases e)) with
    ⟨k, tk, hleaf, e, hmt⟩ | ⟨r, c', q1, q2, v, -, e, -⟩
  · cases e
    refine ⟨line, ?_, hmt, hlang⟩
    rw [leaves]
    exact node_leaves_sub hchF _ (node_leaves_sub hchH _ (leaf_mem_leavesList hleaf))
  · cases e

theorem feature_language {D : List Dialect} {T : Table} {G : Grammar} {fuel : Nat} (L : LinkFacts D T G fuel)
    (hB : oneBuildLast T = true)
    (hCR : ((contentStates T).all fun s => (T.row? s).any isContentRow) = true)
    (μ : MState) (ids : Nat) (src : Str) (hμ : (μ.reset D).dialect ∈ D) (d : Doc)
    (h : (parseWith D T false μ ids src).1 = .ok d) (f : Feature) (hf : d.feature = some f) :
    ∃ toks e i tk, (parseWith D T false μ ids src).2.builds = toks ++ [e] ∧ toks[i]? = some tk ∧
      tk.mtype = some .FeatureLine ∧ tk.dialect = f.language ∧
      f.language = Spec.nameAt (μ.reset D).name (splitLines src) toks i := by
  obtain ⟨t, toks, e, μf, A⟩ := parse_accepted L hB hCR μ ids src hμ d h
  obtain ⟨line, hline, hmt, hlang⟩ := feature_language_leaf t A.tree.isDocument _ _ _ d A.tree.ast f hf
  rcases A.leaf_cases hline with ⟨i, l, K, hi, hti, -, -, hres, rfl, hK⟩ | he
  · have hname := LineToks.stateAt_name A.lineToks i (List.getElem?_eq_some_iff.1 hi).1
    have hKF : K = .FeatureLine := Option.some.inj (hK.symm.trans hmt)
    subst hKF
    have hdial : (matchLine D .FeatureLine (stateAt D (μ.reset D) (splitLines src) toks i) (freshTok l (i + 1)) l).tok.dialect =
        (stateAt D (μ.reset D) (splitLines src) toks i).name := by
      cases hm : matchLine D .FeatureLine (stateAt D (μ.reset D) (splitLines src) toks i) (freshTok l (i + 1)) l with
      | mk t' μ' res =>
        rw [hm] at hres
        dsimp only at hres
        subst hres
        exact (matchLine_title_dialect D .FeatureLine rfl _ μ' _ t' _ hm).1
    exact ⟨toks, e, i, _, A.builds_eq, hti, hmt, hlang.symm, by rw [hlang, hdial, hname]⟩
  · rw [he] at hmt; cases hmt

end Lemmas
end GV
