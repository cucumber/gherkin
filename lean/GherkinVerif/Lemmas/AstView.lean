/-
  Lemmas/AstView.lean — which children of a node the AST is made of, as a table (`viewKeys`), and
  how any reading of the items of a grammar-shaped node splits over them key by key (`readKey`,
  `read_view`).  Lemmas/AstIds.lean (ids) and Lemmas/AstElems.lean (elements, free text) apply it.
-/
import GherkinVerif.Lemmas.AstItems
namespace GV
namespace Lemmas
open Spec

/-- For each rule type, the children that `AstBuilder.transform_node` reads with `get_token(s)`,
    `get_single`, `get_items`, `get_steps`, `get_tags`, `get_table_rows` — all it reads but
    `get_description` and the `Other` lines — in the order in which the grammar lets them stand
    (`viewKeys_ok`).  A node that stays raw (`Scenario`, `Examples`, the headers, `Tags`) lists what its
    parent reads through it. -/
def viewKeys : RuleType → List Sym
  | .GherkinDocument => [.rule .Feature]
  | .Feature => [.rule .FeatureHeader, .rule .Background, .rule .ScenarioDefinition, .rule .Rule]
  | .FeatureHeader => [.rule .Tags, .tok .FeatureLine]
  | .Rule => [.rule .RuleHeader, .rule .Background, .rule .ScenarioDefinition]
  | .RuleHeader => [.rule .Tags, .tok .RuleLine]
  | .Background => [.tok .BackgroundLine, .rule .Step]
  | .ScenarioDefinition => [.rule .Tags, .rule .Scenario]
  | .Scenario => [.tok .ScenarioLine, .rule .Step, .rule .ExamplesDefinition]
  | .ExamplesDefinition => [.rule .Tags, .rule .Examples]
  | .Examples => [.tok .ExamplesLine, .rule .ExamplesTable]
  | .ExamplesTable => [.tok .TableRow]
  | .Step => [.tok .StepLine, .rule .DataTable, .rule .DocString]
  | .DataTable => [.tok .TableRow]
  | .DocString => [.tok .DocStringSeparator]
  | .Tags => [.tok .TagLine]
  | _ => []

/-- the child nodes that may occur several times under one parent -/
def manyRules : List RuleType := [.Step, .ScenarioDefinition, .ExamplesDefinition, .Rule]

/-- the two rules without `!`: they never become nodes, and `Spec.nodeShape` gives them no order -/
def inlinedRules : List RuleType := [.StepArg, .DescriptionHelper]

/-- a child node under this key occurs at most once, unless it is one of `manyRules` -/
def atMostOnce (R : RuleType) : Sym → Bool
  | .tok _ => true
  | .rule r => manyRules.contains r || (nodeShape R).order.contains (Sym.rule r, Sym.rule r)

theorem viewKeys_ok (R : RuleType) (hR : R ∉ inlinedRules) :
    ((viewKeys R).map symKey).Nodup ∧ (∀ k ∈ (nodeShape R).lines, Sym.tok k ∈ viewKeys R) ∧
    (∀ r ∈ (nodeShape R).allowed, Sym.rule r ∈ viewKeys R ∨ r = .Description) ∧
    ((viewKeys R).Pairwise fun a b => (a, b) ∈ (nodeShape R).order) ∧
    ∀ s ∈ viewKeys R, atMostOnce R s = true := by
  cases R <;> first | exact absurd (by decide) hR | decide

/-- a reading of the builder's values that finds nothing in a line without element, in a description
    string and in `none` -/
structure Reading {α : Type} (g : Val → List α) : Prop where
  tok : ∀ t k, t.mtype = some k → k ∉ elemKinds → g (.tok t) = []
  descr : ∀ s, g (.descr s) = []
  none : g .none = []

section
variable {α : Type} (g : Val → List α)

/-- the reading of the children under one key, through the accessor `transformNode` has for it -/
def readKey (is : List (Key × Val)) : Sym → List α
  | .tok k => (getTokens is k).flatMap fun t => g (.tok t)
  | .rule .Step => (getSteps is).flatMap fun s => g (.step s)
  | .rule .ScenarioDefinition => (getScenarios is).flatMap fun s => g (.scenario s)
  | .rule .ExamplesDefinition => (getExamples is).flatMap fun e => g (.examples e)
  | .rule .Rule => (getRules is).flatMap fun r => g (.rule r)
  | .rule r => g (getSingle is (.rule r))

theorem flatMap_const_nil {β γ : Type} (l : List β) : (l.flatMap fun _ => ([] : List γ)) = [] :=
  List.flatMap_eq_nil_iff.2 fun _ _ => rfl

theorem readKey_single (is : List (Key × Val)) {r : RuleType} (h : r ∉ manyRules) :
    readKey g is (.rule r) = g (getSingle is (.rule r)) := by
  cases r <;> first | rfl | exact absurd (by decide) h

theorem read_view (hg : Reading g) {R : RuleType} {is : List (Key × Val)} (hok : ItemsOK R is)
    (hwf : ∀ kv ∈ is, WFItem kv) (hR : R ∉ inlinedRules := by decide) :
    itemsMap g is = (viewKeys R).flatMap (readKey g is) := by
  obtain ⟨hnd, hlines, hall, hord, hone⟩ := viewKeys_ok R hR
  rw [hok.by_keys g (viewKeys R) hnd hord fun kv hkv hne => ?_]
  · refine flatMap_congr_mem _ _ _ fun s hs => ?_
    cases s with
    | tok k => exact mapAt_tok g hwf k
    | rule r =>
      by_cases hm : r ∈ manyRules
      · simp only [manyRules, List.mem_cons, List.not_mem_nil, or_false] at hm
        rcases hm with rfl | rfl | rfl | rfl
        · exact mapAt_steps g hwf fun _ => rfl
        · exact mapAt_scenarios g hwf fun _ => rfl
        · exact mapAt_examples g hwf fun _ => rfl
        · exact mapAt_rules g hwf fun _ => rfl
      · have h1 := hone _ hs
        simp only [atMostOnce, Bool.or_eq_true, List.contains_iff_mem, hm, false_or] at h1
        rw [readKey_single g is hm]
        exact mapAt_getSingle g hg.none is _ (hok.order _ h1)
  · have ht := hwf kv hkv
    obtain ⟨key, v⟩ := kv
    cases key with
    | tok k =>
      obtain ⟨t, hv, hm⟩ := ht
      simp only at hv; subst hv
      refine hg.tok t k hm fun hel => hne ?_
      exact List.mem_map_of_mem (f := symKey) (hlines k (hok.lines _ hkv k rfl hel))
    | rule r' =>
      rcases hall r' (hok.allowed _ hkv r' rfl) with h | rfl
      · exact absurd (List.mem_map_of_mem (f := symKey) h) hne
      · obtain ⟨s, hv⟩ := ht
        simp only at hv; subst hv; exact hg.descr s

theorem readKey_background {is : List (Key × Val)} (hg : Reading g) (hwf : ∀ kv ∈ is, WFItem kv) :
    readKey g is (.rule .Background) = (getBackground is).toList.flatMap fun b => g (.background b) := by
  rw [readKey_single g is (by decide), getBackground]
  rcases wf_getSingle hwf .Background with h0 | ⟨b, hb⟩
  · rw [h0, hg.none]; rfl
  · rw [hb]; simp

end

end Lemmas
end GV
