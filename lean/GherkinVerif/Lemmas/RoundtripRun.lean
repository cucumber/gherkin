/-
  Lemmas/RoundtripRun.lean — property C03, round trip: forward simulation of the queue-free parse
  (`Spec.parseWithPure`) on lines whose matcher verdicts are known.  `At c ls n μ β i` fixes the
  observable core of a context (unread lines, line number, matcher, builder, id counter, no errors)
  and leaves the ghost fields (calls, reads, builds …) free.
-/
import GherkinVerif.Lemmas.Roundtrip5Builder
import GherkinVerif.Lemmas.RoundtripFacts
import GherkinVerif.Lemmas.GlueBase
import GherkinVerif.Lemmas.QueuePureLoop
import GherkinVerif.Spec.PureParse
namespace GV
namespace Lemmas
open Spec

structure At (c : Ctx) (ls : List Str) (n : Nat) (μ : MState) (β : BState) (i : Nat) : Prop where
  lines : c.lines = ls
  lineNo : c.lineNo = n
  mu : c.μ = μ
  beta : c.β = β
  ids : c.ids = i
  errs : c.errors = []

section step
variable (D : List Dialect) (cap : Nat) (stop : Bool)
variable {c : Ctx} {ls : List Str} {n : Nat} {μ : MState} {β : BState} {i : Nat}

theorem matchP_at (h : At c ls n μ β i) (K : Kind) (t t' : Token) (b : Bool)
    (hm : (matchTok D K μ t).1 = ⟨t', μ, if b then .matched else .no⟩) :
    ∃ c', run (matchP D cap stop K t) c = (.ok (b, t'), c') ∧ At c' ls n μ β i := by
  refine ⟨{ c with μ := μ, calls := c.calls + if (matchTok D K μ t).2 then 1 else 0 }, ?_,
    ⟨h.lines, h.lineNo, rfl, h.beta, h.ids, h.errs⟩⟩
  rw [run_matchP, h.mu]
  simp only [hm]
  cases b <;> rfl

theorem matchP_line (h : At c ls n μ β i) (K : Kind) (t t' : Token) (l : Str) (hl : t.line = some l) (b : Bool)
    (hm : matchLine D K μ t l = ⟨t', μ, if b then .matched else .no⟩) :
    ∃ c', run (matchP D cap stop K t) c = (.ok (b, t'), c') ∧ At c' ls n μ β i :=
  matchP_at D cap stop h K t t' b (by rw [matchTok_line hl]; exact hm)

theorem matchP_eof (h : At c ls n μ β i) (K : Kind) (t : Token) (hl : t.line = none) (hK : K ≠ .EOF) :
    ∃ c', run (matchP D cap stop K t) c = (.ok (false, t), c') ∧ At c' ls n μ β i :=
  matchP_at D cap stop h K t t false (by unfold matchTok; rw [hl]; cases K <;> first | exact absurd rfl hK | rfl)

theorem runProds_ok (t : Token) (ps : List Prod) : ∀ {c : Ctx} {β : BState} {i : Nat}, At c ls n μ β i →
    ∀ (β' : BState) (i' : Nat), applyOps (prodOps t ps) β i = (.ok (), β', i') →
    ∃ c', run (runProds cap stop t ps) c = (.ok (), c') ∧ At c' ls n μ β' i' := by
  induction ps with
  | nil =>
    intro c β i h β' i' hops
    simp only [prodOps, applyOps] at hops
    cases hops
    exact ⟨c, rfl, h⟩
  | cons p ps ih =>
    intro c β i h β' i' hops
    rw [runProds, prun_bind, run_runProd]
    cases p with
    | start r =>
      simp only [prodOps, applyOps, applyOp] at hops
      have h1 : At { c with β := c.β.startRule r } ls n μ (β.startRule r) i :=
        ⟨h.lines, h.lineNo, h.mu, by simp [h.beta], h.ids, h.errs⟩
      obtain ⟨c', hr, hc'⟩ := ih h1 β' i' hops
      exact ⟨c', by simpa using hr, hc'⟩
    | end_ r =>
      simp only [prodOps, applyOps, applyOp] at hops
      rcases he : β.endRule i with ⟨res, β1, i1⟩
      rw [he] at hops
      cases res with
      | error e => simp at hops
      | ok u =>
        simp only at hops
        have h1 : At { c with β := β1, ids := i1 } ls n μ β1 i1 := ⟨h.lines, h.lineNo, h.mu, rfl, rfl, h.errs⟩
        obtain ⟨c', hr, hc'⟩ := ih h1 β' i' hops
        refine ⟨c', ?_, hc'⟩
        simp only [h.beta, h.ids, he, run_liftB]
        exact hr
    | build =>
      simp only [prodOps, applyOps, applyOp] at hops
      cases hb : β.build t with
      | error e => rw [hb] at hops; simp at hops
      | ok β1 =>
        rw [hb] at hops
        simp only at hops
        have h1 : At { c with β := β1, builds := c.builds ++ [t] } ls n μ β1 i :=
          ⟨h.lines, h.lineNo, h.mu, rfl, h.ids, h.errs⟩
        obtain ⟨c', hr, hc'⟩ := ih h1 β' i' hops
        refine ⟨c', ?_, hc'⟩
        simp only [h.beta, hb]
        exact hr

variable (T : Table) (row : StateRow)

/-- the branch a line of kind `K` takes when the look-aheads answer `ans` where the run stands (`none`: not
    known): the first branch testing `K` that is unguarded or whose look-ahead answers yes; no `Other` test
    and no look-ahead of unknown answer may come before it -/
def pickBy (K : Kind) (ans : Nat → Option Bool) : List Branch → Option Branch
  | [] => none
  | b :: bs =>
    if b.kind == K then
      match b.guard with
      | none => some b
      | some g =>
        match ans g with
        | some true => some b
        | some false => pickBy K ans bs
        | none => none
    else if b.kind == .Other then none else pickBy K ans bs

/-- **one step of the simulation.**  The tokens that can be in hand (`Tok`) fail every specific test but that
    for `K`, which makes `tt` of them; the look-aheads answer `ans`.  Then the tests of a state take the branch
    `pickBy K ans` selects and run its productions on `tt`.  (After a look-ahead has said no the token in hand
    is `tt`: only then must `tt` be in `Tok`.) -/
theorem try_pickBy (K : Kind) (ans : Nat → Option Bool)
    (hpeek : ∀ g v, ans g = some v → ∃ la, T.lookaheads[g]? = some la ∧ ∀ c, At c ls n μ β i →
      ∃ c', run (lookaheadPure D T.errorCap stop la) c = (.ok v, c') ∧ At c' ls n μ β i)
    (Tok : Token → Prop) (tt : Token)
    (hno : ∀ t K', Tok t → K' ≠ K → K' ≠ .Other → (matchTok D K' μ t).1 = ⟨t, μ, .no⟩)
    (hyes : ∀ t, Tok t → (matchTok D K μ t).1 = ⟨tt, μ, .matched⟩)
    (htt : ∀ g, ans g = some false → Tok tt) (β' : BState) (i' : Nat) :
    ∀ (bs : List Branch) (b : Branch), pickBy K ans bs = some b →
      applyOps (prodOps tt b.prods) β i = (.ok (), β', i') →
      ∀ (t : Token) (c : Ctx), Tok t → At c ls n μ β i →
      ∃ c', run (tryBranchesPure D T stop row bs t) c = (.ok b.target, c') ∧ At c' ls n μ β' i' := by
  intro bs
  induction bs with
  | nil => intro b h; cases h
  | cons a bs ih =>
    intro b hb hops t c ht h
    simp only [pickBy] at hb
    split at hb
    · next hk =>
      have hk' : a.kind = K := by simpa using hk
      obtain ⟨c1, r1, h1⟩ := matchP_at D T.errorCap stop h a.kind t tt true (hk' ▸ hyes t ht)
      cases hg : a.guard with
      | none =>
        simp only [hg, Option.some.injEq] at hb
        subst hb
        obtain ⟨c', r3, hc'⟩ := runProds_ok T.errorCap stop tt a.prods h1 β' i' hops
        exact ⟨c', by rw [tryBranchesPure, prun_bind, r1]; simp only [hg, if_true, prun_bind, prun_pure, r3], hc'⟩
      | some g =>
        simp only [hg] at hb
        cases ha : ans g with
        | none => simp [ha] at hb
        | some v =>
          obtain ⟨la, hget, hpk⟩ := hpeek g v ha
          obtain ⟨c2, r2, h2⟩ := hpk c1 h1
          simp only [ha] at hb
          cases v with
          | true =>
            simp only [Option.some.injEq] at hb
            subst hb
            obtain ⟨c', r3, hc'⟩ := runProds_ok T.errorCap stop tt a.prods h2 β' i' hops
            exact ⟨c', by rw [tryBranchesPure, prun_bind, r1]; simp only [hg, hget, if_true, prun_bind, prun_pure, r2, r3], hc'⟩
          | false =>
            obtain ⟨c', r3, hc'⟩ := ih b hb hops tt c2 (htt g ha) h2
            exact ⟨c', by rw [tryBranchesPure, prun_bind, r1]; simp only [hg, hget, if_true, prun_bind, r2, Bool.false_eq_true, if_false, r3], hc'⟩
    · next hk =>
      split at hb
      · cases hb
      · next ho =>
        obtain ⟨c1, r1, h1⟩ := matchP_at D T.errorCap stop h a.kind t t false
          (hno t _ ht (by simpa using hk) (by simpa using ho))
        obtain ⟨c', r3, hc'⟩ := ih b hb hops t c1 ht h1
        exact ⟨c', by rw [tryBranchesPure, prun_bind, r1]; simpa using r3, hc'⟩

theorem pickBy_of_firstOf {K : Kind} {ans : Nat → Option Bool} {b : Branch}
    (hg : b.guard = none ∨ ∃ g, b.guard = some g ∧ ans g = some true) :
    ∀ {bs : List Branch}, firstOf K bs = some b → pickBy K ans bs = some b
  | [], h => by cases h
  | a :: bs, h => by
    simp only [firstOf] at h
    simp only [pickBy]
    split at h
    · next hk =>
      cases h
      rw [if_pos hk]
      rcases hg with hg | ⟨g, hg, ha⟩
      · rw [hg]
      · rw [hg]; simp only [ha]
    · next hk =>
      split at h
      · cases h
      · next ho => rw [if_neg hk, if_neg ho]; exact pickBy_of_firstOf hg h

theorem try_eof (t : Token) (hl : t.line = none) (b : Branch) (rest : List Branch) (hk : b.kind = .EOF)
    (hg : b.guard = none) (h : At c ls n μ β i)
    (β' : BState) (i' : Nat) (hops : applyOps (prodOps (setMatched μ t .EOF) b.prods) β i = (.ok (), β', i')) :
    ∃ c', run (tryBranchesPure D T stop row (b :: rest) t) c = (.ok b.target, c') ∧ At c' ls n μ β' i' :=
  try_pickBy D stop T row .EOF (fun _ => none) (fun _ _ h => nomatch h) (· = t) _
    (fun t K' ht hK _ => by subst ht; unfold matchTok; rw [hl]; cases K' <;> first | exact absurd rfl hK | rfl)
    (fun t ht => by subst ht; simp [matchTok, hl]) (fun _ h => nomatch h) β' i' _ b (by simp [pickBy, hk, hg]) hops t c
    rfl h

end step

end Lemmas
end GV
