/-
  Lemmas/IdsPipelineRefs.lean — property C11, referential integrity: every id a pickle mentions
  is the id of an AST node of the right kind (Spec/Refs.lean), and it occurs in the canonical
  id list of the document.  Proved of the specification's pickles (`spec_pickle_resolves`) and
  carried to the compiler's by `compile_eq_spec`: erasing ids leaves what a pickle mentions as it
  is (`resolves_of_erase`).
-/
import GherkinVerif.Lemmas.Compile
import GherkinVerif.Spec.Refs
import GherkinVerif.Spec.AstOf
namespace GV
namespace Lemmas
namespace IdsP
open Spec

theorem map_eq_map_mem {α β γ} (f : α → γ) (g : β → γ) (l : List α) (m : List β)
    (h : l.map f = m.map g) : ∀ a ∈ l, ∃ b ∈ m, f a = g b := by
  intro a ha
  have : f a ∈ m.map g := h ▸ List.mem_map_of_mem ha
  obtain ⟨b, hb, e⟩ := List.mem_map.1 this
  exact ⟨b, hb, e.symm⟩

theorem mem_featureBgBefore (cs : List FeatureChild) (i : Nat) (x : Step) (h : x ∈ featureBgBefore cs i) :
    ∃ b, FeatureChild.background b ∈ cs ∧ x ∈ b.steps := by
  simp only [featureBgBefore, List.mem_flatMap] at h
  obtain ⟨c, hc, hx⟩ := h
  have hc' := List.mem_of_mem_take hc
  cases c with
  | background b => exact ⟨b, hc', hx⟩
  | scenario s => simp at hx
  | rule r => simp at hx

theorem mem_ruleBgBefore (cs : List RuleChild) (i : Nat) (x : Step) (h : x ∈ ruleBgBefore cs i) :
    ∃ b, RuleChild.background b ∈ cs ∧ x ∈ b.steps := by
  simp only [ruleBgBefore, List.mem_flatMap] at h
  obtain ⟨c, hc, hx⟩ := h
  have hc' := List.mem_of_mem_take hc
  cases c with
  | background b => exact ⟨b, hc', hx⟩
  | scenario s => simp at hx

theorem scope_resolves (f : Feature) (x : Scope × Scenario) (h : x ∈ featureScenarios f) :
    ∃ ro, ScenarioIn f ro x.2 ∧ x.1.ftags = f.tags ∧
      (∀ t ∈ x.1.rtags, ∃ r, ro = some r ∧ t ∈ r.tags) ∧
      (∀ st ∈ x.1.bg, BgStepInScope f ro st) := by
  rcases mem_featureScenarios f x h with ⟨i, hi, hs⟩ | ⟨i, r, j, hi, hj, hs⟩
  · refine ⟨none, List.mem_of_getElem? hi, by rw [hs], by rw [hs]; simp, ?_⟩
    rw [hs]
    intro st hst
    exact .inl (mem_featureBgBefore _ _ _ hst)
  · refine ⟨some r, ⟨List.mem_of_getElem? hi, List.mem_of_getElem? hj⟩, by rw [hs], ?_, ?_⟩
    · rw [hs]; intro t ht; exact ⟨r, rfl, ht⟩
    · rw [hs]
      intro st hst
      rcases List.mem_append.1 hst with h1 | h1
      · exact .inl (mem_featureBgBefore _ _ _ h1)
      · obtain ⟨b, hb, hx⟩ := mem_ruleBgBefore _ _ _ h1
        exact .inr ⟨r, b, rfl, hb, hx⟩

theorem scenarioPickle_steps (uri language : Str) (sc : Scope) (s : Scenario) (p : Pickle)
    (h : scenarioPickle uri language sc s = some p) : steps sc s none = some p.steps := by
  simp only [scenarioPickle, Option.map_eq_some_iff] at h
  obtain ⟨st, hst, rfl⟩ := h
  exact hst

theorem rowPickle_steps (uri language : Str) (sc : Scope) (s : Scenario) (ex : Examples) (hd row : Row)
    (p : Pickle) (h : rowPickle uri language sc s ex hd row = some p) :
    steps sc s (some (row.id, hd.cells.map (·.value), row.cells.map (·.value))) = some p.steps := by
  simp only [rowPickle] at h
  split at h
  · rename_i st name hst hname
    simp only [Option.some.injEq] at h
    subst h
    exact hst
  · simp at h

theorem steps_refs (sc : Scope) (s : Scenario) (sub : Option (Nat × List Str × List Str))
    (st : List PickleStep) (h : steps sc s sub = some st) :
    ∀ ps ∈ st, (∃ x ∈ sc.bg, ps.astNodeIds = [x.id]) ∨ (∃ x ∈ s.steps, ps.astNodeIds = srcIds sub x) := by
  by_cases he : s.steps = []
  · rw [steps_nil sc s sub he] at h
    simp only [Option.some.injEq] at h
    subst h
    intro ps hps; cases hps
  · obtain ⟨a, b, rfl, -, -, -, ha, hb⟩ := steps_some sc s sub _ he h
    intro ps hps
    rcases List.mem_append.1 hps with h1 | h1
    · obtain ⟨x, hx, e⟩ := map_eq_map_mem _ _ _ _ ha ps h1
      exact .inl ⟨x, hx, e⟩
    · obtain ⟨x, hx, e⟩ := map_eq_map_mem _ _ _ _ hb ps h1
      exact .inr ⟨x, hx, e⟩

theorem tags_resolve (f : Feature) (ro : Option Rule) (s : Scenario) (eo : Option Examples) (p : Pickle)
    (tags : List Tag) (hp : p.tags = tags.map (fun t => ⟨t.id, t.name⟩))
    (ht : ∀ t ∈ tags, TagInScope f ro s eo t) : TagsResolve f ro s eo p := by
  intro pt hpt
  rw [hp] at hpt
  obtain ⟨t, htm, rfl⟩ := List.mem_map.1 hpt
  exact ⟨t, ht t htm, rfl, rfl⟩

theorem spec_pickle_resolves (uri : Str) (f : Feature) (x : Scope × Scenario) (hx : x ∈ featureScenarios f)
    (q : Pickle) (hq : some q ∈ scenarioPickles uri f.language x.1 x.2) : PickleResolves f q := by
  obtain ⟨sc, s⟩ := x
  obtain ⟨ro, hin, hft, hrt, hbg⟩ := scope_resolves f (sc, s) hx
  dsimp only at hin hft hrt hbg hq
  refine ⟨ro, s, hin, ?_⟩
  unfold scenarioPickles at hq
  split at hq
  · rename_i hex
    simp only [List.mem_singleton] at hq
    have hq := hq.symm
    refine .inl ⟨hex, ((spec_fields uri f.language sc s q).1 hq).1, ?_, ?_⟩
    · intro ps hps
      rcases steps_refs sc s none q.steps (scenarioPickle_steps _ _ _ _ _ hq) ps hps with
        ⟨y, hy, e⟩ | ⟨y, hy, e⟩
      · exact ⟨y, .inr (hbg y hy), e⟩
      · exact ⟨y, .inl hy, e⟩
    · refine tags_resolve f ro s none q _ (spec_tags_scenario uri f.language sc s q hq) ?_
      intro t ht
      rcases List.mem_append.1 ht with h1 | h1
      · rcases List.mem_append.1 h1 with h2 | h2
        · exact .inl (hft ▸ h2)
        · exact .inr (.inl (hrt t h2))
      · exact .inr (.inr (.inl h1))
  · obtain ⟨e, he, hq⟩ := List.mem_flatMap.1 hq
    split at hq
    · cases hq
    · rename_i hd hhd
      obtain ⟨row, hrow, hq⟩ := List.mem_map.1 hq
      refine .inr ⟨e, he, row, hrow, by rw [hhd]; rfl,
        ((spec_fields uri f.language sc s q).2 e hd row hq).1, ?_, ?_⟩
      · intro ps hps
        rcases steps_refs sc s _ q.steps (rowPickle_steps _ _ _ _ _ _ _ _ hq) ps hps with
          ⟨y, hy, e⟩ | ⟨y, hy, e⟩
        · exact .inr ⟨y, hbg y hy, e⟩
        · exact .inl ⟨y, hy, e⟩
      · refine tags_resolve f ro s (some e) q _ (spec_tags_row uri f.language sc s e hd row q hq) ?_
        intro t ht
        rcases List.mem_append.1 ht with h1 | h1
        · rcases List.mem_append.1 h1 with h1 | h1
          · rcases List.mem_append.1 h1 with h2 | h2
            · exact .inl (hft ▸ h2)
            · exact .inr (.inl (hrt t h2))
          · exact .inr (.inr (.inl h1))
        · exact .inr (.inr (.inr ⟨e, rfl, h1⟩))

theorem resolves_of_erase (f : Feature) (p : Pickle) (h : PickleResolves f (eraseIds p)) :
    PickleResolves f p := by
  obtain ⟨ro, s, hin, h⟩ := h
  refine ⟨ro, s, hin, ?_⟩
  have hsteps : ∀ ps ∈ p.steps, eraseStep ps ∈ (eraseIds p).steps := by
    intro ps hps
    rw [eraseIds_eq]
    exact List.mem_map_of_mem hps
  rcases h with ⟨hex, hid, hst, htg⟩ | ⟨e, he, r, hr, hh, hid, hst, htg⟩
  · exact .inl ⟨hex, hid, fun ps hps => hst (eraseStep ps) (hsteps ps hps), htg⟩
  · exact .inr ⟨e, he, r, hr, hh, hid, fun ps hps => hst (eraseStep ps) (hsteps ps hps), htg⟩

theorem compile_resolves (uri : Str) (d : Doc) (n : Nat) (ps : List Pickle) (n' : Nat)
    (h : compile uri d n = some (ps, n')) :
    ∀ p ∈ ps, ∃ f, d.feature = some f ∧ PickleResolves f p := by
  intro p hp
  have hs := compile_eq_spec uri d n ps n' h
  unfold pickles at hs
  split at hs
  · simp only [Option.some.injEq] at hs
    have : ps = [] := by simpa using hs.symm
    subst this
    cases hp
  · rename_i f hf
    refine ⟨f, hf, resolves_of_erase f p ?_⟩
    have hm := allSome_mem hs (List.mem_map_of_mem (f := eraseIds) hp)
    obtain ⟨x, hx, hq⟩ := List.mem_flatMap.1 hm
    exact spec_pickle_resolves uri f x hx _ hq

theorem scenarioIds_sub (f : Feature) (ro : Option Rule) (s : Scenario) (h : ScenarioIn f ro s) :
    ∀ i ∈ scenarioIds s, i ∈ featureIds f := by
  intro i hi
  unfold featureIds
  refine List.mem_append_left _ (List.mem_flatMap.2 ?_)
  cases ro with
  | none => exact ⟨_, h, hi⟩
  | some r =>
    refine ⟨_, h.1, ?_⟩
    show i ∈ ruleIds r
    unfold ruleIds
    exact List.mem_append_left _ (List.mem_append_left _ (List.mem_flatMap.2 ⟨_, h.2, hi⟩))

theorem step_id_mem (x : Step) : x.id ∈ stepIds x := by simp [stepIds]

theorem mem_scenarioIds_self (s : Scenario) : s.id ∈ scenarioIds s := by simp [scenarioIds]

theorem mem_scenarioIds_step (s : Scenario) (x : Step) (h : x ∈ s.steps) : x.id ∈ scenarioIds s := by
  unfold scenarioIds
  exact List.mem_append_left _ (List.mem_append_left _ (List.mem_append_left _
    (List.mem_flatMap.2 ⟨x, h, step_id_mem x⟩)))

theorem mem_scenarioIds_tag (s : Scenario) (t : Tag) (h : t ∈ s.tags) : t.id ∈ scenarioIds s := by
  unfold scenarioIds
  exact List.mem_append_left _ (List.mem_append_right _ (List.mem_map_of_mem h))

theorem mem_scenarioIds_row (s : Scenario) (e : Examples) (r : Row) (he : e ∈ s.examples) (hr : r ∈ e.body) :
    r.id ∈ scenarioIds s := by
  unfold scenarioIds
  refine List.mem_append_left _ (List.mem_append_left _ (List.mem_append_right _
    (List.mem_flatMap.2 ⟨e, he, ?_⟩)))
  unfold examplesIds rowIds
  exact List.mem_append_left _ (List.mem_append_left _ (List.mem_append_right _ (List.mem_map_of_mem hr)))

theorem mem_scenarioIds_extag (s : Scenario) (e : Examples) (t : Tag) (he : e ∈ s.examples) (ht : t ∈ e.tags) :
    t.id ∈ scenarioIds s := by
  unfold scenarioIds
  refine List.mem_append_left _ (List.mem_append_left _ (List.mem_append_right _
    (List.mem_flatMap.2 ⟨e, he, ?_⟩)))
  unfold examplesIds
  exact List.mem_append_left _ (List.mem_append_right _ (List.mem_map_of_mem ht))

theorem mem_backgroundIds_step (b : Background) (x : Step) (h : x ∈ b.steps) : x.id ∈ backgroundIds b := by
  unfold backgroundIds
  exact List.mem_append_left _ (List.mem_flatMap.2 ⟨x, h, step_id_mem x⟩)

theorem bgStep_id_mem (f : Feature) (ro : Option Rule) (s : Scenario) (hin : ScenarioIn f ro s) (x : Step)
    (h : BgStepInScope f ro x) : x.id ∈ featureIds f := by
  unfold featureIds
  refine List.mem_append_left _ (List.mem_flatMap.2 ?_)
  rcases h with ⟨b, hb, hx⟩ | ⟨r, b, rfl, hb, hx⟩
  · exact ⟨_, hb, mem_backgroundIds_step b x hx⟩
  · refine ⟨_, hin.1, ?_⟩
    show x.id ∈ ruleIds r
    unfold ruleIds
    exact List.mem_append_left _ (List.mem_append_left _
      (List.mem_flatMap.2 ⟨_, hb, mem_backgroundIds_step b x hx⟩))

theorem tag_id_mem (f : Feature) (ro : Option Rule) (s : Scenario) (hin : ScenarioIn f ro s)
    (eo : Option Examples) (heo : ∀ e, eo = some e → e ∈ s.examples) (t : Tag)
    (h : TagInScope f ro s eo t) : t.id ∈ featureIds f := by
  rcases h with h | ⟨r, rfl, h⟩ | h | ⟨e, rfl, h⟩
  · unfold featureIds
    exact List.mem_append_right _ (List.mem_map_of_mem h)
  · unfold featureIds
    refine List.mem_append_left _ (List.mem_flatMap.2 ⟨_, hin.1, ?_⟩)
    show t.id ∈ ruleIds r
    unfold ruleIds
    exact List.mem_append_left _ (List.mem_append_right _ (List.mem_map_of_mem h))
  · exact scenarioIds_sub f ro s hin _ (mem_scenarioIds_tag s t h)
  · exact scenarioIds_sub f ro s hin _ (mem_scenarioIds_extag s e t (heo e rfl) h)

theorem refs_mem (f : Feature) (p : Pickle) (h : PickleResolves f p) :
    ∀ i ∈ pickleRefs p, i ∈ featureIds f := by
  obtain ⟨ro, s, hin, h⟩ := h
  have hs := scenarioIds_sub f ro s hin
  intro i hi
  unfold pickleRefs at hi
  rcases h with ⟨-, hid, hst, htg⟩ | ⟨e, he, r, hr, -, hid, hst, htg⟩
  · rcases List.mem_append.1 hi with hi | hi
    · rcases List.mem_append.1 hi with hi | hi
      · rw [hid] at hi
        simp only [List.mem_singleton] at hi
        subst hi
        exact hs _ (mem_scenarioIds_self s)
      · obtain ⟨ps, hps, hi⟩ := List.mem_flatMap.1 hi
        obtain ⟨x, hx, e⟩ := hst ps hps
        rw [e] at hi
        simp only [List.mem_singleton] at hi
        subst hi
        rcases hx with hx | hx
        · exact hs _ (mem_scenarioIds_step s x hx)
        · exact bgStep_id_mem f ro s hin x hx
    · obtain ⟨pt, hpt, rfl⟩ := List.mem_map.1 hi
      obtain ⟨t, ht, e, -⟩ := htg pt hpt
      rw [e]
      exact tag_id_mem f ro s hin none (fun _ h => by cases h) t ht
  · rcases List.mem_append.1 hi with hi | hi
    · rcases List.mem_append.1 hi with hi | hi
      · rw [hid] at hi
        simp only [List.mem_cons, List.not_mem_nil, or_false] at hi
        rcases hi with rfl | rfl
        · exact hs _ (mem_scenarioIds_self s)
        · exact hs _ (mem_scenarioIds_row s e r he hr)
      · obtain ⟨ps, hps, hi⟩ := List.mem_flatMap.1 hi
        rcases hst ps hps with ⟨x, hx, e'⟩ | ⟨x, hx, e'⟩
        · rw [e'] at hi
          simp only [List.mem_cons, List.not_mem_nil, or_false] at hi
          rcases hi with rfl | rfl
          · exact hs _ (mem_scenarioIds_step s x hx)
          · exact hs _ (mem_scenarioIds_row s e r he hr)
        · rw [e'] at hi
          simp only [List.mem_singleton] at hi
          subst hi
          exact bgStep_id_mem f ro s hin x hx
    · obtain ⟨pt, hpt, rfl⟩ := List.mem_map.1 hi
      obtain ⟨t, ht, e', -⟩ := htg pt hpt
      rw [e']
      exact tag_id_mem f ro s hin (some e) (fun _ h => by cases h; exact he) t ht

theorem refs_unique (d : Doc) (f : Feature) (hf : d.feature = some f) (hnd : (canonicalIds d).Nodup)
    (p : Pickle) (h : PickleResolves f p) : ∀ i ∈ pickleRefs p, (canonicalIds d).count i = 1 := by
  intro i hi
  have hm : i ∈ canonicalIds d := by
    unfold canonicalIds
    rw [hf]
    exact refs_mem f p h i hi
  rw [hnd.count, if_pos hm]

end IdsP
end Lemmas
end GV
