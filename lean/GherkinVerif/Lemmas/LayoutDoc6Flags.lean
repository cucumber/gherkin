/-
  Lemmas/LayoutDoc6Flags.lean — soundness of the abstract interpretation `Spec.descStacksOk`
  (Spec/LayoutChecks6.lean) as a loop invariant of the queue-free parse: whenever the main loop stands
  in state `s`, the builder's open nodes have the rule types the table fact assigns to `s`, and a
  node whose flag is `false` holds no `Description` item.  Consequences: in a description-opening
  state the top node holds no `Description` item; an `end_rule` that closes a `Description` node never
  puts a second `Description` item into the node below.
-/
import GherkinVerif.Lemmas.LayoutDoc6Base
import GherkinVerif.Lemmas.BuilderOps
import GherkinVerif.Spec.LayoutChecks6
namespace GV
namespace Layout6
open Lemmas Spec Layout3 Layout4 Layout5

/-- the open node `n` is of the abstract node's type, and holds no `Description` item if its flag says so -/
def NodeA (n : Node) (a : ANode) : Prop := n.rt = a.1 ∧ (a.2 = false → getItems n.items (.rule .Description) = [])

def StackA (st : List Node) (fs : List ANode) : Prop := All2 NodeA st fs

theorem StackA.mono {st : List Node} {fs : List ANode} (h : StackA st fs) :
    ∀ {fs' : List ANode}, leA fs fs' = true → StackA st fs' := by
  induction h with
  | nil =>
    intro fs' hle
    cases fs' with
    | nil => exact .nil
    | cons _ _ => simp [leA] at hle
  | @cons n a st fs hab _ ih =>
    intro fs' hle
    obtain ⟨r, x⟩ := a
    cases fs' with
    | nil => simp [leA] at hle
    | cons a' fs' =>
      obtain ⟨r', y⟩ := a'
      simp only [leA, Bool.and_eq_true, decide_eq_true_eq, Bool.or_eq_true, Bool.not_eq_true'] at hle
      obtain ⟨⟨hr, hxy⟩, hrest⟩ := hle
      refine .cons ⟨hab.1.trans hr, fun hy => hab.2 ?_⟩ (ih hrest)
      rcases hxy with h | h
      · exact h
      · simp only at hy; rw [hy] at h; cases h

theorem getItems_snoc_ne (xs : List (Key × Val)) (k k' : Key) (v : Val) (h : (k == k') = false) :
    getItems (xs ++ [(k, v)]) k' = getItems xs k' := by
  unfold getItems
  simp [List.filter_append, h]

theorem build_stackA {β β' : BState} {t : Token} (h : β.build t = .ok β') {fs : List ANode}
    (hA : StackA β.stack fs) : StackA β'.stack fs := by
  rcases build_ok h with ⟨_, -, -, rfl⟩ | ⟨k, top, rest, -, -, hs, rfl⟩
  · exact hA
  · rw [hs] at hA
    cases hA with
    | cons hab ht => exact .cons ⟨hab.1, fun hf => (getItems_snoc_ne _ _ _ _ rfl).trans (hab.2 hf)⟩ ht

theorem applyProdA_end {X : RuleType} {fs fs' : List ANode} (h : applyProdA (.end_ X) fs = some fs') :
    ∃ f r' g rest, fs = (X, f) :: (r', g) :: rest ∧
      ((X = .Description ∧ g = false ∧ fs' = (r', true) :: rest) ∨ (X ≠ .Description ∧ fs' = (r', g) :: rest)) := by
  match fs, h with
  | (r, f) :: (r', g) :: rest, h =>
    simp only [applyProdA] at h
    by_cases hr : (r == X) = true
    · rw [if_pos hr] at h
      have hrX : r = X := by simpa using hr
      subst hrX
      refine ⟨f, r', g, rest, rfl, ?_⟩
      by_cases hX : (r == RuleType.Description) = true
      · rw [if_pos hX] at h
        have : r = .Description := by simpa using hX
        cases g with
        | true => simp at h
        | false =>
          simp only [Bool.false_eq_true, ↓reduceIte, Option.some.injEq] at h
          exact .inl ⟨this, rfl, h.symm⟩
      · rw [if_neg hX] at h
        simp only [Option.some.injEq] at h
        exact .inr ⟨by simpa using hX, h.symm⟩
    · rw [if_neg hr] at h; cases h

/-- where the abstract `end_ X` is defined, the node that receives a closed `Description` node holds
    no `Description` item yet -/
theorem endRule_safe {β : BState} {fs : List ANode} (hA : StackA β.stack fs) {X : RuleType}
    (hp : (applyProdA (.end_ X) fs).isSome = true) :
    ∀ a b rest, β.stack = a :: b :: rest → a.rt = .Description → getItems b.items (.rule .Description) = [] := by
  intro a b rest hs ha
  obtain ⟨fs', hfs'⟩ := Option.isSome_iff_exists.1 hp
  obtain ⟨f, r', g, rest', rfl, hcase⟩ := applyProdA_end hfs'
  rw [hs] at hA
  cases hA with
  | cons hab ht =>
    cases ht with
    | cons hcd _ =>
      have hX : X = .Description := by rw [← ha]; exact hab.1.symm
      rcases hcase with ⟨-, hg, -⟩ | ⟨hne, -⟩
      · exact hcd.2 hg
      · exact absurd hX hne

theorem endRule_stackA {β : BState} {fs fs' : List ANode} (hA : StackA β.stack fs) {X : RuleType}
    (hp : applyProdA (.end_ X) fs = some fs') (n : Nat) : StackA (β.endRule n).2.1.stack fs' := by
  obtain ⟨f, r', g, rest', rfl, hcase⟩ := applyProdA_end hp
  rcases endRule_eq β n with ⟨hs, -⟩ | ⟨a, st, e, n', hs, -, he⟩ | ⟨a, b, st, v, n', hs, -, he⟩ | ⟨a, v, n', hs, -, -⟩ <;>
    rw [hs] at hA
  · cases hA
  · -- the node is dropped: the node below keeps its items
    rw [he]
    cases hA with
    | cons hab ht =>
      cases ht with
      | cons hcd ht' =>
        rcases hcase with ⟨-, -, e⟩ | ⟨-, e⟩ <;> rw [e]
        · exact .cons ⟨hcd.1, fun hf => by cases hf⟩ ht'
        · exact .cons hcd ht'
  · rw [he]
    cases hA with
    | cons hab ht =>
      cases ht with
      | cons hcd ht' =>
        rcases hcase with ⟨-, -, e⟩ | ⟨hne, e⟩ <;> rw [e]
        · exact .cons ⟨hcd.1, fun hf => by cases hf⟩ ht'
        · exact .cons ⟨hcd.1, fun hf => (getItems_snoc_ne _ _ _ _ (by rw [hab.1]; simpa using hne)).trans (hcd.2 hf)⟩ ht'
  · cases hA with
    | cons _ ht => cases ht

theorem stackA_runProd (cap : Nat) (stop : Bool) (t : Token) (p : Prod) {c c' : Ctx} {u : Unit}
    {fs fs' : List ANode} (hA : StackA c.β.stack fs) (hp : applyProdA p fs = some fs')
    (hr : run (runProd cap stop t p) c = (.ok u, c')) : StackA c'.β.stack fs' := by
  rw [run_runProd] at hr
  cases p with
  | start r =>
    simp only [Prod.mk.injEq] at hr
    rw [← hr.2]
    simp only [applyProdA, Option.some.injEq] at hp
    rw [← hp]
    exact .cons ⟨rfl, fun _ => rfl⟩ hA
  | end_ X =>
    simp only [] at hr
    have hk := keepsB_liftB cap stop (c.β.endRule c.ids).1
      { c with β := (c.β.endRule c.ids).2.1, ids := (c.β.endRule c.ids).2.2 }
    rw [hr] at hk
    simp only at hk
    rw [hk]
    exact endRule_stackA hA hp c.ids
  | build =>
    simp only [applyProdA, Option.some.injEq] at hp
    subst hp
    simp only [] at hr
    cases hb : c.β.build t with
    | ok β' =>
      rw [hb] at hr
      simp only [Prod.mk.injEq] at hr
      rw [← hr.2]
      exact build_stackA hb hA
    | error e =>
      rw [hb] at hr
      simp only [] at hr
      have hk := keepsB_liftB cap stop (.error e) c
      rw [hr] at hk
      simp only at hk
      rw [hk]; exact hA

theorem stackA_runProds (cap : Nat) (stop : Bool) (t : Token) : ∀ (ps : List Prod) {c c' : Ctx} {u : Unit}
    {fs fs' : List ANode}, StackA c.β.stack fs → applyProdsA ps fs = some fs' →
    run (runProds cap stop t ps) c = (.ok u, c') → StackA c'.β.stack fs'
  | [], c, c', u, fs, fs', hA, hp, hr => by
    simp only [applyProdsA, Option.some.injEq] at hp
    subst hp
    cases hr
    exact hA
  | p :: ps, c, c', u, fs, fs', hA, hp, hr => by
    simp only [applyProdsA] at hp
    cases h1 : applyProdA p fs with
    | none => rw [h1] at hp; cases hp
    | some fs1 =>
      rw [h1] at hp
      simp only [Option.bind_some] at hp
      unfold runProds at hr
      rw [prun_bind] at hr
      rcases hm : run (runProd cap stop t p) c with ⟨r, c1⟩
      rw [hm] at hr
      cases r with
      | error e => cases hr
      | ok u1 =>
        simp only at hr
        exact stackA_runProds cap stop t ps (stackA_runProd cap stop t p hA h1 hm) hp hr

theorem descStacksOk_row {T : Table} {fl : List (Nat × List ANode)} (h : descStacksOk T fl = true) {s : Nat}
    {row : StateRow} (hrow : T.row? s = some row) :
    leA (absAt fl s) (absAt fl row.errTarget) = true ∧ topOkA (absAt fl s) = true ∧
    (commentOpensDescription T s = true → (absAt fl s).head?.map (·.2) = some false) ∧
    ∀ b ∈ row.branches, ∃ d, applyProdsA b.prods (absAt fl s) = some d ∧ leA d (absAt fl b.target) = true := by
  have hmem : row ∈ T.rows := List.mem_of_find?_eq_some hrow
  have hid : row.id = s := by
    have := List.find?_some hrow
    simpa using this
  unfold descStacksOk at h
  simp only [Bool.and_eq_true, List.all_eq_true, decide_eq_true_eq, Bool.or_eq_true, Bool.not_eq_true'] at h
  obtain ⟨⟨⟨h1, h2⟩, h3⟩, h4⟩ := h.2 row hmem
  rw [hid] at h1 h2 h3 h4
  refine ⟨h1, h2, fun hc => ?_, fun b hb => ?_⟩
  · rcases h3 with h3 | h3
    · rw [h3] at hc; cases hc
    · exact h3
  · have := h4 b hb
    cases hd : applyProdsA b.prods (absAt fl s) with
    | none => rw [hd] at this; cases this
    | some d => rw [hd] at this; exact ⟨d, rfl, this⟩

theorem descStacksOk_start {T : Table} {fl : List (Nat × List ANode)} (h : descStacksOk T fl = true) :
    absAt fl 0 = [(T.startRule, false), (.None_, false)] := by
  unfold descStacksOk at h
  simp only [Bool.and_eq_true, decide_eq_true_eq] at h
  exact h.1.1

theorem topOkA_absAt {T : Table} {fl : List (Nat × List ANode)} (h : descStacksOk T fl = true) (s : Nat) :
    topOkA (absAt fl s) = true := by
  unfold descStacksOk at h
  simp only [Bool.and_eq_true, List.all_eq_true] at h
  have h2 := h.1.2
  unfold absAt
  cases hf : fl.find? (·.1 == s) with
  | none => rfl
  | some e => exact h2 e (List.mem_of_find?_eq_some hf)

/-- an open `Description` node sits on a node without `Description` item -/
theorem topOk_safe {β : BState} {fs : List ANode} (hA : StackA β.stack fs) (ht : topOkA fs = true) :
    ∀ a b rest, β.stack = a :: b :: rest → a.rt = .Description → getItems b.items (.rule .Description) = [] := by
  intro a b rest hs ha
  rw [hs] at hA
  cases hA with
  | @cons _ x _ _ hab ht' =>
    cases ht' with
    | @cons _ y _ _ hcd _ =>
      obtain ⟨r, f⟩ := x
      obtain ⟨r', g⟩ := y
      simp only [topOkA, Bool.or_eq_true, Bool.not_eq_true', decide_eq_false_iff_not] at ht
      rcases ht with ht | ht
      · exact absurd (hab.1.symm.trans ha) ht
      · exact hcd.2 ht

theorem stackA_matchTokenPure (D : List Dialect) {T : Table} {fl : List (Nat × List ANode)}
    (h : descStacksOk T fl = true) (stop : Bool) (s : Nat) (t : Token) (c : Ctx) (s' : Nat) (c' : Ctx)
    (hA : StackA c.β.stack (absAt fl s)) (hr : run (matchTokenPure D T stop s t) c = (.ok s', c')) :
    StackA c'.β.stack (absAt fl s') := by
  unfold matchTokenPure at hr
  cases hrow : T.row? s with
  | none => rw [hrow] at hr; cases hr
  | some row =>
    rw [hrow] at hr
    simp only [] at hr
    obtain ⟨h1, -, -, h4⟩ := descStacksOk_row h hrow
    rcases trace_tryBranchesPure D T stop row _ t c s' c' hr with ⟨b, hb, t', c0, u, e0, e1, e2⟩ | ⟨e1, e2⟩
    · obtain ⟨d, hd, hle⟩ := h4 b hb
      rw [e2]
      exact (stackA_runProds T.errorCap stop t' b.prods (by rw [e0]; exact hA) hd e1).mono hle
    · rw [e1, e2]
      exact hA.mono h1

theorem stackA_prefix (D : List Dialect) {T : Table} {fl : List (Nat × List ANode)} (h : descStacksOk T fl = true)
    (stop : Bool) : ∀ (j s : Nat) (c : Ctx) (r : Nat × Bool) (c' : Ctx), StackA c.β.stack (absAt fl s) →
      run (parsePrefixPure D T stop j s) c = (.ok r, c') → StackA c'.β.stack (absAt fl r.1) :=
  prefix_invariant (I := fun s β => StackA β.stack (absAt fl s))
    fun s t c s' c' hA hr => stackA_matchTokenPure D h stop s t c s' c' hA hr

theorem stackA_start (T : Table) {fl : List (Nat × List ANode)} (h : descStacksOk T fl = true) :
    StackA (BState.reset.startRule T.startRule).stack (absAt fl 0) := by
  rw [descStacksOk_start h]
  exact .cons ⟨rfl, fun _ => rfl⟩ (.cons ⟨rfl, fun _ => rfl⟩ .nil)

theorem descStacks_sound {D : List Dialect} {T : Table} {fl : List (Nat × List ANode)} (h : descStacksOk T fl = true)
    (stop : Bool) (μ : MState) (ids : Nat) (src : Str) (k s : Nat) (c : Ctx)
    (hr : runAfter D T stop μ ids src k = some (s, c)) : StackA c.β.stack (absAt fl s) :=
  runAfter_invariant (I := fun s β => StackA β.stack (absAt fl s))
    (fun s t c s' c' hA hr => stackA_matchTokenPure D h stop s t c s' c' hA hr) (stackA_start T h) hr

theorem descOpening_top_noDescription {D : List Dialect} {T : Table} {fl : List (Nat × List ANode)}
    (h : descStacksOk T fl = true) (stop : Bool) (μ : MState) (ids : Nat) (src : Str) (k s : Nat) (c : Ctx)
    (hr : runAfter D T stop μ ids src k = some (s, c)) (hs : commentOpensDescription T s = true) :
    ∃ top rest, c.β.stack = top :: rest ∧ getItems top.items (.rule .Description) = [] := by
  have hA := descStacks_sound h stop μ ids src k s c hr
  cases hrow : T.row? s with
  | none => unfold commentOpensDescription at hs; rw [hrow] at hs; cases hs
  | some row =>
    obtain ⟨-, -, h3, -⟩ := descStacksOk_row h hrow
    have h3' := h3 hs
    revert hA h3'
    generalize absAt fl s = fs
    generalize c.β.stack = st0
    intro hA h3'
    cases hA with
    | nil => simp at h3'
    | @cons n a st fs0 hab _ =>
      refine ⟨n, st, rfl, hab.2 ?_⟩
      simpa using h3'

end Layout6
end GV
