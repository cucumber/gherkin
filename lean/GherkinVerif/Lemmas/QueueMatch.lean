/-
  What the look-ahead queue argument needs from the token matcher: whether a kind matches a token
  depends only on the token's line and the matcher state; skip and title kinds leave the matcher
  state alone; a line that matches a skip kind matches no title kind.  Plus the run equations of
  `matchP` / `matchAny` in that form.
-/
import GherkinVerif.Lemmas.GlueBase
import GherkinVerif.Lemmas.Keywords
import GherkinVerif.Spec.QueueFacts
namespace GV
namespace Lemmas
open Spec

def MRes.isMatched : MRes → Bool
  | .matched => true
  | _ => false

/-- does kind `K` match a token whose line is `l` (`none`: end of file) in matcher state `μ` -/
def mm (D : List Dialect) (K : Kind) (μ : MState) (l : Option Str) : Bool :=
  MRes.isMatched (matchTok D K μ { line := l, lineNo := 0 }).1.res

theorem matchLine_res_indep (D : List Dialect) (k : Kind) (μ : MState) (t t' : Token) (l : Str) :
    MRes.isMatched (matchLine D k μ t l).res = MRes.isMatched (matchLine D k μ t' l).res := by
  rw [matchLine_eq, matchLine_eq]
  cases lineDec D k μ l <;> rfl

theorem matchTok_isMatched (D : List Dialect) (K : Kind) (μ : MState) (t : Token) :
    MRes.isMatched (matchTok D K μ t).1.res = mm D K μ t.line := by
  unfold mm matchTok
  dsimp only
  cases t.line with
  | none => dsimp only; split <;> rfl
  | some l => exact matchLine_res_indep D K μ t _ l

theorem matchLine_μ_cases (D : List Dialect) (k : Kind) (μ : MState) (t : Token) (l : Str) :
    (matchLine D k μ t l).μ = μ ∨
    ∃ μs text kw kt ind items, lineDec D k μ l = .hit μs text kw kt ind items (matchLine D k μ t l).μ := by
  rw [matchLine_eq]
  cases h : lineDec D k μ l with
  | hit μs text kw kt ind items μ' => exact .inr ⟨μs, text, kw, kt, ind, items, rfl⟩
  | _ => exact .inl rfl

theorem matchTok_mu_stable (D : List Dialect) (K : Kind) (hK : stableKind K = true) (μ : MState) (t : Token) :
    (matchTok D K μ t).1.μ = μ := by
  unfold matchTok
  split
  · split <;> rfl
  · rcases matchLine_μ_cases D K μ t _ with h | ⟨_, _, _, _, _, _, h⟩
    · exact h
    · exact lineDec_hit_state h (fun hk => by subst hk; cases hK) fun hk => by subst hk; cases hK

theorem matchTok_dialect (D : List Dialect) (K : Kind) (μ : MState) (t : Token) (h : μ.dialect ∈ D) :
    (matchTok D K μ t).1.μ.dialect ∈ D := by
  unfold matchTok
  split
  · split <;> exact h
  · rcases matchLine_μ_cases D K μ t _ with h' | ⟨_, _, _, _, _, _, h'⟩
    · rw [h']; exact h
    · rcases lineDec_hit_cases h' with h2 | ⟨-, name, d, hd, h2⟩ | ⟨-, h2, -⟩
      · rw [h2]; exact h
      · rw [h2]; exact List.mem_of_find?_eq_some hd
      · rw [h2]; exact h

theorem startsWith_cons_head {p : Str} {c a : Nat} {r : Str} (h : startsWith (a :: p) (c :: r) = true) : a = c := by
  simp only [startsWith, Bool.and_eq_true, beq_iff_eq] at h
  exact h.1

/-- 35 = `#`, 64 = `@` -/
theorem skip_head (D : List Dialect) (K : Kind) (hK : isSkipKind K = true) (μ : MState) (s : Str)
    (h : mm D K μ (some s) = true) : trimmed s = [] ∨ ∃ r, trimmed s = 35 :: r ∨ trimmed s = 64 :: r := by
  unfold mm matchTok at h
  dsimp only at h
  cases K <;> first | exact absurd hK (by decide) | skip
  · -- Empty
    simp only [matchLine] at h
    split at h
    · rename_i he
      left
      simpa [lineIsEmpty] using he
    · cases h
  · -- Comment
    simp only [matchLine] at h
    split at h
    · rename_i he
      right
      obtain ⟨r, hr⟩ := (startsWith_iff _ _).1 he
      exact ⟨r, .inl hr⟩
    · cases h
  · -- TagLine
    simp only [matchLine] at h
    split at h
    · rename_i he
      right
      obtain ⟨r, hr⟩ := (startsWith_iff _ _).1 he
      exact ⟨r, .inr hr⟩
    · cases h

/-- 58 = `:` -/
theorem title_head (D : List Dialect) (K : Kind) (hK : K.isTitle = true) (μ : MState) (s : Str)
    (h : mm D K μ (some s) = true) :
    ∃ k ∈ μ.dialect.roleKeywords K, startsWith (k ++ [58]) (trimmed s) = true := by
  unfold mm matchTok at h
  dsimp only at h
  rcases matchLine_title_matched D K hK μ { line := some s, lineNo := 0 } s with ⟨t', he, k, hk, hs, -⟩ | ⟨he, -⟩
  · exact ⟨k, hk, hs⟩
  · rw [he] at h; cases h

theorem skip_not_title (D D' : List Dialect) (hD : keywordsPlainStart D' = true) (μ : MState) (hμ : μ.dialect ∈ D')
    (K K' : Kind) (hK : isSkipKind K = true) (hK' : K'.isTitle = true) (l : Option Str)
    (h : mm D K μ l = true) : mm D K' μ l = false := by
  cases l with
  | none =>
    unfold mm matchTok
    dsimp only
    have : (K' == Kind.EOF) = false := by cases K' <;> first | rfl | exact absurd hK' (by decide)
    rw [this]; rfl
  | some s =>
    cases h' : mm D K' μ (some s) with
    | false => rfl
    | true =>
      exfalso
      obtain ⟨k, hk, hs⟩ := title_head D K' hK' μ s h'
      have hp := keywordsPlainStart_spec hD hμ (mem_allKeywords_title (mem_titleKeywords_of_role _ _ _ hk))
      simp only [plainStart, Bool.and_eq_true, Bool.not_eq_true'] at hp
      obtain ⟨⟨⟨⟨⟨-, h35⟩, h64⟩, -⟩, -⟩, -⟩ := hp
      rcases skip_head D K hK μ s h with he | ⟨r, he | he⟩
      · rw [he] at hs
        cases k <;> simp [startsWith] at hs
      · rw [he] at hs
        cases k with
        | nil => simp [startsWith] at hs
        | cons a k =>
          have := startsWith_cons_head hs
          subst this
          simp [startsWith] at h35
      · rw [he] at hs
        cases k with
        | nil => simp [startsWith] at hs
        | cons a k =>
          have := startsWith_cons_head hs
          subst this
          simp [startsWith] at h64

/-- the line is stepped over by a look-ahead with skip list `sk` -/
def skipM (D : List Dialect) (sk : List Kind) (μ : MState) (l : Option Str) : Bool :=
  sk.any fun K => mm D K μ l

theorem skipM_not_title (D D' : List Dialect) (hD : keywordsPlainStart D' = true) (μ : MState) (hμ : μ.dialect ∈ D')
    (sk : List Kind) (hsk : sk.all isSkipKind = true) (K' : Kind) (hK' : K'.isTitle = true) (l : Option Str)
    (h : skipM D sk μ l = true) : mm D K' μ l = false := by
  simp only [skipM, List.any_eq_true] at h
  obtain ⟨K, hK, hm⟩ := h
  exact skip_not_title D D' hD μ hμ K K' (List.all_eq_true.1 hsk K hK) hK' l hm

theorem skipM_not_titles (D D' : List Dialect) (hD : keywordsPlainStart D' = true) (μ : MState) (hμ : μ.dialect ∈ D')
    (sk : List Kind) (hsk : sk.all isSkipKind = true) (ks : List Kind) (hks : ks.all Kind.isTitle = true)
    (l : Option Str) (h : skipM D sk μ l = true) : (ks.any fun K => mm D K μ l) = false := by
  rw [List.any_eq_false]
  intro K hK
  rw [skipM_not_title D D' hD μ hμ sk hsk K (List.all_eq_true.1 hks K hK) l h]
  simp

theorem skipM_eof (D : List Dialect) (sk : List Kind) (hsk : sk.all isSkipKind = true) (μ : MState) :
    skipM D sk μ none = false := by
  simp only [skipM, List.any_eq_false]
  intro K hK
  have hs := List.all_eq_true.1 hsk K hK
  unfold mm matchTok
  dsimp only
  have : (K == Kind.EOF) = false := by cases K <;> first | rfl | exact absurd hs (by decide)
  rw [this]; simp [MRes.isMatched]

theorem matchP_spec {D : List Dialect} {cap : Nat} {stop : Bool} {K : Kind} {t : Token} {c : Ctx}
    {r : Except Abort (Bool × Token)} {c' : Ctx} (h : run (matchP D cap stop K t) c = (r, c')) :
    FootM c c' ∧ c'.μ = (matchTok D K c.μ t).1.μ ∧ c'.calls ≤ c.calls + 1 ∧
    ∀ m t', r = .ok (m, t') → m = mm D K c.μ t.line ∧ t'.line = t.line ∧ t'.lineNo = t.lineNo := by
  have hfoot := matchP_foot D cap stop K t c r c' h
  refine ⟨hfoot, ?_⟩
  rw [run_matchP] at h
  dsimp only at h
  have hm := matchTok_isMatched D K c.μ t
  have ht := matchTok_tok D K c.μ t
  have hcalls : c.calls + (if (matchTok D K c.μ t).2 = true then 1 else 0) ≤ c.calls + 1 := by
    split <;> omega
  split at h
  · rename_i hres
    cases h
    rw [hres] at hm
    exact ⟨rfl, hcalls, fun m t' he => by cases he; exact ⟨hm, ht⟩⟩
  · rename_i hres
    cases h
    rw [hres] at hm
    exact ⟨rfl, hcalls, fun m t' he => by cases he; exact ⟨hm, ht⟩⟩
  · rename_i e hres
    rw [hres] at hm
    split at h
    · cases h
      exact ⟨rfl, hcalls, fun m t' he => by cases he⟩
    · rcases hr : run (addError cap e) _ with ⟨r2, c2⟩
      rw [hr] at h
      obtain ⟨es, rfl⟩ := addError_foot _ _ _ _ _ hr
      cases r2 with
      | ok _ => cases h; exact ⟨rfl, hcalls, fun m t' he => by cases he; exact ⟨hm, ht⟩⟩
      | error e2 => cases h; exact ⟨rfl, hcalls, fun m t' he => by cases he⟩

theorem matchAny_spec {D : List Dialect} {cap : Nat} {stop : Bool} (ks : List Kind)
    (hks : ks.all stableKind = true) {t : Token} {c : Ctx}
    {r : Except Abort (Bool × Token)} {c' : Ctx} (h : run (matchAny D cap stop ks t) c = (r, c')) :
    FootM c c' ∧ c'.μ = c.μ ∧ c'.calls ≤ c.calls + ks.length ∧
    ∀ m t', r = .ok (m, t') → m = (ks.any fun K => mm D K c.μ t.line) ∧ t'.line = t.line ∧ t'.lineNo = t.lineNo := by
  induction ks generalizing t c with
  | nil =>
    rw [GV.matchAny, prun_pure] at h
    cases h
    exact ⟨FootM.refl _, rfl, Nat.le_refl _, fun m t' he => by cases he; exact ⟨rfl, rfl, rfl⟩⟩
  | cons k ks ih =>
    rw [List.all_cons, Bool.and_eq_true] at hks
    rw [GV.matchAny, prun_bind] at h
    rcases hr : run (matchP D cap stop k t) c with ⟨r1, c1⟩
    rw [hr] at h
    obtain ⟨hf1, hμ1, hc1, hv1⟩ := matchP_spec hr
    rw [matchTok_mu_stable D k hks.1] at hμ1
    cases r1 with
    | error e =>
      cases h
      exact ⟨hf1, hμ1, by simp only [List.length_cons]; omega, fun m t' he => by cases he⟩
    | ok r1 =>
      obtain ⟨m1, t1⟩ := r1
      obtain ⟨hm1, hl1, hn1⟩ := hv1 m1 t1 rfl
      dsimp only at h
      split at h
      · rename_i hm
        rw [prun_pure] at h
        cases h
        refine ⟨hf1, hμ1, by simp only [List.length_cons]; omega, fun m t' he => ?_⟩
        cases he
        refine ⟨?_, hl1, hn1⟩
        rw [List.any_cons, ← hm1, hm]; rfl
      · rename_i hm
        obtain ⟨hf2, hμ2, hc2, hv2⟩ := ih hks.2 h
        refine ⟨hf1.trans hf2, hμ2.trans hμ1, by simp only [List.length_cons]; omega, fun m t' he => ?_⟩
        obtain ⟨hm2, hl2, hn2⟩ := hv2 m t' he
        refine ⟨?_, hl2.trans hl1, hn2.trans hn1⟩
        have hm1' : mm D k c.μ t.line = false := by
          rw [← hm1]; simpa using hm
        rw [List.any_cons, hm1', Bool.false_or, hm2, hμ1, hl1]

end Lemmas
end GV
