/-
  Lemmas/LayoutDoc6Base.lean — property C16, a comment line inserted where it opens a description:
  two runs of the queue-free parse on THE SAME text whose contexts agree in everything a run can
  observe except the builder state (and the ghost counters `calls`, `reads`, `builds`).
  `SimG R Q m1 m2`: from `R`-related contexts the two computations end alike — both return the same
  value, in `Q`-related contexts, or both abort with the same error, in contexts that agree outside
  the builder.
-/
import GherkinVerif.Lemmas.LayoutDoc4
import GherkinVerif.Lemmas.LayoutDoc6Builder
namespace GV
namespace Layout5
open Lemmas Spec Layout3 Layout4

def withB (c : Ctx) (β : BState) : Ctx := { c with β := β }

/-- the computation runs alike whatever the builder state, and hands it on -/
def BFrame {α} (m : PM α) : Prop := ∀ c β, run m (withB c β) = ((run m c).1, withB (run m c).2 β)

theorem BFrame.throw {α} (e : Abort) : BFrame (throw e : PM α) := fun _ _ => rfl

end Layout5
namespace Layout6
open Lemmas Spec Layout3 Layout4 Layout5

/-- the two contexts agree in everything but the builder state and the ghost fields -/
structure CtxE (c c' : Ctx) : Prop where
  lines : c'.lines = c.lines
  lineNo : c'.lineNo = c.lineNo
  errors : c'.errors = c.errors
  μ : c'.μ = c.μ
  ids : c'.ids = c.ids
  unexpected : c'.unexpected = c.unexpected

theorem CtxE.refl (c : Ctx) : CtxE c c := ⟨rfl, rfl, rfl, rfl, rfl, rfl⟩

/-- `CtxE`, and the second builder state is the first with extra empty-description items (`BD`) -/
def CtxD (c c' : Ctx) : Prop := CtxE c c' ∧ BD c.β c'.β

def PostG {α} (Q : α → Ctx → Ctx → Prop) : Except Abort α × Ctx → Except Abort α × Ctx → Prop
  | (.ok a, d), (.ok a', d') => a' = a ∧ Q a d d'
  | (.error e, d), (.error e', d') => e' = e ∧ CtxE d d'
  | (.ok _, _), (.error _, _) => False
  | (.error _, _), (.ok _, _) => False

def SimG {α} (R : Ctx → Ctx → Prop) (Q : α → Ctx → Ctx → Prop) (m1 m2 : PM α) : Prop :=
  ∀ c c', R c c' → PostG Q (run m1 c) (run m2 c')

theorem PostG.mono {α} {Q Q' : α → Ctx → Ctx → Prop} (h : ∀ a d d', Q a d d' → Q' a d d')
    {x y : Except Abort α × Ctx} (hp : PostG Q x y) : PostG Q' x y := by
  obtain ⟨r1, d⟩ := x
  obtain ⟨r2, d'⟩ := y
  cases r1 <;> cases r2 <;> simp only [PostG] at hp ⊢
  · exact hp
  · exact ⟨hp.1, h _ _ _ hp.2⟩

theorem PostG.of_ok_left {α} {Q : α → Ctx → Ctx → Prop} {a : α} {d : Ctx} {y : Except Abort α × Ctx}
    (h : PostG Q (.ok a, d) y) : ∃ d', y = (.ok a, d') ∧ Q a d d' := by
  obtain ⟨r, d'⟩ := y
  cases r <;> simp only [PostG] at h
  exact ⟨d', by rw [h.1], h.2⟩

theorem PostG.of_error_left {α} {Q : α → Ctx → Ctx → Prop} {e : Abort} {d : Ctx} {y : Except Abort α × Ctx}
    (h : PostG Q (.error e, d) y) : ∃ d', y = (.error e, d') ∧ CtxE d d' := by
  obtain ⟨r, d'⟩ := y
  cases r <;> simp only [PostG] at h
  exact ⟨d', by rw [h.1], h.2⟩

theorem SimG.pure {α} {R : Ctx → Ctx → Prop} {Q : α → Ctx → Ctx → Prop} (a : α) (h : ∀ c c', R c c' → Q a c c') :
    SimG R Q (pure a) (pure a) := fun c c' hR => ⟨rfl, h c c' hR⟩

theorem SimG.throw {α} {R : Ctx → Ctx → Prop} {Q : α → Ctx → Ctx → Prop} (e : Abort) (h : ∀ c c', R c c' → CtxE c c') :
    SimG R Q (throw e : PM α) (throw e) := fun c c' hR => ⟨rfl, h c c' hR⟩

theorem SimG.bind {α β} {R : Ctx → Ctx → Prop} {Q : α → Ctx → Ctx → Prop} {S : β → Ctx → Ctx → Prop}
    {m1 m2 : PM α} {f1 f2 : α → PM β} (h1 : SimG R Q m1 m2) (h2 : ∀ a, SimG (Q a) S (f1 a) (f2 a)) :
    SimG R S (m1 >>= f1) (m2 >>= f2) := by
  intro c c' hR
  have h := h1 c c' hR
  rw [prun_bind, prun_bind]
  revert h
  rcases run m1 c with ⟨r1, d⟩
  rcases run m2 c' with ⟨r2, d'⟩
  intro h
  cases r1 <;> cases r2 <;> simp only [PostG] at h ⊢
  · exact h
  · obtain ⟨rfl, hq⟩ := h
    exact h2 _ d d' hq

theorem SimG.weaken {α} {R R' : Ctx → Ctx → Prop} {Q Q' : α → Ctx → Ctx → Prop} {m1 m2 : PM α}
    (h : SimG R Q m1 m2) (hR : ∀ c c', R' c c' → R c c') (hQ : ∀ a d d', Q a d d' → Q' a d d') :
    SimG R' Q' m1 m2 := fun c c' hr => (h c c' (hR c c' hr)).mono hQ

/-- the computation neither reads nor writes the builder state (nor the ghost fields) -/
def Indep {α} (m : PM α) : Prop :=
  SimG CtxE (fun _ d d' => CtxE d d') m m ∧ KeepsB m

theorem Indep.pure {α} (a : α) : Indep (pure a : PM α) := ⟨SimG.pure a fun _ _ h => h, KeepsB.pure a⟩
theorem Indep.throw {α} (e : Abort) : Indep (throw e : PM α) := ⟨SimG.throw e fun _ _ h => h, KeepsB.throw e⟩
theorem Indep.bind {α β} {m : PM α} {f : α → PM β} (h1 : Indep m) (h2 : ∀ a, Indep (f a)) : Indep (m >>= f) :=
  ⟨SimG.bind h1.1 fun a => (h2 a).1, KeepsB.bind h1.2 fun a => (h2 a).2⟩

/-- a builder-independent computation keeps every relation that speaks about the builder states and
    the observable fields only -/
theorem Indep.simG {α} {m : PM α} (h : Indep m) {R : Ctx → Ctx → Prop} (hE : ∀ c c', R c c' → CtxE c c')
    (hR : ∀ c c' d d', R c c' → CtxE d d' → d.β = c.β → d'.β = c'.β → R d d') :
    SimG R (fun _ d d' => R d d') m m := by
  intro c c' hr
  have h1 := h.1 c c' (hE c c' hr)
  have k1 := h.2 c
  have k2 := h.2 c'
  revert h1 k1 k2
  rcases run m c with ⟨r1, d⟩
  rcases run m c' with ⟨r2, d'⟩
  intro h1 k1 k2
  cases r1 <;> cases r2 <;> simp only [PostG] at h1 ⊢
  · exact h1
  · exact ⟨h1.1, hR c c' d d' hr h1.2 k1 k2⟩

end Layout6
end GV
