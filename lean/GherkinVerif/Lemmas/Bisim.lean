/-
  Lemmas/Bisim.lean — generic lock-step bisimulation checker for two *total* deterministic
  automata, for words of the form `ks ++ [eof]` with `eof ∉ ks` (documents: lines, then the
  end-of-file token).  Rejection is an ordinary (absorbing, non-accepting) state of the automata,
  so no special treatment is needed.

  * `closedRel`  : Boolean check that a list of state pairs is closed under every non-`eof` input
                   and that acceptance agrees after `eof`;
  * `bisim_sound`: a closed relation relates only language-equivalent states;
  * `explore`    : fuelled worklist computing the reachable pairs (the certificate is *computed*,
                   then checked by `closedRel`; its soundness does not depend on `explore`).
-/
namespace GV.Lemmas

structure TDet (σ κ : Type) where
  step : σ → κ → σ
  acc : σ → Bool

namespace TDet
variable {σ τ κ : Type}

def run (A : TDet σ κ) : σ → List κ → σ
  | s, [] => s
  | s, k :: ks => A.run (A.step s k) ks

def accepts (A : TDet σ κ) (eof : κ) (s : σ) (ks : List κ) : Bool := A.acc (A.run s (ks ++ [eof]))

end TDet

variable {σ τ κ : Type} [DecidableEq σ] [DecidableEq τ] [DecidableEq κ]

def succPairs (A : TDet σ κ) (B : TDet τ κ) (kinds : List κ) (eof : κ) (p : σ × τ) : List (σ × τ) :=
  (kinds.filter (fun k => !(k == eof))).map fun k => (A.step p.1 k, B.step p.2 k)

def closedRel (A : TDet σ κ) (B : TDet τ κ) (kinds : List κ) (eof : κ) (rel : List (σ × τ)) : Bool :=
  rel.all fun p => kinds.all fun k =>
    if k = eof then A.acc (A.step p.1 k) == B.acc (B.step p.2 k)
    else rel.contains (A.step p.1 k, B.step p.2 k)

theorem bisim_sound (A : TDet σ κ) (B : TDet τ κ) (kinds : List κ) (eof : κ) (rel : List (σ × τ))
    (hk : ∀ k, k ∈ kinds) (h : closedRel A B kinds eof rel = true) :
    ∀ ks, eof ∉ ks → ∀ s t, (s, t) ∈ rel → A.accepts eof s ks = B.accepts eof t ks := by
  simp only [closedRel, List.all_eq_true] at h
  intro ks
  induction ks with
  | nil =>
    intro _ s t hst
    have := h _ hst eof (hk eof)
    simpa [TDet.accepts, TDet.run] using this
  | cons k ks ih =>
    intro hne s t hst
    have hk' : k ≠ eof := by intro e; apply hne; simp [e]
    have hks : eof ∉ ks := by intro e; apply hne; simp [e]
    have := h _ hst k (hk k)
    simp only [hk', if_false, List.contains_iff_mem] at this
    have := ih hks _ _ this
    simpa [TDet.accepts, TDet.run] using this

def explore (A : TDet σ κ) (B : TDet τ κ) (kinds : List κ) (eof : κ) :
    Nat → List (σ × τ) → List (σ × τ) → List (σ × τ)
  | 0, _, rel => rel
  | _ + 1, [], rel => rel
  | n + 1, p :: todo, rel =>
    if rel.contains p then explore A B kinds eof n todo rel
    else explore A B kinds eof n (succPairs A B kinds eof p ++ todo) (p :: rel)

def bisimCheck (A : TDet σ κ) (B : TDet τ κ) (kinds : List κ) (eof : κ) (fuel : Nat) (s : σ) (t : τ) : Bool :=
  let rel := explore A B kinds eof fuel [(s, t)] []
  rel.contains (s, t) && closedRel A B kinds eof rel

theorem bisimCheck_sound (A : TDet σ κ) (B : TDet τ κ) (kinds : List κ) (eof : κ) (fuel : Nat) (s : σ) (t : τ)
    (hk : ∀ k, k ∈ kinds) (h : bisimCheck A B kinds eof fuel s t = true) :
    ∀ ks, eof ∉ ks → A.accepts eof s ks = B.accepts eof t ks := by
  simp only [bisimCheck, Bool.and_eq_true, List.contains_iff_mem] at h
  intro ks hks
  exact bisim_sound A B kinds eof _ hk h.2 ks hks s t h.1

end GV.Lemmas
