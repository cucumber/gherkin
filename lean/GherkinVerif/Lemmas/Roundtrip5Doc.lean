/-
  Lemmas/Roundtrip5Doc.lean — round trip of the document model with rules: entering a rule (from a
  feature-level or a rule-level state), the rule block, the rules of a feature, the end of file, the
  document; and the smaller models as parts of it.
-/
import GherkinVerif.Lemmas.RoundtripBlocks
import GherkinVerif.Lemmas.RoundtripEmbed
namespace GV
namespace Lemmas
open Spec

/-- in `σ` a rule or the end of file may follow: the branches close everything down to the `Feature` node,
    leaving it with the items `ff` and the id counter at `i₀` -/
def REntry (T : Table) (σ : Nat × BState × Nat) (ff : List (Key × Val)) (i₀ : Nat) : Prop :=
  ∃ clr, Picks T σ.1 (firstOf .RuleLine) ⟨.RuleLine, none, clr ++ [.start .Rule, .start .RuleHeader, .build], 19⟩ ∧
    Picks T σ.1 firstTagU ⟨.TagLine, none, clr ++ [.start .Rule, .start .RuleHeader, .start .Tags, .build], 18⟩ ∧
    Picks T σ.1 List.head? ⟨.EOF, none, clr ++ [.end_ .Feature, .build], 34⟩ ∧
    ∀ t, applyOps (prodOps t clr) σ.2.1 σ.2.2 = (.ok (), featStack ff, i₀)

/-- after the children of a feature (nothing more to close) or of a rule (the rule is closed too) -/
theorem REntry.of_follows {T : Table} {ℓ : Level} {σ : Nat × BState × Nat} {stk : BState} {i₁ : Nat}
    (h : Follows T ℓ σ stk i₁) {ff : List (Key × Val)} {i₀ : Nat}
    (hup : ∀ t, applyOps (prodOps t ℓ.up) stk i₁ = (.ok (), featStack ff, i₀)) : REntry T σ ff i₀ := by
  obtain ⟨cl, hn, hcl⟩ := h
  exact ⟨cl ++ ℓ.up, hn.rule, hn.ruleTag, hn.eof, fun t => applyOps_closing t hcl (hup t)⟩

section doc5
variable {D' : List Dialect} (hf : keywordFacts D' = true) (hr : renderFacts D' = true)
variable (D : List Dialect) (stop : Bool) {T : Table} (R : LevelFacts T ruleLevel)
variable {μ : MState} (hμ : μ.dialect ∈ D') (hsep : μ.activeSep = none)
include hf hr R hμ hsep

theorem rule_block (r : MRule) (hok : ruleOK μ.dialect r = true) (σ : Nat × BState × Nat) (ff : List (Key × Val))
    (i₀ n : Nat) (hcl : REntry T σ ff i₀) :
    ∃ σ', REntry T σ' (ff ++ [(.rule .Rule, Val.rule (expRule μ.dialect (n + 1) i₀ r))]) (i₀ + ruleIdCount r) ∧
      Runs D T stop μ (ruleLines r) n σ σ' := by
  obtain ⟨tags, kw, nm, bg, scs⟩ := r
  obtain ⟨s, β, i⟩ := σ
  simp only [ruleOK, Bool.and_eq_true, List.all_eq_true, List.contains_eq_mem, decide_eq_true_eq] at hok
  obtain ⟨⟨⟨⟨htags, hk⟩, hn⟩, hbg⟩, hscs⟩ := hok
  obtain ⟨clr, hr₁, hr₂, -, hcl⟩ := hcl
  have h₁ := header_head hf hr D stop hμ hsep rfl .Rule .RuleHeader hr₁ (TagRuns.of_pick hf hr D stop hμ hsep R.la rfl (hr₂.imp fun _ => pickBy_of_firstTagU rfl rfl)) rfl
    R.ruleTagged tags kw nm htags hk hn n hcl
  obtain ⟨σ₂, hcl₂, h₂⟩ := children_block hf hr D stop R hμ hsep .Rule
    (hdrOf .RuleHeader .RuleLine μ (n + 1) (n + tagLines tags + 1) tags kw nm) (⟨.Feature, ff⟩ :: G0) bg hbg scs hscs
    ⟨⟨.RuleHeader, tagsItem μ (n + 1) tags ++ [(.tok .RuleLine, .tok (titleTok μ (n + tagLines tags + 1) .RuleLine kw nm))]⟩ ::
      ⟨.Rule, []⟩ :: ⟨.Feature, ff⟩ :: G0, []⟩ i₀ (n + tagLines tags + 1) (fun t => by simp only [prodOps, applyOps, applyOp, endRule_raw_ruleheader]; rfl)
  refine ⟨σ₂, ?_, ?_⟩
  · have hent := REntry.of_follows hcl₂ (ff := ff ++ [(.rule .Rule, Val.rule (mkRule (n + 1) (n + tagLines tags + 1)
        (i₀ + bgIdCount bg + idsOfScenarios4 scs) tags kw nm (bg.map (expBackground μ.dialect (n + tagLines tags + 1 + 1) i₀))
        (expScenarios4 μ.dialect (n + tagLines tags + 1 + bgLineCount bg + 1) (i₀ + bgIdCount bg) scs)))])
      (i₀ := i₀ + bgIdCount bg + idsOfScenarios4 scs + tags.length + 1)
      (fun t => by simp only [ruleLevel, prodOps, applyOps, applyOp, hdrOf, endRule_rule]; rfl)
    have e1 : mkRule (n + 1) (n + tagLines tags + 1) (i₀ + bgIdCount bg + idsOfScenarios4 scs) tags kw nm
        (bg.map (expBackground μ.dialect (n + tagLines tags + 1 + 1) i₀))
        (expScenarios4 μ.dialect (n + tagLines tags + 1 + bgLineCount bg + 1) (i₀ + bgIdCount bg) scs) =
        expRule μ.dialect (n + 1) i₀ ⟨tags, kw, nm, bg, scs⟩ := by
      have ea : n + 1 + tagLines tags = n + tagLines tags + 1 := by omega
      have eb : ∀ k, n + tagLines tags + 1 + 1 + k = n + tagLines tags + 1 + k + 1 := by intro k; omega
      cases bg <;> simp [mkRule, expRule, bgRuleChild, expBgRuleChild, ea, eb]
    have e2 : i₀ + bgIdCount bg + idsOfScenarios4 scs + tags.length + 1 = i₀ + ruleIdCount ⟨tags, kw, nm, bg, scs⟩ := by
      simp [ruleIdCount]; omega
    rwa [e1, e2] at hent
  · have e : ruleLines ⟨tags, kw, nm, bg, scs⟩ =
        (tagLineOf tags ++ [titleLineOf kw nm]) ++ (bgLinesOf bg ++ scs.flatMap scenarioLines4) := by simp [ruleLines]
    rw [e]
    exact h₁.append_at h₂ (by rw [tagHead_length, Nat.add_assoc])

omit hf hr R hμ hsep in
theorem ruleLines_length (r : MRule) : (ruleLines r).length = ruleLineCount r := by
  have e : ruleLines r = (tagLineOf r.tags ++ [titleLineOf r.kw r.name]) ++ (bgLinesOf r.background ++
      r.scenarios.flatMap scenarioLines4) := by simp [ruleLines]
  rw [e, List.length_append, tagHead_length, List.length_append, bgLinesOf_length, flatMap_scenarioLines4_length,
    ruleLineCount]
  omega

theorem rules_loop (pre : List (Key × Val)) (rs : List MRule) (hok : ∀ r ∈ rs, ruleOK μ.dialect r = true)
    (σ : Nat × BState × Nat) (Rs : List Rule) (i₀ n : Nat) (hcl : REntry T σ (pre ++ ruleItems Rs) i₀) :
    ∃ σ', REntry T σ' (pre ++ ruleItems (Rs ++ expRules μ.dialect (n + 1) i₀ rs)) (i₀ + idsOfRules rs) ∧
      Runs D T stop μ (rs.flatMap ruleLines) n σ σ' :=
  Runs.loop ruleLines ruleLineCount ruleIdCount (expRule μ.dialect) (expRules μ.dialect) (fun _ _ => rfl)
    (fun _ _ _ _ => rfl) ruleLines_length (fun σ acc i₀ => REntry T σ (pre ++ ruleItems acc) i₀) rs
    (fun r hr' σ acc i₀ n h => by
      rw [← ruleItems_snoc, ← List.append_assoc]
      exact rule_block hf hr D stop R hμ hsep r (hok r hr') σ _ i₀ n h) σ Rs i₀ n hcl

omit hf hr R hμ hsep in
theorem finish5 (σ : Nat × BState × Nat) (i₀ n fuel : Nat) (nt m : Nat) (tags : List Str) (kw name : Str)
    (bg : Option Background) (S : List Scenario) (Rs : List Rule)
    (hcl : REntry T σ ((hdrOf .FeatureHeader .FeatureLine μ nt m tags kw name :: (bgItems bg ++ scItems S)) ++ ruleItems Rs) i₀)
    (c : Ctx) (h : At c [] n μ σ.2.1 σ.2.2) :
    ∃ c' te, run (parseLinesPure D T stop (fuel + 1) σ.1) c = (.ok 34, c') ∧
      At c' [] (n + 1) μ (docStack (mkFeat5 nt m i₀ tags μ.name kw name bg S Rs) te) (i₀ + tags.length) := by
  obtain ⟨cl, -, -, ⟨row, hrow, hhead⟩, hcl⟩ := hcl
  obtain ⟨rest, hbs⟩ := List.head?_eq_some_iff.1 hhead
  obtain ⟨c', hrun, hc'⟩ := lines_eof D stop T fuel σ.1 34 h _ _ fun c1 h1 => by
    simp only [matchTokenPure, hrow, hbs]
    exact try_eof D stop T row _ rfl _ rest rfl rfl h1 _ _ (applyOps_closing _ hcl (by
      simp only [prodOps, applyOps, applyOp, featStack, G0, hdrOf, List.cons_append, endRule_feature5]
      rfl))
  exact ⟨c', _, hrun, hc'⟩

end doc5

/-- the table facts of the round trip: the start state and the feature's own lines (`RtTable`), the children
    of the feature, the children of a rule -/
structure DocFacts (T : Table) : Prop where
  head : RtTable T
  feature : LevelFacts T featureLevel
  rule : LevelFacts T ruleLevel

theorem DocFacts.of_bool {T : Table} (h₀ : rtFacts T = true) (hF : levelB T featureLevel = true)
    (hR : rt5RuleFacts T = true) : DocFacts T :=
  ⟨.of_facts h₀, .of_bool hF, .of_bool hR⟩

section levels
variable {D' : List Dialect} (hf : keywordFacts D' = true) (hr : renderFacts D' = true)
variable (D : List Dialect) (T : Table) (hT : DocFacts T)
variable (stop : Bool) (μ0 : MState) (hμ : (μ0.reset D).dialect ∈ D') (ids : Nat)
include hf hr hT hμ

theorem roundtrip5_pure (m : MFeature5) (hwf : WF5 (μ0.reset D).dialect m = true) :
    (parseWithPure D T stop μ0 ids (render5 m)).1 =
      .ok (expectedDoc5 (μ0.reset D).dialect (μ0.reset D).name m ids) ∧
    (parseWithPure D T stop μ0 ids (render5 m)).2.ids = idsAfter5 m ids := by
  obtain ⟨RTf, F, R⟩ := hT
  have hsep := reset_activeSep D μ0
  obtain ⟨tags, kw, name, bg, scs, rls⟩ := m
  simp only [WF5, WF4, MFeature5.core, Bool.and_eq_true, List.all_eq_true, List.contains_eq_mem, decide_eq_true_eq] at hwf
  obtain ⟨⟨⟨⟨⟨htags, hk⟩, hn⟩, hbg⟩, hscs⟩, hrls⟩ := hwf
  have hlines : lineBodies5 ⟨tags, kw, name, bg, scs, rls⟩ =
      (tagLineOf tags ++ [titleLineOf kw name]) ++ ((bgLinesOf bg ++ scs.flatMap scenarioLines4) ++ rls.flatMap ruleLines) := by
    simp [lineBodies5, lineBodies4, MFeature5.core]
  obtain ⟨r0, hr0, hfl0, htl0⟩ := RTf.r0
  have h₁ := header_head hf hr D stop hμ hsep rfl .Feature .FeatureHeader (cl := []) (below := G0) ⟨r0, hr0, hfl0⟩
    (TagRuns.of_pick hf hr D stop hμ hsep RTf.la rfl (Picks.imp ⟨r0, hr0, htl0⟩ fun _ => pickBy_of_firstOf (.inl rfl))) rfl RTf.r2 tags kw name htags hk hn (i := ids) 0
    (fun _ => rfl)
  obtain ⟨σ₂, hcl₂, h₂⟩ := children_block hf hr D stop F hμ hsep .Feature
    (hdrOf .FeatureHeader .FeatureLine (μ0.reset D) (0 + 1) (0 + tagLines tags + 1) tags kw name) G0 bg hbg scs hscs
    ⟨⟨.FeatureHeader, tagsItem (μ0.reset D) (0 + 1) tags ++
      [(.tok .FeatureLine, .tok (titleTok (μ0.reset D) (0 + tagLines tags + 1) .FeatureLine kw name))]⟩ :: ⟨.Feature, []⟩ :: G0, []⟩
    ids (0 + tagLines tags + 1)
    (fun t => by simp only [prodOps, applyOps, applyOp, endRule_raw .FeatureHeader (.inr (.inr rfl))]; rfl)
  have hent : REntry T σ₂ ((hdrOf .FeatureHeader .FeatureLine (μ0.reset D) (0 + 1) (0 + tagLines tags + 1) tags kw name ::
      (bgItems (bg.map (expBackground (μ0.reset D).dialect (0 + tagLines tags + 1 + 1) ids)) ++
        scItems (expScenarios4 (μ0.reset D).dialect (0 + tagLines tags + 1 + bgLineCount bg + 1) (ids + bgIdCount bg) scs))) ++
      ruleItems []) (ids + bgIdCount bg + idsOfScenarios4 scs) := by
    simpa [ruleItems] using REntry.of_follows hcl₂ (fun _ => rfl)
  obtain ⟨σ₃, hcl₃, h₃⟩ := rules_loop hf hr D stop R hμ hsep _ rls hrls σ₂ [] _
    (0 + tagLines tags + 1 + bgLineCount bg + (scs.map scLines4).sum) hent
  rw [List.nil_append] at hcl₃
  have hruns := h₁.append_at (h₂.append_at h₃ (by
    rw [List.length_append, bgLinesOf_length, flatMap_scenarioLines4_length]; omega))
    (by rw [tagHead_length, Nat.add_assoc])
  rw [← hlines] at hruns
  have hexp : expectedDoc5 (μ0.reset D).dialect (μ0.reset D).name ⟨tags, kw, name, bg, scs, rls⟩ ids =
      ⟨some (mkFeat5 (0 + 1) (0 + tagLines tags + 1) (ids + bgIdCount bg + idsOfScenarios4 scs + idsOfRules rls) tags
        (μ0.reset D).name kw name (bg.map (expBackground (μ0.reset D).dialect (0 + tagLines tags + 1 + 1) ids))
        (expScenarios4 (μ0.reset D).dialect (0 + tagLines tags + 1 + bgLineCount bg + 1) (ids + bgIdCount bg) scs)
        (expRules (μ0.reset D).dialect (0 + tagLines tags + 1 + bgLineCount bg + (scs.map scLines4).sum + 1)
          (ids + bgIdCount bg + idsOfScenarios4 scs) rls)), []⟩ := by
    have e : ∀ k, 1 + (1 + k) = 2 + k := by intro k; omega
    cases bg <;>
      simp [expectedDoc5, mkFeat5, bgChild, expBgChild, Nat.add_assoc, Nat.add_comm, Nat.add_left_comm, e]
  rw [hexp]
  refine pure_outcome_of_runs D T RTf.start stop μ0 ids _ σ₃ hruns _ _ fun n c hc => ?_
  exact finish5 D stop σ₃ _ n 1 _ _ tags kw name _ _ _ hcl₃ c hc

/-! Each smaller model is the next one without its added element (Lemmas/RoundtripEmbed.lean). -/

theorem roundtrip4_pure (m : MFeature4) (hwf : WF4 (μ0.reset D).dialect m = true) :
    (parseWithPure D T stop μ0 ids (render4 m)).1 =
      .ok (expectedDoc4 (μ0.reset D).dialect (μ0.reset D).name m ids) ∧
    (parseWithPure D T stop μ0 ids (render4 m)).2.ids = idsAfter4 m ids := by
  have h := roundtrip5_pure hf hr D T hT stop μ0 hμ ids m.toModel5 (by rwa [WF5_toModel5])
  rwa [render5_toModel5, expectedDoc5_toModel5, idsAfter5_toModel5] at h

theorem roundtrip3_pure (m : MFeature3) (hwf : WF3 (μ0.reset D).dialect m = true) :
    (parseWithPure D T stop μ0 ids (render3 m)).1 =
      .ok (expectedDoc3 (μ0.reset D).dialect (μ0.reset D).name m ids) ∧
    (parseWithPure D T stop μ0 ids (render3 m)).2.ids = idsAfter3 m ids := by
  have h := roundtrip4_pure hf hr D T hT stop μ0 hμ ids m.toModel4 (by rwa [WF4_toModel4])
  rwa [render4_toModel4, expectedDoc4_toModel4, idsAfter4_toModel4] at h

theorem roundtrip2_pure (m : MFeature2) (hwf : WF2 (μ0.reset D).dialect m = true) :
    (parseWithPure D T stop μ0 ids (render2 m)).1 =
      .ok (expectedDoc2 (μ0.reset D).dialect (μ0.reset D).name m ids) ∧
    (parseWithPure D T stop μ0 ids (render2 m)).2.ids = idsAfter2 m ids := by
  have h := roundtrip3_pure hf hr D T hT stop μ0 hμ ids m.toModel3 (by rwa [WF3_toModel3])
  rwa [render3_toModel3, expectedDoc3_toModel3, idsAfter3_toModel3] at h

theorem roundtrip_pure (m : MFeature) (hwf : WF (μ0.reset D).dialect m = true) :
    (parseWithPure D T stop μ0 ids (render m)).1 =
      .ok (expectedDoc (μ0.reset D).dialect (μ0.reset D).name m ids) ∧
    (parseWithPure D T stop μ0 ids (render m)).2.ids = idsAfter m ids := by
  have h := roundtrip2_pure hf hr D T hT stop μ0 hμ ids m.toModel2 (by rwa [WF2_toModel2])
  rwa [render2_toModel2, expectedDoc2_toModel2, idsAfter2_toModel2] at h

end levels

end Lemmas
end GV
