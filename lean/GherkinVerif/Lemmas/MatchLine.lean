/-
  Lemmas/MatchLine.lean — `match_<k>` on a line is a decision that does not look at the token,
  followed by `_set_token_matched` (or one of the two errors) on the token.  `lineDec` is the
  decision; `matchLine_eq` says the matcher is the decision applied to the token, so what a test
  answers, which state it leaves and what a matched token carries are read off `lineDec`.
  `Decides` lists the ways a test does not say no, each with what it has found in the line;
  `lineDec_cases` is the one place where `lineDec` is unfolded kind by kind: a statement about every
  kind is a case analysis of `Decides`, whose cases are about closed terms.
-/
import GherkinVerif.Lemmas.Keywords
namespace GV
namespace Lemmas
open Spec

/-- what `match_<k>` decides on a line: no match; a match, with the arguments of
    `_set_token_matched` (`μs` is the state whose dialect name the token gets) and the matcher
    state afterwards; or one of the two errors -/
inductive LineDec
  | no
  | hit (μs : MState) (text kw : Option Str) (kt : Option KType) (ind : Option Nat)
      (items : List (Nat × Str)) (μ' : MState)
  | tagErr (col : Nat)
  | langErr (name : Str)

def LineDec.out (k : Kind) (μ : MState) (t : Token) : LineDec → MOut
  | .no => ⟨t, μ, .no⟩
  | .hit μs text kw kt ind items μ' => ⟨setMatched μs t k text kw kt ind items, μ', .matched⟩
  | .tagErr col =>
    ⟨t, μ, .raised ⟨.tagWhitespace, ⟨t.lineNo, some col⟩, lit "A tag may not contain whitespace"⟩⟩
  | .langErr name =>
    let t' := setMatched μ t .Language (text := some name)
    ⟨t', μ, .raised ⟨.noSuchLanguage, t'.loc, lit "Language not supported: " ++ name⟩⟩

/-- `_match_DocStringSeparator` without the token -/
def sepDec (μ : MState) (l sep : Str) (isOpen : Bool) : LineDec :=
  if lineStartsWith l sep then
    if isOpen then
      let μ' := { μ with activeSep := some sep, indentToRemove := lineIndent l }
      .hit μ' (some (restTrimmed l sep.length)) (some sep) none none [] μ'
    else
      let μ' := { μ with activeSep := none, indentToRemove := 0 }
      .hit μ' none (some sep) none none [] μ'
  else .no

def openDec (μ : MState) (l : Str) : LineDec :=
  if lineStartsWith l dq3 then sepDec μ l dq3 true else sepDec μ l bt3 true

/-- `match_<k>` without the token -/
def lineDec (D : List Dialect) (k : Kind) (μ : MState) (l : Str) : LineDec :=
  match k with
  | .EOF => .no
  | .TableRow =>
    if lineStartsWith l [124] then .hit μ none none none none (tableCells l) μ else .no
  | .StepLine =>
    match μ.dialect.stepKeywords.find? (fun kw => lineStartsWith l kw) with
    | some kw =>
      .hit μ (some (restTrimmed l kw.length)) (some kw) (some (stepKType μ.dialect kw)) none [] μ
    | none => .no
  | .Comment => if lineStartsWith l [35] then .hit μ (some l) none none (some 0) [] μ else .no
  | .Empty => if lineIsEmpty l then .hit μ none none none (some 0) [] μ else .no
  | .Language =>
    match languageRe (lineText l none) with
    | none => .no
    | some name =>
      match findDialect D name with
      | some d => .hit μ (some name) none none none [] { μ with name := name, dialect := d }
      | none => .langErr name
  | .TagLine =>
    if lineStartsWith l [64] then
      match lineTags l with
      | .ok items => .hit μ none none none none items μ
      | .error col => .tagErr col
    else .no
  | .DocStringSeparator =>
    match μ.activeSep with
    | none => openDec μ l
    | some sep => if sep.isEmpty then openDec μ l else sepDec μ l sep false
  | .Other =>
    .hit μ (some (unescapeDoc μ.activeSep (lineText l (some μ.indentToRemove)))) none none (some 0) [] μ
  | ty =>
    match (μ.dialect.roleKeywords ty).find? (fun kw => lineStartsWithTitle l kw) with
    | some kw => .hit μ (some (restTrimmed l (kw.length + 1))) (some kw) none none [] μ
    | none => .no

theorem lineDec_title {D : List Dialect} {k : Kind} (hk : k.isTitle = true) (μ : MState) (l : Str) :
    lineDec D k μ l =
      match (μ.dialect.roleKeywords k).find? (fun kw => lineStartsWithTitle l kw) with
      | some kw => .hit μ (some (restTrimmed l (kw.length + 1))) (some kw) none none [] μ
      | none => .no := by
  cases k <;> first | rfl | exact absurd hk (by decide)

theorem matchDocSep_eq (μ : MState) (t : Token) (l sep : Str) (isOpen : Bool) :
    (match matchDocSep μ t l sep isOpen with
      | some (t', μ') => (⟨t', μ', .matched⟩ : MOut)
      | none => ⟨t, μ, .no⟩) =
    (sepDec μ l sep isOpen).out .DocStringSeparator μ t := by
  unfold matchDocSep sepDec
  cases lineStartsWith l sep <;> cases isOpen <;> rfl

theorem matchLine_eq (D : List Dialect) (k : Kind) (μ : MState) (t : Token) (l : Str) :
    matchLine D k μ t l = (lineDec D k μ l).out k μ t := by
  by_cases hk : k.isTitle = true
  · rw [matchLine_title D k hk, lineDec_title hk, matchTitle]
    cases (μ.dialect.roleKeywords k).find? (fun kw => lineStartsWithTitle l kw) <;> rfl
  · cases k <;> first | exact absurd rfl hk | simp only [matchLine, lineDec]
    case EOF | Other => rfl
    case Empty => cases lineIsEmpty l <;> rfl
    case Comment => cases lineStartsWith l [35] <;> rfl
    case TableRow => cases lineStartsWith l [124] <;> rfl
    case StepLine => cases μ.dialect.stepKeywords.find? (fun kw => lineStartsWith l kw) <;> rfl
    case TagLine =>
      cases lineStartsWith l [64]
      · rfl
      · cases lineTags l <;> rfl
    case Language =>
      cases languageRe (lineText l none) with
      | none => rfl
      | some name =>
        simp only
        cases findDialect D name <;> rfl
    case DocStringSeparator =>
      have hopen : (match (matchDocSep μ t l dq3 true).orElse fun _ => matchDocSep μ t l bt3 true with
            | some (t', μ') => (⟨t', μ', .matched⟩ : MOut)
            | none => ⟨t, μ, .no⟩) = (openDec μ l).out .DocStringSeparator μ t := by
        unfold matchDocSep openDec sepDec
        cases lineStartsWith l dq3 <;> cases lineStartsWith l bt3 <;> rfl
      cases μ.activeSep with
      | none => exact hopen
      | some sep =>
        simp only
        cases sep.isEmpty
        · exact matchDocSep_eq μ t l sep false
        · exact hopen

/-- `Decides D μ l k d`: test `k` on line `l` in state `μ` decides `d`, and `d` is not `no`.  One
    constructor for each way a `match_<k>` matches or raises, with what it has found in the line. -/
inductive Decides (D : List Dialect) (μ : MState) (l : Str) : Kind → LineDec → Prop
  | title {k : Kind} {kw : Str} (hk : k.isTitle = true) (hm : kw ∈ μ.dialect.roleKeywords k)
      (hs : lineStartsWithTitle l kw = true) :
      Decides D μ l k (.hit μ (some (restTrimmed l (kw.length + 1))) (some kw) none none [] μ)
  | row (hs : lineStartsWith l [124] = true) :
      Decides D μ l .TableRow (.hit μ none none none none (tableCells l) μ)
  | step {kw : Str} (hm : kw ∈ μ.dialect.stepKeywords) (hs : lineStartsWith l kw = true) :
      Decides D μ l .StepLine
        (.hit μ (some (restTrimmed l kw.length)) (some kw) (some (stepKType μ.dialect kw)) none [] μ)
  | comment (hs : lineStartsWith l [35] = true) :
      Decides D μ l .Comment (.hit μ (some l) none none (some 0) [] μ)
  | empty (hs : lineIsEmpty l = true) : Decides D μ l .Empty (.hit μ none none none (some 0) [] μ)
  | language {name : Str} {d : Dialect} (hre : languageRe (lineText l none) = some name)
      (hd : findDialect D name = some d) :
      Decides D μ l .Language (.hit μ (some name) none none none [] { μ with name := name, dialect := d })
  | langErr {name : Str} (hre : languageRe (lineText l none) = some name) (hd : findDialect D name = none) :
      Decides D μ l .Language (.langErr name)
  | tags {its : List (Nat × Str)} (hs : lineStartsWith l [64] = true) (ht : lineTags l = .ok its) :
      Decides D μ l .TagLine (.hit μ none none none none its μ)
  | tagErr {c : Nat} (hs : lineStartsWith l [64] = true) (ht : lineTags l = .error c) :
      Decides D μ l .TagLine (.tagErr c)
  | sepOpen {sep : Str} (hsep : sep = dq3 ∨ sep = bt3) (hμ : ∀ s, μ.activeSep = some s → s.isEmpty = true)
      (hs : lineStartsWith l sep = true) :
      Decides D μ l .DocStringSeparator
        (.hit { μ with activeSep := some sep, indentToRemove := lineIndent l }
          (some (restTrimmed l sep.length)) (some sep) none none []
          { μ with activeSep := some sep, indentToRemove := lineIndent l })
  | sepClose {sep : Str} (ha : μ.activeSep = some sep) (hne : sep.isEmpty = false)
      (hs : lineStartsWith l sep = true) :
      Decides D μ l .DocStringSeparator
        (.hit { μ with activeSep := none, indentToRemove := 0 } none (some sep) none none []
          { μ with activeSep := none, indentToRemove := 0 })
  | other :
      Decides D μ l .Other
        (.hit μ (some (unescapeDoc μ.activeSep (lineText l (some μ.indentToRemove)))) none none (some 0) [] μ)

theorem lineDec_cases (D : List Dialect) (k : Kind) (μ : MState) (l : Str) :
    lineDec D k μ l = .no ∨ Decides D μ l k (lineDec D k μ l) := by
  have opening : (∀ s, μ.activeSep = some s → s.isEmpty = true) →
      openDec μ l = .no ∨ Decides D μ l .DocStringSeparator (openDec μ l) := fun hμ => by
    unfold openDec sepDec
    cases h1 : lineStartsWith l dq3 with
    | true => exact .inr (.sepOpen (.inl rfl) hμ h1)
    | false =>
      cases h2 : lineStartsWith l bt3 with
      | true => exact .inr (.sepOpen (.inr rfl) hμ h2)
      | false => exact .inl rfl
  by_cases hty : k.isTitle = true
  · rw [lineDec_title hty]
    cases hf : (μ.dialect.roleKeywords k).find? (fun kw => lineStartsWithTitle l kw) with
    | none => exact .inl rfl
    | some kw => exact .inr (.title hty (List.mem_of_find?_eq_some hf) (List.find?_some hf))
  cases k with
  | FeatureLine | RuleLine | BackgroundLine | ScenarioLine | ExamplesLine => exact absurd rfl hty
  | EOF => exact .inl rfl
  | Other => exact .inr .other
  | TableRow =>
    dsimp only [lineDec]
    cases h : lineStartsWith l [124] with
    | true => exact .inr (.row h)
    | false => exact .inl rfl
  | Comment =>
    dsimp only [lineDec]
    cases h : lineStartsWith l [35] with
    | true => exact .inr (.comment h)
    | false => exact .inl rfl
  | Empty =>
    dsimp only [lineDec]
    cases h : lineIsEmpty l with
    | true => exact .inr (.empty h)
    | false => exact .inl rfl
  | StepLine =>
    dsimp only [lineDec]
    cases hf : μ.dialect.stepKeywords.find? (fun kw => lineStartsWith l kw) with
    | none => exact .inl rfl
    | some kw => exact .inr (.step (List.mem_of_find?_eq_some hf) (List.find?_some hf))
  | TagLine =>
    dsimp only [lineDec]
    cases h : lineStartsWith l [64] with
    | false => exact .inl rfl
    | true =>
      cases ht : lineTags l with
      | ok its => exact .inr (.tags h ht)
      | error c => exact .inr (.tagErr h ht)
  | Language =>
    dsimp only [lineDec]
    cases hre : languageRe (lineText l none) with
    | none => exact .inl rfl
    | some name =>
      dsimp only
      cases hd : findDialect D name with
      | some d => exact .inr (.language hre hd)
      | none => exact .inr (.langErr hre hd)
  | DocStringSeparator =>
    dsimp only [lineDec]
    cases ha : μ.activeSep with
    | none => exact opening fun s h => by rw [ha] at h; cases h
    | some sep =>
      dsimp only
      cases he : sep.isEmpty with
      | true => exact opening fun s h => by rw [ha] at h; cases h; exact he
      | false =>
        simp only [Bool.false_eq_true, if_false]
        unfold sepDec
        cases hs : lineStartsWith l sep with
        | true => exact .inr (.sepClose ha he hs)
        | false => exact .inl rfl

theorem Decides.of_eq {D : List Dialect} {k : Kind} {μ : MState} {l : Str} {d : LineDec}
    (h : lineDec D k μ l = d) (hne : d ≠ .no) : Decides D μ l k d := by
  rcases lineDec_cases D k μ l with h' | h'
  · exact absurd (h.symm.trans h') hne
  · exact h ▸ h'

theorem matched_hit {D : List Dialect} {k : Kind} {μ : MState} {t : Token} {l : Str}
    (h : (matchLine D k μ t l).res = .matched) :
    ∃ μs tx kw kt ind its μ', Decides D μ l k (.hit μs tx kw kt ind its μ') ∧
      matchLine D k μ t l = ⟨setMatched μs t k tx kw kt ind its, μ', .matched⟩ := by
  rw [matchLine_eq] at h ⊢
  cases hd : lineDec D k μ l with
  | hit μs tx kw kt ind its μ' => exact ⟨_, _, _, _, _, _, _, Decides.of_eq hd nofun, rfl⟩
  | no => rw [hd] at h; cases h
  | tagErr c => rw [hd] at h; cases h
  | langErr n => rw [hd] at h; cases h

theorem matchTok_line {D : List Dialect} {K : Kind} {μ : MState} {t : Token} {l : Str} (hl : t.line = some l) :
    matchTok D K μ t = (matchLine D K μ t l, true) := by
  unfold matchTok; rw [hl]

theorem matched_any_token {D : List Dialect} {k : Kind} {μ : MState} {t : Token} {l : Str}
    (h : (matchLine D k μ t l).res = .matched) (t' : Token) : (matchLine D k μ t' l).res = .matched := by
  rw [matchLine_eq] at h ⊢
  cases hd : lineDec D k μ l <;> rw [hd] at h <;> first | rfl | cases h

theorem matchLine_raised (D : List Dialect) (k : Kind) (μ : MState) (t : Token) (l : Str) (e : PErr)
    (h : (matchLine D k μ t l).res = .raised e) : e.loc.line = t.lineNo := by
  rw [matchLine_eq] at h
  cases hd : lineDec D k μ l <;> rw [hd] at h <;> cases h <;> rfl

theorem lineDec_err {D : List Dialect} {k : Kind} {μ : MState} {l : Str} :
    (∀ c, lineDec D k μ l = .tagErr c → k = .TagLine) ∧
    (∀ n, lineDec D k μ l = .langErr n → k = .Language) :=
  ⟨fun c h => by cases Decides.of_eq h nofun; rfl, fun n h => by cases Decides.of_eq h nofun; rfl⟩

/-- a test that does not succeed leaves the token alone — except `Language` naming an unknown
    dialect, which raises after having written the token -/
theorem matchLine_unmatched_tok (D : List Dialect) (k : Kind) (μ : MState) (t : Token) (l : Str)
    (h : (matchLine D k μ t l).res ≠ .matched) :
    (matchLine D k μ t l).tok = t ∨
    (k = .Language ∧ ∃ name, (matchLine D k μ t l).tok = setMatched μ t .Language (text := some name)) := by
  rw [matchLine_eq] at h ⊢
  cases hd : lineDec D k μ l with
  | no => exact .inl rfl
  | tagErr col => exact .inl rfl
  | hit => rw [hd] at h; exact absurd rfl h
  | langErr name => exact .inr ⟨lineDec_err.2 name hd, name, rfl⟩

theorem lineDec_hit_cases {D : List Dialect} {k : Kind} {μ : MState} {l : Str} {μs μ' : MState}
    {text kw : Option Str} {kt : Option KType} {ind : Option Nat} {items : List (Nat × Str)}
    (h : lineDec D k μ l = .hit μs text kw kt ind items μ') :
    μ' = μ ∨
    (k = .Language ∧ ∃ name d, findDialect D name = some d ∧ μ' = { μ with name := name, dialect := d }) ∨
    (k = .DocStringSeparator ∧ μ'.dialect = μ.dialect ∧ μ'.name = μ.name ∧
      (μ'.activeSep = none ∨ μ'.activeSep = some dq3 ∨ μ'.activeSep = some bt3)) := by
  cases Decides.of_eq h nofun with
  | language _ hd => exact .inr (.inl ⟨rfl, _, _, hd, rfl⟩)
  | sepOpen hsep =>
    exact .inr (.inr ⟨rfl, rfl, rfl,
      .inr (hsep.elim (fun h => .inl (congrArg some h)) fun h => .inr (congrArg some h))⟩)
  | sepClose => exact .inr (.inr ⟨rfl, rfl, rfl, .inl rfl⟩)
  | _ => exact .inl rfl

theorem lineDec_hit_state {D : List Dialect} {k : Kind} {μ : MState} {l : Str} {μs μ' : MState}
    {text kw : Option Str} {kt : Option KType} {ind : Option Nat} {items : List (Nat × Str)}
    (h : lineDec D k μ l = .hit μs text kw kt ind items μ') (hL : k ≠ .Language)
    (hD : k ≠ .DocStringSeparator) : μ' = μ := by
  rcases lineDec_hit_cases h with e | ⟨hk, -⟩ | ⟨hk, -⟩
  · exact e
  · exact absurd hk hL
  · exact absurd hk hD

end Lemmas
end GV
