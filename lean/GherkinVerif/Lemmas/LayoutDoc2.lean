/-
  Lemmas/LayoutDoc2.lean — property C16 lifted to the whole parse: line endings and trailing blanks.

  A lock-step simulation of two runs of the parser glue on two texts whose physical lines agree
  pairwise up to their trailing WHITESPACE (`rstrip` equal).  A line whose tail differs by more than
  CR/LF ("modified", marked by a set `M` of line numbers) is matched alike by every `match_<k>`
  except `Other` (and `Comment` if it is a `#` line, `StepLine` if it is a step keyword cut short,
  both excluded statically).  The test `Other` always succeeds and its branch always builds the
  token, so the simulation has an escape: either both runs end alike, or the second run has built
  a modified line as `Other` (`Bad`).  Tokens handed to the builder are only ever appended
  (`Grows`), so `Bad` can be read off the final context.  With no modified line there is no escape:
  that is the theorem for texts that differ in their line endings only (`parseWith_sim`).
-/
import GherkinVerif.Lemmas.LayoutDoc
import GherkinVerif.Lemmas.GlueOutcome
import GherkinVerif.Lemmas.GlueGrows
import GherkinVerif.Spec.TrailingBlanksFacts
namespace GV

namespace Lemmas

theorem dropWhileEnd_decomp (p : Nat → Bool) (l : Str) :
    ∃ w, l = dropWhileEnd p l ++ w ∧ ∀ c ∈ w, p c = true := by
  induction l with
  | nil => exact ⟨[], rfl, fun c hc => by cases hc⟩
  | cons c cs ih =>
    obtain ⟨w, hw, hall⟩ := ih
    cases hr : dropWhileEnd p cs with
    | nil =>
      rw [hr] at hw
      by_cases hc : p c = true
      · refine ⟨c :: cs, by simp [dropWhileEnd, hr, hc], fun d hd => ?_⟩
        rcases List.mem_cons.1 hd with rfl | hd
        · exact hc
        · rw [hw] at hd; exact hall d (by simpa using hd)
      · refine ⟨cs, by simp [dropWhileEnd, hr, hc], fun d hd => ?_⟩
        rw [hw] at hd; exact hall d (by simpa using hd)
    | cons a r =>
      refine ⟨w, ?_, hall⟩
      simp only [dropWhileEnd, hr]
      rw [← hr, List.cons_append, ← hw]

theorem rstrip_decomp (l : Str) : ∃ w, l = rstrip l ++ w ∧ AllSpace w := dropWhileEnd_decomp isSpace l

theorem matchTok_dialect_cases (D : List Dialect) (k : Kind) (μ : MState) (t : Token) :
    (matchTok D k μ t).1.μ.dialect = μ.dialect ∨
    ∃ l name d, t.line = some l ∧ languageRe (lineText l none) = some name ∧ findDialect D name = some d ∧
      (matchTok D k μ t).1.μ.dialect = d := by
  cases hl : t.line with
  | none => rw [matchTok_of_eof hl]; split <;> exact .inl rfl
  | some l =>
    rw [matchTok_line hl]
    rcases matchLine_μ D k μ t l with e | ⟨name, d, h1, h2, e⟩ | ⟨sep, i, -, e⟩ <;> rw [e]
    · exact .inl rfl
    · exact .inr ⟨l, name, d, rfl, h1, h2, rfl⟩
    · exact .inl rfl

/-- parameters of the simulation: the line numbers of the modified lines, the physical lines of
    the second text (`Closed` speaks of their `# language:` headers), the dialects that can be in
    force -/
structure BlankParams where
  M : Nat → Prop
  L2 : List Str
  DS : List Dialect

/-- line `i`, modified: same content up to trailing whitespace; not a `#` line; cutting it short
    or padding it cannot make or unmake a step keyword of any dialect in force -/
def ModOk (P : BlankParams) (i : Nat) (l1 l2 : Str) : Prop :=
  rstrip l1 = rstrip l2 ∧ P.M i ∧ lineStartsWith l2 [35] = false ∧
  ∀ d ∈ P.DS, stepTailFreeB d.stepKeywords (rstrip l2) = true

def PairRel (P : BlankParams) (i : Nat) (l1 l2 : Str) : Prop :=
  l2 ∈ P.L2 ∧ (LineRel l1 l2 ∨ ModOk P i l1 l2)

theorem PairRel.split {P : BlankParams} {i : Nat} {l1 l2 : Str} (h : PairRel P i l1 l2) :
    ∃ s w1 w2, l1 = s ++ w1 ∧ l2 = s ++ w2 ∧ AllSpace w1 ∧ AllSpace w2 := by
  rcases h.2 with ⟨s, w1, w2, e1, e2, h1, h2⟩ | ⟨hr, -⟩
  · exact ⟨s, w1, w2, e1, e2, h1.allSpace, h2.allSpace⟩
  · obtain ⟨w1, q1, hw1⟩ := rstrip_decomp l1
    obtain ⟨w2, q2, hw2⟩ := rstrip_decomp l2
    exact ⟨rstrip l2, w1, w2, by rw [← hr]; exact q1, q2, hw1, hw2⟩

/-- unread lines, the first of them being line `n + 1` -/
inductive LinesRel (P : BlankParams) : Nat → List Str → List Str → Prop
  | nil (n : Nat) : LinesRel P n [] []
  | cons {n : Nat} {l1 l2 : Str} {ls1 ls2 : List Str} (h : PairRel P (n + 1) l1 l2)
      (t : LinesRel P (n + 1) ls1 ls2) : LinesRel P n (l1 :: ls1) (l2 :: ls2)

theorem LinesRel.length_eq {P : BlankParams} {n : Nat} {ls1 ls2 : List Str} (h : LinesRel P n ls1 ls2) :
    ls1.length = ls2.length := by
  induction h with
  | nil => rfl
  | cons _ _ ih => simp [ih]

theorem LinesRel.nil_left {P : BlankParams} {n : Nat} {ls2 : List Str} (h : LinesRel P n [] ls2) : ls2 = [] := by
  cases h; rfl

theorem LinesRel.cons_left {P : BlankParams} {n : Nat} {l1 : Str} {ls1 ls2 : List Str}
    (h : LinesRel P n (l1 :: ls1) ls2) :
    ∃ l2 ls2', ls2 = l2 :: ls2' ∧ PairRel P (n + 1) l1 l2 ∧ LinesRel P (n + 1) ls1 ls2' := by
  cases h with
  | cons hp ht => exact ⟨_, _, rfl, hp, ht⟩

def OPairRel (P : BlankParams) (i : Nat) : Option Str → Option Str → Prop
  | none, none => True
  | some l1, some l2 => PairRel P i l1 l2
  | _, _ => False

theorem OPairRel.cases {P : BlankParams} {i : Nat} {o1 o2 : Option Str} (h : OPairRel P i o1 o2) :
    (o1 = none ∧ o2 = none) ∨ ∃ l1 l2, o1 = some l1 ∧ o2 = some l2 ∧ PairRel P i l1 l2 := by
  cases o1 <;> cases o2
  · exact .inl ⟨rfl, rfl⟩
  · exact h.elim
  · exact h.elim
  · exact .inr ⟨_, _, rfl, rfl, h⟩

/-- `U`: the physical lines agree up to trailing whitespace, where `TokRel` is up to the line ending -/
def TokRelU (P : BlankParams) (t1 t2 : Token) : Prop := TokSame t1 t2 ∧ OPairRel P t2.lineNo t1.line t2.line

def BadPair (P : BlankParams) (t1 t2 : Token) : Prop :=
  t1.mtype = some .Other ∧ t2.mtype = some .Other ∧ P.M t2.lineNo

def Bad (P : BlankParams) (c : Ctx) : Prop := ∃ t ∈ c.builds, t.mtype = some .Other ∧ P.M t.lineNo

/-- the dialects in force include every dialect a `# language:` header of the text names -/
def Closed (D : List Dialect) (P : BlankParams) : Prop :=
  ∀ l ∈ P.L2, ∀ name d, languageRe (lineText l none) = some name → findDialect D name = some d → d ∈ P.DS

theorem TokRelU.eof_eq {P : BlankParams} {t1 t2 : Token} (h : TokRelU P t1 t2) : t1.eof = t2.eof := by
  unfold Token.eof
  rcases h.2.cases with ⟨h1, h2⟩ | ⟨_, _, h1, h2, -⟩ <;> rw [h1, h2] <;> rfl

theorem TokRelU.blank_iff {P : BlankParams} {t1 t2 : Token} (h : TokRelU P t1 t2) : Blank t1 ↔ Blank t2 := by
  rcases h.2.cases with ⟨h1, h2⟩ | ⟨l1, l2, h1, h2, hp⟩
  · exact ⟨fun ⟨l, hl, _⟩ => (by rw [h1] at hl; cases hl), fun ⟨l, hl, _⟩ => (by rw [h2] at hl; cases hl)⟩
  · obtain ⟨s, w1, w2, rfl, rfl, hw1, hw2⟩ := hp.split
    have key : ∀ {w w' : Str}, AllSpace w' → lstrip (s ++ w) = [] → lstrip (s ++ w') = [] := fun hw' h0 =>
      lstrip_ws _ (AllSpace.append (fun c hc => allSpace_of_lstrip_nil h0 c (List.mem_append_left _ hc)) hw')
    constructor
    · rintro ⟨l, hl, hb⟩
      rw [h1] at hl; cases hl
      exact ⟨_, h2, key hw2 hb⟩
    · rintro ⟨l, hl, hb⟩
      rw [h2] at hl; cases hl
      exact ⟨_, h1, key hw1 hb⟩

def MatchOutU (D : List Dialect) (P : BlankParams) (k : Kind) (μ : MState) (t1 t2 : Token) : Prop :=
  (matchTok D k μ t1).2 = (matchTok D k μ t2).2 ∧
  (matchTok D k μ t1).1.res = (matchTok D k μ t2).1.res ∧
  (matchTok D k μ t1).1.μ = (matchTok D k μ t2).1.μ ∧
  Sane D (matchTok D k μ t1).1.μ ∧ (matchTok D k μ t1).1.μ.dialect ∈ P.DS ∧
  (TokRelU P (matchTok D k μ t1).1.tok (matchTok D k μ t2).1.tok ∨
    (k = .Other ∧ (matchTok D k μ t1).1.res = .matched ∧
      BadPair P (matchTok D k μ t1).1.tok (matchTok D k μ t2).1.tok))

theorem matchTok_relU {D : List Dialect} (hD : Spec.stepKeywordsOk D = true) {P : BlankParams}
    (hcl : Closed D P) (k : Kind) {μ : MState} (hμ : Sane D μ) (hds : μ.dialect ∈ P.DS)
    {t1 t2 : Token} (ht : TokRelU P t1 t2) : MatchOutU D P k μ t1 t2 := by
  unfold MatchOutU
  obtain ⟨hs, hl⟩ := ht
  have hline : OPairRel P (matchTok D k μ t2).1.tok.lineNo (matchTok D k μ t1).1.tok.line
      (matchTok D k μ t2).1.tok.line := by
    rw [(matchTok_tok D k μ t1).1, (matchTok_tok D k μ t2).1, (matchTok_tok D k μ t2).2]; exact hl
  -- the dialect stays in force
  have hdial : (matchTok D k μ t1).1.μ = (matchTok D k μ t2).1.μ → (matchTok D k μ t1).1.μ.dialect ∈ P.DS := by
    intro e
    rw [e]
    rcases matchTok_dialect_cases D k μ t2 with h | ⟨l, name, d, h1, h2, h3, h4⟩
    · rw [h]; exact hds
    · rw [h4]
      refine hcl l ?_ name d h2 h3
      rcases hl.cases with ⟨-, h0⟩ | ⟨_, _, -, h0, hp⟩
      · rw [h0] at h1; cases h1
      · rw [h0] at h1; cases h1; exact hp.1
  -- lines related by their line ending only (or both absent): Lemmas/LayoutDoc.lean
  have easy : TokRel t1 t2 → MatchOutU D P k μ t1 t2 := fun hrel => by
    obtain ⟨a, b, c, d, e⟩ := matchTok_tokRel hD k hμ hrel
    exact ⟨a, b, c, e, hdial c, .inl ⟨d.1, hline⟩⟩
  rcases hl.cases with ⟨h1, h2⟩ | ⟨l1, l2, h1, h2, -, hrel | ⟨hr, hM, hhash, htf⟩⟩
  · exact easy ⟨hs, by rw [h1, h2]; trivial⟩
  · exact easy ⟨hs, by rw [h1, h2]; exact hrel⟩
  · have hlineNo2 := (matchTok_tok D k μ t2).2
    simp only [matchTok_line h1, matchTok_line h2] at hline hdial hlineNo2 ⊢
    by_cases ho : k = .Other
    · subst ho
      refine ⟨trivial, rfl, rfl, hμ, hds, .inr ⟨rfl, rfl, rfl, rfl, ?_⟩⟩
      rw [hlineNo2]; exact hM
    · have htf' : StepTailFree μ (rstrip l2) := stepTailFree_of_B (htf _ hds)
      obtain ⟨w1, q1, hw1⟩ := rstrip_decomp l1
      obtain ⟨w2, q2, hw2⟩ := rstrip_decomp l2
      rw [hr] at q1
      generalize rstrip l2 = s at q1 q2 htf'
      subst q1 q2
      have p1 : t1 = withLine t1 (s ++ w1) := tok_eq_withLine (TokSame.refl t1) h1
      have p2 : t2 = withLine t1 (s ++ w2) := tok_eq_withLine hs h2
      by_cases hc : k = .Comment
      · subst hc
        have c2 : lineStartsWith (s ++ w2) [35] = false := hhash
        have c1 : lineStartsWith (s ++ w1) [35] = false := by
          rw [lineStartsWith_tail_noTrail hw1 (by intro c hc; cases hc; decide)]
          rw [lineStartsWith_tail_noTrail hw2 (by intro c hc; cases hc; decide)] at c2
          exact c2
        have r1 : matchLine D .Comment μ t1 (s ++ w1) = ⟨t1, μ, .no⟩ := by rw [matchLine_eq]; dsimp only [lineDec]; rw [c1]; rfl
        have r2 : matchLine D .Comment μ t2 (s ++ w2) = ⟨t2, μ, .no⟩ := by rw [matchLine_eq]; dsimp only [lineDec]; rw [c2]; rfl
        rw [r1, r2] at hline ⊢
        exact ⟨trivial, rfl, rfl, hμ, hds, .inl ⟨hs, hline⟩⟩
      · have key := sameMatch_blanks D k μ t1 s w1 w2 hw1 hw2 ⟨hc, ho⟩ (fun _ => htf') hμ.1
        rw [← p1, ← p2] at key
        exact ⟨trivial, key.1, key.2.1, sane_matchLine D k μ t1 _ hμ, hdial key.2.1, .inl ⟨key.2.2, hline⟩⟩

theorem unexpectedErr_relU {P : BlankParams} (row : StateRow) {t1 t2 : Token} (ht : TokRelU P t1 t2)
    (hb : ¬ Blank t1) : unexpectedErr row t1 = unexpectedErr row t2 := by
  obtain ⟨hs, hl⟩ := ht
  rcases hl.cases with ⟨h1, h2⟩ | ⟨l1, l2, h1, h2, hp⟩
  · unfold unexpectedErr; rw [h1, h2]; simp only [hs.loc_eq]
  · obtain ⟨s, w1, w2, rfl, rfl, hw1, hw2⟩ := hp.split
    have hne : lstrip s ≠ [] := fun h0 => hb ⟨_, h1, lstrip_append_nil h0 hw1⟩
    calc unexpectedErr row t1
        = unexpectedErr row (withLine t1 (s ++ w1)) := congrArg _ (tok_eq_withLine (TokSame.refl t1) h1)
      _ = unexpectedErr row (withLine t1 s) := unexpectedErr_tail row t1 s w1 hw1 hne
      _ = unexpectedErr row (withLine t1 (s ++ w2)) := (unexpectedErr_tail row t1 s w2 hw2 hne).symm
      _ = unexpectedErr row t2 := (congrArg _ (tok_eq_withLine hs h2)).symm

theorem Grows.bad {c c' : Ctx} (h : Grows c c') {P : BlankParams} (hb : Bad P c) : Bad P c' := by
  obtain ⟨suf, e⟩ := h
  obtain ⟨t, ht, h1, h2⟩ := hb
  exact ⟨t, by rw [e]; exact List.mem_append_left _ ht, h1, h2⟩

/-- the two runs' contexts (compare `CtxRel`): unread lines related as lines `lineNo + 1, …` -/
structure CtxRelU (D : List Dialect) (P : BlankParams) (c1 c2 : Ctx) : Prop where
  lines : LinesRel P c2.lineNo c1.lines c2.lines
  lineNo : c1.lineNo = c2.lineNo
  queue : All2 (TokRelU P) c1.queue c2.queue
  errors : c1.errors = c2.errors
  μ : c1.μ = c2.μ
  β : BSame c1.β c2.β
  ids : c1.ids = c2.ids
  calls : c1.calls = c2.calls
  builds : All2 TokSame c1.builds c2.builds
  reads : c1.reads = c2.reads
  unexpected : c1.unexpected = c2.unexpected
  sane : Sane D c1.μ
  dialect : c1.μ.dialect ∈ P.DS

def SameEnd (D : List Dialect) (P : BlankParams) {α} (R : α → α → Prop)
    (x1 x2 : Except Abort α × Ctx) : Prop :=
  (∃ a1 a2 c1' c2', x1 = (.ok a1, c1') ∧ x2 = (.ok a2, c2') ∧ R a1 a2 ∧ CtxRelU D P c1' c2') ∨
  (∃ e c1' c2', x1 = (.error e, c1') ∧ x2 = (.error e, c2') ∧ CtxRelU D P c1' c2')

/-- strict simulation (`S`): from related contexts both runs end the same way, no escape -/
def SimS (D : List Dialect) (P : BlankParams) {α} (R : α → α → Prop) (m1 m2 : PM α) : Prop :=
  ∀ c1 c2, CtxRelU D P c1 c2 → SameEnd D P R (lrun m1 c1) (lrun m2 c2)

/-- simulation with an escape (`U`, as in `CtxRelU`): or the second run has built a modified line
    as `Other` -/
def SimU (D : List Dialect) (P : BlankParams) {α} (R : α → α → Prop) (m1 m2 : PM α) : Prop :=
  ∀ c1 c2, CtxRelU D P c1 c2 → SameEnd D P R (lrun m1 c1) (lrun m2 c2) ∨ Bad P (lrun m2 c2).2

section simU
variable {D : List Dialect} {P : BlankParams}

theorem SameEnd.ite {α} {R : α → α → Prop} {c : Prop} [Decidable c] {x1 y1 x2 y2 : Except Abort α × Ctx}
    (ht : c → SameEnd D P R x1 x2) (hf : ¬ c → SameEnd D P R y1 y2) :
    SameEnd D P R (if c then x1 else y1) (if c then x2 else y2) := by
  by_cases h : c
  · rw [if_pos h, if_pos h]; exact ht h
  · rw [if_neg h, if_neg h]; exact hf h

/-! `lrun` is `run` of Lemmas/GlueRun.lean under the name the statements of Props/C16Doc2.lean use;
    the simulations are proved and used through `run` and its equations. -/

theorem SimS.of_run {α} {R : α → α → Prop} {m1 m2 : PM α}
    (h : ∀ c1 c2, CtxRelU D P c1 c2 → SameEnd D P R (run m1 c1) (run m2 c2)) : SimS D P R m1 m2 := h

theorem SimS.apply {α} {R : α → α → Prop} {m1 m2 : PM α} (h : SimS D P R m1 m2) {c1 c2 : Ctx}
    (hc : CtxRelU D P c1 c2) : SameEnd D P R (run m1 c1) (run m2 c2) := h c1 c2 hc

theorem SimU.of_run {α} {R : α → α → Prop} {m1 m2 : PM α}
    (h : ∀ c1 c2, CtxRelU D P c1 c2 → SameEnd D P R (run m1 c1) (run m2 c2) ∨ Bad P (run m2 c2).2) :
    SimU D P R m1 m2 := h

theorem SimU.apply {α} {R : α → α → Prop} {m1 m2 : PM α} (h : SimU D P R m1 m2) {c1 c2 : Ctx}
    (hc : CtxRelU D P c1 c2) : SameEnd D P R (run m1 c1) (run m2 c2) ∨ Bad P (run m2 c2).2 := h c1 c2 hc

theorem SimS.toU {α} {R : α → α → Prop} {m1 m2 : PM α} (h : SimS D P R m1 m2) : SimU D P R m1 m2 :=
  fun c1 c2 hc => .inl (h c1 c2 hc)

theorem SimS.pure {α} {R : α → α → Prop} {a1 a2 : α} (h : R a1 a2) : SimS D P R (pure a1) (pure a2) :=
  fun c1 c2 hc => .inl ⟨a1, a2, c1, c2, rfl, rfl, h, hc⟩

theorem SimS.throw {α} {R : α → α → Prop} (e : Abort) : SimS D P R (throw e : PM α) (throw e) :=
  fun c1 c2 hc => .inr ⟨e, c1, c2, rfl, rfl, hc⟩

theorem SimS.get : SimS D P (CtxRelU D P) (get : PM Ctx) get :=
  fun c1 c2 hc => .inl ⟨c1, c2, c1, c2, rfl, rfl, hc, hc⟩

theorem SimS.modify {f1 f2 : Ctx → Ctx} (h : ∀ c1 c2, CtxRelU D P c1 c2 → CtxRelU D P (f1 c1) (f2 c2)) :
    SimS D P (fun _ _ => True) (modify f1 : PM PUnit) (modify f2) :=
  fun c1 c2 hc => .inl ⟨⟨⟩, ⟨⟩, f1 c1, f2 c2, rfl, rfl, trivial, h c1 c2 hc⟩

theorem SimS.mono {α} {R S : α → α → Prop} {m1 m2 : PM α} (h : SimS D P R m1 m2) (hRS : ∀ a b, R a b → S a b) :
    SimS D P S m1 m2 := by
  intro c1 c2 hc
  rcases h c1 c2 hc with ⟨a1, a2, c1', c2', e1, e2, hr, hc'⟩ | h
  · exact .inl ⟨a1, a2, c1', c2', e1, e2, hRS _ _ hr, hc'⟩
  · exact .inr h

theorem SimS.ite {α} {R : α → α → Prop} {b : Bool} {m1 n1 m2 n2 : PM α} (ht : b = true → SimS D P R m1 m2)
    (hf : b = false → SimS D P R n1 n2) :
    SimS D P R (if b = true then m1 else n1) (if b = true then m2 else n2) := by
  cases b
  · exact hf rfl
  · exact ht rfl

theorem SimU.ite {α} {R : α → α → Prop} {b : Bool} {m1 n1 m2 n2 : PM α} (ht : b = true → SimU D P R m1 m2)
    (hf : b = false → SimU D P R n1 n2) :
    SimU D P R (if b = true then m1 else n1) (if b = true then m2 else n2) := by
  cases b
  · exact hf rfl
  · exact ht rfl

theorem SimU.bindU {α β} {R : α → α → Prop} {S : β → β → Prop} {m1 m2 : PM α} {f1 f2 : α → PM β}
    (h1 : SimU D P R m1 m2) (hg : ∀ a, GrowsM (f2 a)) (h2 : ∀ a1 a2, R a1 a2 → SimU D P S (f1 a1) (f2 a2)) :
    SimU D P S (m1 >>= f1) (m2 >>= f2) := by
  refine SimU.of_run fun c1 c2 hc => ?_
  rw [prun_bind, prun_bind]
  rcases h1.apply hc with (⟨a1, a2, c1', c2', e1, e2, hr, hc'⟩ | ⟨e, c1', c2', e1, e2, hc'⟩) | hbad
  · rw [e1, e2]; exact (h2 a1 a2 hr).apply hc'
  · rw [e1, e2]; exact .inl (.inr ⟨e, c1', c2', rfl, rfl, hc'⟩)
  · refine .inr ?_
    rcases hr : run m2 c2 with ⟨r, c2'⟩
    rw [hr] at hbad
    cases r with
    | error e => exact hbad
    | ok a => exact (foot_of_inv Grows Grows.refl (hg a) c2' _ _ rfl).bad hbad

theorem SimU.bindS {α β} {R : α → α → Prop} {S : β → β → Prop} {m1 m2 : PM α} {f1 f2 : α → PM β}
    (h1 : SimS D P R m1 m2) (h2 : ∀ a1 a2, R a1 a2 → SimU D P S (f1 a1) (f2 a2)) :
    SimU D P S (m1 >>= f1) (m2 >>= f2) := by
  refine SimU.of_run fun c1 c2 hc => ?_
  rw [prun_bind, prun_bind]
  rcases h1.apply hc with ⟨a1, a2, c1', c2', e1, e2, hr, hc'⟩ | ⟨e, c1', c2', e1, e2, hc'⟩
  · rw [e1, e2]; exact (h2 a1 a2 hr).apply hc'
  · rw [e1, e2]; exact .inl (.inr ⟨e, c1', c2', rfl, rfl, hc'⟩)

theorem SimS.bind {α β} {R : α → α → Prop} {S : β → β → Prop} {m1 m2 : PM α} {f1 f2 : α → PM β}
    (h1 : SimS D P R m1 m2) (h2 : ∀ a1 a2, R a1 a2 → SimS D P S (f1 a1) (f2 a2)) :
    SimS D P S (m1 >>= f1) (m2 >>= f2) := by
  refine SimS.of_run fun c1 c2 hc => ?_
  rw [prun_bind, prun_bind]
  rcases h1.apply hc with ⟨a1, a2, c1', c2', e1, e2, hr, hc'⟩ | ⟨e, c1', c2', e1, e2, hc'⟩
  · rw [e1, e2]; exact (h2 a1 a2 hr).apply hc'
  · rw [e1, e2]; exact .inr ⟨e, c1', c2', rfl, rfl, hc'⟩

theorem simS_readToken : SimS D P (TokRelU P) readToken readToken := by
  refine SimS.of_run fun c1 c2 hc => ?_
  rw [run_readToken, run_readToken]
  cases hq1 : c1.queue with
  | cons t1 q1 =>
    have hq0 := hc.queue
    rw [hq1] at hq0
    obtain ⟨t2, q2, hq2, ht, hq⟩ := All2.cons_left hq0
    rw [hq2]
    exact .inl ⟨_, _, _, _, rfl, rfl, ht, { hc with queue := hq }⟩
  | nil =>
    have hq0 := hc.queue
    rw [hq1] at hq0
    rw [All2.nil_left hq0]
    dsimp only
    cases hl1 : c1.lines with
    | cons l1 ls1 =>
      have hl0 := hc.lines
      rw [hl1] at hl0
      obtain ⟨l2, ls2, hl2, hl, hls⟩ := LinesRel.cons_left hl0
      rw [hl2, hc.lineNo]
      exact .inl ⟨_, _, _, _, rfl, rfl, ⟨⟨rfl, rfl, rfl, rfl, rfl, rfl, rfl, rfl, rfl⟩, hl⟩,
        { hc with lines := hls, lineNo := rfl, queue := .nil }⟩
    | nil =>
      have hl0 := hc.lines
      rw [hl1] at hl0
      rw [LinesRel.nil_left hl0, hc.lineNo]
      exact .inl ⟨_, _, _, _, rfl, rfl, ⟨⟨rfl, rfl, rfl, rfl, rfl, rfl, rfl, rfl, rfl⟩, trivial⟩,
        { hc with lines := .nil _, lineNo := rfl, queue := .nil }⟩

theorem simS_addError (cap : Nat) (e : PErr) : SimS D P (fun _ _ => True) (addError cap e) (addError cap e) := by
  refine SimS.of_run fun c1 c2 hc => ?_
  rw [run_addError, run_addError, ← hc.errors]
  have hc' : CtxRelU D P { c1 with errors := c1.errors ++ [e] } { c2 with errors := c1.errors ++ [e] } :=
    { hc with errors := rfl }
  exact SameEnd.ite (fun _ => .inl ⟨_, _, _, _, rfl, rfl, trivial, hc⟩) fun _ =>
    SameEnd.ite (fun _ => .inr ⟨_, _, _, rfl, rfl, hc'⟩) fun _ => .inl ⟨_, _, _, _, rfl, rfl, trivial, hc'⟩

theorem simS_liftB (cap : Nat) (stop : Bool) (r : Except BErr Unit) :
    SimS D P (fun _ _ => True) (liftB cap stop r) (liftB cap stop r) := by
  unfold liftB
  split
  · exact SimS.pure trivial
  · exact SimS.throw _
  · split
    · exact SimS.throw _
    · exact simS_addError cap _

def MatchRelU (P : BlankParams) (k : Kind) (t1 : Token) (r1 r2 : Bool × Token) : Prop :=
  r1.1 = r2.1 ∧ r1.2.line = t1.line ∧ (Blank t1 → (k = .Empty ∨ k = .Other) → r1.1 = true) ∧
  (TokRelU P r1.2 r2.2 ∨ (k = .Other ∧ r1.1 = true ∧ BadPair P r1.2 r2.2))

theorem simS_matchP (hD : Spec.stepKeywordsOk D = true) (hcl : Closed D P) (cap : Nat) (stop : Bool) (k : Kind)
    {t1 t2 : Token} (ht : TokRelU P t1 t2) :
    SimS D P (MatchRelU P k t1) (matchP D cap stop k t1) (matchP D cap stop k t2) := by
  refine SimS.of_run fun c1 c2 hc => ?_
  rw [run_matchP, run_matchP, ← hc.μ, ← hc.calls]
  obtain ⟨hinv, hres, hμ', hsane, hds, htok⟩ := matchTok_relU hD hcl k hc.sane hc.dialect ht
  dsimp only
  rw [← hinv, ← hres, ← hμ']
  have hc' : CtxRelU D P
      { c1 with μ := (matchTok D k c1.μ t1).1.μ, calls := c1.calls + (if (matchTok D k c1.μ t1).2 then 1 else 0) }
      { c2 with μ := (matchTok D k c1.μ t1).1.μ, calls := c1.calls + (if (matchTok D k c1.μ t1).2 then 1 else 0) } :=
    { hc with μ := rfl, calls := rfl, sane := hsane, dialect := hds }
  -- the pair returned with verdict `b`, which says whether the test succeeded
  have hrel : ∀ b : Bool, (b = true ↔ (matchTok D k c1.μ t1).1.res = .matched) →
      MatchRelU P k t1 (b, (matchTok D k c1.μ t1).1.tok) (b, (matchTok D k c1.μ t2).1.tok) := fun b hb =>
    ⟨rfl, (matchTok_tok D k c1.μ t1).1, fun hbl hk => hb.2 (matchTok_blank D hk c1.μ hbl),
      htok.imp id fun ⟨h1, h2, h3⟩ => ⟨h1, hb.2 h2, h3⟩⟩
  cases hr : (matchTok D k c1.μ t1).1.res with
  | matched => exact .inl ⟨_, _, _, _, rfl, rfl, hrel true (by simp [hr]), hc'⟩
  | no => exact .inl ⟨_, _, _, _, rfl, rfl, hrel false (by simp [hr]), hc'⟩
  | raised e =>
    dsimp only
    cases stop with
    | true => exact .inr ⟨_, _, _, rfl, rfl, hc'⟩
    | false =>
      simp only [Bool.false_eq_true, ↓reduceIte]
      rcases (simS_addError cap e).apply hc' with ⟨_, _, c1', c2', e1, e2, -, hc''⟩ | ⟨e', c1', c2', e1, e2, hc''⟩
      · rw [e1, e2]
        exact .inl ⟨_, _, _, _, rfl, rfl, hrel false (by simp [hr]), hc''⟩
      · rw [e1, e2]
        exact .inr ⟨_, _, _, rfl, rfl, hc''⟩

def BuildPair (P : BlankParams) (t1 t2 : Token) : Prop := TokSame t1 t2 ∨ BadPair P t1 t2

theorem simU_runProd (cap : Nat) (stop : Bool) {t1 t2 : Token} (ht : BuildPair P t1 t2) (p : Prod) :
    SimU D P (fun _ _ => True) (runProd cap stop t1 p) (runProd cap stop t2 p) := by
  refine SimU.of_run fun c1 c2 hc => ?_
  rw [run_runProd, run_runProd]
  cases p with
  | start r => exact .inl (.inl ⟨_, _, _, _, rfl, rfl, trivial, { hc with β := hc.β.startRule r }⟩)
  | end_ r =>
    dsimp only
    rw [← hc.ids]
    obtain ⟨h1, h2, h3⟩ := hc.β.endRule c1.ids
    rw [← h1, ← h3]
    exact .inl ((simS_liftB cap stop _).apply { hc with β := h2, ids := rfl })
  | build =>
    dsimp only
    rcases ht with ht | ⟨hm1, hm2, hM⟩
    · rcases hc.β.build ht with ⟨e, e1, e2⟩ | ⟨β1, β2, e1, e2, hβ⟩
      · rw [e1, e2]
        exact .inl ((simS_liftB cap stop _).apply hc)
      · rw [e1, e2]
        exact .inl (.inl ⟨_, _, _, _, rfl, rfl, trivial,
          { hc with β := hβ, builds := hc.builds.append (.cons ht .nil) }⟩)
    · -- both builders append the token to the node under construction (or both crash)
      rw [layBuild_other c1.β t1 .Other (by decide) hm1, layBuild_other c2.β t2 .Other (by decide) hm2]
      have hst := hc.β.1
      revert hst
      generalize c1.β.stack = s1
      generalize c2.β.stack = s2
      intro hst
      cases hst with
      | nil => exact .inl ((simS_liftB cap stop _).apply hc)
      | cons _ _ =>
        -- the second stack is not empty, so the build succeeds and `t2` is recorded
        rw [addToTop_cons, addToTop_cons]
        exact .inr ⟨t2, List.mem_append_right _ (List.mem_singleton_self t2), hm2, hM⟩

theorem simU_runProds (cap : Nat) (stop : Bool) {t1 t2 : Token} (ht : BuildPair P t1 t2) (ps : List Prod) :
    SimU D P (fun _ _ => True) (runProds cap stop t1 ps) (runProds cap stop t2 ps) := by
  induction ps with
  | nil => exact (SimS.pure trivial).toU
  | cons p ps ih =>
    unfold runProds
    exact SimU.bindU (simU_runProd cap stop ht p)
      (fun _ c0 => Inv.runProds _ fun p _ => growsM_runProd cap stop t2 p c0) fun _ _ _ => ih

theorem simS_matchAny (hD : Spec.stepKeywordsOk D = true) (hcl : Closed D P) (cap : Nat) (stop : Bool)
    (ks : List Kind) (hks : ∀ i, P.M i → Kind.Other ∉ ks) {t1 t2 : Token} (ht : TokRelU P t1 t2) :
    SimS D P (fun r1 r2 => r1.1 = r2.1 ∧ TokRelU P r1.2 r2.2) (matchAny D cap stop ks t1) (matchAny D cap stop ks t2) := by
  induction ks generalizing t1 t2 with
  | nil => exact SimS.pure ⟨rfl, ht⟩
  | cons k ks ih =>
    unfold matchAny
    refine SimS.bind (simS_matchP hD hcl cap stop k ht) fun (m1, t1') (m2, t2') ⟨hm, _, _, ht'⟩ => ?_
    dsimp only at hm ht' ⊢
    subst hm
    have ht'' : TokRelU P t1' t2' := by
      rcases ht' with h | ⟨h, _, _, _, hM⟩
      · exact h
      · exact absurd (h ▸ List.mem_cons_self) (hks _ hM)
    exact SimS.ite (fun _ => SimS.pure ⟨rfl, ht''⟩)
      fun _ => ih (fun i hM h => hks i hM (List.mem_cons_of_mem _ h)) ht''

theorem simS_lookaheadLoop (hD : Spec.stepKeywordsOk D = true) (hcl : Closed D P) (cap : Nat) (stop : Bool)
    (la : LookAhead) (hla : ∀ i, P.M i → Kind.Other ∉ la.expected ∧ Kind.Other ∉ la.skip) (fuel : Nat)
    {acc1 acc2 : List Token} (hacc : All2 (TokRelU P) acc1 acc2) :
    SimS D P (fun r1 r2 => r1.1 = r2.1 ∧ All2 (TokRelU P) r1.2 r2.2)
      (lookaheadLoop D cap stop la fuel acc1) (lookaheadLoop D cap stop la fuel acc2) := by
  induction fuel generalizing acc1 acc2 with
  | zero => exact SimS.throw _
  | succ n ih =>
    unfold lookaheadLoop
    refine SimS.bind simS_readToken fun t1 t2 ht => ?_
    refine SimS.bind (simS_matchAny hD hcl cap stop _ (fun i hM => (hla i hM).1) ht)
      fun (m1, t1') (m2, t2') ⟨hm, ht'⟩ => ?_
    dsimp only at hm ht' ⊢
    subst hm
    refine SimS.ite (fun _ => SimS.pure ⟨rfl, hacc.append (.cons ht' .nil)⟩) fun _ => ?_
    refine SimS.bind (simS_matchAny hD hcl cap stop _ (fun i hM => (hla i hM).2) ht')
      fun (s1, t1'') (s2, t2'') ⟨hs, ht''⟩ => ?_
    dsimp only at hs ht'' ⊢
    subst hs
    exact SimS.ite (fun _ => ih (hacc.append (.cons ht'' .nil)))
      fun _ => SimS.pure ⟨rfl, hacc.append (.cons ht'' .nil)⟩

theorem simS_lookahead (hD : Spec.stepKeywordsOk D = true) (hcl : Closed D P) (cap : Nat) (stop : Bool)
    (la : LookAhead) (hla : ∀ i, P.M i → Kind.Other ∉ la.expected ∧ Kind.Other ∉ la.skip) :
    SimS D P Eq (lookahead D cap stop la) (lookahead D cap stop la) := by
  unfold lookahead
  refine SimS.bind SimS.get fun c1 c2 hc => ?_
  rw [hc.queue.length_eq, hc.lines.length_eq]
  refine SimS.bind (simS_lookaheadLoop hD hcl cap stop la hla _ .nil) fun (m1, rd1) (m2, rd2) ⟨hm, hrd⟩ => ?_
  dsimp only at hm hrd ⊢
  subst hm
  exact SimS.bind (SimS.modify fun c1 c2 hc => { hc with queue := hc.queue.append hrd }) fun _ _ _ => SimS.pure rfl

/-- a whitespace-only line will be consumed by one of the remaining branches -/
def Safe (t : Token) (bs : List Branch) : Prop :=
  Blank t → ∃ b ∈ bs, (b.kind = .Empty ∨ b.kind = .Other) ∧ b.guard = none

/-- what the simulation of `match_token` uses of the table: every state has an unguarded `Empty` or
    `Other` test; and no `Other` test is guarded and no look-ahead tests `Other`.  The last two are
    used only where a modified line is at hand, hence asked only under `P.M i`: `parseWith_sim`,
    which has no modified line, owes nothing for them. -/
structure TableOkU (P : BlankParams) (T : Table) : Prop where
  blank : ∀ row ∈ T.rows, ∃ b ∈ row.branches, (b.kind = .Empty ∨ b.kind = .Other) ∧ b.guard = none
  other : ∀ i, P.M i → ∀ row ∈ T.rows, ∀ b ∈ row.branches, b.kind = .Other → b.guard = none
  la : ∀ i, P.M i → ∀ la ∈ T.lookaheads, Kind.Other ∉ la.expected ∧ Kind.Other ∉ la.skip

theorem blankTaken_rows {T : Table} (h : Spec.blankTaken T = true) :
    ∀ row ∈ T.rows, ∃ b ∈ row.branches, (b.kind = .Empty ∨ b.kind = .Other) ∧ b.guard = none := by
  intro row hmem
  unfold Spec.blankTaken at h
  rw [List.all_eq_true] at h
  have := h row hmem
  rw [List.any_eq_true] at this
  obtain ⟨b, hb, hcond⟩ := this
  simp only [Bool.and_eq_true, Bool.or_eq_true, beq_iff_eq, Option.isNone_iff_eq_none] at hcond
  exact ⟨b, hb, hcond.1, hcond.2⟩

theorem TableOkU.of_facts {P : BlankParams} {T : Table} (hb : Spec.blankTaken T = true)
    (ho : Spec.otherUnguarded T = true) (hl : Spec.lookaheadsNoOther T = true) : TableOkU P T where
  blank := blankTaken_rows hb
  other := fun _ _ row hmem b hb hk => by
    unfold Spec.otherUnguarded at ho
    rw [List.all_eq_true] at ho
    have h0 := ho row hmem
    rw [List.all_eq_true] at h0
    have h1 := h0 b hb
    simp only [hk, beq_self_eq_true, Bool.not_true, Bool.false_or, Option.isNone_iff_eq_none] at h1
    exact h1
  la := fun _ _ la hmem => by
    unfold Spec.lookaheadsNoOther at hl
    rw [List.all_eq_true] at hl
    have h0 := hl la hmem
    simp only [Bool.and_eq_true, Bool.not_eq_true', List.contains_eq_mem, decide_eq_false_iff_not] at h0
    exact h0

theorem simU_tryBranches (hD : Spec.stepKeywordsOk D = true) (hcl : Closed D P) {T : Table} (hT : TableOkU P T)
    (stop : Bool) (row : StateRow) (bs : List Branch)
    (hog : ∀ i, P.M i → ∀ b ∈ bs, b.kind = .Other → b.guard = none)
    {t1 t2 : Token} (ht : TokRelU P t1 t2) (hsafe : Safe t1 bs) :
    SimU D P Eq (tryBranches D T stop row bs t1) (tryBranches D T stop row bs t2) := by
  induction bs generalizing t1 t2 with
  | nil =>
    unfold tryBranches
    have hb : ¬ Blank t1 := fun hb => by obtain ⟨b, hm, _⟩ := hsafe hb; cases hm
    rw [unexpectedErr_relU row ht hb, ht.1.lineNo_eq]
    refine (SimS.bind (SimS.modify fun c1 c2 hc => ?_) fun _ _ _ => ?_).toU
    · exact { hc with unexpected := by simp only [hc.unexpected] }
    · split
      · exact SimS.throw _
      · exact SimS.bind (simS_addError _ _) fun _ _ _ => SimS.pure rfl
  | cons b bs ih =>
    unfold tryBranches
    refine SimU.bindS (simS_matchP hD hcl _ stop b.kind ht) fun (m1, t1') (m2, t2') ⟨hm, hl, hblank, ht'⟩ => ?_
    dsimp only at hm hl hblank ht' ⊢
    subst hm
    have hog' : ∀ i, P.M i → ∀ b' ∈ bs, b'.kind = .Other → b'.guard = none :=
      fun i hM b' hb' => hog i hM b' (List.mem_cons_of_mem _ hb')
    have hB : Blank t1' → Blank t1 := fun ⟨l, h1, h2⟩ => ⟨l, hl ▸ h1, h2⟩
    -- the line goes on to the remaining branches: it did not pass this test, or the guard said no
    have hrec : (m1 = false ∨ b.guard ≠ none) → Safe t1' bs := by
      intro hcond hb'
      obtain ⟨b', hmem, hk, hg⟩ := hsafe (hB hb')
      rcases List.mem_cons.1 hmem with rfl | hmem
      · rcases hcond with hm | hg'
        · have := hblank (hB hb') hk
          rw [hm] at this; cases this
        · exact absurd hg hg'
      · exact ⟨b', hmem, hk, hg⟩
    refine SimU.ite (fun _ => ?_) fun hm => ?_
    · -- after the guard, which says `true` if there is none
      have hcont : ∀ ok : Bool, (b.guard = none → ok = true) → SimU D P Eq
          (if ok = true then do runProds T.errorCap stop t1' b.prods; pure b.target
            else tryBranches D T stop row bs t1')
          (if ok = true then do runProds T.errorCap stop t2' b.prods; pure b.target
            else tryBranches D T stop row bs t2') := by
        intro ok hgo
        refine SimU.ite (fun _ => ?_) fun hok => ?_
        · refine SimU.bindU (simU_runProds _ stop ?_ _) (fun _ _ => Inv.pure _) fun _ _ _ => (SimS.pure rfl).toU
          exact ht'.imp (fun h => h.1) fun h => h.2.2
        · rcases ht' with ht' | ⟨hko, _, _, _, hM⟩
          · exact ih hog' ht' (hrec (.inr fun hg => by rw [hgo hg] at hok; cases hok))
          · rw [hgo (hog _ hM b List.mem_cons_self hko)] at hok; cases hok
      cases hg : b.guard with
      | none =>
        exact SimU.bindS (SimS.pure (R := fun o1 o2 => o1 = o2 ∧ o1 = true) ⟨rfl, rfl⟩)
          fun o1 o2 ⟨ho, h1⟩ => ho ▸ hcont o1 fun _ => h1
      | some i =>
        dsimp only
        cases hla : T.lookaheads[i]? with
        | none => exact SimU.bindS (R := fun _ _ => False) (SimS.throw _) fun _ _ h => h.elim
        | some la =>
          exact SimU.bindS (simS_lookahead hD hcl _ stop la fun i hM => hT.la i hM la (List.mem_of_getElem? hla))
            fun o1 o2 ho => ho ▸ hcont o1 fun h0 => by rw [hg] at h0; cases h0
    · rcases ht' with ht' | ⟨_, hmt, _⟩
      · exact ih hog' ht' (hrec (.inl hm))
      · rw [hmt] at hm; cases hm

theorem simU_matchToken (hD : Spec.stepKeywordsOk D = true) (hcl : Closed D P) {T : Table} (hT : TableOkU P T)
    (stop : Bool) (state : Nat) {t1 t2 : Token} (ht : TokRelU P t1 t2) :
    SimU D P Eq (matchToken D T stop state t1) (matchToken D T stop state t2) := by
  unfold matchToken
  cases hrow : T.row? state with
  | none => exact (SimS.throw _).toU
  | some row =>
    have hmem : row ∈ T.rows := List.mem_of_find?_eq_some hrow
    exact simU_tryBranches hD hcl hT stop row _ (fun i hM => hT.other i hM row hmem) ht fun _ => hT.blank row hmem

theorem simU_parseLoop (hD : Spec.stepKeywordsOk D = true) (hcl : Closed D P) {T : Table} (hT : TableOkU P T)
    (stop : Bool) (fuel state : Nat) :
    SimU D P Eq (parseLoop D T stop fuel state) (parseLoop D T stop fuel state) := by
  induction fuel generalizing state with
  | zero => exact (SimS.throw _).toU
  | succ n ih =>
    unfold parseLoop
    refine SimU.bindS simS_readToken fun t1 t2 ht => ?_
    refine SimU.bindS (SimS.modify fun c1 c2 hc => ?_) fun _ _ _ => ?_
    · exact { hc with reads := by simp only [hc.reads, ht.1.lineNo_eq] }
    refine SimU.bindU (simU_matchToken hD hcl hT stop state ht) (fun s c0 => ?_) fun s1 s2 hs => ?_
    · split
      · exact Inv.pure _
      · exact (growsPrims D T stop c0).parseLoop _ _
    · subst hs
      rw [ht.eof_eq]
      exact SimU.ite (fun _ => (SimS.pure rfl).toU) fun _ => ih _

theorem simU_parseBody (hD : Spec.stepKeywordsOk D = true) (hcl : Closed D P) {T : Table} (hT : TableOkU P T)
    (stop : Bool) (n : Nat) : SimU D P Eq (parseBody D T stop n) (parseBody D T stop n) := by
  unfold parseBody
  -- once the loop is over nothing is built any more
  have hfinish : ∀ c0, Inv (Grows c0) (fun _ => Grows c0) (do
      let ctx ← (get : PM Ctx)
      if !ctx.errors.isEmpty then throw (.composite ctx.errors)
      match ctx.β.result with
      | .ok (some d) => pure d
      | .ok none => throw (.crash "get_result returned None")
      | .error (.crash w) => throw (.crash w)
      | .error (.ast e) => throw (.single e)) := fun c0 => by
    refine Inv.bind (Triple.conseq Triple.get (fun _ h => h) (fun _ _ h => h.2) (fun _ _ h => h)) fun ctx => ?_
    dsimp only
    split
    · exact Triple.throw_bind _ _ fun _ h => h
    · split
      · exact Inv.pure _
      · exact Triple.throw _ fun _ h => h
      · exact Triple.throw _ fun _ h => h
      · exact Triple.throw _ fun _ h => h
  refine SimU.bindS (SimS.modify fun c1 c2 hc => { hc with β := hc.β.startRule _ }) fun _ _ _ => ?_
  refine SimU.bindU (simU_parseLoop hD hcl hT stop _ _)
    (fun _ c0 => Inv.bind (growsM_runProd _ _ _ _ c0) fun _ => hfinish c0) fun _ _ _ => ?_
  refine SimU.bindU (simU_runProd _ stop (.inl (TokSame.refl default)) _) (fun _ => hfinish) fun _ _ _ => ?_
  refine (SimS.bind SimS.get fun c1 c2 hc => ?_).toU
  rw [hc.errors, hc.β.result]
  dsimp only
  by_cases he : (!c2.errors.isEmpty) = true
  · rw [if_pos he]
    exact SimS.bind (R := fun _ _ => False) (SimS.throw _) fun _ _ h => h.elim
  · rw [if_neg he]
    split
    · exact SimS.pure rfl
    · exact SimS.throw _
    · exact SimS.throw _
    · exact SimS.throw _

end simU

theorem parseWith_simU {D : List Dialect} (hD : Spec.stepKeywordsOk D = true) {P : BlankParams}
    (hcl : Closed D P) {T : Table} (hT : TableOkU P T) (stop : Bool) (μ : MState) (ids : Nat) {src1 src2 : Str}
    (hl : LinesRel P 0 (splitLines src1) (splitLines src2)) (hμ : (μ.reset D).dialect ∈ D)
    (hds : (μ.reset D).dialect ∈ P.DS) :
    ((parseWith D T stop μ ids src1).1 = (parseWith D T stop μ ids src2).1 ∧
      CtxRelU D P (parseWith D T stop μ ids src1).2 (parseWith D T stop μ ids src2).2) ∨
    Bad P (parseWith D T stop μ ids src2).2 := by
  have hc0 : CtxRelU D P (ctx0 D μ ids src1) (ctx0 D μ ids src2) :=
    ⟨hl, rfl, .nil, rfl, rfl, BSame.refl _, rfl, rfl, .nil, rfl, rfl,
      ⟨fun _ hsep => (nomatch hsep), hμ⟩, hds⟩
  rcases (simU_parseBody hD hcl hT stop (splitLines src2).length).apply hc0 with
    (⟨d1, d2, c1', c2', e1, e2, hd, hc'⟩ | ⟨e, c1', c2', e1, e2, hc'⟩) | hbad
  · rw [parseWith_eq, parseWith_eq, hl.length_eq, e1, e2]
    subst hd
    exact .inl ⟨rfl, hc'⟩
  · rw [parseWith_eq, parseWith_eq, hl.length_eq, e1, e2]
    cases e <;> exact .inl ⟨rfl, hc'⟩
  · refine .inr ?_
    rw [parseWith_snd]
    exact hbad

theorem LinesRel.of_all2 {P : BlankParams} {ls1 ls2 : List Str} (h : All2 LineRel ls1 ls2)
    (hmem : ∀ l ∈ ls2, l ∈ P.L2) (n : Nat) : LinesRel P n ls1 ls2 := by
  induction h generalizing n with
  | nil => exact .nil n
  | cons hab _ ih =>
    exact .cons ⟨hmem _ List.mem_cons_self, .inl hab⟩ (ih (fun l hl => hmem l (List.mem_cons_of_mem _ hl)) _)

theorem LinesRel.to_all2 {P : BlankParams} (hM : ∀ i, ¬ P.M i) {n : Nat} {ls1 ls2 : List Str}
    (h : LinesRel P n ls1 ls2) : All2 LineRel ls1 ls2 := by
  induction h with
  | nil => exact .nil
  | cons hp _ ih => exact .cons (hp.2.resolve_right fun hm => hM _ hm.2.1) ih

theorem TokRelU.toRel {P : BlankParams} (hM : ∀ i, ¬ P.M i) {t1 t2 : Token} (h : TokRelU P t1 t2) :
    TokRel t1 t2 := by
  refine ⟨h.1, ?_⟩
  rcases h.2.cases with ⟨h1, h2⟩ | ⟨_, _, h1, h2, hp⟩
  · rw [h1, h2]; trivial
  · rw [h1, h2]; exact hp.2.resolve_right fun hm => hM _ hm.2.1

theorem parseWith_sim {D : List Dialect} (hD : Spec.stepKeywordsOk D = true) {T : Table}
    (hT : Spec.blankTaken T = true) (stop : Bool) (μ : MState) (ids : Nat) {src1 src2 : Str}
    (hl : All2 LineRel (splitLines src1) (splitLines src2)) (hμ : (μ.reset D).dialect ∈ D) :
    (parseWith D T stop μ ids src1).1 = (parseWith D T stop μ ids src2).1 ∧
    CtxRel D (parseWith D T stop μ ids src1).2 (parseWith D T stop μ ids src2).2 := by
  let P : BlankParams := ⟨fun _ => False, splitLines src2, D⟩
  have hM : ∀ i, ¬ P.M i := fun _ h => h
  rcases parseWith_simU hD (P := P) (fun _ _ _ _ _ h => findDialect_mem h)
      ⟨blankTaken_rows hT, fun i h => (hM i h).elim, fun i h => (hM i h).elim⟩ stop μ ids
      (LinesRel.of_all2 hl (fun _ h => h) 0) hμ hμ with ⟨h1, h2⟩ | ⟨_, _, _, h⟩
  · exact ⟨h1, h2.lines.to_all2 hM, h2.lineNo, h2.queue.mono fun _ _ h => h.toRel hM, h2.errors, h2.μ, h2.β,
      h2.ids, h2.calls, h2.builds, h2.reads, h2.unexpected, h2.sane⟩
  · exact (hM _ h).elim

theorem mem_langDialects {D : List Dialect} {ls : List Str} {l name : Str} {d : Dialect} (hl : l ∈ ls)
    (h1 : languageRe (lineText l none) = some name) (h2 : findDialect D name = some d) :
    d ∈ Spec.langDialects D ls :=
  List.mem_filterMap.2 ⟨l, hl, by rw [h1]; exact h2⟩

theorem linesRel_of_index {P : BlankParams} (n : Nat) (ls1 ls2 : List Str) (hlen : ls1.length = ls2.length)
    (h : ∀ k l1 l2, ls1[k]? = some l1 → ls2[k]? = some l2 → PairRel P (n + k + 1) l1 l2) :
    LinesRel P n ls1 ls2 := by
  induction ls1 generalizing ls2 n with
  | nil =>
    cases ls2 with
    | nil => exact .nil n
    | cons _ _ => cases hlen
  | cons l1 ls1 ih =>
    cases ls2 with
    | nil => cases hlen
    | cons l2 ls2 =>
      refine .cons (h 0 l1 l2 rfl rfl) (ih (n + 1) ls2 (Nat.succ.inj hlen) fun k a b ha hb => ?_)
      have := h (k + 1) a b ha hb
      rwa [Nat.add_right_comm n (k + 1) 1] at this

theorem tryBranches_blank_step (D : List Dialect) (T : Table) (stop : Bool) (row : StateRow)
    {t : Token} {l : Str} (hl : t.line = some l) (hb : lstrip l = []) (s : Nat) :
    ∀ (bs : List Branch) (b0 : Branch), bs.find? Spec.emptyTest = some b0 → b0.kind = .Empty → b0.target = s →
      b0.prods = [.build] → b0.guard = none → ∀ c : Ctx, (∀ kw ∈ c.μ.dialect.stepKeywords, kw ≠ []) →
      ∃ n, run (tryBranches D T stop row bs t) c =
        run (runProds T.errorCap stop (emptyTok c.μ t) [.build] >>= fun _ => pure s)
          { c with calls := c.calls + (n + 1) } := by
  intro bs
  induction bs with
  | nil => intro b0 hf; cases hf
  | cons b bs ih =>
    intro b0 hf hk ht hp hg c hkw
    simp only [List.find?] at hf
    unfold tryBranches
    rw [prun_bind, run_matchP, matchTok_line hl]
    cases he : Spec.emptyTest b with
    | true =>
      rw [he] at hf
      cases hf
      rw [hk, matchLine_blank_empty D c.μ t hb]
      refine ⟨0, ?_⟩
      simp only [hg, ↓reduceIte, prun_bind, prun_pure, hp, ht]
      rfl
    | false =>
      rw [he] at hf
      have hne : b.kind ≠ .Empty ∧ b.kind ≠ .Other := by
        unfold Spec.emptyTest at he
        simp only [Bool.or_eq_false_iff, beq_eq_false_iff_ne, ne_eq] at he
        exact he
      rw [matchLine_blank_no D b.kind c.μ t hb hne (fun _ => hkw)]
      obtain ⟨n, hn⟩ := ih b0 hf hk ht hp hg { c with calls := c.calls + 1 } hkw
      refine ⟨n + 1, ?_⟩
      simp only [↓reduceIte, Bool.false_eq_true]
      rw [hn, Nat.add_assoc c.calls, Nat.add_comm 1]

theorem matchToken_blank_step (D : List Dialect) (T : Table) (hE : Spec.emptySelfLoop T = true) (stop : Bool)
    {s : Nat} (hs : Spec.emptyFirst T s = true) {t : Token} {l : Str} (hl : t.line = some l) (hb : lstrip l = [])
    (c : Ctx) (hkw : ∀ kw ∈ c.μ.dialect.stepKeywords, kw ≠ []) :
    ∃ n, run (matchToken D T stop s t) c =
      run (runProds T.errorCap stop (emptyTok c.μ t) [.build] >>= fun _ => pure s)
        { c with calls := c.calls + (n + 1) } := by
  obtain ⟨row, b0, hrow, hfind, hk, ht, hp, hg⟩ := emptyFirst_spec hE hs
  unfold matchToken
  rw [hrow]
  exact tryBranches_blank_step D T stop row hl hb s row.branches b0 hfind hk ht hp hg c hkw

end Lemmas
end GV
