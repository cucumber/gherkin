/-
  Lemmas/LookAhead.lean — look-ahead elimination for the abstract table run (generic in the
  table; no reference to the generated table).

  `runAbs` is deterministic but each guarded branch consults the *future* through `peekAbs`.
  The value of every look-ahead on a future `k :: ks` is a function of `k` and of its value on
  `ks` (`cls_cons`): the vector of look-ahead values (`cls`, the *future class*) is computed by a
  right-to-left deterministic automaton.  So the guarded run is simulated exactly by a guard-free
  *nondeterministic* machine on pairs (state, claimed class of the remaining input) which guesses
  the class of the rest at each step and checks the guess against the claim; a wrong guess is
  refuted at the latest at the end of input, where the class must be that of `[]`.  Its subset
  construction `setStep` / `setAcc` is a total deterministic automaton with

      (runAbs T s ks).isSome  ↔  setAcc T (setRun T C (start set) ks)          (`accepts_iff_setRun`)

  provided `C` contains every class that can occur (`clsOK`, a Boolean check).
-/
import GherkinVerif.Model.Abstract
namespace GV.Lemmas

/-- a future class: the value of every look-ahead of the table on the remaining input -/
abbrev Cls := List Bool

def cls (T : Table) (ks : List Kind) : Cls := T.lookaheads.map fun la => peekAbs la ks

def clsNil (T : Table) : Cls := T.lookaheads.map fun _ => false

def peekStep (la : LookAhead) (k : Kind) (b : Bool) : Bool :=
  if la.expected.any (passes k) then true else if la.skip.any (passes k) then b else false

def clsStep (T : Table) (k : Kind) (c : Cls) : Cls :=
  List.zipWith (fun la b => peekStep la k b) T.lookaheads c

theorem cls_nil (T : Table) : cls T [] = clsNil T := by
  simp [cls, clsNil, peekAbs]

theorem cls_cons (T : Table) (k : Kind) (ks : List Kind) :
    cls T (k :: ks) = clsStep T k (cls T ks) := by
  unfold cls clsStep
  generalize T.lookaheads = l
  induction l with
  | nil => rfl
  | cons la l ih => simp only [List.map_cons, List.zipWith_cons_cons, ih]; simp [peekAbs, peekStep]

def guardOkC (b : Branch) (c : Cls) : Bool :=
  match b.guard with
  | none => true
  | some i => c[i]?.getD false

def pickBranchC (k : Kind) (c : Cls) : List Branch → Option Branch
  | [] => none
  | b :: bs => if passes k b.kind && guardOkC b c then some b else pickBranchC k c bs

def stepC (T : Table) (s : Nat) (k : Kind) (c : Cls) : Option Branch :=
  match T.row? s with
  | none => none
  | some row => pickBranchC k c row.branches

theorem guardOkAbs_eq (T : Table) (b : Branch) (ks : List Kind) :
    guardOkAbs T b ks = guardOkC b (cls T ks) := by
  unfold guardOkAbs guardOkC
  cases b.guard with
  | none => rfl
  | some i =>
    simp only [cls, List.getElem?_map]
    cases T.lookaheads[i]? <;> rfl

theorem pickBranch_eq (T : Table) (k : Kind) (ks : List Kind) (bs : List Branch) :
    pickBranch T k ks bs = pickBranchC k (cls T ks) bs := by
  induction bs with
  | nil => rfl
  | cons b bs ih => simp only [pickBranch, pickBranchC, guardOkAbs_eq, ih]

theorem stepAbs_eq (T : Table) (s : Nat) (k : Kind) (ks : List Kind) :
    stepAbs T s k ks = stepC T s k (cls T ks) := by
  unfold stepAbs stepC
  cases T.row? s with
  | none => rfl
  | some row => exact pickBranch_eq T k ks row.branches

theorem runAbs_cons_isSome (T : Table) (s : Nat) (k : Kind) (ks : List Kind) :
    (runAbs T s (k :: ks)).isSome = true ↔
      ∃ b, stepC T s k (cls T ks) = some b ∧ (runAbs T b.target ks).isSome = true := by
  simp only [runAbs, stepAbs_eq]
  cases stepC T s k (cls T ks) with
  | none => simp
  | some b =>
    cases h : runAbs T b.target ks with
    | none => simp [h]
    | some r => simp [h]

def clsOK (T : Table) (C : List Cls) : Bool :=
  C.contains (clsNil T) && Kind.all.all fun k => C.all fun c => C.contains (clsStep T k c)

theorem kind_mem_all (k : Kind) : k ∈ Kind.all := by cases k <;> decide

theorem cls_mem {T : Table} {C : List Cls} (h : clsOK T C = true) (ks : List Kind) : cls T ks ∈ C := by
  simp only [clsOK, Bool.and_eq_true, List.contains_iff_mem, List.all_eq_true] at h
  induction ks with
  | nil => rw [cls_nil]; exact h.1
  | cons k ks ih => rw [cls_cons]; exact h.2 k (kind_mem_all k) _ ih

/-- closure of `{clsNil}` under `clsStep` (fuelled; the result is checked by `clsOK`) -/
def closeCls (T : Table) : Nat → List Cls → List Cls
  | 0, C => C
  | n + 1, C =>
    let new := Kind.all.flatMap fun k => C.map (clsStep T k)
    let C' := new.foldl (fun acc c => if acc.contains c then acc else acc ++ [c]) C
    if C'.length == C.length then C else closeCls T n C'

def classes (T : Table) : List Cls := closeCls T (2 ^ T.lookaheads.length) [clsNil T]

/-- a state of the guess-and-check machine: table state and claimed class of the remaining input -/
abbrev St := Nat × Cls

def clsCode (c : Cls) : Nat := c.foldl (fun n b => 2 * n + b.toNat) 0

def stLt (p q : St) : Bool :=
  p.1 < q.1 || (p.1 == q.1 && (clsCode p.2 < clsCode q.2 || (clsCode p.2 == clsCode q.2 && p.2.length < q.2.length)))

def insSt (x : St) : List St → List St
  | [] => [x]
  | y :: ys => if x = y then y :: ys else if stLt x y then x :: y :: ys else y :: insSt x ys

/-- canonical representative of a set of states -/
def normSt (l : List St) : List St := l.foldr insSt []

theorem mem_insSt {x z : St} {l : List St} : z ∈ insSt x l ↔ z = x ∨ z ∈ l := by
  induction l with
  | nil => simp [insSt]
  | cons y ys ih =>
    simp only [insSt]
    split
    · next h => subst h; simp
    · split
      · simp
      · simp only [List.mem_cons, ih]
        constructor
        · rintro (h | h | h) <;> simp [h]
        · rintro (h | h | h) <;> simp [h]

theorem mem_normSt {z : St} {l : List St} : z ∈ normSt l ↔ z ∈ l := by
  induction l with
  | nil => simp [normSt]
  | cons y ys ih =>
    have : normSt (y :: ys) = insSt y (normSt ys) := rfl
    rw [this, mem_insSt, ih]; simp

/-- successors of the set `S` on `k`: guess the class `c'` of the rest (among `C`), check it
    against the claim, take the branch the guarded table takes under `c'` -/
def succSt (T : Table) (C : List Cls) (S : List St) (k : Kind) : List St :=
  S.flatMap fun p => C.filterMap fun c' =>
    if clsStep T k c' = p.2 then (stepC T p.1 k c').map (fun b => (b.target, c')) else none

def setStep (T : Table) (C : List Cls) (S : List St) (k : Kind) : List St := normSt (succSt T C S k)

/-- at the end of input the claim must be the class of `[]` -/
def setAcc (T : Table) (S : List St) : Bool := S.any fun p => p.2 == clsNil T

def setRun (T : Table) (C : List Cls) : List St → List Kind → List St
  | S, [] => S
  | S, k :: ks => setRun T C (setStep T C S k) ks

/-- start set: table state `s` with every possible claim -/
def setStart (C : List Cls) (s : Nat) : List St := normSt (C.map fun c => (s, c))

/-- some member of `S` carries the true class of `ks` and the guarded run from it succeeds -/
def AccFrom (T : Table) (S : List St) (ks : List Kind) : Prop :=
  ∃ p ∈ S, p.2 = cls T ks ∧ (runAbs T p.1 ks).isSome = true

theorem accFrom_nil (T : Table) (S : List St) : AccFrom T S [] ↔ setAcc T S = true := by
  simp only [AccFrom, setAcc, List.any_eq_true, beq_iff_eq, cls_nil, runAbs, Option.isSome_some, and_true]

theorem accFrom_cons {T : Table} {C : List Cls} (hC : clsOK T C = true) (S : List St) (k : Kind)
    (ks : List Kind) : AccFrom T S (k :: ks) ↔ AccFrom T (setStep T C S k) ks := by
  simp only [AccFrom, setStep, mem_normSt, succSt, List.mem_flatMap, List.mem_filterMap]
  constructor
  · rintro ⟨p, hp, hc, hr⟩
    obtain ⟨b, hb, hrun⟩ := (runAbs_cons_isSome T p.1 k ks).1 hr
    refine ⟨(b.target, cls T ks), ⟨p, hp, cls T ks, cls_mem hC ks, ?_⟩, rfl, hrun⟩
    rw [cls_cons] at hc
    simp [hc, hb]
  · rintro ⟨q, ⟨p, hp, c', _, hq⟩, hqc, hrun⟩
    split at hq
    · next hcl =>
      simp only [Option.map_eq_some_iff] at hq
      obtain ⟨b, hb, rfl⟩ := hq
      simp only at hqc hrun
      subst hqc
      refine ⟨p, hp, ?_, (runAbs_cons_isSome T p.1 k ks).2 ⟨b, hb, hrun⟩⟩
      rw [cls_cons]; exact hcl.symm
    · cases hq

theorem accFrom_iff_setRun {T : Table} {C : List Cls} (hC : clsOK T C = true) :
    ∀ (ks : List Kind) (S : List St), AccFrom T S ks ↔ setAcc T (setRun T C S ks) = true := by
  intro ks
  induction ks with
  | nil => intro S; exact accFrom_nil T S
  | cons k ks ih => intro S; rw [accFrom_cons hC, ih]; rfl

theorem accepts_iff_setRun {T : Table} {C : List Cls} (hC : clsOK T C = true) (s : Nat) (ks : List Kind) :
    (runAbs T s ks).isSome = setAcc T (setRun T C (setStart C s) ks) := by
  rw [Bool.eq_iff_iff, ← accFrom_iff_setRun hC]
  simp only [AccFrom, setStart, mem_normSt, List.mem_map]
  constructor
  · intro h; exact ⟨(s, cls T ks), ⟨_, cls_mem hC ks, rfl⟩, rfl, h⟩
  · rintro ⟨p, ⟨c, _, rfl⟩, _, h⟩; exact h

end GV.Lemmas
