/-
  Lemmas/Keywords.lean — helper lemmas for property C05 (shared by C19): what the matcher does on
  keyword lines, and the Boolean dialect-table facts of Spec/DialectFacts.lean lifted to
  `∀ d ∈ D, ∀ k ∈ …` statements.
-/
import GherkinVerif.Lemmas.PyStr
import GherkinVerif.Lemmas.Kinds

namespace GV.Lemmas
open GV Spec

theorem title_prefix_unique (k' k rest : Str) (hk' : 58 ∉ k') (hk : 58 ∉ k)
    (h : startsWith (k' ++ [58]) (k ++ 58 :: rest) = true) : k' = k := by
  induction k' generalizing k with
  | nil =>
    cases k with
    | nil => rfl
    | cons c k =>
      simp only [List.nil_append, List.cons_append, startsWith, Bool.and_eq_true, beq_iff_eq] at h
      exact absurd (by simp [← h.1]) hk
  | cons a k' ih =>
    cases k with
    | nil =>
      simp only [List.nil_append, List.cons_append, startsWith, Bool.and_eq_true, beq_iff_eq] at h
      exact absurd (by simp [h.1]) hk'
    | cons c k =>
      simp only [List.cons_append, startsWith, Bool.and_eq_true, beq_iff_eq] at h
      rw [h.1, ih k (fun hm => hk' (by simp [hm])) (fun hm => hk (by simp [hm])) h.2]

/-- in a colon-free keyword list the only keyword `k'` with `k' + ":"` a prefix of `k + ":" + rest`
    is `k` itself, whatever the order of the list -/
theorem find_title (kws : List Str) (k rest : Str) (hk : k ∈ kws) (hcf : ∀ k' ∈ kws, 58 ∉ k') :
    kws.find? (fun k' => startsWith (k' ++ [58]) (k ++ 58 :: rest)) = some k := by
  induction kws with
  | nil => simp at hk
  | cons a kws ih =>
    rw [List.find?_cons]
    split
    · next h =>
      rw [title_prefix_unique a k rest (hcf a (by simp)) (hcf k hk) h]
    · next h =>
      have hne : k ≠ a := by
        rintro rfl
        have := startsWith_append (k ++ [58]) rest
        simp only [List.append_assoc, List.singleton_append] at this
        rw [this] at h; cases h
      have hk2 : k ∈ kws := by
        rcases List.mem_cons.1 hk with rfl | h2
        · exact absurd rfl hne
        · exact h2
      exact ih hk2 fun k' h' => hcf k' (by simp [h'])

/-- `C05_title`, generic form -/
theorem matchTitle_keyword (μ : MState) (t : Token) (ty : Kind) (kws : List Str) (ws k rest : Str)
    (hk : k ∈ kws) (hcf : ∀ k' ∈ kws, 58 ∉ k') (hws : ∀ c ∈ ws, isSpace c = true)
    (hns : noWsStart k = true) :
    matchTitle μ t (ws ++ k ++ [58] ++ rest) ty kws =
      some (setMatched μ t ty (text := some (strip rest)) (keyword := some k)) := by
  have hx : noWsStart (k ++ 58 :: rest) = true := noWsStart_append_cons k rest 58 hns (by decide)
  have htr : trimmed (ws ++ k ++ [58] ++ rest) = k ++ 58 :: rest := by
    simp only [List.append_assoc, List.singleton_append]
    exact trimmed_ws_append ws _ hws hx
  unfold matchTitle
  simp only [lineStartsWithTitle, htr, find_title kws k rest hk hcf, restTrimmed,
    drop_length_succ_append]

theorem title_token_fields (μ : MState) (t : Token) (ty : Kind) (ws k rest : Str)
    (hws : ∀ c ∈ ws, isSpace c = true) (hns : noWsStart k = true)
    (hl : t.line = some (ws ++ k ++ [58] ++ rest)) :
    let t' := setMatched μ t ty (text := some (strip rest)) (keyword := some k)
    t'.mtype = some ty ∧ t'.keyword = some k ∧ t'.text = some (strip rest) ∧
    t'.col = some (ws.length + 1) ∧ t'.dialect = μ.name ∧ t'.line = t.line ∧ t'.lineNo = t.lineNo := by
  have hx : noWsStart (k ++ 58 :: rest) = true := noWsStart_append_cons k rest 58 hns (by decide)
  have hi : lineIndent (ws ++ (k ++ 58 :: rest)) = ws.length :=
    indentOf_ws_append ws _ hws hx
  simp [setMatched, hl, hi, rstripCRLF_strip]

theorem matchLine_title (D : List Dialect) (ty : Kind) (hty : ty.isTitle = true) (μ : MState)
    (t : Token) (l : Str) :
    matchLine D ty μ t l =
      match matchTitle μ t l ty (μ.dialect.roleKeywords ty) with
      | some t' => ⟨t', μ, .matched⟩
      | none => ⟨t, μ, .no⟩ := by
  cases ty <;> first
    | exact absurd hty (by decide)
    | (simp only [matchLine, Dialect.roleKeywords]
       cases matchTitle μ t l _ _ <;> rfl)
    | skip
  simp only [matchLine, Dialect.roleKeywords, matchTitle, List.find?_append]
  cases List.find? (fun k => lineStartsWithTitle l k) μ.dialect.scenario with
  | some k => rfl
  | none =>
    cases List.find? (fun k => lineStartsWithTitle l k) μ.dialect.scenarioOutline <;> rfl

/-- `C05_title` for the title kinds of `matchLine` -/
theorem matchLine_title_keyword (D : List Dialect) (ty : Kind) (hty : ty.isTitle = true)
    (μ : MState) (t : Token) (ws k rest : Str) (hk : k ∈ μ.dialect.roleKeywords ty)
    (hcf : ∀ k' ∈ μ.dialect.roleKeywords ty, 58 ∉ k') (hws : ∀ c ∈ ws, isSpace c = true)
    (hns : noWsStart k = true) :
    matchLine D ty μ t (ws ++ k ++ [58] ++ rest) =
      ⟨setMatched μ t ty (text := some (strip rest)) (keyword := some k), μ, .matched⟩ := by
  rw [matchLine_title D ty hty, matchTitle_keyword μ t ty _ ws k rest hk hcf hws hns]

theorem matchTitle_none (μ : MState) (t : Token) (l : Str) (ty : Kind) (kws : List Str)
    (h : ∀ k ∈ kws, startsWith (k ++ [58]) (trimmed l) = false) : matchTitle μ t l ty kws = none := by
  unfold matchTitle
  have : kws.find? (fun k => lineStartsWithTitle l k) = none := by
    rw [List.find?_eq_none]
    intro k hk
    simp [lineStartsWithTitle, h k hk]
  simp [this]

theorem matchTitle_some (μ : MState) (t : Token) (l : Str) (ty : Kind) (kws : List Str) (t' : Token)
    (h : matchTitle μ t l ty kws = some t') :
    ∃ k ∈ kws, startsWith (k ++ [58]) (trimmed l) = true ∧ t'.keyword = some k ∧
      t'.dialect = μ.name ∧ t'.mtype = some ty := by
  unfold matchTitle at h
  split at h
  · next k hf =>
    refine ⟨k, List.mem_of_find?_eq_some hf, ?_, ?_⟩
    · simpa [lineStartsWithTitle] using List.find?_some hf
    · cases h; simp [setMatched]
  · cases h

/-- `C05_foreign_plain`, title kinds -/
theorem matchLine_title_none (D : List Dialect) (ty : Kind) (hty : ty.isTitle = true) (μ : MState)
    (t : Token) (l : Str)
    (h : ∀ k ∈ μ.dialect.roleKeywords ty, startsWith (k ++ [58]) (trimmed l) = false) :
    matchLine D ty μ t l = ⟨t, μ, .no⟩ := by
  rw [matchLine_title D ty hty, matchTitle_none μ t l ty _ h]

theorem matchLine_title_matched (D : List Dialect) (ty : Kind) (hty : ty.isTitle = true) (μ : MState)
    (t : Token) (l : Str) :
    (∃ t', matchLine D ty μ t l = ⟨t', μ, .matched⟩ ∧
      ∃ k ∈ μ.dialect.roleKeywords ty, startsWith (k ++ [58]) (trimmed l) = true ∧
        t'.keyword = some k ∧ t'.dialect = μ.name ∧ t'.mtype = some ty) ∨
    (matchLine D ty μ t l = ⟨t, μ, .no⟩ ∧
      ∀ k ∈ μ.dialect.roleKeywords ty, startsWith (k ++ [58]) (trimmed l) = false) := by
  rw [matchLine_title D ty hty]
  cases h : matchTitle μ t l ty (μ.dialect.roleKeywords ty) with
  | some t' => exact .inl ⟨t', rfl, matchTitle_some μ t l ty _ t' h⟩
  | none =>
    refine .inr ⟨rfl, fun k hk => ?_⟩
    unfold matchTitle at h
    split at h
    · cases h
    · next hf =>
      rw [List.find?_eq_none] at hf
      simpa [lineStartsWithTitle] using hf k hk

/-- `C05_step_first_prefix` -/
theorem matchLine_step_first (D : List Dialect) (μ : MState) (t : Token) (l : Str)
    (pre post : List Str) (kw : Str) (hsplit : μ.dialect.stepKeywords = pre ++ kw :: post)
    (hkw : startsWith kw (trimmed l) = true) (hpre : ∀ k' ∈ pre, startsWith k' (trimmed l) = false) :
    matchLine D .StepLine μ t l =
      ⟨setMatched μ t .StepLine (text := some (strip ((trimmed l).drop kw.length))) (keyword := some kw)
        (ktype := some (stepKType μ.dialect kw)), μ, .matched⟩ := by
  have hf : μ.dialect.stepKeywords.find? (fun kw => lineStartsWith l kw) = some kw := by
    rw [List.find?_eq_some_iff_append]
    refine ⟨by simpa [lineStartsWith] using hkw, pre, post, hsplit, fun a ha => ?_⟩
    simp [lineStartsWith, hpre a ha]
  simp only [matchLine, hf, restTrimmed]

theorem matchLine_step_none (D : List Dialect) (μ : MState) (t : Token) (l : Str)
    (h : ∀ k ∈ μ.dialect.stepKeywords, startsWith k (trimmed l) = false) :
    matchLine D .StepLine μ t l = ⟨t, μ, .no⟩ := by
  have hf : μ.dialect.stepKeywords.find? (fun kw => lineStartsWith l kw) = none := by
    rw [List.find?_eq_none]
    intro k hk
    simp [lineStartsWith, h k hk]
  simp only [matchLine, hf]

theorem matchLine_step_cases (D : List Dialect) (μ : MState) (t : Token) (l : Str) :
    (∃ pre kw post, μ.dialect.stepKeywords = pre ++ kw :: post ∧ startsWith kw (trimmed l) = true ∧
      (∀ k' ∈ pre, startsWith k' (trimmed l) = false) ∧
      matchLine D .StepLine μ t l =
        ⟨setMatched μ t .StepLine (text := some (strip ((trimmed l).drop kw.length))) (keyword := some kw)
          (ktype := some (stepKType μ.dialect kw)), μ, .matched⟩) ∨
    ((∀ k ∈ μ.dialect.stepKeywords, startsWith k (trimmed l) = false) ∧
      matchLine D .StepLine μ t l = ⟨t, μ, .no⟩) := by
  cases hf : μ.dialect.stepKeywords.find? (fun kw => startsWith kw (trimmed l)) with
  | some kw =>
    rw [List.find?_eq_some_iff_append] at hf
    obtain ⟨hkw, pre, post, hsplit, hpre⟩ := hf
    have hpre' : ∀ k' ∈ pre, startsWith k' (trimmed l) = false := fun k' hk' => by
      simpa using hpre k' hk'
    exact .inl ⟨pre, kw, post, hsplit, hkw, hpre', matchLine_step_first D μ t l pre post kw hsplit hkw hpre'⟩
  | none =>
    rw [List.find?_eq_none] at hf
    have h : ∀ k ∈ μ.dialect.stepKeywords, startsWith k (trimmed l) = false := fun k hk => by
      simpa using hf k hk
    exact .inr ⟨h, matchLine_step_none D μ t l h⟩

theorem matchLine_step_line (D : List Dialect) (μ : MState) (t : Token) (ws kw rest : Str)
    (pre post : List Str) (hsplit : μ.dialect.stepKeywords = pre ++ kw :: post)
    (hws : ∀ c ∈ ws, isSpace c = true) (hns : noWsStart kw = true) (hne : kw ≠ [])
    (hpre : ∀ k' ∈ pre, startsWith k' (kw ++ rest) = false) :
    matchLine D .StepLine μ t (ws ++ kw ++ rest) =
      ⟨setMatched μ t .StepLine (text := some (strip rest)) (keyword := some kw)
        (ktype := some (stepKType μ.dialect kw)), μ, .matched⟩ := by
  have htr : trimmed (ws ++ kw ++ rest) = kw ++ rest := by
    rw [List.append_assoc]
    exact trimmed_ws_append ws _ hws (noWsStart_append kw rest hns hne)
  rw [matchLine_step_first D μ t _ pre post kw hsplit (by rw [htr]; exact startsWith_append kw rest)
    (by rw [htr]; exact hpre), htr, drop_length_append]

theorem step_token_fields (μ : MState) (t : Token) (ws kw rest : Str) (kt : KType)
    (hws : ∀ c ∈ ws, isSpace c = true) (hns : noWsStart kw = true) (hne : kw ≠ [])
    (hl : t.line = some (ws ++ kw ++ rest)) :
    let t' := setMatched μ t .StepLine (text := some (strip rest)) (keyword := some kw) (ktype := some kt)
    t'.mtype = some .StepLine ∧ t'.keyword = some kw ∧ t'.text = some (strip rest) ∧
    t'.ktype = some kt ∧ t'.col = some (ws.length + 1) := by
  have hi : lineIndent (ws ++ (kw ++ rest)) = ws.length :=
    indentOf_ws_append ws _ hws (noWsStart_append kw rest hns hne)
  simp [setMatched, hl, hi, rstripCRLF_strip]

theorem keywordTypes_eq (d : Dialect) (kw : Str) :
    d.keywordTypes kw =
      List.replicate (d.given.filter (· == kw)).length KType.Context ++
      List.replicate (d.when_.filter (· == kw)).length KType.Action ++
      List.replicate (d.then_.filter (· == kw)).length KType.Outcome ++
      List.replicate ((d.and_ ++ d.but_).filter (· == kw)).length KType.Conjunction := by
  simp only [Dialect.keywordTypes, List.map_const']

theorem stepCount_eq (d : Dialect) (kw : Str) :
    stepCount d kw = (d.given.filter (· == kw)).length + (d.when_.filter (· == kw)).length +
      (d.then_.filter (· == kw)).length + ((d.and_ ++ d.but_).filter (· == kw)).length := by
  simp only [stepCount, Dialect.stepKeywords, List.filter_append, List.length_append]
  omega

theorem filter_length_pos (l : List Str) (kw : Str) (h : kw ∈ l) : 0 < (l.filter (· == kw)).length := by
  apply List.length_pos_of_mem (a := kw)
  simp [h]

theorem length_keywordTypes (d : Dialect) (kw : Str) : (d.keywordTypes kw).length = stepCount d kw := by
  rw [keywordTypes_eq, stepCount_eq]
  simp only [List.length_append, List.length_replicate]

/-- `C05_keyword_type` -/
theorem stepKType_once (d : Dialect) (kw : Str) (h : stepCount d kw = 1) :
    (kw ∈ d.given → stepKType d kw = .Context) ∧ (kw ∈ d.when_ → stepKType d kw = .Action) ∧
    (kw ∈ d.then_ → stepKType d kw = .Outcome) ∧
    (kw ∈ d.and_ ∨ kw ∈ d.but_ → stepKType d kw = .Conjunction) := by
  rw [stepCount_eq] at h
  unfold stepKType
  rw [keywordTypes_eq]
  have ha := filter_length_pos d.given kw
  have hb := filter_length_pos d.when_ kw
  have hc := filter_length_pos d.then_ kw
  have he := fun hm : kw ∈ d.and_ ∨ kw ∈ d.but_ => filter_length_pos (d.and_ ++ d.but_) kw (by simpa using hm)
  -- the four counts add up to one, so the one that is positive is one and the others are zero
  generalize (d.given.filter (· == kw)).length = a at *
  generalize (d.when_.filter (· == kw)).length = b at *
  generalize (d.then_.filter (· == kw)).length = c at *
  generalize ((d.and_ ++ d.but_).filter (· == kw)).length = e at *
  refine ⟨fun hm => ?_, fun hm => ?_, fun hm => ?_, fun hm => ?_⟩
  · have := ha hm
    obtain ⟨rfl, rfl, rfl, rfl⟩ : a = 1 ∧ b = 0 ∧ c = 0 ∧ e = 0 := by omega
    rfl
  · have := hb hm
    obtain ⟨rfl, rfl, rfl, rfl⟩ : a = 0 ∧ b = 1 ∧ c = 0 ∧ e = 0 := by omega
    rfl
  · have := hc hm
    obtain ⟨rfl, rfl, rfl, rfl⟩ : a = 0 ∧ b = 0 ∧ c = 1 ∧ e = 0 := by omega
    rfl
  · have := he hm
    obtain ⟨rfl, rfl, rfl, rfl⟩ : a = 0 ∧ b = 0 ∧ c = 0 ∧ e = 1 := by omega
    rfl

theorem stepKType_not_once (d : Dialect) (kw : Str) (h : stepCount d kw ≠ 1) :
    stepKType d kw = .Unknown := by
  have hl := length_keywordTypes d kw
  unfold stepKType
  split
  · next ty heq => rw [heq] at hl; exact absurd hl.symm h
  · rfl

theorem mem_stepKeywords (d : Dialect) (kw : Str) :
    kw ∈ d.stepKeywords ↔ kw ∈ d.given ∨ kw ∈ d.when_ ∨ kw ∈ d.then_ ∨ kw ∈ d.and_ ∨ kw ∈ d.but_ := by
  simp [Dialect.stepKeywords]

theorem isSpace_of_isLangChar {c : Nat} (h : isLangChar c = true) : isSpace c = false := by
  simp only [isLangChar, isSpace, Bool.or_eq_true, Bool.and_eq_true, decide_eq_true_eq, beq_iff_eq,
    Bool.or_eq_false_iff, Bool.and_eq_false_iff, decide_eq_false_iff_not, beq_eq_false_iff_ne] at *
  omega

theorem isLangChar_of_isSpace {c : Nat} (h : isSpace c = true) : isLangChar c = false := by
  cases hl : isLangChar c with
  | false => rfl
  | true => rw [isSpace_of_isLangChar hl] at h; cases h

theorem lit_language : lit "language" = [108, 97, 110, 103, 117, 97, 103, 101] := by decide

/-- `C05_language_header`, the pattern: `# language : name` with any whitespace around the pieces -/
theorem languageRe_header (w1 w2 w3 w4 w5 name : Str)
    (h1 : ∀ c ∈ w1, isSpace c = true) (h2 : ∀ c ∈ w2, isSpace c = true)
    (h3 : ∀ c ∈ w3, isSpace c = true) (h4 : ∀ c ∈ w4, isSpace c = true)
    (h5 : ∀ c ∈ w5, isSpace c = true) (hne : name ≠ []) (hn : ∀ c ∈ name, isLangChar c = true) :
    languageRe (w1 ++ [35] ++ w2 ++ lit "language" ++ w3 ++ [58] ++ w4 ++ name ++ w5) = some name := by
  have hname : noWsStart (name ++ w5) = true := by
    cases name with
    | nil => exact absurd rfl hne
    | cons c cs => simpa [noWsStart] using isSpace_of_isLangChar (hn c (by simp))
  have htd := takeWhile_dropWhile_append isLangChar name w5 hn fun c hc => isLangChar_of_isSpace (h5 c hc)
  have e1 : lstrip (w1 ++ 35 :: (w2 ++ (108 :: 97 :: 110 :: 103 :: 117 :: 97 :: 103 :: 101 :: (w3 ++ 58 :: (w4 ++ (name ++ w5))))))
      = 35 :: (w2 ++ (108 :: 97 :: 110 :: 103 :: 117 :: 97 :: 103 :: 101 :: (w3 ++ 58 :: (w4 ++ (name ++ w5))))) := by
    rw [lstrip_ws_append _ _ h1]; exact lstrip_of_noWsStart _ (by simp [noWsStart, isSpace])
  have e2 : lstrip (w2 ++ (108 :: 97 :: 110 :: 103 :: 117 :: 97 :: 103 :: 101 :: (w3 ++ 58 :: (w4 ++ (name ++ w5)))))
      = 108 :: 97 :: 110 :: 103 :: 117 :: 97 :: 103 :: 101 :: (w3 ++ 58 :: (w4 ++ (name ++ w5))) := by
    rw [lstrip_ws_append _ _ h2]; exact lstrip_of_noWsStart _ (by simp [noWsStart, isSpace])
  have e3 : lstrip (w3 ++ 58 :: (w4 ++ (name ++ w5))) = 58 :: (w4 ++ (name ++ w5)) := by
    rw [lstrip_ws_append _ _ h3]; exact lstrip_of_noWsStart _ (by simp [noWsStart, isSpace])
  have e4 : lstrip (w4 ++ (name ++ w5)) = name ++ w5 := by
    rw [lstrip_ws_append _ _ h4]; exact lstrip_of_noWsStart _ hname
  have e5 : name.isEmpty = false := by cases name with
    | nil => exact absurd rfl hne
    | cons c cs => rfl
  simp only [lit_language, List.append_assoc, List.cons_append, List.nil_append]
  unfold languageRe
  simp only [e1, e2, lit_language, startsWith, beq_self_eq_true, Bool.and_self, if_true, List.drop_succ_cons,
    List.drop_zero, e3, e4, htd.1, htd.2, e5, lstrip_ws w5 h5, List.isEmpty_nil, Bool.false_eq_true, if_false]

theorem languageRe_lstrip (s : Str) : languageRe (lstrip s) = languageRe s := by
  unfold languageRe; rw [lstrip_lstrip]

theorem findDialect_some (D : List Dialect) (name : Str) (d : Dialect) (h : findDialect D name = some d) :
    d ∈ D ∧ d.name = name := by
  unfold findDialect at h
  exact ⟨List.mem_of_find?_eq_some h, by simpa using List.find?_some h⟩

theorem findDialect_none (D : List Dialect) (name : Str) :
    findDialect D name = none ↔ ∀ d ∈ D, d.name ≠ name := by
  simp [findDialect, List.find?_eq_none]

theorem findDialect_of_mem (D : List Dialect) (h : namesDistinct D = true) (d : Dialect) (hd : d ∈ D) :
    findDialect D d.name = some d := by
  induction D with
  | nil => simp at hd
  | cons a D ih =>
    simp only [namesDistinct, Bool.and_eq_true, Bool.not_eq_true', List.any_eq_false, beq_iff_eq] at h
    unfold findDialect
    rw [List.find?_cons]
    rcases List.mem_cons.1 hd with rfl | hd'
    · simp
    · have : (a.name == d.name) = false := by
        simpa using fun heq => h.1 d hd' heq.symm
      rw [this]
      exact ih h.2 hd'

theorem matchLine_language_known (D : List Dialect) (μ : MState) (t : Token) (l name : Str) (d : Dialect)
    (h : languageRe l = some name) (hd : findDialect D name = some d) :
    matchLine D .Language μ t l =
      ⟨setMatched μ t .Language (text := some name), { μ with name := name, dialect := d }, .matched⟩ := by
  have h' : languageRe (lineText l none) = some name := by
    simpa [lineText, trimmed, languageRe_lstrip] using h
  simp only [matchLine, h', hd]

theorem matchLine_language_unknown (D : List Dialect) (μ : MState) (t : Token) (l name : Str)
    (h : languageRe l = some name) (hd : findDialect D name = none) (hl : t.line = some l) :
    matchLine D .Language μ t l =
      ⟨setMatched μ t .Language (text := some name), μ,
        .raised ⟨.noSuchLanguage, ⟨t.lineNo, some (lineIndent l + 1)⟩, lit "Language not supported: " ++ name⟩⟩ := by
  have h' : languageRe (lineText l none) = some name := by
    simpa [lineText, trimmed, languageRe_lstrip] using h
  simp only [matchLine, h', hd, Token.loc, setMatched, hl]

theorem matchLine_language_no (D : List Dialect) (μ : MState) (t : Token) (l : Str)
    (h : languageRe l = none) : matchLine D .Language μ t l = ⟨t, μ, .no⟩ := by
  have h' : languageRe (lineText l none) = none := by
    simpa [lineText, trimmed, languageRe_lstrip] using h
  simp only [matchLine, h']

theorem mem_titleKeywords_of_role (d : Dialect) (ty : Kind) (k : Str) (h : k ∈ d.roleKeywords ty) :
    k ∈ d.titleKeywords := by
  simp only [Dialect.titleKeywords, List.mem_append]
  cases ty <;> simp only [Dialect.roleKeywords, List.not_mem_nil, List.mem_append] at h <;> grind

theorem titleColonFree_spec {D : List Dialect} (h : titleColonFree D = true) {d : Dialect} (hd : d ∈ D)
    {k : Str} (hk : k ∈ d.titleKeywords) : 58 ∉ k := by
  simp only [titleColonFree, List.all_eq_true, colonFree, Bool.not_eq_true', List.contains_eq_mem,
    decide_eq_false_iff_not] at h
  exact h d hd k hk

theorem keywordsPlainStart_spec {D : List Dialect} (h : keywordsPlainStart D = true) {d : Dialect}
    (hd : d ∈ D) {k : Str} (hk : k ∈ d.allKeywords) : plainStart k = true := by
  simp only [keywordsPlainStart, List.all_eq_true] at h
  exact h d hd k hk

theorem noWsStart_of_plainStart {k : Str} (h : plainStart k = true) : noWsStart k = true := by
  simp only [plainStart, Bool.and_eq_true] at h
  exact h.1.1.1.1.1

theorem noEmptyKeyword_spec {D : List Dialect} (h : noEmptyKeyword D = true) {d : Dialect}
    (hd : d ∈ D) {k : Str} (hk : k ∈ d.allKeywords) : k ≠ [] := by
  simp only [noEmptyKeyword, List.all_eq_true, Bool.not_eq_true', List.isEmpty_eq_false_iff] at h
  exact h d hd k hk

theorem mem_allKeywords_title {d : Dialect} {k : Str} (h : k ∈ d.titleKeywords) : k ∈ d.allKeywords := by
  simp [Dialect.allKeywords, h]

theorem mem_allKeywords_step {d : Dialect} {k : Str} (h : k ∈ d.stepKeywords) : k ∈ d.allKeywords := by
  simp [Dialect.allKeywords, h]

theorem onlyStarRepeated_spec {D : List Dialect} (h : onlyStarRepeated D = true) {d : Dialect}
    (hd : d ∈ D) {k : Str} (hk : k ∈ d.stepKeywords) (hstar : k ≠ [42, 32]) : stepCount d k = 1 := by
  simp only [onlyStarRepeated, List.all_eq_true, Bool.or_eq_true, beq_iff_eq] at h
  rcases h d hd k hk with h1 | h1
  · exact h1
  · exact absurd h1 hstar

theorem starNotOnce_spec {D : List Dialect} (h : starNotOnce D = true) {d : Dialect} (hd : d ∈ D) :
    stepCount d [42, 32] ≠ 1 := by
  simp only [starNotOnce, List.all_eq_true, bne_iff_ne] at h
  exact h d hd

theorem keywordFacts_spec {D : List Dialect} (h : keywordFacts D = true) :
    noEmptyKeyword D = true ∧ keywordsPlainStart D = true ∧ titleColonFree D = true ∧
    namesDistinct D = true ∧ onlyStarRepeated D = true ∧ starNotOnce D = true ∧
    noStepTitleClash D = true ∧ noCrossRoleClash D = true := by
  simp only [keywordFacts, Bool.and_eq_true] at h
  obtain ⟨⟨⟨⟨⟨⟨⟨a, b⟩, c⟩, e⟩, f⟩, g⟩, i⟩, j⟩ := h
  exact ⟨a, b, c, e, f, g, i, j⟩

theorem markdownFacts_spec {D : List Dialect} (h : markdownFacts D = true) :
    titleColonFree D = true ∧ keywordsPlainStart D = true ∧ noEmptyKeyword D = true := by
  simpa [markdownFacts, and_assoc] using h

/-- `C05_title` for a dialect of a table that passed the checks -/
theorem title_in_table (D D' : List Dialect) (hf : keywordFacts D' = true) (ty : Kind)
    (hty : ty.isTitle = true) (μ : MState) (hμ : μ.dialect ∈ D') (t : Token) (ws k rest : Str)
    (hk : k ∈ μ.dialect.roleKeywords ty) (hws : ∀ c ∈ ws, isSpace c = true) :
    matchLine D ty μ t (ws ++ k ++ [58] ++ rest) =
      ⟨setMatched μ t ty (text := some (strip rest)) (keyword := some k), μ, .matched⟩ := by
  obtain ⟨_, hps, hcf, _⟩ := keywordFacts_spec hf
  exact matchLine_title_keyword D ty hty μ t ws k rest hk
    (fun k' hk' => titleColonFree_spec hcf hμ (mem_titleKeywords_of_role _ ty k' hk')) hws
    (noWsStart_of_plainStart (keywordsPlainStart_spec hps hμ
      (mem_allKeywords_title (mem_titleKeywords_of_role _ ty k hk))))

/-- `C05_keyword_type` for a dialect of a table that passed the checks -/
theorem ktype_in_table (D : List Dialect) (hf : keywordFacts D = true) (d : Dialect) (hd : d ∈ D) (kw : Str) :
    (kw ≠ [42, 32] →
      (kw ∈ d.given → stepKType d kw = .Context) ∧ (kw ∈ d.when_ → stepKType d kw = .Action) ∧
      (kw ∈ d.then_ → stepKType d kw = .Outcome) ∧
      (kw ∈ d.and_ ∨ kw ∈ d.but_ → stepKType d kw = .Conjunction)) ∧
    stepKType d [42, 32] = .Unknown := by
  obtain ⟨_, _, _, _, hor, hst, _⟩ := keywordFacts_spec hf
  refine ⟨fun hne => ?_, stepKType_not_once d _ (starNotOnce_spec hst hd)⟩
  have hc : kw ∈ d.stepKeywords → stepCount d kw = 1 := fun hm => onlyStarRepeated_spec hor hd hm hne
  refine ⟨fun hm => ?_, fun hm => ?_, fun hm => ?_, fun hm => ?_⟩
  · exact (stepKType_once d kw (hc ((mem_stepKeywords d kw).2 (by simp [hm])))).1 hm
  · exact (stepKType_once d kw (hc ((mem_stepKeywords d kw).2 (by simp [hm])))).2.1 hm
  · exact (stepKType_once d kw (hc ((mem_stepKeywords d kw).2 (by simp [hm])))).2.2.1 hm
  · exact (stepKType_once d kw (hc ((mem_stepKeywords d kw).2 (by simp [hm])))).2.2.2 hm

/-- `C05_dialect_reported` (all title kinds) -/
theorem matchLine_title_dialect (D : List Dialect) (ty : Kind) (hty : ty.isTitle = true) (μ μ' : MState)
    (t t' : Token) (l : Str) (h : matchLine D ty μ t l = ⟨t', μ', .matched⟩) :
    t'.dialect = μ.name ∧ μ' = μ ∧ t'.mtype = some ty ∧
    ∃ k ∈ μ.dialect.roleKeywords ty, t'.keyword = some k := by
  rcases matchLine_title_matched D ty hty μ t l with ⟨t'', h1, k, hk, _, hkw, hdi, hmt⟩ | ⟨h1, _⟩
  · rw [h1] at h
    cases h
    exact ⟨hdi, rfl, hmt, k, hk, hkw⟩
  · rw [h1] at h
    cases h

/-- `C05_foreign_plain` -/
theorem matchLine_foreign (D : List Dialect) (μ : MState) (t : Token) (l : Str)
    (htitle : ∀ k ∈ μ.dialect.titleKeywords, startsWith (k ++ [58]) (trimmed l) = false)
    (hstep : ∀ k ∈ μ.dialect.stepKeywords, startsWith k (trimmed l) = false)
    (ty : Kind) (hty : ty.isTitle = true ∨ ty = .StepLine) :
    matchLine D ty μ t l = ⟨t, μ, .no⟩ := by
  rcases hty with hty | rfl
  · exact matchLine_title_none D ty hty μ t l fun k hk =>
      htitle k (mem_titleKeywords_of_role _ ty k hk)
  · exact matchLine_step_none D μ t l hstep

theorem prefix_comparable (a b s : Str) (ha : startsWith a s = true) (hb : startsWith b s = true) :
    startsWith a b = true ∨ startsWith b a = true := by
  induction a generalizing b s with
  | nil => exact .inl (by simp [startsWith])
  | cons x a ih =>
    cases b with
    | nil => exact .inr (by simp [startsWith])
    | cons y b =>
      cases s with
      | nil => simp [startsWith] at ha
      | cons z s =>
        simp only [startsWith, Bool.and_eq_true, beq_iff_eq] at ha hb ⊢
        obtain ⟨rfl, ha⟩ := ha
        obtain ⟨rfl, hb⟩ := hb
        rcases ih b s ha hb with h | h
        · exact .inl ⟨rfl, h⟩
        · exact .inr ⟨rfl, h⟩

theorem noStepTitleClash_spec {D : List Dialect} (h : noStepTitleClash D = true) {d : Dialect} (hd : d ∈ D)
    {s k : Str} (hs : s ∈ d.stepKeywords) (hk : k ∈ d.titleKeywords) :
    startsWith s (k ++ [58]) = false ∧ startsWith (k ++ [58]) s = false := by
  simp only [noStepTitleClash, List.all_eq_true, Bool.and_eq_true, Bool.not_eq_true'] at h
  exact h d hd s hs k hk

theorem step_title_disjoint {D : List Dialect} (h : noStepTitleClash D = true) {d : Dialect} (hd : d ∈ D)
    (x : Str) {s k : Str} (hs : s ∈ d.stepKeywords) (hk : k ∈ d.titleKeywords)
    (h1 : startsWith s x = true) (h2 : startsWith (k ++ [58]) x = true) : False := by
  obtain ⟨c1, c2⟩ := noStepTitleClash_spec h hd hs hk
  rcases prefix_comparable s (k ++ [58]) x h1 h2 with h3 | h3
  · rw [c1] at h3; cases h3
  · rw [c2] at h3; cases h3

theorem mem_titleRoles (d : Dialect) (ty : Kind) (hty : ty.isTitle = true) (k : Str)
    (hk : k ∈ d.roleKeywords ty) : (roleNo ty, k) ∈ titleRoles d := by
  cases ty <;> first
    | exact absurd hty (by decide)
    | (simp only [Dialect.roleKeywords, List.mem_append] at hk
       simp only [titleRoles, roleNo, List.mem_append, List.mem_map, Prod.mk.injEq]
       grind)

theorem roleNo_inj (a b : Kind) (ha : a.isTitle = true) (hb : b.isTitle = true)
    (h : roleNo a = roleNo b) : a = b := by
  revert a b
  decide

theorem title_title_disjoint {D : List Dialect} (h : noCrossRoleClash D = true) {d : Dialect} (hd : d ∈ D)
    (x : Str) (ty1 ty2 : Kind) (h1 : ty1.isTitle = true) (h2 : ty2.isTitle = true) (hne : ty1 ≠ ty2)
    {k1 k2 : Str} (hk1 : k1 ∈ d.roleKeywords ty1) (hk2 : k2 ∈ d.roleKeywords ty2)
    (hp1 : startsWith (k1 ++ [58]) x = true) (hp2 : startsWith (k2 ++ [58]) x = true) : False := by
  simp only [noCrossRoleClash, List.all_eq_true, Bool.or_eq_true, beq_iff_eq, Bool.not_eq_true'] at h
  have m1 := mem_titleRoles d ty1 h1 k1 hk1
  have m2 := mem_titleRoles d ty2 h2 k2 hk2
  have hno : roleNo ty1 ≠ roleNo ty2 := fun e => hne (roleNo_inj ty1 ty2 h1 h2 e)
  rcases prefix_comparable _ _ x hp1 hp2 with h3 | h3
  · rcases h d hd _ m1 _ m2 with e | e
    · exact hno e
    · rw [e] at h3; cases h3
  · rcases h d hd _ m2 _ m1 with e | e
    · exact hno e.symm
    · rw [e] at h3; cases h3

/-- `C05_keyword_kinds_exclusive`: a line matches at most one of StepLine and the five title kinds -/
theorem keyword_kinds_exclusive (D D' : List Dialect) (hf : keywordFacts D' = true) (μ : MState)
    (hμ : μ.dialect ∈ D') (t : Token) (l : Str) (ty1 ty2 : Kind)
    (h1 : ty1.isTitle = true ∨ ty1 = .StepLine) (h2 : ty2.isTitle = true ∨ ty2 = .StepLine)
    (hne : ty1 ≠ ty2) (t' : Token) (μ' : MState) (hm : matchLine D ty1 μ t l = ⟨t', μ', .matched⟩) :
    matchLine D ty2 μ t l = ⟨t, μ, .no⟩ := by
  obtain ⟨_, _, _, _, _, _, hst, hcr⟩ := keywordFacts_spec hf
  -- what made `ty1` match
  have w1 : (ty1 = .StepLine ∧ ∃ s ∈ μ.dialect.stepKeywords, startsWith s (trimmed l) = true) ∨
      (ty1.isTitle = true ∧ ∃ k ∈ μ.dialect.roleKeywords ty1, startsWith (k ++ [58]) (trimmed l) = true) := by
    rcases h1 with h1 | rfl
    · right
      rcases matchLine_title_matched D ty1 h1 μ t l with ⟨_, _, k, hk, hp, _⟩ | ⟨hno, _⟩
      · exact ⟨h1, k, hk, hp⟩
      · rw [hno] at hm; cases hm
    · left
      rcases matchLine_step_cases D μ t l with ⟨pre, kw, post, hsp, hp, _, _⟩ | ⟨_, hno⟩
      · exact ⟨rfl, kw, by simp [hsp], hp⟩
      · rw [hno] at hm; cases hm
  rcases h2 with h2 | rfl
  · apply matchLine_title_none D ty2 h2
    intro k2 hk2
    cases hp2 : startsWith (k2 ++ [58]) (trimmed l) with
    | false => rfl
    | true =>
      exfalso
      rcases w1 with ⟨_, s, hs, hp⟩ | ⟨ht1, k1, hk1, hp1⟩
      · exact step_title_disjoint hst hμ _ hs (mem_titleKeywords_of_role _ ty2 k2 hk2) hp hp2
      · exact title_title_disjoint hcr hμ _ ty1 ty2 ht1 h2 hne hk1 hk2 hp1 hp2
  · apply matchLine_step_none
    intro s hs
    cases hp : startsWith s (trimmed l) with
    | false => rfl
    | true =>
      exfalso
      rcases w1 with ⟨e, _⟩ | ⟨ht1, k1, hk1, hp1⟩
      · exact hne e
      · exact step_title_disjoint hst hμ _ hs (mem_titleKeywords_of_role _ ty1 k1 hk1) hp hp1

end GV.Lemmas
