/-
  Lemmas/Locations.lean — for property C04 (every reported location is the exact 1-based line and
  code-point column).  A matched token's column is `lineIndent l + 1` (`setMatched_col_line`; 1
  for comment, empty and other lines).  The columns of tags and of cells are computed on stripped
  and split copies of the line, and are carried back to the physical line as facts of the form
  "`x` is a prefix of `l.drop n`" (`lineTags_spec`, `cell_cols`).
-/
import GherkinVerif.Lemmas.DocString
import GherkinVerif.Lemmas.Keywords
import GherkinVerif.Spec.Cells
import GherkinVerif.Lemmas.Cells
namespace GV

/-- decidable equality of results (`lineTags`), for evaluating concrete instances -/
instance instDecidableEqExcept {ε α} [DecidableEq ε] [DecidableEq α] : DecidableEq (Except ε α)
  | .ok a, .ok b => if h : a = b then isTrue (h ▸ rfl) else isFalse (fun e => h (Except.ok.inj e))
  | .error a, .error b => if h : a = b then isTrue (h ▸ rfl) else isFalse (fun e => h (Except.error.inj e))
  | .ok _, .error _ => isFalse nofun
  | .error _, .ok _ => isFalse nofun

end GV

namespace GV.Lemmas
open Spec (noWsStart)

theorem splitLines_spec (src : Str) :
    (splitLines src).flatten = src ∧ (∀ l ∈ splitLines src, l ≠ [] ∧ 10 ∉ l.dropLast) ∧
    ∀ l ∈ (splitLines src).dropLast, l.getLast? = some 10 := by
  induction src with
  | nil => simp [splitLines]
  | cons c cs ih =>
    obtain ⟨ih1, ih2, ih3⟩ := ih
    simp only [splitLines]
    split
    · rename_i hc
      simp only [beq_iff_eq] at hc
      subst hc
      refine ⟨by simp [ih1], ?_, ?_⟩
      · simp only [List.mem_cons]
        rintro l (rfl | hl)
        · simp
        · exact ih2 l hl
      · cases hs : splitLines cs with
        | nil => simp
        | cons l ls =>
          rw [hs] at ih3
          simp only [List.dropLast_cons_cons, List.mem_cons]
          rintro x (rfl | hx)
          · rfl
          · exact ih3 x hx
    · rename_i hc
      simp only [beq_iff_eq] at hc
      cases hs : splitLines cs with
      | nil =>
        rw [hs] at ih1
        simp only [List.flatten_nil] at ih1
        subst ih1
        simp
      | cons l ls =>
        rw [hs] at ih1 ih2 ih3
        obtain ⟨a, as, rfl⟩ := List.exists_cons_of_ne_nil (ih2 l (by simp)).1
        refine ⟨by simpa using ih1, ?_, ?_⟩
        · simp only [List.mem_cons]
          rintro x (rfl | hx)
          · have := (ih2 (a :: as) (by simp)).2
            simp only [List.dropLast_cons_cons, List.mem_cons, not_or]
            exact ⟨by simp, fun h => hc h.symm, this⟩
          · exact ih2 x (by simp [hx])
        · cases ls with
          | nil => simp
          | cons l2 ls2 =>
            simp only [List.dropLast_cons_cons, List.mem_cons] at ih3 ⊢
            rintro x (rfl | hx)
            · simpa [List.getLast?_cons_cons] using ih3 (a :: as) (.inl rfl)
            · exact ih3 x (.inr hx)
theorem splitLines_flatten (src : Str) : (splitLines src).flatten = src := (splitLines_spec src).1

theorem splitLines_ne_nil (src : Str) : ∀ l ∈ splitLines src, l ≠ [] :=
  fun l hl => ((splitLines_spec src).2.1 l hl).1

theorem splitLines_no_inner_lf (src : Str) : ∀ l ∈ splitLines src, 10 ∉ l.dropLast :=
  fun l hl => ((splitLines_spec src).2.1 l hl).2

theorem splitLines_ends_lf (src : Str) : ∀ l ∈ (splitLines src).dropLast, l.getLast? = some 10 :=
  (splitLines_spec src).2.2

theorem setMatched_col_line (μ : MState) (t : Token) (l : Str) (ht : t.line = some l) (ty : Kind)
    (text keyword : Option Str) (ktype : Option KType) (items : List (Nat × Str)) :
    (setMatched μ t ty text keyword ktype none items).col = some (lineIndent l + 1) := by
  simp [setMatched, ht]

theorem matchTitle_spec (μ : MState) (t : Token) (l : Str) (ty : Kind) (kws : List Str) :
    (∀ t', matchTitle μ t l ty kws = some t' →
      ∃ kw, kw ∈ kws ∧ startsWith (kw ++ [58]) (trimmed l) = true ∧
        t' = setMatched μ t ty (text := some (restTrimmed l (kw.length + 1))) (keyword := some kw)) := by
  intro t' h
  unfold matchTitle at h
  split at h
  · rename_i k hk
    simp only [Option.some.injEq] at h
    exact ⟨k, List.mem_of_find?_eq_some hk, by simpa [lineStartsWithTitle] using List.find?_some hk, h.symm⟩
  · simp at h

/-- shape of a matched keyword-line token -/
def TitleTok (l : Str) (ty : Kind) (kws : List Str) (t' : Token) : Prop :=
  ∃ kw, kw ∈ kws ∧ startsWith (kw ++ [58]) (l.drop (lineIndent l)) = true ∧
    t'.keyword = some kw ∧ t'.col = some (lineIndent l + 1) ∧ t'.mtype = some ty ∧
    t'.text = some (rstripCRLF (strip ((l.drop (lineIndent l)).drop (kw.length + 1))))

theorem lmatchTitle_tok (μ : MState) (t : Token) (l : Str) (ht : t.line = some l) (ty : Kind)
    (kws : List Str) (t' : Token) (h : matchTitle μ t l ty kws = some t') :
    TitleTok l ty kws t' := by
  obtain ⟨kw, hmem, hs, rfl⟩ := matchTitle_spec μ t l ty kws t' h
  refine ⟨kw, hmem, ?_, rfl, setMatched_col_line μ t l ht .., rfl, ?_⟩
  · rw [← trimmed_eq_drop]; exact hs
  · rw [← trimmed_eq_drop]; rfl

def titleKws (d : Dialect) : Kind → List Str
  | .FeatureLine => d.feature
  | .RuleLine => d.rule
  | .BackgroundLine => d.background
  | .ScenarioLine => d.scenario ++ d.scenarioOutline
  | .ExamplesLine => d.examples
  | _ => []

theorem title_col (D : List Dialect) (k : Kind) (μ : MState) (t : Token) (l : Str)
    (ht : t.line = some l)
    (hk : k = .FeatureLine ∨ k = .RuleLine ∨ k = .BackgroundLine ∨ k = .ScenarioLine ∨ k = .ExamplesLine)
    (hm : (matchLine D k μ t l).res = .matched) :
    TitleTok l k (titleKws μ.dialect k) (matchLine D k μ t l).tok := by
  have hty : k.isTitle = true ∧ titleKws μ.dialect k = μ.dialect.roleKeywords k := by
    rcases hk with rfl | rfl | rfl | rfl | rfl <;> exact ⟨rfl, rfl⟩
  rw [matchLine_title D k hty.1] at hm ⊢
  rw [hty.2]
  cases h : matchTitle μ t l k (μ.dialect.roleKeywords k) with
  | none => rw [h] at hm; cases hm
  | some t' => exact lmatchTitle_tok μ t l ht _ _ t' h

theorem title_col_list (D : List Dialect) (k : Kind) (kws : List Str) (μ : MState) (t : Token) (l : Str)
    (ht : t.line = some l)
    (hk : (k, kws) ∈ [(Kind.FeatureLine, μ.dialect.feature), (.RuleLine, μ.dialect.rule),
                      (.BackgroundLine, μ.dialect.background),
                      (.ScenarioLine, μ.dialect.scenario ++ μ.dialect.scenarioOutline),
                      (.ExamplesLine, μ.dialect.examples)])
    (hm : (matchLine D k μ t l).res = .matched) :
    ∃ kw c, kw ∈ kws ∧ (matchLine D k μ t l).tok.keyword = some kw ∧
      (matchLine D k μ t l).tok.col = some c ∧ c = lineIndent l + 1 ∧
      startsWith (kw ++ [58]) (l.drop (c - 1)) = true ∧
      (matchLine D k μ t l).tok.mtype = some k ∧
      (matchLine D k μ t l).tok.text = some (rstripCRLF (strip (l.drop (c - 1 + (kw.length + 1))))) := by
  have hk' : kws = titleKws μ.dialect k ∧ (k = .FeatureLine ∨ k = .RuleLine ∨
      k = .BackgroundLine ∨ k = .ScenarioLine ∨ k = .ExamplesLine) := by
    simp only [List.mem_cons, Prod.mk.injEq, List.not_mem_nil, or_false] at hk
    rcases hk with ⟨rfl, rfl⟩ | ⟨rfl, rfl⟩ | ⟨rfl, rfl⟩ | ⟨rfl, rfl⟩ | ⟨rfl, rfl⟩ <;> simp [titleKws]
  obtain ⟨kw, h1, h2, h3, h4, h5, h6⟩ := title_col D k μ t l ht hk'.2 hm
  exact ⟨kw, _, hk'.1 ▸ h1, h3, h4, rfl, h2, h5, by rw [h6, List.drop_drop]; rfl⟩

theorem step_col (D : List Dialect) (μ : MState) (t : Token) (l : Str) (ht : t.line = some l)
    (hm : (matchLine D .StepLine μ t l).res = .matched) :
    ∃ kw, kw ∈ μ.dialect.stepKeywords ∧ startsWith kw (l.drop (lineIndent l)) = true ∧
      (matchLine D .StepLine μ t l).tok.keyword = some kw ∧
      (matchLine D .StepLine μ t l).tok.col = some (lineIndent l + 1) ∧
      (matchLine D .StepLine μ t l).tok.mtype = some .StepLine ∧
      (matchLine D .StepLine μ t l).tok.text =
        some (rstripCRLF (strip ((l.drop (lineIndent l)).drop kw.length))) := by
  obtain ⟨_, _, _, _, _, _, _, hd, e⟩ := matched_hit hm
  rw [e, ← trimmed_eq_drop]
  cases hd with
  | title hk => cases hk
  | step hmem hs => exact ⟨_, hmem, hs, rfl, setMatched_col_line μ t l ht .., rfl, rfl⟩

theorem docsep_col (D : List Dialect) (μ : MState) (t : Token) (l : Str) (ht : t.line = some l)
    (hm : (matchLine D .DocStringSeparator μ t l).res = .matched) :
    ∃ sep, (sep = dq3 ∨ sep = bt3 ∨ (μ.activeSep = some sep ∧ sep ≠ [])) ∧
      startsWith sep (l.drop (lineIndent l)) = true ∧
      (matchLine D .DocStringSeparator μ t l).tok.keyword = some sep ∧
      (matchLine D .DocStringSeparator μ t l).tok.col = some (lineIndent l + 1) := by
  obtain ⟨_, _, _, _, _, _, _, hd, e⟩ := matched_hit hm
  rw [e, ← trimmed_eq_drop]
  cases hd with
  | title hk => cases hk
  | sepOpen hsep _ hs =>
    exact ⟨_, hsep.elim .inl fun h => .inr (.inl h), hs, rfl, setMatched_col_line _ t l ht ..⟩
  | sepClose ha hne hs =>
    exact ⟨_, .inr (.inr ⟨ha, fun h => by rw [h] at hne; cases hne⟩), hs, rfl, setMatched_col_line _ t l ht ..⟩

theorem comment_col (D : List Dialect) (μ : MState) (t : Token) (l : Str)
    (hm : (matchLine D .Comment μ t l).res = .matched) :
    (matchLine D .Comment μ t l).tok.col = some 1 ∧
    (matchLine D .Comment μ t l).tok.text = some (rstripCRLF l) ∧
    startsWith [35] (l.drop (lineIndent l)) = true := by
  obtain ⟨_, _, _, _, _, _, _, hd, e⟩ := matched_hit hm
  rw [e, ← trimmed_eq_drop]
  cases hd with
  | title hk => cases hk
  | comment hs => exact ⟨rfl, rfl, hs⟩

theorem empty_col (D : List Dialect) (μ : MState) (t : Token) (l : Str)
    (hm : (matchLine D .Empty μ t l).res = .matched) :
    (matchLine D .Empty μ t l).tok.col = some 1 := by
  simp only [matchLine] at hm ⊢
  by_cases h : lineIsEmpty l = true
  · simp only [h, if_true]; rfl
  · simp [h] at hm

theorem other_col (D : List Dialect) (μ : MState) (t : Token) (l : Str) :
    (matchLine D .Other μ t l).tok.col = some 1 := rfl

theorem noWsStart_of_prefix {x y : Str} (hy : noWsStart y = true) (h : x <+: y) :
    noWsStart x = true := by
  obtain ⟨t, rfl⟩ := h
  cases x with
  | nil => rfl
  | cons a as => exact hy

theorem dropWhileEnd_cons_keep (p : Nat → Bool) (a : Nat) (as : Str) (h : p a = false) :
    ∃ r, dropWhileEnd p (a :: as) = a :: r := by
  unfold dropWhileEnd
  split
  · exact ⟨[], by simp [h]⟩
  · exact ⟨_, rfl⟩

theorem beforeWsHash_prefix (x : Str) : beforeWsHash x <+: x := by
  induction x with
  | nil => exact List.prefix_refl _
  | cons a as ih =>
    cases as with
    | nil => exact List.prefix_refl _
    | cons b bs =>
      unfold beforeWsHash
      split
      · exact List.nil_prefix
      · exact List.prefix_cons_inj a |>.2 ih

theorem beforeWsHash_cons_keep (a : Nat) (as : Str) (h : isSpace a = false) :
    ∃ r, beforeWsHash (a :: as) = a :: r := by
  cases as with
  | nil => exact ⟨[], rfl⟩
  | cons b bs => exact ⟨beforeWsHash (b :: bs), by simp [beforeWsHash, h]⟩

theorem strip_of_noWsStart (x : Str) (h : noWsStart x = true) : strip x = rstrip x := by
  unfold strip; rw [lstrip_of_noWsStart x h]

/-- the text `tags` splits at `@`: the line without indentation, trailing whitespace and comment -/
def tagSrc (l : Str) : Str := strip (beforeWsHash (strip (trimmed l)))

theorem tagSrc_prefix (l : Str) : tagSrc l <+: l.drop (lineIndent l) := by
  unfold tagSrc
  have h0 : noWsStart (trimmed l) = true := noWsStart_lstrip l
  rw [strip_of_noWsStart _ h0]
  have p1 : rstrip (trimmed l) <+: trimmed l := dropWhileEnd_prefix _ _
  have h1 := noWsStart_of_prefix h0 p1
  have p2 := beforeWsHash_prefix (rstrip (trimmed l))
  have h2 := noWsStart_of_prefix h1 p2
  rw [strip_of_noWsStart _ h2]
  have p3 : rstrip (beforeWsHash (rstrip (trimmed l))) <+: _ := dropWhileEnd_prefix _ _
  rw [← trimmed_eq_drop]
  exact (p3.trans p2).trans p1

theorem tagSrc_head (l : Str) (hs : lineStartsWith l [64] = true) : ∃ r, tagSrc l = 64 :: r := by
  unfold tagSrc
  have h0 : noWsStart (trimmed l) = true := noWsStart_lstrip l
  unfold lineStartsWith at hs
  cases ht : trimmed l with
  | nil => simp [ht, startsWith] at hs
  | cons a as =>
    rw [ht] at hs h0
    simp only [startsWith, Bool.and_true, beq_iff_eq] at hs
    subst hs
    rw [strip_of_noWsStart _ h0]
    obtain ⟨r1, e1⟩ := dropWhileEnd_cons_keep isSpace 64 as (by decide)
    unfold rstrip
    rw [e1]
    obtain ⟨r2, e2⟩ := beforeWsHash_cons_keep 64 r1 (by decide)
    rw [e2]
    rw [strip_of_noWsStart (64 :: r2) (by decide : (!isSpace 64) = true)]
    exact dropWhileEnd_cons_keep isSpace 64 r2 (by decide)

theorem splitOnChar_head_prefix (sep : Nat) (s first : Str) (rest : List Str)
    (h : splitOnChar sep s = first :: rest) : first <+: s := by
  induction s generalizing first rest with
  | nil => simp [splitOnChar] at h; simp [h.1]
  | cons c cs ih =>
    unfold splitOnChar at h
    split at h
    · simp only [List.cons.injEq] at h; rw [← h.1]; exact List.nil_prefix
    · split at h
      · simp only [List.cons.injEq] at h; rw [← h.1]
        exact List.prefix_cons_inj c |>.2 List.nil_prefix
      · rename_i x xs hx
        simp only [List.cons.injEq] at h
        rw [← h.1]
        exact List.prefix_cons_inj c |>.2 (ih x xs hx)

theorem splitOnChar_cons_cons (sep : Nat) (s first item : Str) (rest : List Str)
    (h : splitOnChar sep s = first :: item :: rest) :
    ∃ s', s = first ++ sep :: s' ∧ splitOnChar sep s' = item :: rest := by
  induction s generalizing first with
  | nil => simp [splitOnChar] at h
  | cons c cs ih =>
    unfold splitOnChar at h
    split at h
    · rename_i hc
      simp only [beq_iff_eq] at hc
      simp only [List.cons.injEq] at h
      exact ⟨cs, by simp [← h.1, hc], h.2⟩
    · split at h
      · simp at h
      · rename_i x xs hx
        simp only [List.cons.injEq] at h
        obtain ⟨s', e1, e2⟩ := ih x (by rw [hx, h.2])
        exact ⟨s', by rw [← h.1, e1]; rfl, e2⟩

/-- `col` is the column of the `@` that follows `first` in `s`: a reported column `col + k` is
    position `first.length + k` of `s` -/
theorem tagItems_spec (items : List Str) : ∀ (s first : Str) (col : Nat),
    splitOnChar 64 s = first :: items →
    (∀ ts, tagItems items col = .ok ts →
      List.Pairwise (· < ·) (ts.map (·.1)) ∧
      ∀ p ∈ ts, ∃ k item, p.1 = col + k ∧ p.2 = 64 :: strip item ∧ p.2.any isSpace = false ∧
        (64 :: item) <+: s.drop (first.length + k)) ∧
    (∀ c, tagItems items col = .error c →
      ∃ k item, c = col + k ∧ (64 :: strip item).any isSpace = true ∧
        (64 :: item) <+: s.drop (first.length + k)) := by
  induction items with
  | nil =>
    intro s first col _
    constructor
    · intro ts h
      simp only [tagItems, Except.ok.injEq] at h
      subst h; simp
    · intro c h; simp [tagItems] at h
  | cons item rest ih =>
    intro s first col hsplit
    obtain ⟨s', hs, hsplit'⟩ := splitOnChar_cons_cons 64 s first item rest hsplit
    have hpre : item <+: s' := splitOnChar_head_prefix 64 s' item rest hsplit'
    have hdrop : ∀ n, s.drop (first.length + n) = (64 :: s').drop n := by
      intro n; rw [hs, List.drop_append]; simp
    have ih' := ih s' item (col + item.length + 1) hsplit'
    constructor
    · intro ts h
      unfold tagItems at h
      simp only at h
      split at h
      · simp at h
      · rename_i hv
        split at h
        · simp at h
        · rename_i ts' hts'
          simp only [Except.ok.injEq] at h
          subst h
          obtain ⟨hpw, hall⟩ := ih'.1 ts' hts'
          constructor
          · simp only [List.map_cons, List.pairwise_cons]
            refine ⟨?_, hpw⟩
            intro a' ha'
            simp only [List.mem_map] at ha'
            obtain ⟨p, hp, rfl⟩ := ha'
            obtain ⟨k, _, e, _⟩ := hall p hp
            rw [e]; omega
          · intro p hp
            simp only [List.mem_cons] at hp
            rcases hp with rfl | hp
            · refine ⟨0, item, rfl, rfl, by simpa using hv, ?_⟩
              rw [hdrop 0]
              exact List.prefix_cons_inj 64 |>.2 hpre
            · obtain ⟨k, it, e1, e2, e3, e4⟩ := hall p hp
              refine ⟨item.length + 1 + k, it, by rw [e1]; omega, e2, e3, ?_⟩
              rw [hdrop, show item.length + 1 + k = (item.length + k) + 1 by omega]
              exact e4
    · intro c h
      unfold tagItems at h
      simp only at h
      split at h
      · rename_i hv
        simp only [Except.error.injEq] at h
        subst h
        refine ⟨0, item, rfl, hv, ?_⟩
        rw [hdrop 0]
        exact List.prefix_cons_inj 64 |>.2 hpre
      · split at h
        · rename_i c' hc'
          simp only [Except.error.injEq] at h
          subst h
          obtain ⟨k, it, e1, e2, e3⟩ := ih'.2 c' hc'
          refine ⟨item.length + 1 + k, it, by rw [e1]; omega, e2, ?_⟩
          rw [hdrop, show item.length + 1 + k = (item.length + k) + 1 by omega]
          exact e3
        · simp at h

theorem prefix_drop {x y : Str} (h : x <+: y) (n : Nat) : x.drop n <+: y.drop n := by
  obtain ⟨t, rfl⟩ := h
  rw [List.drop_append]
  exact List.prefix_append _ _

theorem lineTags_spec (l : Str) (hs : lineStartsWith l [64] = true) :
    (∀ ts, lineTags l = .ok ts →
      List.Pairwise (· < ·) (ts.map (·.1)) ∧
      ∀ p ∈ ts, ∃ k item, p.1 = lineIndent l + 1 + k ∧ p.2 = 64 :: strip item ∧
        p.2.any isSpace = false ∧ (64 :: item) <+: l.drop (lineIndent l + k)) ∧
    (∀ c, lineTags l = .error c →
      ∃ k item, c = lineIndent l + 1 + k ∧ (64 :: strip item).any isSpace = true ∧
        (64 :: item) <+: l.drop (lineIndent l + k)) := by
  obtain ⟨r, hr⟩ := tagSrc_head l hs
  have hp := tagSrc_prefix l
  have hsplit : splitOnChar 64 (tagSrc l) = [] :: (splitOnChar 64 (tagSrc l)).drop 1 := by
    rw [hr]; simp [splitOnChar]
  have key := tagItems_spec _ (tagSrc l) [] (lineIndent l + 1) hsplit
  have htr : ∀ (k : Nat) (item : Str), (64 :: item) <+: (tagSrc l).drop (([] : Str).length + k) →
      (64 :: item) <+: l.drop (lineIndent l + k) := by
    intro k item h
    have := h.trans (prefix_drop hp _)
    simpa [List.drop_drop] using this
  have hl : lineTags l = tagItems ((splitOnChar 64 (tagSrc l)).drop 1) (lineIndent l + 1) := rfl
  rw [hl]
  constructor
  · intro ts h
    obtain ⟨hpw, hall⟩ := key.1 ts h
    refine ⟨hpw, fun p hp' => ?_⟩
    obtain ⟨k, it, e1, e2, e3, e4⟩ := hall p hp'
    exact ⟨k, it, e1, e2, e3, htr k it e4⟩
  · intro c h
    obtain ⟨k, it, e1, e2, e3⟩ := key.2 c h
    exact ⟨k, it, e1, e2, htr k it e3⟩

theorem getElem?_of_prefix_drop {x l : Str} {n i : Nat} {a : Nat} (h : x <+: l.drop n)
    (hx : x[i]? = some a) : l[n + i]? = some a := by
  obtain ⟨t, ht⟩ := h
  rw [← List.getElem?_drop, ← ht, List.getElem?_append_left (by
    rcases Nat.lt_or_ge i x.length with h | h
    · exact h
    · rw [List.getElem?_eq_none h] at hx; simp at hx)]
  exact hx

theorem getElem?_of_cons_prefix_drop {l : Str} {a : Nat} {item : Str} {n : Nat}
    (h : (a :: item) <+: l.drop n) : l[n]? = some a :=
  getElem?_of_prefix_drop (i := 0) h rfl

theorem tag_cols (l : Str) (hs : lineStartsWith l [64] = true) (ts : List (Nat × Str))
    (h : lineTags l = .ok ts) :
    List.Pairwise (· < ·) (ts.map (·.1)) ∧
    ∀ p ∈ ts, lineIndent l + 1 ≤ p.1 ∧ l[p.1 - 1]? = some 64 ∧ p.2.head? = some 64 ∧
      p.2.any isSpace = false := by
  obtain ⟨hpw, hall⟩ := (lineTags_spec l hs).1 ts h
  refine ⟨hpw, fun p hp => ?_⟩
  obtain ⟨k, it, e1, e2, e3, e4⟩ := hall p hp
  refine ⟨by omega, ?_, by rw [e2]; rfl, e3⟩
  rw [e1, show lineIndent l + 1 + k - 1 = lineIndent l + k by omega]
  exact getElem?_of_cons_prefix_drop e4

/-- the exact relation between a tag name and the source: `@` + the *stripped* text that follows -/
theorem tag_name_stripped (l : Str) (hs : lineStartsWith l [64] = true) (ts : List (Nat × Str))
    (h : lineTags l = .ok ts) :
    ∀ p ∈ ts, ∃ item, (64 :: item) <+: l.drop (p.1 - 1) ∧ p.2 = 64 :: strip item := by
  obtain ⟨_, hall⟩ := (lineTags_spec l hs).1 ts h
  intro p hp
  obtain ⟨k, it, e1, e2, _, e4⟩ := hall p hp
  refine ⟨it, ?_, e2⟩
  rw [e1, show lineIndent l + 1 + k - 1 = lineIndent l + k by omega]
  exact e4

theorem tag_name_partial (l : Str) (hs : lineStartsWith l [64] = true) (ts : List (Nat × Str))
    (h : lineTags l = .ok ts) :
    ∀ p ∈ ts, (∀ ch, l[p.1]? = some ch → isSpace ch = false) →
      startsWith p.2 (l.drop (p.1 - 1)) = true := by
  intro p hp hch
  obtain ⟨it, hpre, hname⟩ := tag_name_stripped l hs ts h p hp
  have hp1 := ((tag_cols l hs ts h).2 p hp).1
  rw [startsWith_iff_prefix, hname]
  have hnl : noWsStart it = true := by
    cases it with
    | nil => rfl
    | cons a as =>
      have ha : l[p.1 - 1 + 1]? = some a := getElem?_of_prefix_drop hpre rfl
      rw [show p.1 - 1 + 1 = p.1 by omega] at ha
      simpa [noWsStart] using hch a ha
  rw [strip_of_noWsStart it hnl]
  exact (List.prefix_cons_inj 64 |>.2 (dropWhileEnd_prefix isSpace it)).trans hpre

theorem tag_error_col (l : Str) (hs : lineStartsWith l [64] = true) (c : Nat)
    (h : lineTags l = .error c) :
    lineIndent l + 1 ≤ c ∧ l[c - 1]? = some 64 ∧
    ∃ item, (64 :: item) <+: l.drop (c - 1) ∧ (strip item).any isSpace = true := by
  obtain ⟨k, it, e1, e2, e3⟩ := (lineTags_spec l hs).2 c h
  have e3' : (64 :: it) <+: l.drop (c - 1) := by
    rw [e1, show lineIndent l + 1 + k - 1 = lineIndent l + k by omega]; exact e3
  refine ⟨by omega, getElem?_of_cons_prefix_drop e3', it, e3', ?_⟩
  simpa [show isSpace 64 = false by decide] using e2

theorem row_col (D : List Dialect) (μ : MState) (t : Token) (l : Str) (ht : t.line = some l)
    (hm : (matchLine D .TableRow μ t l).res = .matched) :
    (matchLine D .TableRow μ t l).tok.col = some (lineIndent l + 1) ∧
    startsWith [124] (l.drop (lineIndent l)) = true ∧
    (matchLine D .TableRow μ t l).tok.items = tableCells l := by
  obtain ⟨_, _, _, _, _, _, _, hd, e⟩ := matched_hit hm
  rw [e, ← trimmed_eq_drop]
  cases hd with
  | title hk => cases hk
  | row hs => exact ⟨setMatched_col_line μ t l ht .., hs, rfl⟩

theorem tagline_tok (D : List Dialect) (μ : MState) (t : Token) (l : Str) (ht : t.line = some l)
    (hm : (matchLine D .TagLine μ t l).res = .matched) :
    lineStartsWith l [64] = true ∧ lineTags l = .ok (matchLine D .TagLine μ t l).tok.items ∧
    (matchLine D .TagLine μ t l).tok.col = some (lineIndent l + 1) := by
  obtain ⟨_, _, _, _, _, _, _, hd, e⟩ := matched_hit hm
  rw [e]
  cases hd with
  | title hk => cases hk
  | tags hs hl => exact ⟨hs, hl, setMatched_col_line μ t l ht ..⟩

theorem tagline_raised (D : List Dialect) (μ : MState) (t : Token) (l : Str) (e : PErr)
    (hm : (matchLine D .TagLine μ t l).res = .raised e) :
    lineStartsWith l [64] = true ∧ ∃ c, lineTags l = .error c ∧ e.loc = ⟨t.lineNo, some c⟩ ∧
      e.kind = .tagWhitespace := by
  simp only [matchLine] at hm
  by_cases h : lineStartsWith l [64] = true
  · simp only [h, if_true] at hm
    cases hl : lineTags l with
    | error c =>
      simp only [hl, MRes.raised.injEq] at hm
      exact ⟨h, c, rfl, by rw [← hm], by rw [← hm]⟩
    | ok ts => simp [hl] at hm
  · simp [h] at hm

theorem getLocation_item (t : Token) (c : Nat) (hc : 1 ≤ c) :
    getLocation t (some c) = ⟨t.lineNo, some c⟩ := by
  have : (c == 0) = false := by simp; omega
  simp [getLocation, this]

theorem readToken_fresh (ctx : Ctx) (hq : ctx.queue = []) :
    readToken.run.run ctx =
      (.ok { line := ctx.lines.head?, lineNo := ctx.lineNo + 1 },
       { ctx with lines := ctx.lines.tail, lineNo := ctx.lineNo + 1 }) := by
  unfold readToken
  cases hl : ctx.lines <;>
    simp [hq, hl, ExceptT.run, bind, ExceptT.bind, ExceptT.mk, ExceptT.bindCont, StateT.bind, get,
      getThe, MonadStateOf.get, liftM, monadLift, MonadLift.monadLift, ExceptT.lift, StateT.get,
      set, StateT.set, pure, ExceptT.pure, StateT.pure, StateT.run, Functor.map, StateT.map]

theorem unexpectedErr_loc_line (row : StateRow) (t : Token) (l : Str) (ht : t.line = some l)
    (hc : t.col = none ∨ t.col = some 0) :
    (unexpectedErr row t).loc = ⟨t.lineNo, some (lineIndent l + 1)⟩ := by
  rcases hc with hc | hc <;> simp [unexpectedErr, ht, hc]

theorem unexpectedErr_loc_line_col (row : StateRow) (t : Token) (l : Str) (ht : t.line = some l)
    (c : Nat) (hc : t.col = some c) (h0 : c ≠ 0) :
    (unexpectedErr row t).loc = t.loc := by
  simp [unexpectedErr, ht, hc, h0]

theorem unexpectedErr_loc_eof (row : StateRow) (t : Token) (ht : t.line = none) :
    (unexpectedErr row t).loc = t.loc ∧ (unexpectedErr row t).kind = .unexpectedEOF := by
  simp [unexpectedErr, ht]

section Cells
open Spec

/-- the source spelling of a token -/
def srcTok : CTok → Str
  | .pipe => [124]
  | .esc c => [92, c]
  | .chr c => [c]
  | .dangling => [92]

def srcToks (ts : List CTok) : Str := ts.flatMap srcTok

theorem srcTok_length (t : CTok) : (srcTok t).length = t.width := by
  cases t <;> rfl

theorem srcToks_append (a b : List CTok) : srcToks (a ++ b) = srcToks a ++ srcToks b := by
  simp [srcToks]

theorem srcToks_cons (t : CTok) (ts : List CTok) : srcToks (t :: ts) = srcTok t ++ srcToks ts := by
  simp [srcToks]

theorem srcToks_singleton (t : CTok) : srcToks [t] = srcTok t := by simp [srcToks]

theorem srcToks_tokenize (row : Str) : srcToks (tokenize row) = row := by
  induction row using tokenize.induct with
  | case1 => rfl
  | case2 c rest h ih =>
    rw [tokenize.eq_def]
    simp only [beq_iff_eq] at h
    simp [h, srcToks_cons, srcTok, ih]
  | case3 c h1 h2 =>
    rw [tokenize.eq_def]
    simp only [beq_iff_eq] at h1 h2
    simp [h2, srcToks, srcTok]
  | case4 c h1 h2 d rest ih =>
    rw [tokenize.eq_def]
    simp only [beq_iff_eq] at h1 h2
    simp [h2, srcToks_cons, srcTok, ih]
  | case5 c rest h1 h2 ih =>
    rw [tokenize.eq_def]
    simp only [beq_iff_eq] at h1 h2
    simp [h1, h2, srcToks_cons, srcTok, ih]

/-- the invariant of `segments` against the source `row`: from position `cs` on, `row` spells out
    `cur` and then `ts`, and `off` is where `ts` begins -/
theorem segments_spec (row : Str) (ts : List CTok) : ∀ (off : Nat) (cur : List CTok) (cs : Nat),
    row.drop cs = srcToks cur ++ srcToks ts → off = cs + (srcToks cur).length → CTok.pipe ∉ cur →
    ∃ cur' tl, segments ts off cur cs = (cs, cur') :: tl ∧
      (∀ x ∈ tl, off < x.1 ∧ row[x.1 - 1]? = some 124) ∧
      (∀ x ∈ ((cs, cur') :: tl).dropLast, CTok.pipe ∉ x.2 ∧ (srcToks x.2 ++ [124]) <+: row.drop x.1) := by
  induction ts with
  | nil => intro off cur cs _ _ _; exact ⟨cur, [], rfl, by simp, by simp⟩
  | cons t ts ih =>
    intro off cur cs hrow hoff hcur
    by_cases ht : t = .pipe
    · subst ht
      have hrow' : row.drop (off + 1) = srcToks [] ++ srcToks ts := by
        have := congrArg (List.drop ((srcToks cur).length + 1)) hrow
        rw [List.drop_drop, srcToks_cons, List.drop_append] at this
        simp only [srcTok] at this
        rw [hoff, Nat.add_assoc, this]
        simp [srcToks]
      have hpipe : row[off]? = some 124 := by
        have := congrArg (fun x => x[(srcToks cur).length]?) hrow
        simp only [List.getElem?_drop, srcToks_cons, srcTok] at this
        rw [hoff, this]
        simp
      obtain ⟨c', tl', e, h1, h2⟩ := ih (off + 1) [] (off + 1) hrow' (by simp [srcToks]) (by simp)
      refine ⟨cur, (off + 1, c') :: tl', by simp [segments, e], ?_, ?_⟩
      · intro x hx
        simp only [List.mem_cons] at hx
        rcases hx with rfl | hx
        · exact ⟨by simp, by simpa using hpipe⟩
        · exact ⟨by have := (h1 x hx).1; omega, (h1 x hx).2⟩
      · intro x hx
        rw [List.dropLast_cons_cons, List.mem_cons] at hx
        rcases hx with rfl | hx
        · refine ⟨hcur, ?_⟩
          rw [hrow, srcToks_cons]
          simp only [srcTok]
          exact List.prefix_append_right_inj _ |>.2 (List.prefix_append _ _)
        · exact h2 x hx
    · have hseg : segments (t :: ts) off cur cs = segments ts (off + t.width) (cur ++ [t]) cs := by
        cases t <;> first | (exact absurd rfl ht) | rfl
      have hrow' : row.drop cs = srcToks (cur ++ [t]) ++ srcToks ts := by
        rw [hrow, srcToks_append, srcToks_cons]; simp [srcToks]
      have hoff' : off + t.width = cs + (srcToks (cur ++ [t])).length := by
        rw [srcToks_append, srcToks_singleton, List.length_append, srcTok_length]; omega
      obtain ⟨c', tl', e, h1, h2⟩ := ih (off + t.width) (cur ++ [t]) cs hrow' hoff'
        (by simp [hcur]; exact fun h => ht h.symm)
      refine ⟨c', tl', by rw [hseg, e], ?_, h2⟩
      intro x hx
      exact ⟨by have := (h1 x hx).1; omega, (h1 x hx).2⟩

theorem mem_dropLast_of_mem_tail_dropLast {α} (a : α) (tl : List α) (x : α) (h : x ∈ tl.dropLast) :
    x ∈ (a :: tl).dropLast := by
  cases tl with
  | nil => simp at h
  | cons b r => rw [List.dropLast_cons_cons]; exact List.mem_cons_of_mem _ h

theorem cellSegments_spec (row : Str) : ∀ x ∈ cellSegments row,
    1 ≤ x.1 ∧ row[x.1 - 1]? = some 124 ∧ CTok.pipe ∉ x.2 ∧ (srcToks x.2 ++ [124]) <+: row.drop x.1 := by
  obtain ⟨c', tl, e, h1, h2⟩ := segments_spec row (tokenize row) 0 [] 0
    (by rw [srcToks_tokenize]; rfl) (by simp [srcToks]) (by simp)
  intro x hx
  unfold cellSegments at hx
  rw [e] at hx
  simp only [List.drop_succ_cons, List.drop_zero] at hx
  have hx1 := h1 x (List.dropLast_subset _ hx)
  have hx2 := h2 x (mem_dropLast_of_mem_tail_dropLast _ _ _ hx)
  exact ⟨by omega, hx1.2, hx2.1, hx2.2⟩

theorem lstripBlank_of_nonblank (a : Nat) (u : Str) (h : isBlank a = false) :
    lstripBlank (a :: u) = a :: u := by simp [lstripBlank, h]

theorem trimBlanks_cons_nonblank (a : Nat) (u : Str) (h : isBlank a = false) :
    trimBlanks (a :: u) ≠ [] := by
  unfold trimBlanks rstripBlank
  rw [lstripBlank_of_nonblank a u h]
  obtain ⟨r, hr⟩ := dropWhileEnd_cons_keep isBlank a u h
  rw [hr]; simp

theorem trimBlanks_cons_blank (a : Nat) (u : Str) (h : isBlank a = true) :
    trimBlanks (a :: u) = trimBlanks u := by
  simp [trimBlanks, lstripBlank, h]

theorem value_head_nonblank (t : CTok) (ht : t ≠ .pipe) (hb : ∀ c, t = .chr c → isBlank c = false) :
    ∃ a v b s, t.value = a :: v ∧ isBlank a = false ∧ srcTok t = b :: s ∧ isBlank b = false := by
  cases t with
  | pipe => exact absurd rfl ht
  | chr c => exact ⟨c, [], c, [], rfl, hb c rfl, rfl, hb c rfl⟩
  | dangling => exact ⟨92, [], 92, [], rfl, by decide, rfl, by decide⟩
  | esc d =>
    simp only [CTok.value, srcTok]
    split
    · exact ⟨10, [], 92, [d], rfl, by decide, rfl, by decide⟩
    · split
      · rename_i h
        simp only [Bool.or_eq_true, beq_iff_eq] at h
        rcases h with rfl | rfl
        · exact ⟨124, [], 92, [124], rfl, by decide, rfl, by decide⟩
        · exact ⟨92, [], 92, [92], rfl, by decide, rfl, by decide⟩
      · exact ⟨92, [d], 92, [d], rfl, by decide, rfl, by decide⟩

/-- the leading blanks are counted in the unescaped text and used as an offset into the source:
    a blank of the text comes from a `chr` token, one code point wide, and any other token starts
    with a non-blank in the text and in the source alike (`value_head_nonblank`) -/
theorem leading_spec (seg : List CTok) (hp : CTok.pipe ∉ seg) (tail : Str) :
    let s := srcToks seg ++ 124 :: tail
    let n := leadingBlanks (unescape seg)
    n ≤ (srcToks seg).length ∧
    (∀ j, j < n → ∃ ch, s[j]? = some ch ∧ isBlank ch = true) ∧
    (∃ ch, s[n]? = some ch ∧ isBlank ch = false) ∧
    (trimBlanks (unescape seg) = [] ↔ n = (srcToks seg).length) := by
  induction seg with
  | nil => simp [srcToks, unescape, leadingBlanks, trimBlanks, lstripBlank, rstripBlank, dropWhileEnd]; decide
  | cons t seg ih =>
    have hp' : CTok.pipe ∉ seg := fun h => hp (List.mem_cons_of_mem _ h)
    have ht : t ≠ .pipe := fun h => hp (by simp [h])
    obtain ⟨i1, i2, i3, i4⟩ := ih hp'
    by_cases hb : ∃ c, t = .chr c ∧ isBlank c = true
    · obtain ⟨c, rfl, hc⟩ := hb
      have hu : unescape (CTok.chr c :: seg) = c :: unescape seg := by simp [unescape, CTok.value]
      have hs : srcToks (CTok.chr c :: seg) = c :: srcToks seg := by simp [srcToks, srcTok]
      simp only [hu, hs, leadingBlanks, hc, if_true, List.cons_append, List.length_cons,
        trimBlanks_cons_blank c _ hc]
      refine ⟨by omega, ?_, ?_, ?_⟩
      · intro j hj
        cases j with
        | zero => exact ⟨c, rfl, hc⟩
        | succ j => simpa using i2 j (by omega)
      · simpa using i3
      · rw [i4]; omega
    · have hb' : ∀ c, t = .chr c → isBlank c = false := by
        intro c hc
        cases h : isBlank c with
        | false => rfl
        | true => exact absurd ⟨c, hc, h⟩ hb
      obtain ⟨a, v, b, s', e1, e2, e3, e4⟩ := value_head_nonblank t ht hb'
      have hu : unescape (t :: seg) = a :: (v ++ unescape seg) := by simp [unescape, e1]
      have hs : srcToks (t :: seg) = b :: (s' ++ srcToks seg) := by simp [srcToks_cons, e3]
      have hn : leadingBlanks (a :: (v ++ unescape seg)) = 0 := by simp [leadingBlanks, e2]
      simp only [hu, hs, hn, List.cons_append, List.length_cons]
      refine ⟨by omega, by intro j hj; omega, ⟨b, by simp, e4⟩, ?_⟩
      constructor
      · intro h; exact absurd h (trimBlanks_cons_nonblank a _ e2)
      · intro h; simp at h

theorem row_prefix (line : Str) : strip (trimmed line) <+: line.drop (lineIndent line) := by
  have h0 : noWsStart (trimmed line) = true := noWsStart_lstrip line
  rw [strip_of_noWsStart _ h0, ← trimmed_eq_drop]
  exact dropWhileEnd_prefix _ _

/-- a reported cell column, in terms of the physical line: `o` is the 0-based position right
    after the opening pipe, `len` the length of the raw cell, so the closing pipe is at `o + len` -/
theorem cell_cols (line : Str) : ∀ p ∈ Spec.cells line, ∃ o len,
    1 ≤ o ∧ line[o - 1]? = some 124 ∧ line[o + len]? = some 124 ∧
    o + 1 ≤ p.1 ∧ p.1 ≤ o + len + 1 ∧
    (∀ j, o ≤ j → j < p.1 - 1 → ∃ ch, line[j]? = some ch ∧ isBlank ch = true) ∧
    (∃ ch, line[p.1 - 1]? = some ch ∧ isBlank ch = false) ∧
    (p.2 = [] ↔ p.1 = o + len + 1) := by
  intro p hp
  simp only [Spec.cells, List.mem_map] at hp
  obtain ⟨seg, hseg, rfl⟩ := hp
  obtain ⟨h1, h2, h3, ⟨tail, h4⟩⟩ := cellSegments_spec _ seg hseg
  have hrow := row_prefix line
  obtain ⟨l1, l2, ⟨ch, l3, l3'⟩, l4⟩ := leading_spec seg.2 h3 tail
  simp only [List.append_assoc, List.singleton_append] at h4
  rw [h4] at l2 l3
  have tr : ∀ i a, ((strip (trimmed line)).drop seg.1)[i]? = some a →
      line[lineIndent line + seg.1 + i]? = some a := by
    intro i a h
    rw [List.getElem?_drop] at h
    rw [Nat.add_assoc]
    exact getElem?_of_prefix_drop hrow h
  refine ⟨lineIndent line + seg.1, (srcToks seg.2).length, by omega, ?_, ?_, by simp only; omega,
    by simp only; omega, ?_, ?_, ?_⟩
  · have := getElem?_of_prefix_drop hrow h2
    rw [show lineIndent line + seg.1 - 1 = lineIndent line + (seg.1 - 1) by omega]
    exact this
  · apply tr
    rw [← h4]; simp
  · intro j hj1 hj2
    simp only at hj2
    obtain ⟨c, hc1, hc2⟩ := l2 (j - (lineIndent line + seg.1)) (by omega)
    refine ⟨c, ?_, hc2⟩
    have := tr _ _ hc1
    rwa [show lineIndent line + seg.1 + (j - (lineIndent line + seg.1)) = j by omega] at this
  · refine ⟨ch, ?_, l3'⟩
    have := tr _ _ l3
    simp only
    rwa [show lineIndent line + seg.1 + 1 + leadingBlanks (unescape seg.2) - 1 =
      lineIndent line + seg.1 + leadingBlanks (unescape seg.2) by omega]
  · simp only
    rw [l4]; omega

end Cells

end GV.Lemmas
