/-
  Lemmas/IdsPipelineStream.lean — property C11 over a stream: the counter never decreases
  (whatever the outcome of a parse); the ids one source shows are a contiguous block inside the
  interval [counter given, counter left); over a sequence of sources the shown ids are strictly
  increasing; and dense when nothing is drawn and not shown.
-/
import GherkinVerif.Lemmas.IdsPipeline
import GherkinVerif.Spec.StreamIds
import GherkinVerif.Lemmas.StreamShape
import GherkinVerif.Lemmas.IdOffset
import GherkinVerif.Gen.Dialects
import GherkinVerif.Gen.ParserTable
namespace GV
namespace Lemmas
namespace IdsP
open Spec

def IdsGe (n0 : Nat) (c : Ctx) : Prop := n0 ≤ c.ids

theorem inv_of_ids {α} {n0 : Nat} {m : PM α} (h : ∀ c r c', run m c = (r, c') → c'.ids = c.ids) :
    Inv (IdsGe n0) (fun _ => IdsGe n0) m := by
  refine Triple.intro fun c r c' hc hr => ?_
  have hb := h c r c' hr
  have key : IdsGe n0 c' := by unfold IdsGe; rw [hb]; exact hc
  cases r <;> exact key

theorem runProd_ge (n0 cap : Nat) (stop : Bool) (t : Token) (p : Prod) :
    Inv (IdsGe n0) (fun _ => IdsGe n0) (runProd cap stop t p) := by
  refine Triple.intro fun c r c' hc hr => ?_
  have key : IdsGe n0 c' := by
    rw [run_runProd] at hr
    split at hr
    · cases hr; exact hc
    · obtain ⟨es, rfl⟩ := liftB_foot _ _ _ _ _ _ hr
      exact Nat.le_trans hc (endRule_mono c.β c.ids)
    · split at hr
      · cases hr; exact hc
      · obtain ⟨es, rfl⟩ := liftB_foot _ _ _ _ _ _ hr
        exact hc
  cases r <;> exact key

theorem tail_ge (n0 : Nat) (D : List Dialect) (T : Table) (stop : Bool) (row : StateRow) (t : Token) :
    Inv (IdsGe n0) (fun _ => IdsGe n0) (tryBranches D T stop row [] t) := by
  unfold GV.tryBranches
  refine Inv.bind (Triple.modify _ fun c hc => hc) fun _ => ?_
  split
  · exact Triple.throw _ fun _ h => h
  · refine Inv.bind (inv_of_ids fun c r c' h => ?_) fun _ => Inv.pure _
    obtain ⟨es, rfl⟩ := addError_foot _ _ c r c' h
    rfl

theorem prims_ge (n0 : Nat) (D : List Dialect) (T : Table) (stop : Bool) :
    Prims D T stop (IdsGe n0) (fun _ => IdsGe n0) :=
  { readToken := inv_of_ids fun c r c' h => by
      obtain ⟨_, _, _, _, _, _, rfl⟩ := readToken_foot c r c' h; rfl
    matchP := fun k t => inv_of_ids fun c r c' h => by
      obtain ⟨_, _, _, rfl⟩ := matchP_foot D T.errorCap stop k t c r c' h; rfl
    modQ := fun _ _ h => h
    fuel := fun _ h => h
    runProd := fun t p => runProd_ge n0 T.errorCap stop t p
    modR := fun _ _ h => h
    crash := fun _ _ h => h
    tail := fun row t => tail_ge n0 D T stop row t }

theorem parseWith_ids_mono (D : List Dialect) (T : Table) (stop : Bool) (μ : MState) (ids : Nat) (src : Str) :
    ids ≤ (parseWith D T stop μ ids src).2.ids := by
  have hb := (prims_ge ids D T stop).parseBody (fun _ _ h => h) (fun _ h _ => h) (splitLines src).length
    { lines := splitLines src, μ := μ.reset D, β := BState.reset, ids := ids } (Nat.le_refl ids)
  unfold parseWith
  dsimp only
  rcases hr : (parseBody D T stop (splitLines src).length).run.run
    { lines := splitLines src, μ := μ.reset D, β := BState.reset, ids := ids } with ⟨r, c'⟩
  cases r with
  | ok d => exact (hb.1 d c' hr).1
  | error e =>
    have := hb.2 e c' hr
    cases e <;> exact this

theorem init_reset_mem (D : List Dialect) (name : Str) (μ : MState) (h : MState.init D name = some μ) :
    (μ.reset D).dialect ∈ D := by
  unfold MState.init at h
  cases hf : findDialect D name with
  | none => rw [hf] at h; cases h
  | some d =>
    rw [hf] at h
    simp only [Option.map_some, Option.some.injEq] at h
    subst h
    simp only [MState.reset, bne_self_eq_false, Bool.false_eq_true, if_false]
    exact (findDialect_some D name d hf).1

theorem shownIds_append (a b : List Envelope) : shownIds (a ++ b) = shownIds a ++ shownIds b := by
  unfold shownIds; exact List.flatMap_append

theorem shownIds_pickles (ps : List Pickle) : shownIds (ps.map Envelope.pickle) = idOrder ps := by
  unfold shownIds idOrder
  rw [List.flatMap_map]
  rfl

theorem shownIds_source (b : Bool) (uri data : Str) :
    shownIds (if b then [Envelope.source uri data] else []) = [] := by
  cases b <;> rfl

theorem shownIds_doc (b : Bool) (uri : Str) (d : Doc) :
    shownIds (if b then [Envelope.gherkinDocument uri d] else []) = if b then canonicalIds d else [] := by
  cases b
  · rfl
  · simp [shownIds, envelopeIds]

theorem shownIds_errors (uri : Str) (es : List PErr) : shownIds (es.map (Envelope.parseError uri)) = [] := by
  unfold shownIds
  rw [List.flatMap_map]
  induction es with
  | nil => rfl
  | cons e es ih => rw [List.flatMap_cons]; exact ih

section
variable {D : List Dialect} {T : Table} {G : Grammar} {fuel : Nat} (L : LinkFacts D T G fuel)
include L

theorem streamEnum_ids_ok (opts : Opts) (ids : Nat) (uri data : Str) (μ : MState)
    (hμ : MState.init D (lit "en") = some μ) (d : Doc)
    (h : (parseWith D T false μ ids data).1 = .ok d) :
    shownIds (streamEnum D T opts ids uri data).1 =
      (if opts.printAst then
         List.range' ids ((parseWith D T false μ ids data).2.ids - ids) else []) ++
      (if opts.printPickles then
         List.range' (parseWith D T false μ ids data).2.ids
           ((streamEnum D T opts ids uri data).2 -
             (parseWith D T false μ ids data).2.ids) else []) ∧
    ids ≤ (parseWith D T false μ ids data).2.ids ∧
    (parseWith D T false μ ids data).2.ids ≤
      (streamEnum D T opts ids uri data).2 ∧
    (opts.printPickles = false → (streamEnum D T opts ids uri data).2 =
      (parseWith D T false μ ids data).2.ids) := by
  have hm := init_reset_mem _ _ _ hμ
  obtain ⟨ps, n', hc, -⟩ := pipeline_ids_total L μ ids data hm d h uri
  obtain ⟨ha, hle⟩ := parse_ids L μ ids data hm d h
  obtain ⟨hp, hle'⟩ := compile_ids uri d _ ps n' hc
  rw [streamEnum_ok_eq D T opts ids uri data μ hμ d h ps n' (fun _ => hc), okEnvelopes]
  dsimp only
  rw [shownIds_append, shownIds_append, shownIds_source, shownIds_doc, List.nil_append, ha]
  cases hpk : opts.printPickles
  · exact ⟨by simp [shownIds], hle, by simp, fun _ => by simp⟩
  · refine ⟨?_, hle, by simpa using hle', fun h => by cases h⟩
    simp only [↓reduceIte]
    rw [shownIds_pickles, hp]

omit L in
theorem streamEnum_ids_not_ok (D : List Dialect) (T : Table) (opts : Opts) (ids : Nat) (uri data : Str)
    (h : ∀ μ d, MState.init D (lit "en") = some μ → (parseWith D T false μ ids data).1 ≠ .ok d) :
    shownIds (streamEnum D T opts ids uri data).1 = [] ∧ ids ≤ (streamEnum D T opts ids uri data).2 := by
  unfold streamEnum
  split
  · exact ⟨rfl, Nat.le_refl _⟩
  · rename_i μ hμ
    have hmono := parseWith_ids_mono D T false μ ids data
    have h' := h μ
    rcases hp : parseWith D T false μ ids data with ⟨out, ctx⟩
    rw [hp] at hmono h'
    dsimp only at hmono h' ⊢
    cases out with
    | ok d => exact absurd rfl (h' d hμ)
    | rejected es c => exact ⟨shownIds_errors uri es, hmono⟩
    | crash w => exact ⟨rfl, hmono⟩
    | fuel => exact ⟨rfl, hmono⟩

theorem streamEnum_block (opts : Opts) (ids : Nat) (uri data : Str) :
    ∃ a b, shownIds (streamEnum D T opts ids uri data).1 = List.range' a b ∧
      ids ≤ a ∧ a + b ≤ (streamEnum D T opts ids uri data).2 := by
  by_cases hacc : ∃ μ d, MState.init D (lit "en") = some μ ∧
      (parseWith D T false μ ids data).1 = .ok d
  · obtain ⟨μ, d, hμ, h⟩ := hacc
    obtain ⟨hs, h1, h2, h3⟩ := streamEnum_ids_ok L opts ids uri data μ hμ d h
    rw [hs]
    cases hA : opts.printAst <;> cases hP : opts.printPickles <;>
      simp only [Bool.false_eq_true, if_false, if_true, List.nil_append, List.append_nil]
    · exact ⟨ids, 0, rfl, Nat.le_refl _, by omega⟩
    · exact ⟨_, _, rfl, h1, by omega⟩
    · exact ⟨_, _, rfl, Nat.le_refl _, by have := h3 hP; omega⟩
    · exact ⟨ids, _, range'_append_le _ _ _ h1 h2, Nat.le_refl _, by omega⟩
  · have := streamEnum_ids_not_ok D T opts ids uri data
      (fun μ d hμ h => hacc ⟨μ, d, hμ, h⟩)
    exact ⟨ids, 0, this.1, Nat.le_refl _, this.2⟩

omit L in
theorem streamIds_cons (es : List Envelope) (gs : List (List Envelope)) :
    streamIds (es :: gs) = shownIds es ++ streamIds gs := by
  simp [streamIds, List.flatMap_cons]

omit L in
theorem streamAll_cons (D : List Dialect) (T : Table) (opts : Opts) (uri data : Str) (rest : List (Str × Str))
    (n : Nat) : streamAll D T opts ((uri, data) :: rest) n =
      (streamEnum D T opts n uri data).1 :: streamAll D T opts rest (streamEnum D T opts n uri data).2 := by
  simp only [streamAll]

theorem streamAll_ids_increasing (opts : Opts) (srcs : List (Str × Str)) (n : Nat) :
    (streamIds (streamAll D T opts srcs n)).Pairwise (· < ·) ∧
    (∀ i ∈ streamIds (streamAll D T opts srcs n),
      n ≤ i ∧ i < counterAfter D T opts srcs n) ∧
    n ≤ counterAfter D T opts srcs n := by
  induction srcs generalizing n with
  | nil => refine ⟨?_, ?_, ?_⟩ <;> simp [streamAll, streamIds, counterAfter]
  | cons s rest ih =>
    obtain ⟨uri, data⟩ := s
    obtain ⟨a, b, hs, h1, h2⟩ := streamEnum_block L opts n uri data
    obtain ⟨ihp, ihm, ihle⟩ := ih (streamEnum D T opts n uri data).2
    rw [streamAll_cons, streamIds_cons, hs]
    simp only [counterAfter]
    refine ⟨List.pairwise_append.2 ⟨List.pairwise_lt_range' 1, ihp, ?_⟩, ?_, by omega⟩
    · intro x hx y hy
      have := List.mem_range'_1.1 hx
      have := ihm y hy
      omega
    · intro i hi
      rcases List.mem_append.1 hi with hi | hi
      · have := List.mem_range'_1.1 hi
        omega
      · have := ihm i hi
        omega

theorem streamAll_ids (opts : Opts) (srcs : List (Str × Str)) (n : Nat) :
    (streamIds (streamAll D T opts srcs n)).Pairwise (· < ·) ∧
    (streamIds (streamAll D T opts srcs n)).Nodup ∧
    (∀ i ∈ streamIds (streamAll D T opts srcs n),
      n ≤ i ∧ i < counterAfter D T opts srcs n) ∧
    n ≤ counterAfter D T opts srcs n := by
  obtain ⟨h1, h2, h3⟩ := streamAll_ids_increasing L opts srcs n
  exact ⟨h1, h1.imp (fun h => Nat.ne_of_lt h), h2, h3⟩

omit L in
theorem accepts_any_counter (data : Str)
    (h : ∃ μ d, MState.init D (lit "en") = some μ ∧ (parseWith D T false μ 0 data).1 = .ok d) (n : Nat) :
    ∃ μ d, MState.init D (lit "en") = some μ ∧
      (parseWith D T false μ n data).1 = .ok d := by
  obtain ⟨μ, d, hμ, hd⟩ := h
  refine ⟨μ, shiftDoc n d, hμ, ?_⟩
  have hs := parseWith_shift D T false μ 0 n data
  rw [Nat.zero_add] at hs
  rw [hs, hd]
  rfl

/-- ids drawn and not shown leave gaps: those of a document with `printAst` off, and those a
    rejected source drew before its error.  Hence the hypotheses: the source is accepted or draws
    nothing (from counter 0 the counter is left at 0). -/
theorem streamEnum_dense (opts : Opts) (hA : opts.printAst = true) (hP : opts.printPickles = true)
    (n : Nat) (uri data : Str)
    (h : (∃ μ d, MState.init D (lit "en") = some μ ∧ (parseWith D T false μ 0 data).1 = .ok d) ∨
      (streamEnum D T opts 0 uri data).2 = 0) :
    shownIds (streamEnum D T opts n uri data).1 =
      List.range' n ((streamEnum D T opts n uri data).2 - n) ∧
    n ≤ (streamEnum D T opts n uri data).2 := by
  rcases h with h | h
  · obtain ⟨μ, d, hμ, hd⟩ := accepts_any_counter data h n
    obtain ⟨hs, h1, h2, -⟩ := streamEnum_ids_ok L opts n uri data μ hμ d hd
    rw [hs, hA, hP]
    simp only [if_true]
    exact ⟨range'_append_le _ _ _ h1 h2, Nat.le_trans h1 h2⟩
  · have hsh := streamEnum_shift D T opts 0 n uri data
    rw [Nat.zero_add] at hsh
    have h2 : (streamEnum D T opts n uri data).2 = n := by
      rw [hsh]; dsimp only; omega
    obtain ⟨a, b, hs, h3, h4⟩ := streamEnum_block L opts n uri data
    have hb : b = 0 := by omega
    rw [hs, h2, hb, Nat.sub_self]
    exact ⟨rfl, Nat.le_refl _⟩

theorem streamAll_ids_dense (opts : Opts) (hA : opts.printAst = true) (hP : opts.printPickles = true)
    (srcs : List (Str × Str)) (n : Nat)
    (h : ∀ x ∈ srcs, (∃ μ d, MState.init D (lit "en") = some μ ∧ (parseWith D T false μ 0 x.2).1 = .ok d) ∨
      (streamEnum D T opts 0 x.1 x.2).2 = 0) :
    streamIds (streamAll D T opts srcs n) =
      List.range' n (counterAfter D T opts srcs n - n) := by
  induction srcs generalizing n with
  | nil => simp [streamAll, streamIds, counterAfter]
  | cons s rest ih =>
    obtain ⟨uri, data⟩ := s
    obtain ⟨hs, hle⟩ := streamEnum_dense L opts hA hP n uri data (h (uri, data) (List.mem_cons_self))
    have ih' := ih (streamEnum D T opts n uri data).2
      (fun x hx => h x (List.mem_cons_of_mem _ hx))
    have hle' := (streamAll_ids_increasing L opts rest
      (streamEnum D T opts n uri data).2).2.2
    rw [streamAll_cons, streamIds_cons, hs, ih']
    simp only [counterAfter]
    exact range'_append_le _ _ _ hle hle'

end

/-- the stream accepts the text: a property of the text alone (`accepts_any_counter`), stated at
    counter 0 -/
def StreamAccepts (data : Str) : Prop :=
  ∃ μ d, MState.init Gen.dialects (lit "en") = some μ ∧
    (parseWith Gen.dialects Gen.parserTable false μ 0 data).1 = .ok d

end IdsP
end Lemmas
end GV
