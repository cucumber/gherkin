/-
  Lemmas/Markdown.lean — for property C19: the Markdown token matcher of Model/Md.lean on lines of
  a given form.  `#` headers with a keyword; bullet steps, where the expression backtracks over the
  blank run after the bullet and never succeeds that way (`try_below_none`: with part of the run
  left the rest starts with whitespace, which no keyword does); table-row indentation; GFM
  separator cells as a shape (`SeparatorShape`); the backtick tag spans of a line put together
  from segments (`renderTagLine`, `expectedSpans`).
-/
import GherkinVerif.Lemmas.Keywords
import GherkinVerif.Model.Md
namespace GV.Spec

/-- no backtick immediately followed by `@` occurs in the string -/
def noTagOpen : Str → Bool
  | c :: d :: r => !(c == 96 && d == 64) && noTagOpen (d :: r)
  | _ => true

/-- a Markdown line made of segments `pre` + backtick + `@` + `body` + backtick, then `post` -/
def renderTagLine : List (Str × Str) → Str → Str
  | [], post => post
  | (pre, body) :: r, post => pre ++ [96, 64] ++ body ++ [96] ++ renderTagLine r post

/-- the spans one expects from `renderTagLine`, the first segment starting at offset `off`:
    (offset of the opening backtick, `@` + body) for each segment in order -/
def expectedSpans : List (Str × Str) → Nat → List (Nat × Str)
  | [], _ => []
  | (pre, body) :: r, off =>
    (off + pre.length, 64 :: body) :: expectedSpans r (off + pre.length + body.length + 3)

def segmentsLength : List (Str × Str) → Nat
  | [] => 0
  | (pre, body) :: r => pre.length + body.length + 3 + segmentsLength r

/-- the shape `:?-+:?` optionally followed by one final line feed -/
def SeparatorShape (s : Str) : Prop :=
  ∃ (c1 c2 e : Bool) (n : Nat),
    s = (if c1 then [58] else []) ++ List.replicate (n + 1) 45 ++ (if c2 then [58] else []) ++
        (if e then [10] else [])

end GV.Spec

namespace GV.Lemmas
open GV Spec Md

theorem hashes_of_not_hash (r : Str) (hr : r.head? ≠ some 35) : hashes r = 0 := by
  apply hashes.eq_2
  rintro cs rfl
  exact hr rfl

theorem hashes_replicate (n : Nat) (r : Str) (hr : r.head? ≠ some 35) :
    hashes (List.replicate n 35 ++ r) = n := by
  induction n with
  | zero => simpa using hashes_of_not_hash r hr
  | succ n ih => simp [List.replicate_succ, hashes, ih]

theorem drop_replicate_append (n : Nat) (c : Nat) (r : Str) : (List.replicate n c ++ r).drop n = r := by
  have := drop_length_append (List.replicate n c) r
  rwa [List.length_replicate] at this

theorem head_ne_of_isSpace {b : Nat} {x : Str} (hb : isSpace b = true) : (b :: x).head? ≠ some 35 := by
  intro h
  simp only [List.head?_cons, Option.some.injEq] at h
  subst h
  exact absurd hb (by decide)

theorem headerPrefix_hashes (n b : Nat) (x : Str) (h1 : 1 ≤ n) (h6 : n ≤ 6) (hb : isSpace b = true) :
    headerPrefix (List.replicate n 35 ++ b :: x) = some (n + 1) := by
  unfold headerPrefix
  simp only [hashes_replicate n (b :: x) (head_ne_of_isSpace hb), drop_replicate_append, h1, h6,
    and_self, if_true, hb]

theorem headerPrefix_none (n : Nat) (r : Str) (hr : r.head? ≠ some 35)
    (h : n = 0 ∨ 7 ≤ n ∨ noWsStart r = true) : headerPrefix (List.replicate n 35 ++ r) = none := by
  unfold headerPrefix
  simp only [hashes_replicate n r hr, drop_replicate_append]
  split
  · next hn =>
    rcases h with h | h | h
    · omega
    · omega
    · cases r with
      | nil => rfl
      | cons c cs =>
        have : isSpace c = false := by simpa [noWsStart] using h
        simp [this]
  · rfl

theorem firstKeyword_title (kws : List Str) (k rest : Str) (hk : k ∈ kws) (hcf : ∀ k' ∈ kws, 58 ∉ k') :
    firstKeyword kws [58] (k ++ 58 :: rest) = some k :=
  find_title kws k rest hk hcf

theorem headerMatch_keyword (kws : List Str) (n b : Nat) (k title : Str) (hk : k ∈ kws)
    (hcf : ∀ k' ∈ kws, 58 ∉ k') (h1 : 1 ≤ n) (h6 : n ≤ 6) (hb : isSpace b = true) :
    headerMatch kws (List.replicate n 35 ++ [b] ++ k ++ [58] ++ title) =
      some ⟨n + 1, k, strip (dotStar title)⟩ := by
  have e : List.replicate n 35 ++ [b] ++ k ++ [58] ++ title =
      List.replicate n 35 ++ b :: (k ++ 58 :: title) := by simp
  have hd : (List.replicate n 35 ++ b :: (k ++ 58 :: title)).drop (n + 1) = k ++ 58 :: title := by
    have := drop_length_succ_append (List.replicate n 35) (k ++ 58 :: title) b
    rwa [List.length_replicate] at this
  have hd2 : (List.replicate n 35 ++ b :: (k ++ 58 :: title)).drop (n + 1 + k.length + 1) = title := by
    rw [Nat.add_assoc (n + 1), ← List.drop_drop, hd, drop_length_succ_append]
  rw [e]
  unfold headerMatch
  simp only [headerPrefix_hashes n b _ h1 h6 hb, hd, firstKeyword_title kws k title hk hcf,
    Option.map_some, hd2]

theorem headerMatch_none (kws : List Str) (n : Nat) (r : Str) (hr : r.head? ≠ some 35)
    (h : n = 0 ∨ 7 ≤ n ∨ noWsStart r = true) : headerMatch kws (List.replicate n 35 ++ r) = none := by
  unfold headerMatch
  rw [headerPrefix_none n r hr h]

theorem headerMatch_no_hash (kws : List Str) (s : Str) (hs : s.head? ≠ some 35) : headerMatch kws s = none := by
  have := headerMatch_none kws 0 s hs (.inl rfl)
  simpa using this

theorem headerMatch_append (a b : List Str) (s : Str) :
    headerMatch (a ++ b) s = (headerMatch a s).orElse fun _ => headerMatch b s := by
  unfold headerMatch
  cases headerPrefix s with
  | none => rfl
  | some p =>
    simp only [firstKeyword, List.find?_append]
    cases List.find? (fun k => startsWith (k ++ [58]) (List.drop p s)) a <;> simp

theorem md_matchLine_title (ty : Kind) (hty : ty.isTitle = true) (μ : MState) (t : Token) (l : Str) :
    Md.matchLine ty μ t l =
      some (Md.matchTitle μ t l ty (headerMatch (μ.dialect.roleKeywords ty) (trimmed l))) := by
  cases ty <;> first
    | exact absurd hty (by decide)
    | rfl
    | skip
  simp only [Md.matchLine, Dialect.roleKeywords, headerMatch_append]
  cases headerMatch μ.dialect.scenario (trimmed l) <;> simp [Md.matchTitle]

theorem trimmed_header (ws : Str) (n : Nat) (x : Str) (hws : ∀ c ∈ ws, isSpace c = true) (h1 : 1 ≤ n) :
    trimmed (ws ++ (List.replicate n 35 ++ x)) = List.replicate n 35 ++ x ∧
    lineIndent (ws ++ (List.replicate n 35 ++ x)) = ws.length := by
  have hx : noWsStart (List.replicate n 35 ++ x) = true := by
    cases n with
    | zero => omega
    | succ n => simp [List.replicate_succ, noWsStart, isSpace]
  exact ⟨trimmed_ws_append ws _ hws hx, indentOf_ws_append ws _ hws hx⟩

theorem md_matchLine_header (ty : Kind) (hty : ty.isTitle = true) (μ : MState) (t : Token)
    (ws : Str) (n b : Nat) (k title : Str) (hk : k ∈ μ.dialect.roleKeywords ty)
    (hcf : ∀ k' ∈ μ.dialect.roleKeywords ty, 58 ∉ k') (hws : ∀ c ∈ ws, isSpace c = true)
    (h1 : 1 ≤ n) (h6 : n ≤ 6) (hb : isSpace b = true) :
    Md.matchLine ty μ t (ws ++ List.replicate n 35 ++ [b] ++ k ++ [58] ++ title) =
      some (some (setMatched μ t ty (text := some (strip (dotStar title))) (keyword := some k)
        (indent := some (ws.length + n + 1)))) := by
  have e : ws ++ List.replicate n 35 ++ [b] ++ k ++ [58] ++ title =
      ws ++ (List.replicate n 35 ++ ([b] ++ k ++ [58] ++ title)) := by simp
  have e2 : List.replicate n 35 ++ ([b] ++ k ++ [58] ++ title) =
      List.replicate n 35 ++ [b] ++ k ++ [58] ++ title := by simp
  obtain ⟨htr, hin⟩ := trimmed_header ws n ([b] ++ k ++ [58] ++ title) hws h1
  rw [md_matchLine_title ty hty, e, htr, e2, headerMatch_keyword _ n b k title hk hcf h1 h6 hb]
  simp only [Md.matchTitle, Option.map_some, ← e2, hin, Nat.add_assoc]

theorem md_matchLine_title_none (ty : Kind) (hty : ty.isTitle = true) (μ : MState) (t : Token) (l : Str)
    (h : headerMatch (μ.dialect.roleKeywords ty) (trimmed l) = none) :
    Md.matchLine ty μ t l = some none := by
  rw [md_matchLine_title ty hty, h]; rfl

theorem md_token_fields (μ : MState) (t : Token) (ty : Kind) (text k : Str) (i : Nat) :
    let t' := setMatched μ t ty (text := some (strip text)) (keyword := some k) (indent := some i)
    t'.mtype = some ty ∧ t'.keyword = some k ∧ t'.text = some (strip text) ∧ t'.col = some (i + 1) ∧
    t'.dialect = μ.name := by
  simp [setMatched, rstripCRLF_strip]

theorem firstKeyword_nil_suffix (kws : List Str) (r : Str) :
    firstKeyword kws [] r = kws.find? fun k => startsWith k r := by
  simp [firstKeyword]

/-- `hx` is there to rule out the empty keyword, which prefixes `c :: r` as it does `x` -/
theorem firstKeyword_ws_none (kws : List Str) (c : Nat) (r x : Str) (hc : isSpace c = true)
    (hk : ∀ k ∈ kws, noWsStart k = true) (hx : firstKeyword kws [] x = none) :
    firstKeyword kws [] (c :: r) = none := by
  rw [firstKeyword_nil_suffix, List.find?_eq_none] at *
  intro k hkm
  cases k with
  | nil => exact absurd (by simp [startsWith]) (hx [] hkm)
  | cons a k =>
    have ha : isSpace a = false := by simpa [noWsStart] using hk _ hkm
    simp only [startsWith, Bool.and_eq_true, beq_iff_eq, not_and]
    rintro rfl
    rw [hc] at ha; cases ha

theorem drop_blanks (blanks x : Str) (j : Nat) (hj : j < blanks.length) :
    ∃ c r, (blanks ++ x).drop j = c :: r ∧ c ∈ blanks := by
  induction blanks generalizing j with
  | nil => simp at hj
  | cons a bl ih =>
    cases j with
    | zero => exact ⟨a, bl ++ x, rfl, by simp⟩
    | succ j =>
      obtain ⟨c, r, h1, h2⟩ := ih j (by simpa using hj)
      exact ⟨c, r, by simpa using h1, by simp [h2]⟩

theorem try_below_none (kws : List Str) (blanks x : Str) (hbl : ∀ c ∈ blanks, isSpace c = true)
    (hk : ∀ k ∈ kws, noWsStart k = true) (hx : firstKeyword kws [] x = none) (j : Nat)
    (hj : j < blanks.length) : bulletMatch.try_ kws (blanks ++ x) j = none := by
  induction j with
  | zero =>
    obtain ⟨c, r, h1, h2⟩ := drop_blanks blanks x 0 hj
    rw [List.drop_zero] at h1
    rw [bulletMatch.try_.eq_1, h1, firstKeyword_ws_none kws c r x (hbl c h2) hk hx]; rfl
  | succ j ih =>
    obtain ⟨c, r, h1, h2⟩ := drop_blanks blanks x (j + 1) hj
    rw [bulletMatch.try_.eq_2, h1, firstKeyword_ws_none kws c r x (hbl c h2) hk hx]
    exact ih (by omega)

theorem try_top (kws : List Str) (blanks x : Str) (hbl : ∀ c ∈ blanks, isSpace c = true)
    (hk : ∀ k ∈ kws, noWsStart k = true) :
    bulletMatch.try_ kws (blanks ++ x) blanks.length =
      (firstKeyword kws [] x).map fun k => ⟨1 + blanks.length, k, strip (dotStar (x.drop k.length))⟩ := by
  cases hlen : blanks.length with
  | zero =>
    have : blanks = [] := List.length_eq_zero_iff.mp hlen
    subst this
    rw [bulletMatch.try_.eq_1]; rfl
  | succ j =>
    rw [bulletMatch.try_.eq_2, ← hlen, drop_length_append]
    cases hf : firstKeyword kws [] x with
    | some k =>
      simp only [Option.map_some, ← List.drop_drop, drop_length_append, Nat.add_comm 1]
      rw [hlen]
    | none =>
      simp only [Option.map_none]
      exact try_below_none kws blanks x hbl hk hf j (by omega)

theorem bulletMatch_spec (kws : List Str) (b : Nat) (blanks x : Str) (hb : b = 42 ∨ b = 43 ∨ b = 45)
    (hbl : ∀ c ∈ blanks, isSpace c = true) (hx : noWsStart x = true)
    (hk : ∀ k ∈ kws, noWsStart k = true) :
    bulletMatch kws ([b] ++ blanks ++ x) =
      (firstKeyword kws [] x).map fun k => ⟨1 + blanks.length, k, strip (dotStar (x.drop k.length))⟩ := by
  have hb' : (b == 42 || b == 43 || b == 45) = true := by
    rcases hb with rfl | rfl | rfl <;> rfl
  have e : [b] ++ blanks ++ x = b :: (blanks ++ x) := by simp
  rw [e]
  simp only [bulletMatch, hb', if_true, indentOf_ws_append blanks x hbl hx]
  exact try_top kws blanks x hbl hk

theorem firstKeyword_first (kws pre post : List Str) (k x : Str) (hsplit : kws = pre ++ k :: post)
    (hkx : startsWith k x = true) (hpre : ∀ k' ∈ pre, startsWith k' x = false) :
    firstKeyword kws [] x = some k := by
  rw [firstKeyword_nil_suffix, List.find?_eq_some_iff_append]
  exact ⟨hkx, pre, post, hsplit, fun a ha => by simp [hpre a ha]⟩

theorem bulletMatch_keyword (kws pre post : List Str) (b : Nat) (blanks k rest : Str)
    (hsplit : kws = pre ++ k :: post) (hpre : ∀ k' ∈ pre, startsWith k' (k ++ rest) = false)
    (hb : b = 42 ∨ b = 43 ∨ b = 45) (hbl : ∀ c ∈ blanks, isSpace c = true) (hne : k ≠ [])
    (hk : ∀ k ∈ kws, noWsStart k = true) :
    bulletMatch kws ([b] ++ blanks ++ k ++ rest) = some ⟨1 + blanks.length, k, strip (dotStar rest)⟩ := by
  have hkm : k ∈ kws := by simp [hsplit]
  rw [List.append_assoc, bulletMatch_spec kws b blanks (k ++ rest) hb hbl
    (noWsStart_append k rest (hk k hkm) hne) hk,
    firstKeyword_first kws pre post k (k ++ rest) hsplit (startsWith_append k rest) hpre]
  simp only [Option.map_some, drop_length_append]

theorem bulletMatch_no_bullet (kws : List Str) (s : Str)
    (h : ∀ b r, s = b :: r → b ≠ 42 ∧ b ≠ 43 ∧ b ≠ 45) : bulletMatch kws s = none := by
  cases s with
  | nil => rfl
  | cons b r =>
    obtain ⟨h1, h2, h3⟩ := h b r rfl
    simp [bulletMatch, h1, h2, h3]

theorem md_matchLine_step (μ : MState) (t : Token) (l : Str) :
    Md.matchLine .StepLine μ t l =
      some (Md.matchTitle μ t l .StepLine (bulletMatch μ.dialect.stepKeywords (trimmed l))) := rfl

theorem md_matchLine_bullet (μ : MState) (t : Token) (ws : Str) (b : Nat) (blanks k rest : Str)
    (pre post : List Str) (hsplit : μ.dialect.stepKeywords = pre ++ k :: post)
    (hpre : ∀ k' ∈ pre, startsWith k' (k ++ rest) = false)
    (hws : ∀ c ∈ ws, isSpace c = true) (hb : b = 42 ∨ b = 43 ∨ b = 45)
    (hbl : ∀ c ∈ blanks, isSpace c = true) (hne : k ≠ [])
    (hk : ∀ k ∈ μ.dialect.stepKeywords, noWsStart k = true) :
    Md.matchLine .StepLine μ t (ws ++ [b] ++ blanks ++ k ++ rest) =
      some (some (setMatched μ t .StepLine (text := some (strip (dotStar rest))) (keyword := some k)
        (indent := some (ws.length + 1 + blanks.length)))) := by
  have hbs : isSpace b = false := by rcases hb with rfl | rfl | rfl <;> decide
  have hx : noWsStart ([b] ++ blanks ++ k ++ rest) = true := by
    simp [noWsStart, hbs]
  have e : ws ++ [b] ++ blanks ++ k ++ rest = ws ++ ([b] ++ blanks ++ k ++ rest) := by simp
  rw [md_matchLine_step, e, trimmed_ws_append ws _ hws hx,
    bulletMatch_keyword _ pre post b blanks k rest hsplit hpre hb hbl hne hk]
  simp only [Md.matchTitle, Option.map_some, lineIndent, indentOf_ws_append ws _ hws hx, Nat.add_assoc]

theorem rowIndentOk_iff (l : Str) :
    rowIndentOk l = true ↔
      ∃ ws rest, l = ws ++ 124 :: rest ∧ (∀ c ∈ ws, isSpace c = true) ∧ 2 ≤ ws.length ∧ ws.length ≤ 5 := by
  constructor
  · intro h
    simp only [rowIndentOk, Bool.and_eq_true, decide_eq_true_eq, beq_iff_eq] at h
    obtain ⟨⟨h2, h5⟩, hh⟩ := h
    obtain ⟨e1, e2, e3, e4⟩ := indent_split l
    rw [e4] at hh
    cases hl : lstrip l with
    | nil => rw [hl] at hh; cases hh
    | cons c r =>
      rw [hl] at hh
      simp only [List.head?_cons, Option.some.injEq] at hh
      subst hh
      refine ⟨l.take (indentOf l), r, ?_, e2, by omega, by omega⟩
      rw [← hl]; exact e1
  · rintro ⟨ws, rest, rfl, hws, h2, h5⟩
    have hi := indentOf_ws_append ws (124 :: rest) hws (by simp [noWsStart, isSpace])
    simp only [rowIndentOk, hi, drop_length_append, Bool.and_eq_true, decide_eq_true_eq, beq_iff_eq]
    exact ⟨⟨h2, h5⟩, rfl⟩

theorem sep_tail (m : Nat) (tl : Str) (htl : ∀ c ∈ tl, (c == 45) = false) :
    (List.replicate m 45 ++ tl).takeWhile (· == 45) = List.replicate m 45 ∧
    (List.replicate m 45 ++ tl).dropWhile (· == 45) = tl :=
  takeWhile_dropWhile_append (· == 45) (List.replicate m 45) tl
    (fun c hc => by simp [(List.mem_replicate.1 hc).2]) htl

/-- the part of `isSeparatorCell` after the dash run -/
def sepRest (r : Str) : Bool :=
  let r1 := match r with | 58 :: r' => r' | _ => r
  r1 == [] || r1 == [10]

/-- the part of `isSeparatorCell` after the optional leading colon -/
def sepCore (s1 : Str) : Bool :=
  !(s1.takeWhile (· == 45)).isEmpty && sepRest (s1.dropWhile (· == 45))

theorem isSeparatorCell_colon (x : Str) : isSeparatorCell (58 :: x) = sepCore x := rfl

theorem isSeparatorCell_dash (x : Str) : isSeparatorCell (45 :: x) = sepCore (45 :: x) := rfl

theorem isSeparatorCell_eq (s : Str) :
    isSeparatorCell s = sepCore (match s with | 58 :: r => r | _ => s) := rfl

theorem sepCore_replicate (n : Nat) (tl : Str) (htl : ∀ c ∈ tl, (c == 45) = false) :
    sepCore (List.replicate (n + 1) 45 ++ tl) = sepRest tl := by
  obtain ⟨ht, hd⟩ := sep_tail (n + 1) tl htl
  simp only [sepCore, ht, hd]
  simp [List.replicate_succ]

theorem isSeparatorCell_of_shape (s : Str) (h : SeparatorShape s) : isSeparatorCell s = true := by
  obtain ⟨c1, c2, e, n, rfl⟩ := h
  have htl : ∀ c ∈ ((if c2 then [58] else []) ++ (if e then [10] else []) : Str), (c == 45) = false := by
    cases c2 <;> cases e <;> simp
  have hsr : sepRest ((if c2 then [58] else []) ++ (if e then [10] else [])) = true := by
    cases c2 <;> cases e <;> rfl
  have hc1 : ∀ x : Str, isSeparatorCell ((if c1 then [58] else []) ++ (List.replicate (n + 1) 45 ++ x)) =
      sepCore (List.replicate (n + 1) 45 ++ x) := by
    intro x
    cases c1
    · rw [List.replicate_succ]; rfl
    · rfl
  rw [List.append_assoc, List.append_assoc, hc1, sepCore_replicate n _ htl, hsr]

theorem mem_takeWhile_imp {p : Nat → Bool} {l : Str} {c : Nat} (h : c ∈ l.takeWhile p) : p c = true := by
  have := List.all_takeWhile (p := p) (l := l)
  rw [List.all_eq_true] at this
  exact this c h

theorem takeWhile_dash_eq (s1 : Str) :
    s1.takeWhile (· == 45) = List.replicate (s1.takeWhile (· == 45)).length 45 := by
  rw [List.eq_replicate_iff]
  refine ⟨rfl, fun c hc => ?_⟩
  simpa using mem_takeWhile_imp hc

theorem shape_of_isSeparatorCell (s : Str) (h : isSeparatorCell s = true) : SeparatorShape s := by
  rw [isSeparatorCell_eq] at h
  have hcore : ∀ s1 : Str, sepCore s1 = true →
      ∃ (c2 e : Bool) (n : Nat), s1 = List.replicate (n + 1) 45 ++ (if c2 then [58] else []) ++
        (if e then [10] else []) := by
    intro s1 h1
    simp only [sepCore, Bool.and_eq_true, Bool.not_eq_true'] at h1
    obtain ⟨hne, hr⟩ := h1
    have hlen : (s1.takeWhile (· == 45)).length ≠ 0 := by
      intro h0
      rw [List.length_eq_zero_iff.mp h0] at hne
      cases hne
    have e1 : (s1.takeWhile (· == 45)).length - 1 + 1 = (s1.takeWhile (· == 45)).length := by omega
    have hs1 : s1 = List.replicate ((s1.takeWhile (· == 45)).length - 1 + 1) 45 ++ s1.dropWhile (· == 45) := by
      rw [e1, ← takeWhile_dash_eq, List.takeWhile_append_dropWhile]
    have htail : ∃ c2 e : Bool, s1.dropWhile (· == 45) = (if c2 then [58] else []) ++ (if e then [10] else []) := by
      generalize s1.dropWhile (· == 45) = r at hr
      simp only [sepRest, Bool.or_eq_true, beq_iff_eq] at hr
      split at hr
      · next r' =>
        rcases hr with rfl | rfl
        · exact ⟨true, false, rfl⟩
        · exact ⟨true, true, rfl⟩
      · rcases hr with rfl | rfl
        · exact ⟨false, false, rfl⟩
        · exact ⟨false, true, rfl⟩
    obtain ⟨c2, e, he⟩ := htail
    refine ⟨c2, e, (s1.takeWhile (· == 45)).length - 1, ?_⟩
    rw [List.append_assoc, ← he]
    exact hs1
  split at h
  · next r =>
    obtain ⟨c2, e, n, hn⟩ := hcore r h
    exact ⟨true, c2, e, n, by rw [hn]; simp⟩
  · obtain ⟨c2, e, n, hn⟩ := hcore s h
    exact ⟨false, c2, e, n, by simpa using hn⟩

theorem isSeparatorCell_iff (s : Str) : isSeparatorCell s = true ↔ SeparatorShape s :=
  ⟨shape_of_isSeparatorCell s, isSeparatorCell_of_shape s⟩

theorem md_matchLine_row (μ : MState) (t : Token) (l : Str) :
    Md.matchLine .TableRow μ t l =
      if rowIndentOk l = true ∧ ∀ c ∈ tableCells l, isSeparatorCell c.2 = false then
        some (some (setMatched μ t .TableRow (keyword := some [124]) (items := tableCells l)))
      else some none := by
  simp only [Md.matchLine]
  by_cases h1 : rowIndentOk l = true
  · rw [if_pos h1]
    by_cases h2 : (tableCells l).any (fun c => isSeparatorCell c.2) = true
    · rw [if_pos h2, if_neg]
      rintro ⟨_, hall⟩
      obtain ⟨c, hc, hs⟩ := List.any_eq_true.1 h2
      rw [hall c hc] at hs; cases hs
    · rw [if_neg h2, if_pos]
      refine ⟨h1, fun c hc => ?_⟩
      cases hs : isSeparatorCell c.2 with
      | false => rfl
      | true => exact absurd (List.any_eq_true.2 ⟨c, hc, hs⟩) h2
  · rw [if_neg h1, if_neg]
    exact fun h => h1 h.1

def shiftSpans (n : Nat) (l : List (Nat × Str)) : List (Nat × Str) := l.map fun (p, x) => (p + n, x)

theorem shiftSpans_zero (l : List (Nat × Str)) : shiftSpans 0 l = l := by
  simp [shiftSpans]

theorem shiftSpans_shiftSpans (a b : Nat) (l : List (Nat × Str)) :
    shiftSpans a (shiftSpans b l) = shiftSpans (b + a) l := by
  simp [shiftSpans, List.map_map, Function.comp_def, Nat.add_assoc]

theorem tagSpansAux_shift (s : Str) (pos skip : Nat) :
    tagSpansAux s pos skip = shiftSpans pos (tagSpansAux s 0 skip) := by
  induction s generalizing pos skip with
  | nil => simp [tagSpansAux, shiftSpans]
  | cons c cs ih =>
    cases skip with
    | succ k =>
      simp only [tagSpansAux]
      rw [ih (pos + 1), ih (0 + 1), shiftSpans_shiftSpans]
      congr 1; omega
    | zero =>
      have h0 : ∀ k, tagSpansAux cs (pos + 1) k = shiftSpans pos (tagSpansAux cs (0 + 1) k) := by
        intro k
        rw [ih (pos + 1), ih (0 + 1), shiftSpans_shiftSpans]
        congr 1; omega
      simp only [tagSpansAux]
      split
      · split
        · split
          · rw [h0]; simp [shiftSpans]
          · exact h0 0
        · exact h0 0
      · exact h0 0

theorem tagSpansAux_skip (xs s : Str) (pos : Nat) :
    tagSpansAux (xs ++ s) pos xs.length = tagSpansAux s (pos + xs.length) 0 := by
  induction xs generalizing pos with
  | nil => rfl
  | cons x xs ih =>
    simp only [List.cons_append, List.length_cons, tagSpansAux]
    rw [ih]; congr 1; omega

theorem tagSpans_nil : tagSpans [] = [] := rfl

theorem tagSpans_span (body post : Str) (hne : body ≠ []) (hb : 96 ∉ body) :
    tagSpans ([96, 64] ++ body ++ [96] ++ post) =
      (0, 64 :: body) :: shiftSpans (body.length + 3) (tagSpans post) := by
  have e : [96, 64] ++ body ++ [96] ++ post = 96 :: 64 :: (body ++ 96 :: post) := by simp
  obtain ⟨ht, hd⟩ := takeWhile_dropWhile_append_cons (· != 96) body post 96
    (fun x hx => by
      have : x ≠ 96 := fun h => hb (h ▸ hx)
      simpa using this) (by simp)
  have hbe : body.isEmpty = false := by cases body with
    | nil => exact absurd rfl hne
    | cons c cs => rfl
  have e2 : 64 :: (body ++ 96 :: post) = (64 :: body ++ [96]) ++ post := by simp
  have hl : (64 :: body ++ [96]).length = body.length + 2 := by simp
  rw [e, tagSpans, tagSpansAux.eq_3]
  simp only [beq_self_eq_true, if_true, ht, hd, hbe, Bool.not_false, List.head?_cons, Bool.and_self]
  rw [e2, ← hl, tagSpansAux_skip, tagSpansAux_shift, hl]
  simp only [tagSpans]
  congr 2
  omega

theorem tagSpans_step (c : Nat) (cs : Str)
    (h : ¬ ∃ body post, body ≠ [] ∧ 96 ∉ body ∧ c :: cs = [96, 64] ++ body ++ [96] ++ post) :
    tagSpans (c :: cs) = shiftSpans 1 (tagSpans cs) := by
  have h0 : tagSpansAux cs (0 + 1) 0 = shiftSpans 1 (tagSpans cs) := by
    rw [tagSpansAux_shift]; rfl
  simp only [tagSpans, tagSpansAux]
  split
  · next hc =>
    split
    · next rest =>
      split
      · next hcond =>
        exfalso
        apply h
        simp only [Bool.and_eq_true, Bool.not_eq_true', beq_iff_eq] at hcond hc
        obtain ⟨hb1, hb2⟩ := hcond
        refine ⟨rest.takeWhile (· != 96), (rest.dropWhile (· != 96)).tail, ?_, ?_, ?_⟩
        · intro h0; rw [h0] at hb1; cases hb1
        · intro hm
          have := mem_takeWhile_imp hm
          simp at this
        · subst hc
          have hdw : rest.dropWhile (· != 96) = 96 :: (rest.dropWhile (· != 96)).tail := by
            cases hd : rest.dropWhile (· != 96) with
            | nil => rw [hd] at hb2; cases hb2
            | cons x xs =>
              rw [hd] at hb2
              simp only [List.head?_cons, Option.some.injEq] at hb2
              rw [hb2]; rfl
          have := (List.takeWhile_append_dropWhile (p := (· != 96)) (l := rest)).symm
          rw [hdw] at this
          simp only [List.cons_append, List.nil_append, List.append_assoc]
          rw [← this]
      · exact h0
    · exact h0
  · exact h0

theorem tagSpansAux_not_backtick (c : Nat) (cs : Str) (pos : Nat) (hc : c ≠ 96) :
    tagSpansAux (c :: cs) pos 0 = tagSpansAux cs (pos + 1) 0 := by
  rw [tagSpansAux.eq_def]
  simp only [beq_iff_eq, hc, if_false]

theorem tagSpansAux_backtick_not_at (cs : Str) (pos : Nat) (h : cs.head? ≠ some 64) :
    tagSpansAux (96 :: cs) pos 0 = tagSpansAux cs (pos + 1) 0 := by
  rw [tagSpansAux.eq_def]
  simp only [beq_self_eq_true, if_true]
  split
  · next rest => exact absurd rfl h
  · rfl

theorem tagSpansAux_pass (c : Nat) (cs : Str) (pos : Nat) (h : c ≠ 96 ∨ cs.head? ≠ some 64) :
    tagSpansAux (c :: cs) pos 0 = tagSpansAux cs (pos + 1) 0 := by
  by_cases hc : c = 96
  · subst hc
    rcases h with h | h
    · exact absurd rfl h
    · exact tagSpansAux_backtick_not_at cs pos h
  · exact tagSpansAux_not_backtick c cs pos hc

theorem tagSpansAux_pre (pre s : Str) (pos : Nat) (hp : noTagOpen pre = true) :
    tagSpansAux (pre ++ 96 :: s) pos 0 = tagSpansAux (96 :: s) (pos + pre.length) 0 := by
  induction pre generalizing pos with
  | nil => rfl
  | cons c r ih =>
    cases r with
    | nil =>
      simp only [List.cons_append, List.nil_append, List.length_cons, List.length_nil]
      exact tagSpansAux_pass c _ pos (.inr (by simp))
    | cons d r' =>
      simp only [noTagOpen, Bool.and_eq_true, Bool.not_eq_true', Bool.and_eq_false_iff, beq_eq_false_iff_ne] at hp
      have hrec := ih (pos + 1) hp.2
      simp only [List.cons_append, List.length_cons] at hrec ⊢
      rw [tagSpansAux_pass c _ pos (by
        rcases hp.1 with h | h
        · exact .inl h
        · exact .inr (by simpa using h)), hrec]
      congr 1; omega

theorem tagSpansAux_render (segs : List (Str × Str)) (post : Str) (off : Nat)
    (h : ∀ x ∈ segs, noTagOpen x.1 = true ∧ x.2 ≠ [] ∧ 96 ∉ x.2) :
    tagSpansAux (renderTagLine segs post) off 0 =
      expectedSpans segs off ++ tagSpansAux post (off + segmentsLength segs) 0 := by
  induction segs generalizing off with
  | nil => simp [renderTagLine, expectedSpans, segmentsLength]
  | cons x r ih =>
    obtain ⟨pre, body⟩ := x
    obtain ⟨hp, hne, hb⟩ := h (pre, body) (by simp)
    have ihr := ih (off + pre.length + body.length + 3) fun y hy => h y (by simp [hy])
    have e : renderTagLine ((pre, body) :: r) post =
        pre ++ 96 :: ([64] ++ body ++ [96] ++ renderTagLine r post) := by
      simp [renderTagLine]
    have hsp := tagSpans_span body (renderTagLine r post) hne hb
    have e2 : 96 :: ([64] ++ body ++ [96] ++ renderTagLine r post) =
        [96, 64] ++ body ++ [96] ++ renderTagLine r post := by simp
    rw [e, tagSpansAux_pre pre _ off hp, e2, tagSpansAux_shift, ← tagSpans, hsp]
    simp only [expectedSpans, segmentsLength, shiftSpans, List.map_cons, List.cons_append, Nat.zero_add]
    congr 1
    have := tagSpansAux_shift (renderTagLine r post) (off + pre.length + body.length + 3) 0
    rw [ihr] at this
    rw [List.map_map]
    simp only [tagSpans]
    have hsh : ((fun (x : Nat × Str) => (x.1 + (off + pre.length), x.2)) ∘
        fun (x : Nat × Str) => (x.1 + (body.length + 3), x.2)) =
        fun (x : Nat × Str) => (x.1 + (off + pre.length + body.length + 3), x.2) := by
      funext x; simp [Nat.add_assoc, Nat.add_comm, Nat.add_left_comm]
    rw [hsh, ← shiftSpans, ← this]
    congr 2
    omega

theorem tagSpans_render (segs : List (Str × Str)) (post : Str)
    (h : ∀ x ∈ segs, noTagOpen x.1 = true ∧ x.2 ≠ [] ∧ 96 ∉ x.2) :
    tagSpans (renderTagLine segs post) =
      expectedSpans segs 0 ++ shiftSpans (segmentsLength segs) (tagSpans post) := by
  rw [tagSpans, tagSpansAux_render segs post 0 h, tagSpansAux_shift post, Nat.zero_add]
  rfl

theorem tagSpans_no_backtick (s : Str) (h : 96 ∉ s) : tagSpans s = [] := by
  induction s with
  | nil => rfl
  | cons c cs ih =>
    rw [tagSpans_step c cs, ih (fun hm => h (by simp [hm]))]
    · rfl
    · rintro ⟨body, post, _, _, heq⟩
      simp only [List.cons_append, List.cons.injEq] at heq
      exact h (by simp [heq.1])

theorem md_matchLine_tags (μ : MState) (t : Token) (l : Str) :
    Md.matchLine .TagLine μ t l =
      if tagSpans (trimmed l) = [] then some none
      else some (some (setMatched μ t .TagLine
        (items := (tagSpans (trimmed l)).map fun (st, tx) => (lineIndent l + st + 2, tx)))) := by
  simp only [Md.matchLine]
  cases h : tagSpans (trimmed l) with
  | nil => simp
  | cons a r => simp

theorem md_no_prefix (μ : MState) (t : Token) (l : Str) :
    ((trimmed l).head? ≠ some 35 → ∀ ty : Kind, ty.isTitle = true → Md.matchLine ty μ t l = some none) ∧
    ((∀ b r, trimmed l = b :: r → b ≠ 42 ∧ b ≠ 43 ∧ b ≠ 45) → Md.matchLine .StepLine μ t l = some none) := by
  refine ⟨fun hh ty hty => ?_, fun hb => ?_⟩
  · exact md_matchLine_title_none ty hty μ t l (headerMatch_no_hash _ _ hh)
  · rw [md_matchLine_step, bulletMatch_no_bullet _ _ hb]; rfl

theorem md_header_in_table (D : List Dialect) (hf : markdownFacts D = true) (ty : Kind)
    (hty : ty.isTitle = true) (μ : MState) (hμ : μ.dialect ∈ D) (t : Token)
    (ws : Str) (n b : Nat) (k title : Str) (hk : k ∈ μ.dialect.roleKeywords ty)
    (hws : ∀ c ∈ ws, isSpace c = true) (h1 : 1 ≤ n) (h6 : n ≤ 6) (hb : isSpace b = true) :
    Md.matchLine ty μ t (ws ++ List.replicate n 35 ++ [b] ++ k ++ [58] ++ title) =
      some (some (setMatched μ t ty (text := some (strip (dotStar title))) (keyword := some k)
        (indent := some (ws.length + n + 1)))) :=
  md_matchLine_header ty hty μ t ws n b k title hk
    (fun k' hk' => titleColonFree_spec (markdownFacts_spec hf).1 hμ (mem_titleKeywords_of_role _ ty k' hk'))
    hws h1 h6 hb

theorem md_bullet_in_table (D : List Dialect) (hf : markdownFacts D = true) (μ : MState)
    (hμ : μ.dialect ∈ D) (t : Token) (ws : Str) (b : Nat) (blanks k rest : Str)
    (pre post : List Str) (hsplit : μ.dialect.stepKeywords = pre ++ k :: post)
    (hpre : ∀ k' ∈ pre, startsWith k' (k ++ rest) = false)
    (hws : ∀ c ∈ ws, isSpace c = true) (hb : b = 42 ∨ b = 43 ∨ b = 45)
    (hbl : ∀ c ∈ blanks, isSpace c = true) :
    Md.matchLine .StepLine μ t (ws ++ [b] ++ blanks ++ k ++ rest) =
      some (some (setMatched μ t .StepLine (text := some (strip (dotStar rest))) (keyword := some k)
        (indent := some (ws.length + 1 + blanks.length)))) := by
  obtain ⟨_, hps, hne⟩ := markdownFacts_spec hf
  have hkm : k ∈ μ.dialect.stepKeywords := by simp [hsplit]
  exact md_matchLine_bullet μ t ws b blanks k rest pre post hsplit hpre hws hb hbl
    (noEmptyKeyword_spec hne hμ (mem_allKeywords_step hkm))
    fun k' hk' => noWsStart_of_plainStart (keywordsPlainStart_spec hps hμ (mem_allKeywords_step hk'))

end GV.Lemmas
