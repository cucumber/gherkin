/-
  Lemmas/Roundtrip3Builder.lean — round trip: the builder on a background; the background item of a
  feature or rule node.
-/
import GherkinVerif.Spec.Render3
import GherkinVerif.Lemmas.Roundtrip2Builder
namespace GV
namespace Lemmas
open Spec

def mkBg (m i : Nat) (kwd nm : Str) (L : List Step) : Background :=
  { id := i, loc := ⟨m, some 1⟩, keyword := kwd, name := nm, description := [], steps := L }

theorem transform_background (cm : List Comment) (m : Nat) (kwd nm : Str)
    (tk : Token) (hk : tk.keyword = some kwd) (ht : tk.text = some nm) (hloc : tk.loc = ⟨m, some 1⟩)
    (L : List Step) (i : Nat) :
    (transformNode cm ⟨.Background, (.tok .BackgroundLine, .tok tk) :: stepItems L⟩).run.run i =
      (.ok (Val.background (mkBg m i kwd nm L)), i + 1) := by
  rw [background_eq cm _ i tk kwd nm [] rfl (by simp [descOf, getItems_cons, stepItems, getItems_map]) hk ht,
    getSteps_items (.tok .BackgroundLine, .tok tk) (by simp) L]
  simp only [getLocation, hloc, mkBg]

theorem endRule_background (cm : List Comment) (μ : MState) (m : Nat) (kwd nm : Str) (L : List Step)
    (rt : RuleType) (items : List (Key × Val)) (rest : List Node) (i : Nat) :
    (⟨⟨.Background, (.tok .BackgroundLine, .tok (titleTok μ m .BackgroundLine kwd nm)) :: stepItems L⟩ ::
        ⟨rt, items⟩ :: rest, cm⟩ : BState).endRule i =
      (.ok (), ⟨⟨rt, items ++ [(.rule .Background, Val.background (mkBg m i kwd nm L))]⟩ :: rest, cm⟩, i + 1) := by
  have h := transform_background cm m kwd nm (titleTok μ m .BackgroundLine kwd nm) rfl rfl rfl L i
  simp only [BState.endRule, h]
  rfl

def bgItems (bg : Option Background) : List (Key × Val) :=
  match bg with
  | none => []
  | some b => [(.rule .Background, .background b)]

def bgChild (bg : Option Background) : List FeatureChild :=
  match bg with
  | some b => [FeatureChild.background b]
  | none => []

theorem getItems_bgItems (bg : Option Background) (k : Key) :
    getItems (bgItems bg) k = if Key.rule .Background = k then bg.toList.map Val.background else [] := by
  cases bg with
  | none => simp [bgItems, getItems]
  | some b => rw [bgItems, getItems_cons]; split <;> simp [getItems]

end Lemmas
end GV
