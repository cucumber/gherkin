/-
  Lemmas/LayoutDoc3IndentSim.lean — property C16, indentation: what the lock-step simulation of
  Lemmas/LayoutDoc7IndentSim.lean rests on apart from the builder.  The glue only ever appends to
  the ghost list `builds` (`GrowsB`, from `growsPrims` of Lemmas/GlueGrows.lean), so an escape read
  off that list survives any continuation (`GrowsB.esc_bind`); the relation between the unread
  lines (`LinesInd`); the table facts (`TableOkInd`, Boolean `indentFacts`).  `CtxW`, `CtxI` with
  the escape `BadI` are the contexts related through `BMap`: the case without doc strings.
-/
import GherkinVerif.Lemmas.LayoutDoc3Indent
import GherkinVerif.Spec.LayoutChecks
import GherkinVerif.Lemmas.PureInv
import GherkinVerif.Lemmas.GlueGrows
namespace GV
namespace Layout3
open Lemmas Spec

def GrowsB {α} (m : PM α) : Prop := ∀ c, ∃ suf, (run m c).2.builds = c.builds ++ suf

theorem GrowsB.pure {α} (a : α) : GrowsB (pure a : PM α) := fun c => ⟨[], by simp [prun_pure]⟩
theorem GrowsB.throw {α} (e : Abort) : GrowsB (throw e : PM α) := fun c => ⟨[], by simp [prun_throw]⟩
theorem GrowsB.get : GrowsB (get : PM Ctx) := fun c => ⟨[], by simp [run_get]⟩
theorem GrowsB.bind {α β} {m : PM α} {f : α → PM β} (h1 : GrowsB m) (h2 : ∀ a, GrowsB (f a)) : GrowsB (m >>= f) := by
  intro c
  rw [prun_bind]
  obtain ⟨s1, e1⟩ := h1 c
  rcases hr : run m c with ⟨r, c'⟩
  rw [hr] at e1
  cases r with
  | error e => exact ⟨s1, e1⟩
  | ok a =>
    obtain ⟨s2, e2⟩ := h2 a c'
    exact ⟨s1 ++ s2, by simp only [e2]; rw [e1, List.append_assoc]⟩

theorem GrowsB.of_inv {α} {m : PM α} (h : GrowsM m) : GrowsB m :=
  fun c => foot_of_inv Grows Grows.refl h c _ _ rfl

theorem growsB_runProd (cap : Nat) (stop : Bool) (t : Token) (p : Prod) : GrowsB (runProd cap stop t p) :=
  .of_inv (growsM_runProd cap stop t p)

theorem growsB_runProds (cap : Nat) (stop : Bool) (t : Token) (ps : List Prod) : GrowsB (runProds cap stop t ps) :=
  .of_inv fun c0 => Inv.runProds _ fun p _ => growsM_runProd cap stop t p c0

theorem growsB_parseLinesPure (D : List Dialect) (T : Table) (stop : Bool) (fuel state : Nat) :
    GrowsB (parseLinesPure D T stop fuel state) :=
  .of_inv fun c0 => (growsPrims D T stop c0).toPrimsP.parseLinesPure (fun _ h => h) (fun _ h => h) fuel state

theorem GrowsB.esc {Bad : List Token → Prop} (hB : ∀ a suf, Bad a → Bad (a ++ suf)) {α} {m : PM α}
    (h : GrowsB m) {c : Ctx} (hb : Bad c.builds) : Bad (run m c).2.builds := by
  obtain ⟨suf, e⟩ := h c
  rw [e]
  exact hB _ _ hb

theorem GrowsB.esc_bind {Bad : List Token → Prop} (hB : ∀ a suf, Bad a → Bad (a ++ suf)) {α β} {m : PM α}
    {f : α → PM β} (hg : ∀ a, GrowsB (f a)) {c : Ctx} (h : Bad (run m c).2.builds) :
    Bad (run (m >>= f) c).2.builds := by
  rw [prun_bind]
  generalize run m c = x at h ⊢
  obtain ⟨r, c'⟩ := x
  cases r with
  | error e => exact h
  | ok a => exact (hg a).esc hB h

/-- the original run has handed a moved line to the builder under a kind that is not indentable -/
def BadI (w : Nat → Nat) (c : Ctx) : Prop :=
  ∃ t ∈ c.builds, 0 < w (t.lineNo - 1) ∧ ∃ K, t.mtype = some K ∧ indentable K = false

theorem bad_append {P : Token → Prop} (a suf : List Token) (h : ∃ t ∈ a, P t) : ∃ t ∈ a ++ suf, P t := by
  obtain ⟨t, ht, h1⟩ := h
  exact ⟨t, List.mem_append_left _ ht, h1⟩

/-- what the two contexts have in common apart from the matcher state -/
structure CtxW (w : Nat → Nat) (c1 c2 : Ctx) : Prop where
  errors : c2.errors = c1.errors.map (mapErr (indentMap w))
  errs0 : ∀ e ∈ c1.errors, e.loc.col ≠ some 0
  β : BMap (indentMap w) c1.β c2.β
  ids : c2.ids = c1.ids
  unexpected : c2.unexpected = c1.unexpected

structure CtxI (w : Nat → Nat) (c1 c2 : Ctx) : Prop extends CtxW w c1 c2 where
  μ : c2.μ = c1.μ

/-- unread lines: line `n + i` (0-based) of the second text is that of the first with `w (n + i)`
    blanks in front -/
inductive LinesInd (w : Nat → Nat) : Nat → List Str → List Str → Prop
  | nil (n : Nat) : LinesInd w n [] []
  | cons {n : Nat} {l : Str} {ls1 ls2 : List Str} (ws : Str) (hws : AllSpace ws) (hlen : ws.length = w n)
      (t : LinesInd w (n + 1) ls1 ls2) : LinesInd w n (l :: ls1) ((ws ++ l) :: ls2)

def LinesRel (w : Nat → Nat) (c1 c2 : Ctx) : Prop := c2.lineNo = c1.lineNo ∧ LinesInd w c1.lineNo c1.lines c2.lines

theorem LinesInd.length_eq {w : Nat → Nat} {n : Nat} {ls1 ls2 : List Str} (h : LinesInd w n ls1 ls2) :
    ls1.length = ls2.length := by
  induction h with
  | nil => rfl
  | cons _ _ _ _ ih => simp [ih]

theorem LinesRel.frame {w : Nat → Nat} {c1 c2 c1' c2' : Ctx} (h : LinesRel w c1 c2) (f1 : Frame c1 c1') (f2 : Frame c2 c2') :
    LinesRel w c1' c2' := by
  unfold LinesRel
  rw [f1.1, f1.2, f2.1, f2.2]; exact h

theorem LinesInd.nil_left {w : Nat → Nat} {n : Nat} {ls2 : List Str} (h : LinesInd w n [] ls2) : ls2 = [] := by
  cases h; rfl

theorem LinesInd.cons_left {w : Nat → Nat} {n : Nat} {l : Str} {ls1 ls2 : List Str} (h : LinesInd w n (l :: ls1) ls2) :
    ∃ ws ls2', ls2 = (ws ++ l) :: ls2' ∧ AllSpace ws ∧ ws.length = w n ∧ LinesInd w (n + 1) ls1 ls2' := by
  cases h with
  | cons ws hws hlen t => exact ⟨ws, _, rfl, hws, hlen, t⟩

theorem linesInd_of_index {w : Nat → Nat} : ∀ (n : Nat) (ls1 ls2 : List Str), ls1.length = ls2.length →
    (∀ i l1 l2, ls1[i]? = some l1 → ls2[i]? = some l2 →
      ∃ ws, l2 = ws ++ l1 ∧ AllSpace ws ∧ ws.length = w (n + i)) → LinesInd w n ls1 ls2
  | n, [], [], _, _ => .nil n
  | _, [], _ :: _, h, _ => by simp at h
  | _, _ :: _, [], h, _ => by simp at h
  | n, l1 :: ls1, l2 :: ls2, hlen, h => by
    obtain ⟨ws, rfl, hws, hl⟩ := h 0 l1 l2 rfl rfl
    refine .cons ws hws hl (linesInd_of_index (n + 1) ls1 ls2 (by simpa using hlen) fun i a b ha hb => ?_)
    have := h (i + 1) a b (by simpa using ha) (by simpa using hb)
    have e : n + (i + 1) = n + 1 + i := by omega
    rw [e] at this
    exact this

theorem lines_of_shiftB {src src' : Str}
    (hz : ((splitLines src').zip (splitLines src)).all (fun p =>
      decide (p.2.length ≤ p.1.length) && p.1.drop (p.1.length - p.2.length) == p.2 &&
        (p.1.take (p.1.length - p.2.length)).all isSpace) = true)
    (i : Nat) (l l' : Str) (h1 : (splitLines src)[i]? = some l) (h2 : (splitLines src')[i]? = some l') :
    ∃ ws, l' = ws ++ l ∧ AllSpace ws ∧ ws.length = shiftB src' src i := by
  have h := zip_all_index hz i l' l h2 h1
  simp only [Bool.and_eq_true, decide_eq_true_eq, beq_iff_eq] at h
  obtain ⟨⟨g1, g2⟩, g3⟩ := h
  refine ⟨l'.take (l'.length - l.length), ?_, fun c hc => List.all_eq_true.1 g3 c hc, ?_⟩
  · conv => lhs; rw [← List.take_append_drop (l'.length - l.length) l']
    rw [g2]
  · unfold shiftB
    rw [h2, h1]
    simp only [List.length_take]
    omega

section simI
variable {w : Nat → Nat}

/-- outcome of two computations that touch neither scanner nor matcher -/
def PostW (w : Nat → Nat) {α} (R : α → α → Prop) (c1 c2 : Ctx) (x1 x2 : Except Abort α × Ctx) : Prop :=
  (∃ a1 a2 c1' c2', x1 = (.ok a1, c1') ∧ x2 = (.ok a2, c2') ∧ R a1 a2 ∧ CtxW w c1' c2' ∧
    Frame c1 c1' ∧ Frame c2 c2' ∧ c1'.μ = c1.μ ∧ c2'.μ = c2.μ) ∨
  (∃ e c1' c2', x1 = (.error e, c1') ∧ x2 = (.error (mapAbort (indentMap w) e), c2') ∧ CtxW w c1' c2')

def SimW (w : Nat → Nat) {α} (R : α → α → Prop) (m1 m2 : PM α) : Prop :=
  ∀ c1 c2, CtxW w c1 c2 → PostW w R c1 c2 (run m1 c1) (run m2 c2)

def SimWU (w : Nat → Nat) {α} (R : α → α → Prop) (m1 m2 : PM α) : Prop :=
  ∀ c1 c2, CtxW w c1 c2 → PostW w R c1 c2 (run m1 c1) (run m2 c2) ∨ BadI w (run m1 c1).2

theorem SimW.toU {α} {R : α → α → Prop} {m1 m2 : PM α} (h : SimW w R m1 m2) : SimWU w R m1 m2 :=
  fun c1 c2 hc => .inl (h c1 c2 hc)

theorem bindW_esc {Bad : List Token → Prop} (hB : ∀ a suf, Bad a → Bad (a ++ suf)) {α β} {R : α → α → Prop}
    {S : β → β → Prop} {m1 m2 : PM α} {f1 f2 : α → PM β}
    (h1 : ∀ c1 c2, CtxW w c1 c2 → PostW w R c1 c2 (run m1 c1) (run m2 c2) ∨ Bad (run m1 c1).2.builds)
    (hg : ∀ a, GrowsB (f1 a))
    (h2 : ∀ a1 a2, R a1 a2 → ∀ c1 c2, CtxW w c1 c2 →
      PostW w S c1 c2 (run (f1 a1) c1) (run (f2 a2) c2) ∨ Bad (run (f1 a1) c1).2.builds)
    (c1 c2 : Ctx) (hc : CtxW w c1 c2) :
    PostW w S c1 c2 (run (m1 >>= f1) c1) (run (m2 >>= f2) c2) ∨ Bad (run (m1 >>= f1) c1).2.builds := by
  rcases h1 c1 c2 hc with (⟨a1, a2, c1', c2', e1, e2, hr, hc', fr1, fr2, hm1, hm2⟩ | ⟨e, c1', c2', e1, e2, hc'⟩) | hbad
  · rw [prun_bind, prun_bind, e1, e2]
    rcases h2 a1 a2 hr c1' c2' hc' with (⟨b1, b2, c1'', c2'', e1', e2', hs, hc'', fr1', fr2', hm1', hm2'⟩ | h) | hbad
    · exact .inl (.inl ⟨b1, b2, c1'', c2'', e1', e2', hs, hc'', fr1.trans fr1', fr2.trans fr2',
        hm1'.trans hm1, hm2'.trans hm2⟩)
    · exact .inl (.inr h)
    · exact .inr hbad
  · rw [prun_bind, prun_bind, e1, e2]; exact .inl (.inr ⟨e, c1', c2', rfl, rfl, hc'⟩)
  · exact .inr (GrowsB.esc_bind hB hg hbad)

theorem SimWU.bind {α β} {R : α → α → Prop} {S : β → β → Prop} {m1 m2 : PM α} {f1 f2 : α → PM β}
    (h1 : SimWU w R m1 m2) (hg : ∀ a, GrowsB (f1 a)) (h2 : ∀ a1 a2, R a1 a2 → SimWU w S (f1 a1) (f2 a2)) :
    SimWU w S (m1 >>= f1) (m2 >>= f2) :=
  bindW_esc bad_append h1 hg h2

theorem any_msg_ind (w : Nat → Nat) (e : PErr) (he : e.loc.col ≠ some 0) :
    ∀ (es : List PErr), (∀ e' ∈ es, e'.loc.col ≠ some 0) →
      (es.map (mapErr (indentMap w))).any (fun e' => e'.message == (mapErr (indentMap w) e).message) =
      es.any (fun e' => e'.message == e.message)
  | [], _ => by rw [List.map_nil, List.any_nil, List.any_nil]
  | e' :: es, h => by
    rw [List.map_cons, List.any_cons, List.any_cons, indentMap_msg w e e' he (h e' List.mem_cons_self),
      any_msg_ind w e he es fun x hx => h x (List.mem_cons_of_mem _ hx)]

def ErrW (w : Nat → Nat) {α} (x1 x2 : Except Abort α × Ctx) : Prop :=
  ∃ e c1' c2', x1 = (.error e, c1') ∧ x2 = (.error (mapAbort (indentMap w) e), c2') ∧ CtxW w c1' c2'

def PostI (w : Nat → Nat) {α} (R : α → α → Prop) (c1 c2 : Ctx) (x1 x2 : Except Abort α × Ctx) : Prop :=
  (∃ a1 a2 c1' c2', x1 = (.ok a1, c1') ∧ x2 = (.ok a2, c2') ∧ R a1 a2 ∧ CtxI w c1' c2' ∧
    Frame c1 c1' ∧ Frame c2 c2') ∨
  ErrW w x1 x2

def SimU (w : Nat → Nat) {α} (R : α → α → Prop) (m1 m2 : PM α) : Prop :=
  ∀ c1 c2, CtxI w c1 c2 → LinesRel w c1 c2 → PostI w R c1 c2 (run m1 c1) (run m2 c2) ∨ BadI w (run m1 c1).2

theorem bindI_esc {Bad : List Token → Prop} (hB : ∀ a suf, Bad a → Bad (a ++ suf)) {α β} {R : α → α → Prop}
    {S : β → β → Prop} {m1 m2 : PM α} {f1 f2 : α → PM β}
    (h1 : ∀ c1 c2, CtxI w c1 c2 → LinesRel w c1 c2 →
      PostI w R c1 c2 (run m1 c1) (run m2 c2) ∨ Bad (run m1 c1).2.builds)
    (hg : ∀ a, GrowsB (f1 a))
    (h2 : ∀ a1 a2, R a1 a2 → ∀ c1 c2, CtxI w c1 c2 → LinesRel w c1 c2 →
      PostI w S c1 c2 (run (f1 a1) c1) (run (f2 a2) c2) ∨ Bad (run (f1 a1) c1).2.builds)
    (c1 c2 : Ctx) (hc : CtxI w c1 c2) (hl : LinesRel w c1 c2) :
    PostI w S c1 c2 (run (m1 >>= f1) c1) (run (m2 >>= f2) c2) ∨ Bad (run (m1 >>= f1) c1).2.builds := by
  rcases h1 c1 c2 hc hl with (⟨a1, a2, c1', c2', e1, e2, hr, hc', fr1, fr2⟩ | ⟨e, c1', c2', e1, e2, hc'⟩) | hbad
  · rw [prun_bind, prun_bind, e1, e2]
    rcases h2 a1 a2 hr c1' c2' hc' (hl.frame fr1 fr2) with (⟨b1, b2, c1'', c2'', e1', e2', hs, hc'', fr1', fr2'⟩ | h) | hb
    · exact .inl (.inl ⟨b1, b2, c1'', c2'', e1', e2', hs, hc'', fr1.trans fr1', fr2.trans fr2'⟩)
    · exact .inl (.inr h)
    · exact .inr hb
  · rw [prun_bind, prun_bind, e1, e2]; exact .inl (.inr ⟨e, c1', c2', rfl, rfl, hc'⟩)
  · exact .inr (GrowsB.esc_bind hB hg hbad)

theorem SimU.bindU {α β} {R : α → α → Prop} {S : β → β → Prop} {m1 m2 : PM α} {f1 f2 : α → PM β}
    (h1 : SimU w R m1 m2) (hg : ∀ a, GrowsB (f1 a)) (h2 : ∀ a1 a2, R a1 a2 → SimU w S (f1 a1) (f2 a2)) :
    SimU w S (m1 >>= f1) (m2 >>= f2) :=
  bindI_esc bad_append h1 hg h2

theorem tokInd_fresh {n : Nat} {l ws : Str} (hws : AllSpace ws) (hlen : ws.length = w n) :
    TokInd w { line := some l, lineNo := n + 1 } { line := some (ws ++ l), lineNo := n + 1 } := by
  cases ws with
  | nil =>
    refine .inl ⟨rfl, .inl ⟨?_, by simp⟩⟩
    show w (n + 1 - 1) = 0
    rw [Nat.add_sub_cancel, ← hlen]; rfl
  | cons c cs =>
    refine .inr ⟨l, c :: cs, rfl, rfl, hws, by simp, ?_, rfl, .inl ⟨⟨rfl, rfl, rfl, rfl, rfl, rfl, rfl, rfl, rfl⟩, rfl⟩⟩
    show (c :: cs).length = w (n + 1 - 1)
    rw [Nat.add_sub_cancel]; exact hlen

theorem tokInd_eof (n : Nat) : TokInd w { line := none, lineNo := n } { line := none, lineNo := n } :=
  .inl ⟨rfl, .inr ⟨rfl, rfl⟩⟩

theorem LinesInd.tok {n : Nat} {ls1 ls2 : List Str} (h : LinesInd w n ls1 ls2) :
    ∀ i, TokInd w { line := ls1[i]?, lineNo := n + 1 + i } { line := ls2[i]?, lineNo := n + 1 + i } := by
  induction h with
  | nil n => exact fun i => tokInd_eof _
  | cons ws hws hlen _ ih =>
    intro i
    cases i with
    | zero => exact tokInd_fresh hws hlen
    | succ i =>
      have := ih i
      rwa [Nat.add_right_comm _ 1 i, Nat.add_assoc _ i 1] at this

theorem LinesInd.tail {n : Nat} {ls1 ls2 : List Str} (h : LinesInd w n ls1 ls2) :
    LinesInd w (n + 1) ls1.tail ls2.tail := by
  cases h with
  | nil => exact .nil _
  | cons _ _ _ t => exact t

def LaOkI (la : LookAhead) : Prop :=
  (∀ K ∈ la.expected, K ≠ .DocStringSeparator ∧ K ≠ .Language) ∧ (∀ K ∈ la.skip, K ≠ .DocStringSeparator ∧ K ≠ .Language)

def BranchesOk (bs : List Branch) : Prop :=
  ∀ b ∈ bs, (b.guard ≠ none → b.kind ∈ Spec.structural ∧ indentable b.kind = true) ∧ .build ∈ b.prods

structure TableOkInd (T : Table) : Prop where
  la : ∀ (i : Nat) (la : LookAhead), T.lookaheads[i]? = some la → LaOkI la
  rows : ∀ row ∈ T.rows, BranchesOk row.branches

end simI

/-- the Boolean table facts of the indentation theorem: no look-ahead tests `DocStringSeparator` or
    `Language`; guards stand on indentable structural kinds only; every branch builds its token -/
def indentFacts (T : Table) : Bool :=
  (T.lookaheads.all fun la => (la.expected ++ la.skip).all fun K => K != .DocStringSeparator && K != .Language) &&
  T.rows.all fun r => r.branches.all fun b =>
    (b.guard.isNone || (Spec.structural.contains b.kind && indentable b.kind)) && b.prods.contains .build

theorem tableOkInd_of_facts {T : Table} (h : indentFacts T = true) : TableOkInd T := by
  unfold indentFacts at h
  simp only [Bool.and_eq_true, List.all_eq_true] at h
  obtain ⟨h1, h2⟩ := h
  constructor
  · intro i la hla
    have hmem : la ∈ T.lookaheads := List.mem_of_getElem? hla
    have := h1 la hmem
    constructor
    · intro K hK
      have := this K (List.mem_append_left _ hK)
      simp only [bne_iff_ne, ne_eq] at this
      exact this
    · intro K hK
      have := this K (List.mem_append_right _ hK)
      simp only [bne_iff_ne, ne_eq] at this
      exact this
  · intro row hrow b hb
    have := h2 row hrow b hb
    simp only [Bool.and_eq_true, Bool.or_eq_true, Option.isNone_iff_eq_none, List.contains_eq_mem,
      decide_eq_true_eq] at this
    obtain ⟨hg, hbuild⟩ := this
    refine ⟨fun hne => ?_, hbuild⟩
    rcases hg with hg | hg
    · exact absurd hg hne
    · exact hg

end Layout3
end GV
