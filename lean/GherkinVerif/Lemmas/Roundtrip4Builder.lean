/-
  Lemmas/Roundtrip4Builder.lean — round trip: the builder on examples blocks and on a scenario with
  examples.
-/
import GherkinVerif.Spec.Render4
import GherkinVerif.Lemmas.Roundtrip3Builder
namespace GV
namespace Lemmas
open Spec

theorem endRule_extable (t0 : Token) (ts : List Token) (hrect : ∀ t ∈ ts, t.items.length = t0.items.length)
    (rt : RuleType) (items : List (Key × Val)) (rest : List Node) (cm : List Comment) (i : Nat) :
    (⟨⟨.ExamplesTable, rowItems (t0 :: ts)⟩ :: ⟨rt, items⟩ :: rest, cm⟩ : BState).endRule i =
      (.ok (), ⟨⟨rt, items ++ [(.rule .ExamplesTable, .rows (numberRows (t0 :: ts) i))]⟩ :: rest, cm⟩,
        i + (t0 :: ts).length) := by
  have h : (transformNode cm ⟨.ExamplesTable, rowItems (t0 :: ts)⟩).run.run i =
      (.ok (.rows (numberRows (t0 :: ts) i)), i + (t0 :: ts).length) := by
    simp only [transformNode, run_bind, run_getTableRows, getTokens_rowItems,
      raggedRow_numberRows_none t0 ts i hrect]
    rfl
  simp only [BState.endRule, h]
  rfl

theorem endRule_extable_rows (μ : MState) (n : Nat) (r : List Str) (rs : List (List Str))
    (h : ∀ r' ∈ rs, r'.length = r.length) (rt : RuleType) (items : List (Key × Val)) (rest : List Node)
    (cm : List Comment) (i : Nat) :
    (⟨⟨.ExamplesTable, rowItems (rowToks μ n (r :: rs))⟩ :: ⟨rt, items⟩ :: rest, cm⟩ : BState).endRule i =
      (.ok (), ⟨⟨rt, items ++ [(.rule .ExamplesTable, .rows (expRows n i (r :: rs)))]⟩ :: rest, cm⟩,
        i + (r :: rs).length) := by
  rw [rowToks, endRule_extable _ _ (rowToks_rect μ n h), ← rowToks, numberRows_rowToks, ← rowToks_length μ (r :: rs) n]

theorem endRule_raw_examples (its : List (Key × Val)) (rt : RuleType) (items : List (Key × Val))
    (rest : List Node) (cm : List Comment) (i : Nat) :
    (⟨⟨.Examples, its⟩ :: ⟨rt, items⟩ :: rest, cm⟩ : BState).endRule i =
      (.ok (), ⟨⟨rt, items ++ [(.rule .Examples, .raw .Examples its)]⟩ :: rest, cm⟩, i) := rfl

def tbItem (R : List Row) : List (Key × Val) := if R.isEmpty then [] else [(.rule .ExamplesTable, .rows R)]

def mkEx (n m i : Nat) (tags : List Str) (kwd nm : Str) (R : List Row) : Examples :=
  { id := i + tags.length, tags := expTags n i tags, loc := ⟨m, some 1⟩, keyword := kwd, name := nm, description := [], header := R.head?, body := R.drop 1 }

theorem transform_exdef (cm : List Comment) (μ : MState) (n m : Nat) (tags : List Str) (kwd nm : Str)
    (tk : Token) (hk : tk.keyword = some kwd) (ht : tk.text = some nm) (hloc : tk.loc = ⟨m, some 1⟩)
    (R : List Row) (i : Nat) :
    (transformNode cm ⟨.ExamplesDefinition, tagsItem μ n tags ++ [(.rule .Examples, .raw .Examples
        ((.tok .ExamplesLine, .tok tk) :: tbItem R))]⟩).run.run i =
      (.ok (Val.examples (mkEx n m i tags kwd nm R)), i + tags.length + 1) := by
  have htab : tableOf ((Key.tok .ExamplesLine, Val.tok tk) :: tbItem R) = R := by
    cases R <;> simp [tableOf, tbItem, getSingle, getItems]
  rw [examples_eq cm _ _ i _ .Examples tk kwd nm [] (tagTokens_tagsItem μ n tags _ rfl)
    (getSingle_tagsItem μ n tags _ _ (by decide)) rfl (by cases R <;> simp [descOf, tbItem, getItems]) hk ht,
    (numberTags_tagToks μ n i tags).1, (numberTags_tagToks μ n i tags).2, htab]
  simp only [getLocation, hloc, mkEx]

theorem endRule_exdef (cm : List Comment) (μ : MState) (n m : Nat) (tags : List Str) (kwd nm : Str)
    (R : List Row) (rt : RuleType) (items : List (Key × Val)) (rest : List Node) (i : Nat) :
    (⟨⟨.ExamplesDefinition, tagsItem μ n tags ++ [(.rule .Examples, .raw .Examples
        ((.tok .ExamplesLine, .tok (titleTok μ m .ExamplesLine kwd nm)) :: tbItem R))]⟩ ::
          ⟨rt, items⟩ :: rest, cm⟩ : BState).endRule i =
      (.ok (), ⟨⟨rt, items ++ [(.rule .ExamplesDefinition, Val.examples (mkEx n m i tags kwd nm R))]⟩ :: rest, cm⟩,
        i + tags.length + 1) := by
  have h := transform_exdef cm μ n m tags kwd nm (titleTok μ m .ExamplesLine kwd nm) rfl rfl rfl R i
  simp only [BState.endRule, h]
  rfl

def exItems (E : List Examples) : List (Key × Val) := E.map fun e => (Key.rule .ExamplesDefinition, Val.examples e)

theorem exItems_snoc (E : List Examples) (e : Examples) :
    exItems E ++ [(Key.rule .ExamplesDefinition, Val.examples e)] = exItems (E ++ [e]) := by simp [exItems]

def mkSc4 (n m i : Nat) (tags : List Str) (kwd nm : Str) (L : List Step) (E : List Examples) : Scenario :=
  { id := i + tags.length, tags := expTags n i tags, loc := ⟨m, some 1⟩, keyword := kwd, name := nm, description := [], steps := L, examples := E }

theorem transform_scdef4 (cm : List Comment) (μ : MState) (n m : Nat) (tags : List Str) (kwd nm : Str)
    (tk : Token) (hk : tk.keyword = some kwd) (ht : tk.text = some nm) (hloc : tk.loc = ⟨m, some 1⟩)
    (L : List Step) (E : List Examples) (i : Nat) :
    (transformNode cm ⟨.ScenarioDefinition, tagsItem μ n tags ++ [(.rule .Scenario, .raw .Scenario
        ((.tok .ScenarioLine, .tok tk) :: (stepItems L ++ exItems E)))]⟩).run.run i =
      (.ok (Val.scenario (mkSc4 n m i tags kwd nm L E)), i + tags.length + 1) := by
  have hget : ∀ k, getItems ((Key.tok .ScenarioLine, Val.tok tk) :: (stepItems L ++ exItems E)) k =
      (if Key.tok .ScenarioLine = k then [Val.tok tk] else []) ++ (if Key.rule .Step = k then L.map Val.step else []) ++
        if Key.rule .ExamplesDefinition = k then E.map Val.examples else [] := fun k => by
    rw [getItems_cons, getItems_append, stepItems, exItems, getItems_map, getItems_map]; split <;> simp
  have hs : getSteps ((Key.tok .ScenarioLine, Val.tok tk) :: (stepItems L ++ exItems E)) = L := by
    unfold getSteps; rw [hget]; simpa using filterMap_map_some Val.step _ (fun _ => rfl) L
  have he : getExamples ((Key.tok .ScenarioLine, Val.tok tk) :: (stepItems L ++ exItems E)) = E := by
    unfold getExamples; rw [hget]; simpa using filterMap_map_some Val.examples _ (fun _ => rfl) E
  rw [scenario_eq cm _ _ i _ .Scenario tk kwd nm [] (tagTokens_tagsItem μ n tags _ rfl)
    (getSingle_tagsItem μ n tags _ _ (by decide)) rfl (by simp [descOf, hget]) hk ht,
    (numberTags_tagToks μ n i tags).1, (numberTags_tagToks μ n i tags).2, hs, he]
  simp only [getLocation, hloc, mkSc4]

theorem endRule_scdef4 (cm : List Comment) (μ : MState) (n m : Nat) (tags : List Str) (kwd nm : Str)
    (L : List Step) (E : List Examples) (rt : RuleType) (items : List (Key × Val)) (rest : List Node) (i : Nat) :
    (⟨⟨.ScenarioDefinition, tagsItem μ n tags ++ [(.rule .Scenario, .raw .Scenario
        ((.tok .ScenarioLine, .tok (titleTok μ m .ScenarioLine kwd nm)) :: (stepItems L ++ exItems E)))]⟩ ::
          ⟨rt, items⟩ :: rest, cm⟩ : BState).endRule i =
      (.ok (), ⟨⟨rt, items ++ [(.rule .ScenarioDefinition, Val.scenario (mkSc4 n m i tags kwd nm L E))]⟩ :: rest, cm⟩,
        i + tags.length + 1) := by
  have h := transform_scdef4 cm μ n m tags kwd nm (titleTok μ m .ScenarioLine kwd nm) rfl rfl rfl L E i
  simp only [BState.endRule, h]
  rfl

end Lemmas
end GV
