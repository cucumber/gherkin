/-
  The queue-free parse (Spec/PureParse.lean, Spec/PrefixRun.lean) below the token queue.  One step of
  its main loop and of a prefix of it as run equations (`pure_step`; `prefix_step`, which names the
  token the scanner makes of the next line `nextTok c` and the context once it is taken `taken c`),
  `parseWithPure` as `toOutcome` of the run of its body (`parseWithPure_body`) and of the main loop
  followed by `bodyTail` (`parseWithPure_lines`).  The main loop as a Hoare rule (the rules for its
  parts: Lemmas/GlueBase.lean), one invariant all the way through it (`PrimsP`), what a triple for the
  body says of the outcome of the queue-free parse, and the observations of a parse field by field.
-/
import GherkinVerif.Lemmas.GlueBase
import GherkinVerif.Spec.PrefixRun
namespace GV
namespace Lemmas
open Spec

section
variable {D : List Dialect} {T : Table} {cap : Nat} {stop : Bool}

theorem pure_step (fuel s : Nat) (p : Ctx) :
    run (parseLinesPure D T stop (fuel + 1) s) p =
      run (matchTokenPure D T stop s { line := p.lines.head?, lineNo := p.lineNo + 1 } >>= fun s' =>
          if ({ line := p.lines.head?, lineNo := p.lineNo + 1 } : Token).eof then Pure.pure s'
          else parseLinesPure D T stop fuel s')
        { p with lines := p.lines.tail, lineNo := p.lineNo + 1, reads := p.reads ++ [p.lineNo + 1] } := by
  rw [parseLinesPure, prun_bind, run_get]
  dsimp only
  cases p.lines with
  | nil => simp only [prun_bind, run_set, prun_pure, run_modify]; rfl
  | cons l ls => simp only [prun_bind, run_set, prun_pure, run_modify]; rfl

/-- `I n`: `n` lines of `L` have been taken and dealt with; `I' (n + 1)`: line `n + 1` (or the end
    of file) has been taken and is in hand. -/
theorem parseLinesPure_rule {I I' : Nat → Ctx → Prop} {E} (L : List Str)
    (hpos : ∀ n c, I n c → c.lineNo = n ∧ c.lines = L.drop n)
    (hread : ∀ n c, n ≤ L.length → I n c →
      I' (n + 1) { c with lines := c.lines.tail, lineNo := n + 1, reads := c.reads ++ [n + 1] })
    (hstep : ∀ n s, n ≤ L.length →
      Triple (I' (n + 1)) (matchTokenPure D T stop s { line := L[n]?, lineNo := n + 1 }) (fun _ => I (n + 1)) E)
    (hfuel : ∀ n c, I n c → E .fuel c) :
    ∀ fuel s n, n ≤ L.length → Triple (I n) (parseLinesPure D T stop fuel s) (fun _ => I (L.length + 1)) E := by
  intro fuel
  induction fuel with
  | zero => intro s n _; exact Triple.throw _ (hfuel n)
  | succ fuel ih =>
    intro s n hn c hc
    obtain ⟨hln, hls⟩ := hpos n c hc
    have htok : ({ line := c.lines.head?, lineNo := c.lineNo + 1 } : Token) = { line := L[n]?, lineNo := n + 1 } := by
      rw [hls, hln, List.head?_drop]
    rw [pure_step, htok, hln]
    refine Triple.bind (hstep n s hn) (fun s' => ?_) _ (hread n c hn hc)
    show Triple _ (if (L[n]?).isNone = true then _ else _) _ _
    rcases Nat.lt_or_ge n L.length with h | h
    · rw [List.getElem?_eq_getElem h]
      simp only [Option.isNone_some, Bool.false_eq_true, if_false]
      exact ih s' (n + 1) h
    · rw [List.getElem?_eq_none h, Nat.le_antisymm hn h]
      simp only [Option.isNone_none, if_true]
      exact Triple.pure _ fun _ h => h

/-- what the primitive operations must satisfy for `P`/`E` to go through a `match_token` of the
    queue-free parse: those of `Prims` that do not touch the scanner (the peek only tests) -/
structure PrimsP (D : List Dialect) (T : Table) (stop : Bool) (P : Ctx → Prop) (E : Abort → Ctx → Prop) : Prop where
  matchP : ∀ k t, Inv P E (GV.matchP D T.errorCap stop k t)
  runProd : ∀ t p, Inv P E (GV.runProd T.errorCap stop t p)
  crash : ∀ w c, P c → E (.crash w) c
  tail : ∀ row t, Inv P E (GV.tryBranches D T stop row [] t)

variable {P : Ctx → Prop} {E : Abort → Ctx → Prop}

theorem Prims.toPrimsP (h : Prims D T stop P E) : PrimsP D T stop P E := ⟨h.matchP, h.runProd, h.crash, h.tail⟩

theorem PrimsP.lookaheadPure (h : PrimsP D T stop P E) (la : LookAhead) : Inv P E (lookaheadPure D T.errorCap stop la) :=
  lookaheadPure_rule (Tk := fun _ => True) (fun _ _ _ _ _ => trivial) (fun k t _ => h.matchP k t) la fun _ _ _ _ => trivial

theorem PrimsP.tryBranchesPure (h : PrimsP D T stop P E) (row : StateRow) (bs : List Branch) (t : Token) :
    Inv P E (tryBranchesPure D T stop row bs t) := by
  rw [tryBranchesPure_eq_X]
  exact Triple.tryBranches (I := fun _ => P) h.matchP (fun _ la _ _ => h.lookaheadPure la) (fun w _ => h.crash w) row
    (h.tail row) bs (fun _ _ t => Inv.runProds _ fun p _ => h.runProd t p) t

theorem PrimsP.matchTokenPure (h : PrimsP D T stop P E) (s : Nat) (t : Token) : Inv P E (matchTokenPure D T stop s t) :=
  matchTokenPure_rule s t (fun row _ => h.tryBranchesPure row _ t) fun w c _ => h.crash w c

theorem PrimsP.parseLinesPure (h : PrimsP D T stop P E)
    (htake : ∀ c, P c → P { c with lines := c.lines.tail, lineNo := c.lineNo + 1, reads := c.reads ++ [c.lineNo + 1] })
    (hfuel : ∀ c, P c → E .fuel c) : ∀ fuel s, Inv P E (parseLinesPure D T stop fuel s)
  | 0, _ => Triple.throw _ hfuel
  | fuel + 1, s => fun c hc => by
    rw [pure_step]
    refine Triple.bind (h.matchTokenPure s _) (fun s' => ?_) _ (htake c hc)
    split
    · exact Inv.pure _
    · exact h.parseLinesPure htake hfuel fuel s'

theorem scanPrims (D : List Dialect) (T : Table) (stop : Bool) (c0 : Ctx) :
    PrimsP D T stop (ScanEq c0) (fun _ => ScanEq c0) :=
  have hfoot : ∀ {α} {m : PM α}, (∀ c r c', run m c = (r, c') → ScanEq c c') →
      Inv (ScanEq c0) (fun _ => ScanEq c0) m := fun h => Inv.of_foot ScanEq @ScanEq.trans h c0
  have R : Report T.errorCap stop (fun _ => ScanEq c0) (ScanEq c0) (fun _ => ScanEq c0) :=
    ⟨fun _ _ _ h => h, fun _ e => addError_rule e (fun _ h _ => h) (fun _ h => h) fun _ h _ => h⟩
  ⟨fun k t => hfoot fun c r c' h => (matchP_foot D _ stop k t c r c' h).scan,
    fun t p => hfoot fun c r c' h => (runProd_foot' _ stop t p c r c' h).scan,
    fun _ _ h => h, fun _ t => tail_rule R t fun _ h => h⟩

/-- what a triple for the body of `parse` says of the outcome of a parse and its final context -/
def OutcomeOf (Q : Doc → Ctx → Prop) (E : Abort → Ctx → Prop) (r : Outcome × Ctx) : Prop :=
  (∃ d, r.1 = .ok d ∧ Q d r.2) ∨ (∃ a, r.1 = (toOutcome (.error a, r.2)).1 ∧ E a r.2)

theorem OutcomeOf.of_triple {P : Ctx → Prop} {m : PM Doc} {Q E} (h : Triple P m Q E) {c0 : Ctx} (h0 : P c0) :
    OutcomeOf Q E (toOutcome (run m c0)) := by
  rcases hr : run m c0 with ⟨r, c⟩
  cases r with
  | ok d => exact .inl ⟨d, rfl, (h c0 h0).1 _ _ hr⟩
  | error a => cases a <;> exact .inr ⟨_, rfl, (h c0 h0).2 _ _ hr⟩

theorem parseWithPure_body (D : List Dialect) (T : Table) (stop : Bool) (μ : MState) (ids : Nat) (src : Str) :
    parseWithPure D T stop μ ids src =
      toOutcome (run (parseBodyPure D T stop (splitLines src).length) (ctx0 D μ ids src)) := rfl

theorem parseWithPure_spec {P : Ctx → Prop} {Q E} {μ : MState} {ids : Nat} {src : Str}
    (h : Triple P (parseBodyPure D T stop (splitLines src).length) Q E) (h0 : P (ctx0 D μ ids src)) :
    OutcomeOf Q E (parseWithPure D T stop μ ids src) := by
  rw [parseWithPure_body]
  exact OutcomeOf.of_triple h h0

theorem parseWithPure_ok {μ : MState} {ids : Nat} {src : Str} {d : Doc}
    (h : (parseWithPure D T stop μ ids src).1 = .ok d) :
    run (parseBodyPure D T stop (splitLines src).length) (ctx0 D μ ids src) =
      (.ok d, (parseWithPure D T stop μ ids src).2) := by
  rw [parseWithPure_body] at h ⊢
  generalize run (parseBodyPure D T stop (splitLines src).length) (ctx0 D μ ids src) = x at h ⊢
  obtain ⟨r, c⟩ := x
  cases r with
  | ok d' => cases h; rfl
  | error a => cases a <;> cases h

theorem observe_fields {r p : Outcome × Ctx} (h : observe r = observe p) :
    r.1 = p.1 ∧ r.2.builds = p.2.builds ∧ r.2.unexpected = p.2.unexpected ∧ r.2.reads = p.2.reads ∧
    r.2.errors = p.2.errors ∧ r.2.μ = p.2.μ ∧ r.2.ids = p.2.ids ∧ r.2.calls = p.2.calls :=
  Observed.mk.inj h

end

/-- the context once the scanner has taken the next line (or the end of the text) -/
abbrev taken (c : Ctx) : Ctx :=
  { c with lines := c.lines.tail, lineNo := c.lineNo + 1, reads := c.reads ++ [c.lineNo + 1] }

/-- the token the scanner makes of it -/
abbrev nextTok (c : Ctx) : Token := { line := c.lines.head?, lineNo := c.lineNo + 1 }

theorem prefix_step {D : List Dialect} (T : Table) (stop : Bool) (j s : Nat) (c : Ctx) :
    run (parsePrefixPure D T stop (j + 1) s) c =
      run (matchTokenPure D T stop s (nextTok c) >>= fun s' =>
          if c.lines.head?.isNone then Pure.pure (s', true) else parsePrefixPure D T stop j s') (taken c) := by
  rw [parsePrefixPure, prun_bind, run_get]
  dsimp only [nextTok, taken]
  cases c.lines with
  | nil => simp only [prun_bind, run_set, prun_pure, run_modify]; rfl
  | cons l ls => simp only [prun_bind, run_set, prun_pure, run_modify]; rfl

/-- `parse` after the main loop: the final `end_rule`, the error check, `get_result` -/
def bodyTail (T : Table) (stop : Bool) : PM Doc := do
  runProd T.errorCap stop default (.end_ T.startRule)
  finishX astResult

theorem parseWithPure_lines (D : List Dialect) (T : Table) (stop : Bool) (μ : MState) (ids : Nat) (src : Str) :
    parseWithPure D T stop μ ids src =
      toOutcome (run (parseLinesPure D T stop ((splitLines src).length + 2) 0 >>= fun _ => bodyTail T stop)
        (startCtx D T μ ids src)) := rfl

end Lemmas
end GV
