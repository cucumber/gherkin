/-
  Lemmas/RelPeek.lean — the peek of two runs side by side (`PostR`, Lemmas/Rel.lean): the tests
  of a list of kinds (`matchAny_tests`), one round of a look-ahead with what follows abstract
  (`laRound_rel`), the peek over two lists of lines related line by line (`peekLoop_rel`), and
  `lookaheadPure` from the peeks (`lookaheadPure_rel`).  `TokR` relates the tokens in hand, `TokM`
  those a test has matched (a peek never looks at them), `J` the contexts; both runs give the same
  verdicts.  The two sides may differ in dialects, cap and error mode.  (The simulations of an
  inserted line have a peek of their own, `simX_peek_*` of Lemmas/LayoutDoc3.lean: its continuation
  is told which lines the peek skipped.)
-/
import GherkinVerif.Lemmas.Rel
import GherkinVerif.Spec.PureParse
namespace GV
namespace Lemmas
open Spec

section peek
variable {D1 D2 : List Dialect} {cap1 cap2 : Nat} {s1 s2 : Bool} {TokR TokM : Token → Token → Prop} {J : Ctx → Ctx → Prop}
  {E : Abort → Abort → Ctx → Ctx → Prop} {X : Option Abort × Ctx → Option Abort × Ctx → Prop}

def AnyTests (D1 D2 : List Dialect) (cap1 cap2 : Nat) (s1 s2 : Bool) (TokR TokM : Token → Token → Prop)
    (J : Ctx → Ctx → Prop) (E : Abort → Abort → Ctx → Ctx → Prop) (X : Option Abort × Ctx → Option Abort × Ctx → Prop)
    (ks : List Kind) : Prop :=
  ∀ t1 t2 c1 c2, TokR t1 t2 → J c1 c2 →
    PostR (fun r1 r2 d1 d2 => r2.1 = r1.1 ∧ (bif r1.1 then TokM r1.2 r2.2 else TokR r1.2 r2.2) ∧ J d1 d2) E X
      (run (matchAny D1 cap1 s1 ks t1) c1) (run (matchAny D2 cap2 s2 ks t2) c2)

theorem matchAny_tests (ks : List Kind)
    (h : ∀ k ∈ ks, ∀ t1 t2 c1 c2, TokR t1 t2 → J c1 c2 →
      PostR (fun r1 r2 d1 d2 => r2.1 = r1.1 ∧ (bif r1.1 then TokM r1.2 r2.2 else TokR r1.2 r2.2) ∧ J d1 d2) E X
        (run (matchP D1 cap1 s1 k t1) c1) (run (matchP D2 cap2 s2 k t2) c2))
    (hX : ∀ {α β γ δ : Type} (k1 : α → PM γ) (k2 : β → PM δ), Sticky X k1 k2) :
    AnyTests D1 D2 cap1 cap2 s1 s2 TokR TokM J E X ks := by
  induction ks with
  | nil => exact fun t1 t2 c1 c2 ht hc => .ok ⟨rfl, ht, hc⟩
  | cons k ks ih =>
    intro t1 t2 c1 c2 ht hc
    unfold matchAny
    refine (h k List.mem_cons_self t1 t2 c1 c2 ht hc).bind (fun r1 r2 d1 d2 _ _ hr => ?_) (hX _ _)
    obtain ⟨m1, u1⟩ := r1
    obtain ⟨m2, u2⟩ := r2
    obtain ⟨hm, hu, hd⟩ := hr
    dsimp only at hm hu ⊢
    subst hm
    cases m2
    · exact ih (fun k hk => h k (List.mem_cons_of_mem _ hk)) u1 u2 d1 d2 hu hd
    · exact .ok ⟨rfl, hu, hd⟩

theorem laRound_rel {α β} {la : LookAhead} (he : AnyTests D1 D2 cap1 cap2 s1 s2 TokR TokM J E X la.expected)
    (hs : AnyTests D1 D2 cap1 cap2 s1 s2 TokR TokM J E X la.skip) {Q : α → β → Ctx → Ctx → Prop}
    {yes1 no1 rest1 : Token → PM α} {yes2 no2 rest2 : Token → PM β}
    (hyes : ∀ u1 u2 d1 d2, TokM u1 u2 → J d1 d2 → PostR Q E X (run (yes1 u1) d1) (run (yes2 u2) d2))
    (hno : ∀ u1 u2 d1 d2, TokR u1 u2 → J d1 d2 → PostR Q E X (run (no1 u1) d1) (run (no2 u2) d2))
    (hrest : ∀ u1 u2 d1 d2, TokM u1 u2 → J d1 d2 → PostR Q E X (run (rest1 u1) d1) (run (rest2 u2) d2))
    (hX : ∀ {α β γ δ : Type} (k1 : α → PM γ) (k2 : β → PM δ), Sticky X k1 k2)
    {t1 t2 : Token} {c1 c2 : Ctx} (ht : TokR t1 t2) (hc : J c1 c2) :
    PostR Q E X
      (run (do let (m, u) ← matchAny D1 cap1 s1 la.expected t1
               if m then yes1 u
               else
                 let (s, v) ← matchAny D1 cap1 s1 la.skip u
                 if s then rest1 v else no1 v) c1)
      (run (do let (m, u) ← matchAny D2 cap2 s2 la.expected t2
               if m then yes2 u
               else
                 let (s, v) ← matchAny D2 cap2 s2 la.skip u
                 if s then rest2 v else no2 v) c2) := by
  refine (he t1 t2 c1 c2 ht hc).bind (fun r1 r2 d1 d2 _ _ hr => ?_) (hX _ _)
  obtain ⟨m1, u1⟩ := r1
  obtain ⟨m2, u2⟩ := r2
  obtain ⟨hm, hu, hd⟩ := hr
  dsimp only at hm hu ⊢
  subst hm
  cases m2
  · simp only [Bool.false_eq_true, if_false]
    refine (hs u1 u2 d1 d2 hu hd).bind (fun r1 r2 e1 e2 _ _ hr => ?_) (hX _ _)
    obtain ⟨k1, v1⟩ := r1
    obtain ⟨k2, v2⟩ := r2
    obtain ⟨hk, hv, he'⟩ := hr
    dsimp only at hk hv ⊢
    subst hk
    cases k2
    · exact hno v1 v2 e1 e2 hv he'
    · exact hrest v1 v2 e1 e2 hv he'
  · exact hyes u1 u2 d1 d2 hu hd

variable {la : LookAhead} {Q : Bool → Bool → Ctx → Ctx → Prop}

theorem peekLoop_rel (he : AnyTests D1 D2 cap1 cap2 s1 s2 TokR TokM J E X la.expected)
    (hs : AnyTests D1 D2 cap1 cap2 s1 s2 TokR TokM J E X la.skip) (hQ : ∀ o d1 d2, J d1 d2 → Q o o d1 d2)
    (hX : ∀ {α β γ δ : Type} (k1 : α → PM γ) (k2 : β → PM δ), Sticky X k1 k2) :
    ∀ (ls1 ls2 : List Str) (n1 n2 : Nat), ls1.length = ls2.length →
      (∀ i, i ≤ ls1.length → TokR { line := ls1[i]?, lineNo := n1 + i } { line := ls2[i]?, lineNo := n2 + i }) →
      ∀ c1 c2, J c1 c2 → PostR Q E X (run (peekLoop D1 cap1 s1 la ls1 n1) c1) (run (peekLoop D2 cap2 s2 la ls2 n2) c2)
  | [], [], n1, n2, _, hfresh, c1, c2, hc => by
    rw [peekLoop, peekLoop]
    refine (he _ _ c1 c2 (hfresh 0 (Nat.le_refl _)) hc).bind (fun r1 r2 d1 d2 _ _ hr => ?_) (hX _ _)
    obtain ⟨m1, u1⟩ := r1
    obtain ⟨m2, u2⟩ := r2
    obtain ⟨hm, hu, hd⟩ := hr
    dsimp only at hm hu ⊢
    subst hm
    cases m2
    · simp only [Bool.false_eq_true, if_false]
      refine (hs u1 u2 d1 d2 hu hd).bind (fun r1 r2 e1 e2 _ _ hr => ?_) (hX _ _)
      exact .ok (hQ _ _ _ hr.2.2)
    · exact .ok (hQ _ _ _ hd)
  | [], _ :: _, _, _, hlen, _, _, _, _ => by cases hlen
  | _ :: _, [], _, _, hlen, _, _, _, _ => by cases hlen
  | l1 :: ls1, l2 :: ls2, n1, n2, hlen, hfresh, c1, c2, hc => by
    rw [peekLoop, peekLoop]
    refine laRound_rel he hs (rest1 := fun _ => peekLoop D1 cap1 s1 la ls1 (n1 + 1))
      (rest2 := fun _ => peekLoop D2 cap2 s2 la ls2 (n2 + 1))
      (fun _ _ _ _ _ hd => .ok (hQ _ _ _ hd))
      (fun _ _ _ _ _ hd => .ok (hQ _ _ _ hd))
      (fun _ _ d1 d2 _ hd => ?_) hX (hfresh 0 (Nat.zero_le _)) hc
    refine peekLoop_rel he hs hQ hX ls1 ls2 (n1 + 1) (n2 + 1) (Nat.succ.inj hlen) (fun i hi => ?_) d1 d2 hd
    have := hfresh (i + 1) (Nat.succ_le_succ hi)
    rwa [List.getElem?_cons_succ, List.getElem?_cons_succ, Nat.add_comm i 1, ← Nat.add_assoc, ← Nat.add_assoc] at this

theorem lookaheadPure_rel {c1 c2 : Ctx}
    (h : PostR Q E X (run (peekLoop D1 cap1 s1 la c1.lines (c1.lineNo + 1)) c1)
      (run (peekLoop D2 cap2 s2 la c2.lines (c2.lineNo + 1)) c2)) :
    PostR Q E X (run (lookaheadPure D1 cap1 s1 la) c1) (run (lookaheadPure D2 cap2 s2 la) c2) := by
  unfold lookaheadPure
  rw [prun_bind, prun_bind, run_get, run_get]
  exact h

end peek

end Lemmas
end GV
