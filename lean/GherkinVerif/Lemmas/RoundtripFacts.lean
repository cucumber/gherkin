/-
  Lemmas/RoundtripFacts.lean — property C03, round trip: the facts about the parser table that the
  simulation of the parse of a rendered document uses, as Boolean checks over a table (evaluated by the
  kernel on the regenerated table): which branch a state takes on a line of a given kind, with which
  productions and which target.
-/
import GherkinVerif.Model.Parser
namespace GV
namespace Lemmas

/-- the first branch testing `K`, provided no `Other` test comes before it -/
def firstOf (K : Kind) : List Branch → Option Branch
  | [] => none
  | b :: bs => if b.kind == K then some b else if b.kind == .Other then none else firstOf K bs

def la0 : LookAhead := ⟨[.ScenarioLine], [.Empty, .Comment, .TagLine]⟩

def la1 : LookAhead := ⟨[.ExamplesLine], [.Empty, .Comment, .TagLine]⟩

/-- the `TagLine` branch guarded by look-ahead 0, provided only specific non-tag tests and `TagLine`
    tests guarded by look-ahead 1 come before it -/
def firstTag0 : List Branch → Option Branch
  | [] => none
  | b :: bs =>
    if b.kind == .TagLine then
      (if b.guard == some 0 then some b else if b.guard == some 1 then firstTag0 bs else none)
    else if b.kind == .Other then none else firstTag0 bs

/-- the `end_rule` calls that close what is open in the three states a scenario can follow -/
def closeOf : Nat → List Prod
  | 3 => [.end_ .FeatureHeader]
  | 10 => [.end_ .Scenario, .end_ .ScenarioDefinition]
  | 12 => [.end_ .Step, .end_ .Scenario, .end_ .ScenarioDefinition]
  | _ => []

def rowHas (T : Table) (s : Nat) (p : StateRow → Bool) : Bool :=
  match T.row? s with
  | some row => p row
  | none => false

/-- a state a scenario (or the end of file) can follow: the `ScenarioLine`, look-ahead-0 `TagLine` and
    `EOF` branches close what is open (`closeOf`) and then open the scenario / finish the feature -/
def midOK (T : Table) (s : Nat) : Bool :=
  rowHas T s fun row =>
    firstOf .ScenarioLine row.branches ==
      some ⟨.ScenarioLine, none, closeOf s ++ [.start .ScenarioDefinition, .start .Scenario, .build], 10⟩ &&
    firstTag0 row.branches ==
      some ⟨.TagLine, some 0, closeOf s ++ [.start .ScenarioDefinition, .start .Tags, .build], 9⟩ &&
    row.branches.head? == some ⟨.EOF, none, closeOf s ++ [.end_ .Feature, .build], 34⟩

def rtFacts (T : Table) : Bool :=
  T.lookaheads == [la0, la1] && T.startRule == .GherkinDocument && midOK T 3 && midOK T 10 && midOK T 12 &&
  rowHas T 9 (fun row => firstOf .ScenarioLine row.branches ==
    some ⟨.ScenarioLine, none, [.end_ .Tags, .start .Scenario, .build], 10⟩) &&
  rowHas T 10 (fun row => firstOf .StepLine row.branches == some ⟨.StepLine, none, [.start .Step, .build], 12⟩) &&
  rowHas T 12 (fun row => firstOf .StepLine row.branches ==
    some ⟨.StepLine, none, [.end_ .Step, .start .Step, .build], 12⟩) &&
  rowHas T 0 (fun row =>
    firstOf .FeatureLine row.branches ==
      some ⟨.FeatureLine, none, [.start .Feature, .start .FeatureHeader, .build], 3⟩ &&
    firstOf .TagLine row.branches ==
      some ⟨.TagLine, none, [.start .Feature, .start .FeatureHeader, .start .Tags, .build], 2⟩) &&
  rowHas T 2 (fun row => firstOf .FeatureLine row.branches == some ⟨.FeatureLine, none, [.end_ .Tags, .build], 3⟩)

/-- the `end_rule` calls that close the open step (and its table) in states 10 / 12 / 13 -/
def pendOf : Nat → List Prod
  | 12 => [.end_ .Step]
  | 13 => [.end_ .DataTable, .end_ .Step]
  | _ => []

def closeOf2 : Nat → List Prod
  | 3 => [.end_ .FeatureHeader]
  | s => pendOf s ++ [.end_ .Scenario, .end_ .ScenarioDefinition]

def midOK2 (T : Table) (s : Nat) : Bool :=
  rowHas T s fun row =>
    firstOf .ScenarioLine row.branches ==
      some ⟨.ScenarioLine, none, closeOf2 s ++ [.start .ScenarioDefinition, .start .Scenario, .build], 10⟩ &&
    firstTag0 row.branches ==
      some ⟨.TagLine, some 0, closeOf2 s ++ [.start .ScenarioDefinition, .start .Tags, .build], 9⟩ &&
    row.branches.head? == some ⟨.EOF, none, closeOf2 s ++ [.end_ .Feature, .build], 34⟩

def stepRowOK (T : Table) (s : Nat) : Bool :=
  rowHas T s fun row =>
    firstOf .StepLine row.branches == some ⟨.StepLine, none, pendOf s ++ [.start .Step, .build], 12⟩

/-- for the model with data tables -/
def rt2Facts (T : Table) : Bool :=
  rtFacts T && midOK2 T 3 && midOK2 T 10 && midOK2 T 12 && midOK2 T 13 &&
  stepRowOK T 10 && stepRowOK T 12 && stepRowOK T 13 &&
  rowHas T 12 (fun row => firstOf .TableRow row.branches == some ⟨.TableRow, none, [.start .DataTable, .build], 13⟩) &&
  rowHas T 13 (fun row => firstOf .TableRow row.branches == some ⟨.TableRow, none, [.build], 13⟩)

def pendB : Nat → List Prod
  | 7 => [.end_ .Step]
  | 8 => [.end_ .DataTable, .end_ .Step]
  | _ => []

def stepRowOKB (T : Table) (s : Nat) : Bool :=
  rowHas T s fun row =>
    firstOf .StepLine row.branches == some ⟨.StepLine, none, pendB s ++ [.start .Step, .build], 7⟩

/-- the three branches by which a scenario or the end of file follows state `s`, closing with `cl` -/
def midG (T : Table) (s : Nat) (cl : List Prod) : Bool :=
  rowHas T s fun row =>
    firstOf .ScenarioLine row.branches ==
      some ⟨.ScenarioLine, none, cl ++ [.start .ScenarioDefinition, .start .Scenario, .build], 10⟩ &&
    firstTag0 row.branches ==
      some ⟨.TagLine, some 0, cl ++ [.start .ScenarioDefinition, .start .Tags, .build], 9⟩ &&
    row.branches.head? == some ⟨.EOF, none, cl ++ [.end_ .Feature, .build], 34⟩

def closeB (s : Nat) : List Prod := pendB s ++ [.end_ .Background]

/-- for the model with a background (states 5 / 7 / 8: after its keyword line, after a step line, in a step's table) -/
def rt3Facts (T : Table) : Bool :=
  rt2Facts T &&
  rowHas T 3 (fun row => firstOf .BackgroundLine row.branches ==
    some ⟨.BackgroundLine, none, [.end_ .FeatureHeader, .start .Background, .build], 5⟩) &&
  stepRowOKB T 5 && stepRowOKB T 7 && stepRowOKB T 8 &&
  rowHas T 7 (fun row => firstOf .TableRow row.branches == some ⟨.TableRow, none, [.start .DataTable, .build], 8⟩) &&
  rowHas T 8 (fun row => firstOf .TableRow row.branches == some ⟨.TableRow, none, [.build], 8⟩) &&
  midG T 5 (closeB 5) && midG T 7 (closeB 7) && midG T 8 (closeB 8)

def pendE : Nat → List Prod
  | 15 => [.end_ .Examples, .end_ .ExamplesDefinition]
  | 17 => [.end_ .ExamplesTable, .end_ .Examples, .end_ .ExamplesDefinition]
  | s => pendOf s

def exRowOK (T : Table) (s : Nat) : Bool :=
  rowHas T s fun row =>
    firstOf .ExamplesLine row.branches ==
      some ⟨.ExamplesLine, none, pendE s ++ [.start .ExamplesDefinition, .start .Examples, .build], 15⟩ &&
    firstOf .TagLine row.branches ==
      some ⟨.TagLine, some 1, pendE s ++ [.start .ExamplesDefinition, .start .Tags, .build], 14⟩ &&
    midG T s (pendE s ++ [.end_ .Scenario, .end_ .ScenarioDefinition])

/-- for the model with examples blocks (states 14: after the block's tag line, 15: after its keyword line, 17: in its table) -/
def rt4Facts (T : Table) : Bool :=
  rt3Facts T && exRowOK T 10 && exRowOK T 12 && exRowOK T 13 && exRowOK T 15 && exRowOK T 17 &&
  rowHas T 14 (fun row => firstOf .ExamplesLine row.branches ==
    some ⟨.ExamplesLine, none, [.end_ .Tags, .start .Examples, .build], 15⟩) &&
  rowHas T 15 (fun row => firstOf .TableRow row.branches == some ⟨.TableRow, none, [.start .ExamplesTable, .build], 17⟩) &&
  rowHas T 17 (fun row => firstOf .TableRow row.branches == some ⟨.TableRow, none, [.build], 17⟩)

/-- the unguarded `TagLine` branch, provided only specific non-tag tests and GUARDED `TagLine` tests
    (look-ahead 0 or 1) come before it -/
def firstTagU : List Branch → Option Branch
  | [] => none
  | b :: bs =>
    if b.kind == .TagLine then
      (if b.guard == none then some b
       else if b.guard == some 0 || b.guard == some 1 then firstTagU bs else none)
    else if b.kind == .Other then none else firstTagU bs

/-- entering a rule from state `s` whose open nodes are closed by `cl`: the rule-line branch and the
    unguarded tag-line branch -/
def ruleEntryOK (T : Table) (s : Nat) (cl : List Prod) : Bool :=
  rowHas T s fun row =>
    firstOf .RuleLine row.branches ==
      some ⟨.RuleLine, none, cl ++ [.start .Rule, .start .RuleHeader, .build], 19⟩ &&
    firstTagU row.branches ==
      some ⟨.TagLine, none, cl ++ [.start .Rule, .start .RuleHeader, .start .Tags, .build], 18⟩

/-- the table facts for ENTERING a rule: from every feature-level state a scenario can follow (3;
    background 5 / 7 / 8; scenario 10 / 12 / 13; examples 15 / 17), from the rule header itself (19:
    a rule without children), and the rule line after the rule's tag line (18) -/
def rt5EntryFacts (T : Table) : Bool :=
  rt4Facts T &&
  ruleEntryOK T 3 [.end_ .FeatureHeader] &&
  ruleEntryOK T 5 (closeB 5) && ruleEntryOK T 7 (closeB 7) && ruleEntryOK T 8 (closeB 8) &&
  ruleEntryOK T 10 (pendE 10 ++ [.end_ .Scenario, .end_ .ScenarioDefinition]) &&
  ruleEntryOK T 12 (pendE 12 ++ [.end_ .Scenario, .end_ .ScenarioDefinition]) &&
  ruleEntryOK T 13 (pendE 13 ++ [.end_ .Scenario, .end_ .ScenarioDefinition]) &&
  ruleEntryOK T 15 (pendE 15 ++ [.end_ .Scenario, .end_ .ScenarioDefinition]) &&
  ruleEntryOK T 17 (pendE 17 ++ [.end_ .Scenario, .end_ .ScenarioDefinition]) &&
  ruleEntryOK T 19 [.end_ .RuleHeader, .end_ .Rule] &&
  rowHas T 18 (fun row => firstOf .RuleLine row.branches == some ⟨.RuleLine, none, [.end_ .Tags, .build], 19⟩)

def picks (T : Table) (s : Nat) (sel : List Branch → Option Branch) (b : Branch) : Bool :=
  rowHas T s fun row => sel row.branches == some b

/-- the states of the children of a feature or of a rule: the header `hdr` (a node of kind `hdrRule`), a
    background `b₀ b₁ b₂`, the tag line of a scenario `tg`, a scenario `sc₀ sc₁ sc₂`, the tag line of an
    examples block `e₀`, an examples block `e₁ e₂`; `up` closes the container once its children are closed
    (nothing for the feature, the rule for a rule) -/
structure Level where
  hdr : Nat
  hdrRule : RuleType
  b₀ : Nat
  b₁ : Nat
  b₂ : Nat
  tg : Nat
  sc₀ : Nat
  sc₁ : Nat
  sc₂ : Nat
  e₀ : Nat
  e₁ : Nat
  e₂ : Nat
  up : List Prod

/-- the state numbers are those of `Gen.parserTable`, regenerated from parser.py; nothing but the kernel-evaluated
    facts `levelB Gen.parserTable … = true` depends on them: if the generator numbers the states otherwise, those
    facts fail and the two lines below are to be read off the new table -/
def featureLevel : Level := ⟨3, .FeatureHeader, 5, 7, 8, 9, 10, 12, 13, 14, 15, 17, []⟩
def ruleLevel : Level := ⟨19, .RuleHeader, 21, 23, 24, 25, 26, 28, 29, 30, 31, 33, [.end_ .Rule]⟩

/-- `(state, what closes the open step there)` after the keyword line of a scenario or background
    (`s₀`), after a step line (`s₁`), inside a step's table (`s₂`) -/
def pend3 (s₀ s₁ s₂ : Nat) : List (Nat × List Prod) :=
  [(s₀, []), (s₁, [.end_ .Step]), (s₂, [.end_ .DataTable, .end_ .Step])]

/-- `(state, what closes the open step or examples block there)` inside a scenario -/
def pend5 (ℓ : Level) : List (Nat × List Prod) :=
  pend3 ℓ.sc₀ ℓ.sc₁ ℓ.sc₂ ++ [(ℓ.e₁, [.end_ .Examples, .end_ .ExamplesDefinition]),
    (ℓ.e₂, [.end_ .ExamplesTable, .end_ .Examples, .end_ .ExamplesDefinition])]

/-- what may follow state `s` once `cl` has closed what is open down to the container node: a scenario of
    the same container, a rule, the end of file.  19 is the state after a rule line, 18 the state after a rule's
    tag line, 34 the end state: the same for both levels -/
def nextB (T : Table) (ℓ : Level) (s : Nat) (cl : List Prod) : Bool :=
  picks T s (firstOf .ScenarioLine)
    ⟨.ScenarioLine, none, cl ++ [.start .ScenarioDefinition, .start .Scenario, .build], ℓ.sc₀⟩ &&
  picks T s firstTag0 ⟨.TagLine, some 0, cl ++ [.start .ScenarioDefinition, .start .Tags, .build], ℓ.tg⟩ &&
  picks T s (firstOf .RuleLine) ⟨.RuleLine, none, cl ++ ℓ.up ++ [.start .Rule, .start .RuleHeader, .build], 19⟩ &&
  picks T s firstTagU ⟨.TagLine, none, cl ++ ℓ.up ++ [.start .Rule, .start .RuleHeader, .start .Tags, .build], 18⟩ &&
  picks T s List.head? ⟨.EOF, none, cl ++ ℓ.up ++ [.end_ .Feature, .build], 34⟩

def stepB (T : Table) (s₀ s₁ s₂ : Nat) : Bool :=
  ((pend3 s₀ s₁ s₂).all fun p =>
    picks T p.1 (firstOf .StepLine) ⟨.StepLine, none, p.2 ++ [.start .Step, .build], s₁⟩) &&
  picks T s₁ (firstOf .TableRow) ⟨.TableRow, none, [.start .DataTable, .build], s₂⟩ &&
  picks T s₂ (firstOf .TableRow) ⟨.TableRow, none, [.build], s₂⟩

def levelB (T : Table) (ℓ : Level) : Bool :=
  T.lookaheads == [la0, la1] && nextB T ℓ ℓ.hdr [.end_ ℓ.hdrRule] &&
  picks T ℓ.hdr (firstOf .BackgroundLine)
    ⟨.BackgroundLine, none, [.end_ ℓ.hdrRule, .start .Background, .build], ℓ.b₀⟩ &&
  stepB T ℓ.b₀ ℓ.b₁ ℓ.b₂ &&
  ((pend3 ℓ.b₀ ℓ.b₁ ℓ.b₂).all fun p => nextB T ℓ p.1 (p.2 ++ [.end_ .Background])) &&
  picks T ℓ.tg (firstOf .ScenarioLine) ⟨.ScenarioLine, none, [.end_ .Tags, .start .Scenario, .build], ℓ.sc₀⟩ &&
  stepB T ℓ.sc₀ ℓ.sc₁ ℓ.sc₂ &&
  ((pend5 ℓ).all fun p => picks T p.1 (firstOf .ExamplesLine)
    ⟨.ExamplesLine, none, p.2 ++ [.start .ExamplesDefinition, .start .Examples, .build], ℓ.e₁⟩) &&
  ((pend5 ℓ).all fun p => picks T p.1 (firstOf .TagLine)
    ⟨.TagLine, some 1, p.2 ++ [.start .ExamplesDefinition, .start .Tags, .build], ℓ.e₀⟩) &&
  ((pend5 ℓ).all fun p => nextB T ℓ p.1 (p.2 ++ [.end_ .Scenario, .end_ .ScenarioDefinition])) &&
  picks T ℓ.e₀ (firstOf .ExamplesLine) ⟨.ExamplesLine, none, [.end_ .Tags, .start .Examples, .build], ℓ.e₁⟩ &&
  picks T ℓ.e₁ (firstOf .TableRow) ⟨.TableRow, none, [.start .ExamplesTable, .build], ℓ.e₂⟩ &&
  picks T ℓ.e₂ (firstOf .TableRow) ⟨.TableRow, none, [.build], ℓ.e₂⟩ &&
  picks T 18 (firstOf .RuleLine) ⟨.RuleLine, none, [.end_ .Tags, .build], 19⟩

def rt5RuleFacts (T : Table) : Bool := levelB T ruleLevel

/-- a row whose `ScenarioLine` branch is `cl ++ [start ScenarioDefinition, start Scenario, build] → 10`
    (a feature-level state a scenario can follow) enters a rule with the same `cl` -/
def entryRowOK (row : StateRow) : Bool :=
  match firstOf .ScenarioLine row.branches with
  | some b =>
    if b.target == 10 && b.prods.drop (b.prods.length - 3) == [.start .ScenarioDefinition, .start .Scenario, .build] then
      firstOf .RuleLine row.branches ==
        some ⟨.RuleLine, none, b.prods.take (b.prods.length - 3) ++ [.start .Rule, .start .RuleHeader, .build], 19⟩ &&
      firstTagU row.branches ==
        some ⟨.TagLine, none, b.prods.take (b.prods.length - 3) ++ [.start .Rule, .start .RuleHeader, .start .Tags, .build], 18⟩
    else true
  | none => true

def rt5EntryAll (T : Table) : Bool :=
  T.rows.all entryRowOK && picks T 18 (firstOf .RuleLine) ⟨.RuleLine, none, [.end_ .Tags, .build], 19⟩

end Lemmas
end GV
