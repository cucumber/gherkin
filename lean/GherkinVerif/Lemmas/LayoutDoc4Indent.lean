/-
  Lemmas/LayoutDoc4Indent.lean — property C16: the closing delimiter of a doc string may be
  indented alone.  A closing delimiter does not look at the recorded indentation
  (`docsep_close_indent_free`) and resets the matcher state; an opening one records its own.  In
  the ghost list `builds` the two are told apart by the token text: an opening delimiter carries
  the media type (possibly empty), a closing one no text (`docsep_text`).  `indentOkTok` is the
  condition on a built token of a moved line, `BadJ` the escape that goes with it.
-/
import GherkinVerif.Lemmas.LayoutDoc3IndentSim
namespace GV
namespace Layout4
open Lemmas Spec Layout3

/-- a token the original run has built may have been on a moved line: built as an indentable kind,
    or as a closing doc-string delimiter -/
def indentOkTok (t : Token) : Bool :=
  match t.mtype with
  | some K => indentable K || (K == .DocStringSeparator && t.text.isNone)
  | none => false

theorem docsep_text (D : List Dialect) (μ : MState) (t : Token) (l : Str)
    (h : (matchLine D .DocStringSeparator μ t l).res = .matched) :
    (matchLine D .DocStringSeparator μ t l).tok.text.isSome =
      (matchLine D .DocStringSeparator μ t l).μ.activeSep.isSome := by
  obtain ⟨_, _, _, _, _, _, _, hd, e⟩ := matched_hit h
  rw [e]
  cases hd with
  | title hk => cases hk
  | sepOpen => rfl
  | sepClose => rfl

theorem matchTok_matched_mtype (D : List Dialect) (K : Kind) (μ : MState) (t : Token)
    (h : (matchTok D K μ t).1.res = .matched) : (matchTok D K μ t).1.tok.mtype = some K := by
  cases hl : t.line with
  | none =>
    rw [matchTok_of_eof hl] at h ⊢
    by_cases hE : K = .EOF
    · subst hE; rfl
    · rw [if_neg (by simpa using hE)] at h; cases h
  | some l =>
    rw [matchTok_line hl] at h ⊢
    exact (matchLine_fresh D K μ t l h).1

/-- the original run has handed a moved line to the builder neither under an indentable kind nor
    as a closing doc-string delimiter -/
def BadJ (w : Nat → Nat) (c : Ctx) : Prop :=
  ∃ t ∈ c.builds, 0 < w (t.lineNo - 1) ∧ indentOkTok t = false

section simJ
variable {w : Nat → Nat}

def SimWV (w : Nat → Nat) {α} (R : α → α → Prop) (m1 m2 : PM α) : Prop :=
  ∀ c1 c2, CtxW w c1 c2 → PostW w R c1 c2 (run m1 c1) (run m2 c2) ∨ BadJ w (run m1 c1).2

theorem simW_toV {α} {R : α → α → Prop} {m1 m2 : PM α} (h : SimW w R m1 m2) : SimWV w R m1 m2 :=
  fun c1 c2 hc => .inl (h c1 c2 hc)

theorem SimWV.bind {α β} {R : α → α → Prop} {S : β → β → Prop} {m1 m2 : PM α} {f1 f2 : α → PM β}
    (h1 : SimWV w R m1 m2) (hg : ∀ a, GrowsB (f1 a)) (h2 : ∀ a1 a2, R a1 a2 → SimWV w S (f1 a1) (f2 a2)) :
    SimWV w S (m1 >>= f1) (m2 >>= f2) :=
  bindW_esc bad_append h1 hg h2

def SimV (w : Nat → Nat) {α} (R : α → α → Prop) (m1 m2 : PM α) : Prop :=
  ∀ c1 c2, CtxI w c1 c2 → LinesRel w c1 c2 → PostI w R c1 c2 (run m1 c1) (run m2 c2) ∨ BadJ w (run m1 c1).2

theorem SimV.bindU {α β} {R : α → α → Prop} {S : β → β → Prop} {m1 m2 : PM α} {f1 f2 : α → PM β}
    (h1 : SimV w R m1 m2) (hg : ∀ a, GrowsB (f1 a)) (h2 : ∀ a1 a2, R a1 a2 → SimV w S (f1 a1) (f2 a2)) :
    SimV w S (m1 >>= f1) (m2 >>= f2) :=
  bindI_esc bad_append h1 hg h2

end simJ

end Layout4
end GV
