/-
  Lemmas/AstElems.lean — the elements of the AST WITH their fields (keyword, name, step text,
  keyword type, tag names, cells, doc-string delimiter and media type), read off in source order,
  are the elements carried by the lines of a grammar-shaped tree in line order (property C03,
  `elems_once_in_order`); likewise its free text (`texts_once_in_order`).

  Method: `valElems` extends `Spec.srcElems` to all intermediate values of the builder (a token:
  `Spec.leafElems`; a raw node: the elements of its items in order).  For every rule type, if the
  items of a node have the shape `Spec.nodeShape` prescribes, `transformNode`'s result `v`
  satisfies `valElems v = elements of the items in order` (`NodeElems`; for a doc string: the first
  of them): the elements of the items split key by key (`itemsElems_view`, by Lemmas/AstView.lean);
  the rest is the induction of Lemmas/AstItems.lean.
-/
import GherkinVerif.Lemmas.AstView
import GherkinVerif.Spec.AstElems
namespace GV
namespace Lemmas
open Spec

mutual
def valElems : Val → List Elem
  | .tok t => leafElems t
  | .step s => stepElems s
  | .docString d => [docStringElem d]
  | .dataTable d => rowElems d.rows
  | .background b => backgroundElems b
  | .scenario s => scenarioElems s
  | .examples e => examplesElems e
  | .rows rs => rowElems rs
  | .rule r => ruleElems r
  | .feature f => featureElems f
  | .doc d => srcElems d
  | .raw _ items => itemsElems items
  | .none => []
  | .descr _ => []
def itemsElems : List (Key × Val) → List Elem
  | [] => []
  | (_, v) :: rest => valElems v ++ itemsElems rest
end

theorem itemsElems_eq (is : List (Key × Val)) : itemsElems is = itemsMap valElems is := by
  induction is with
  | nil => rw [itemsElems]; rfl
  | cons kv l ih => obtain ⟨k, v⟩ := kv; rw [itemsElems, ih, itemsMap_cons]
theorem itemsElems_nil : itemsElems [] = [] := by rw [itemsElems]
theorem itemsElems_append (a b : List (Key × Val)) : itemsElems (a ++ b) = itemsElems a ++ itemsElems b := by
  simp only [itemsElems_eq, itemsMap_append]
theorem itemsElems_singleton (k : Key) (v : Val) : itemsElems [(k, v)] = valElems v := by
  rw [itemsElems_eq, itemsMap_singleton]
theorem valElems_raw (rt : RuleType) (is : List (Key × Val)) : valElems (.raw rt is) = itemsElems is := by
  rw [valElems]

def tagLineElems (toks : List Token) : List Elem :=
  toks.flatMap fun t => t.items.map fun it => Elem.tag (getLocation t (some it.1)) it.2

def rowLineElems (toks : List Token) : List Elem := toks.map fun t => Elem.row t.loc (itemPairs t)

theorem leafElems_tagLine (t : Token) (h : t.mtype = some .TagLine) :
    leafElems t = t.items.map fun it => Elem.tag (getLocation t (some it.1)) it.2 := by
  simp only [leafElems, h]

theorem leafElems_nonElem (t : Token) (k : Kind) (h : t.mtype = some k) (hk : k ∉ elemKinds) :
    leafElems t = [] := by
  unfold leafElems
  rw [h]
  cases k <;> first | exact absurd (by decide) hk | rfl

theorem leafElems_none (t : Token) (h : t.mtype = none) : leafElems t = [] := by
  unfold leafElems; rw [h]

theorem leafElems_title (t : Token) (k : Kind) (kw nm : Str)
    (hk : k ∈ [Kind.FeatureLine, .RuleLine, .BackgroundLine, .ScenarioLine, .ExamplesLine])
    (h : t.mtype = some k) (hkw : t.keyword = some kw) (hnm : t.text = some nm) :
    leafElems t = [.keywordLine k t.loc kw nm] := by
  unfold leafElems
  rw [h, hkw, hnm]
  cases k <;> first | exact absurd hk (by decide) | rfl

theorem leafElems_step (t : Token) (kw tx : Str) (kt : KType) (h : t.mtype = some .StepLine)
    (hkw : t.keyword = some kw) (hkt : t.ktype = some kt) (htx : t.text = some tx) :
    leafElems t = [.step t.loc kw kt tx] := by
  unfold leafElems
  rw [h, hkw, hkt, htx]
  rfl

theorem leafElems_row (t : Token) (h : t.mtype = some .TableRow) : leafElems t = [.row t.loc (itemPairs t)] := by
  unfold leafElems; rw [h]

theorem leafElems_docSep (t : Token) (dl st : Str) (h : t.mtype = some .DocStringSeparator)
    (hkw : t.keyword = some dl) (hst : t.text = some st) :
    leafElems t = [.docString t.loc dl (mediaOf st)] := by
  unfold leafElems; rw [h, hkw, hst]; rfl

theorem leafElems_comment (t : Token) (h : keyOf (.leaf t) = none) : leafElems t = [] := by
  simp only [keyOf] at h
  cases hm : t.mtype with
  | none => exact leafElems_none t hm
  | some k =>
    rw [hm] at h
    cases k <;> first | (simp at h; done) | exact leafElems_nonElem t _ hm (by decide)

theorem tagElems_numberTags (toks : List Token) (n : Nat) : tagElems (numberTags toks n) = tagLineElems toks := by
  have := congrArg (List.map fun (p : Loc × Str) => Elem.tag p.1 p.2) (numberTags_content toks n)
  simp only [List.map_map] at this
  rw [tagElems, tagLineElems]
  refine Eq.trans ?_ (this.trans ?_)
  · rfl
  · simp [List.map_flatMap, Function.comp_def]

theorem cellPairs_getCells (t : Token) : cellPairs (getCells t) = itemPairs t := by
  simp [cellPairs, getCells, itemPairs, List.map_map, Function.comp_def]

theorem rowElems_numberRows (toks : List Token) (n : Nat) : rowElems (numberRows toks n) = rowLineElems toks := by
  have := congrArg (List.map fun (p : Loc × List Cell) => Elem.row p.1 (cellPairs p.2)) (numberRows_content toks n)
  simp only [List.map_map] at this
  rw [rowElems, rowLineElems]
  refine Eq.trans ?_ (this.trans ?_)
  · rfl
  · apply List.map_congr_left
    intro t _
    simp only [Function.comp_def, cellPairs_getCells]
    rfl

def tagElemsOf (is : List (Key × Val)) : List Elem :=
  match tagTokens is with
  | some toks => tagLineElems toks
  | none => []

/-- what the parent's transformation needs to know about the elements in a raw node (the typing
    itself is `WFVal`) -/
def ETyped : RuleType → Val → Prop
  | .Tags, v => ∀ rt is, v = .raw rt is → itemsElems is = tagLineElems (getTokens is .TagLine)
  | .Scenario, v => ∀ rt sc, v = .raw rt sc →
      itemsElems sc = (getTokens sc .ScenarioLine).flatMap leafElems ++
        ((getSteps sc).flatMap stepElems ++ (getExamples sc).flatMap examplesElems)
  | .Examples, v => ∀ rt ex, v = .raw rt ex →
      itemsElems ex = (getTokens ex .ExamplesLine).flatMap leafElems ++ rowElems (tableOf ex)
  | .RuleHeader, v => ∀ rt hd, v = .raw rt hd →
      itemsElems hd = tagElemsOf hd ++ (getTokens hd .RuleLine).flatMap leafElems
  | .FeatureHeader, v => ∀ rt hd, v = .raw rt hd →
      itemsElems hd = tagElemsOf hd ++ (getTokens hd .FeatureLine).flatMap leafElems
  | _, _ => True

def TypedItemE (kv : Key × Val) : Prop :=
  match kv.1 with
  | .tok _ => True
  | .rule r => ETyped r kv.2

theorem valElems_reading : Reading valElems :=
  ⟨fun t k hm hk => by rw [valElems]; exact leafElems_nonElem t k hm hk, fun _ => by rw [valElems], by rw [valElems]⟩

theorem itemsElems_view {R : RuleType} {is : List (Key × Val)} (hok : ItemsOK R is)
    (hwf : ∀ kv ∈ is, WFItem kv) (hR : R ∉ inlinedRules := by decide) :
    itemsElems is = (viewKeys R).flatMap (readKey valElems is) := by
  rw [itemsElems_eq, read_view valElems valElems_reading hok hwf hR]

theorem flatMap_leafElems_tagLine (toks : List Token) (h : ∀ t ∈ toks, t.mtype = some .TagLine) :
    toks.flatMap leafElems = tagLineElems toks := by
  rw [tagLineElems]
  exact flatMap_congr_mem _ _ _ fun t ht => leafElems_tagLine t (h t ht)

theorem flatMap_leafElems_row (toks : List Token) (h : ∀ t ∈ toks, t.mtype = some .TableRow) :
    toks.flatMap leafElems = rowLineElems toks := by
  rw [rowLineElems, List.map_eq_flatMap]
  exact flatMap_congr_mem _ _ _ fun t ht => leafElems_row t (h t ht)

theorem elems_tags (is : List (Key × Val)) (hwf : ∀ kv ∈ is, WFItem kv) (hte : ∀ kv ∈ is, TypedItemE kv) :
    valElems (getSingle is (.rule .Tags)) = tagElemsOf is := by
  rw [tagElemsOf, tagTokens]
  rcases getSingle_none_or_mem is (.rule .Tags) with h0 | hm
  · rw [h0, valElems]; rfl
  · obtain ⟨tis, e⟩ : WFVal .Tags (getSingle is (.rule .Tags)) := hwf _ hm
    have he : ETyped .Tags (getSingle is (.rule .Tags)) := hte _ hm
    rw [e] at he ⊢
    rw [valElems_raw, he _ _ rfl]

theorem tagElemsOf_some {is : List (Key × Val)} {toks : List Token} (h : tagTokens is = some toks) :
    tagElemsOf is = tagLineElems toks := by
  rw [tagElemsOf, h]

theorem rowElems_head_drop (rs : List Row) : rowElems rs.head?.toList ++ rowElems (rs.drop 1) = rowElems rs := by
  cases rs <;> simp [rowElems]

/-- for a doc string the first of the items' elements: the closing separator is an item too
    (cf. `Spec.elemsOfTree`); a raw node keeps what its parent needs (`ETyped`) -/
def NodeElems (R : RuleType) : Prop :=
  ∀ (cs : List Comment) (is : List (Key × Val)) (n m : Nat) (v : Val),
    ItemsOK R is → (∀ kv ∈ is, WFItem kv) → (∀ kv ∈ is, TypedItemE kv) →
    (transformNode cs ⟨R, is⟩).run.run n = (.ok v, m) →
    ETyped R v ∧ valElems v = if R = .DocString then (itemsElems is).head?.toList else itemsElems is

theorem nodeElems_raw (R : RuleType) (hR : ∀ cs is, transformNode cs ⟨R, is⟩ = pure (.raw R is))
    (hD : R ≠ .DocString)
    (hT : ∀ is, ItemsOK R is → (∀ kv ∈ is, WFItem kv) → (∀ kv ∈ is, TypedItemE kv) → ETyped R (.raw R is)) :
    NodeElems R := by
  intro cs is n m v hok hwf hte h
  obtain ⟨rfl, rfl⟩ := raw_ok cs _ is n m v (hR cs is) h
  exact ⟨hT is hok hwf hte, by rw [valElems_raw, if_neg hD]⟩

theorem nodeElems_tags : NodeElems .Tags :=
  nodeElems_raw _ (fun _ _ => rfl) (by decide) fun is hok hwf _ rt is' e => by
    cases e
    rw [itemsElems_view hok hwf]
    simp only [viewKeys, readKey, valElems, List.flatMap_cons, List.flatMap_nil, List.append_nil]
    exact flatMap_leafElems_tagLine _ (tokens_of_wf hwf .TagLine).2

theorem itemsElems_rows {R : RuleType} {is : List (Key × Val)} (hok : ItemsOK R is)
    (hwf : ∀ kv ∈ is, WFItem kv) (hv : viewKeys R = [.tok .TableRow]) (hR : R ∉ inlinedRules := by decide) :
    itemsElems is = rowLineElems (getTokens is .TableRow) := by
  rw [itemsElems_view hok hwf hR, hv]
  simp only [readKey, valElems, List.flatMap_cons, List.flatMap_nil, List.append_nil]
  exact flatMap_leafElems_row _ (tokens_of_wf hwf .TableRow).2

theorem nodeElems_dataTable : NodeElems .DataTable := by
  intro cs is n m v hok hwf hte h
  obtain ⟨-, t0, rest, -, rfl, rfl⟩ := (dataTable_ok cs is n m v).1 h
  refine ⟨trivial, ?_⟩
  rw [valElems, rowElems_numberRows, itemsElems_rows hok hwf rfl]; rfl

theorem nodeElems_examplesTable : NodeElems .ExamplesTable := by
  intro cs is n m v hok hwf hte h
  obtain ⟨-, rfl, rfl⟩ := (examplesTable_ok cs is n m v).1 h
  refine ⟨trivial, ?_⟩
  rw [valElems, rowElems_numberRows, itemsElems_rows hok hwf rfl]; rfl

theorem nodeElems_description : NodeElems .Description := by
  intro cs is n m v hok hwf hte h
  obtain ⟨ls, -, rfl, rfl⟩ := (description_ok cs is n m v).1 h
  refine ⟨trivial, ?_⟩
  rw [valElems, itemsElems_view hok hwf]; rfl

theorem nodeElems_docString : NodeElems .DocString := by
  intro cs is n m v hok hwf hte h
  obtain ⟨sep, rest, heq, st, hst, dl, hdl, ls, -, rfl, rfl⟩ := (docString_ok cs is n m v).1 h
  refine ⟨trivial, ?_⟩
  rw [itemsElems_view hok hwf]
  simp only [viewKeys, readKey, valElems, List.flatMap_cons, List.flatMap_nil, List.append_nil, heq, if_true]
  rw [leafElems_docSep sep dl st ((tokens_of_wf hwf .DocStringSeparator).2 sep (by rw [heq]; exact List.mem_cons_self)) hdl hst]
  rfl

theorem keyLine_single {R : RuleType} {is : List (Key × Val)} (hok : ItemsOK R is)
    (hwf : ∀ kv ∈ is, WFItem kv) (k : Kind) (hone : (Sym.tok k, Sym.tok k) ∈ (nodeShape R).order)
    {line : Token} (hl : getSingle is (.tok k) = .tok line) : getTokens is k = [line] ∧ line.mtype = some k :=
  keyLine_tokens (keyLine_of_once hwf k (hok.order _ hone)) hl

theorem nodeElems_step : NodeElems .Step := by
  intro cs is n m v hok hwf hte h
  obtain ⟨line, hl, kw, hkw, kt, hkt, tx, htx, rfl, rfl⟩ := (step_ok cs is n m v).1 h
  refine ⟨trivial, ?_⟩
  obtain ⟨hts, hmt⟩ := keyLine_single hok hwf .StepLine (by decide) hl
  rw [if_neg (by decide), itemsElems_view hok hwf]
  simp only [viewKeys, readKey, hts, List.flatMap_cons, List.flatMap_nil, List.append_nil, valElems, stepElems,
    leafElems_step line kw tx kt hmt hkw hkt htx, List.singleton_append]
  congr 1
  rcases stepArgOf_cases hok hwf with ⟨d, a, b, c⟩ | ⟨d, a, b, c⟩ | ⟨a, b, c⟩ <;> rw [a, b, c] <;>
    simp [valElems, argElems]

theorem nodeElems_background : NodeElems .Background := by
  intro cs is n m v hok hwf hte h
  obtain ⟨line, hl, d, -, kw, hkw, nm, hnm, rfl, rfl⟩ := (background_ok cs is n m v).1 h
  refine ⟨trivial, ?_⟩
  obtain ⟨hts, hmt⟩ := keyLine_single hok hwf .BackgroundLine (by decide) hl
  rw [if_neg (by decide), itemsElems_view hok hwf]
  simp only [viewKeys, readKey, hts, List.flatMap_cons, List.flatMap_nil, List.append_nil, valElems, backgroundElems,
    leafElems_title line _ kw nm (by decide) hmt hkw hnm, List.singleton_append]
  rfl

theorem nodeElems_scenarioRaw : NodeElems .Scenario :=
  nodeElems_raw _ (fun _ _ => rfl) (by decide) fun is hok hwf _ rt sc e => by
    cases e
    rw [itemsElems_view hok hwf]
    simp only [viewKeys, readKey, valElems, List.flatMap_cons, List.flatMap_nil, List.append_nil]

theorem nodeElems_examplesRaw : NodeElems .Examples :=
  nodeElems_raw _ (fun _ _ => rfl) (by decide) fun is hok hwf _ rt ex e => by
    cases e
    rw [itemsElems_view hok hwf]
    simp only [viewKeys, readKey, valElems, List.flatMap_cons, List.flatMap_nil, List.append_nil, tableOf]
    congr 1
    rcases wf_getSingle hwf .ExamplesTable with h0 | ⟨rs, hrs⟩
    · simp only [h0, valElems]; rfl
    · simp only [hrs, valElems]

theorem header_elems {R : RuleType} {is : List (Key × Val)} (hok : ItemsOK R is)
    (hwf : ∀ kv ∈ is, WFItem kv) (hte : ∀ kv ∈ is, TypedItemE kv) (k : Kind)
    (hv : viewKeys R = [.rule .Tags, .tok k]) (hR : R ∉ inlinedRules := by decide) :
    itemsElems is = tagElemsOf is ++ (getTokens is k).flatMap leafElems := by
  rw [itemsElems_view hok hwf hR, hv]
  simp only [readKey, valElems, List.flatMap_cons, List.flatMap_nil, List.append_nil, elems_tags is hwf hte]

theorem nodeElems_ruleHeader : NodeElems .RuleHeader :=
  nodeElems_raw _ (fun _ _ => rfl) (by decide) fun is hok hwf hte rt hd e => by
    cases e; exact header_elems hok hwf hte .RuleLine rfl

theorem nodeElems_featureHeader : NodeElems .FeatureHeader :=
  nodeElems_raw _ (fun _ _ => rfl) (by decide) fun is hok hwf hte rt hd e => by
    cases e; exact header_elems hok hwf hte .FeatureLine rfl

theorem definition_mem {is : List (Key × Val)} {x rt : RuleType} {inner : List (Key × Val)}
    (hs : getSingle is (.rule x) = .raw rt inner) : (Key.rule x, Val.raw rt inner) ∈ is := by
  rcases getSingle_none_or_mem is (.rule x) with h0 | hm
  · rw [hs] at h0; cases h0
  · rwa [hs] at hm

theorem nodeElems_scenario : NodeElems .ScenarioDefinition := by
  intro cs is n m v hok hwf hte h
  obtain ⟨toks, htags, rt, sc, hs, line, hl, d, -, kw, hkw, nm, hnm, rfl, rfl⟩ := (scenario_ok cs is n m v).1 h
  refine ⟨trivial, ?_⟩
  obtain ⟨sc', e2, hkl⟩ : WFVal .Scenario _ := hwf _ (definition_mem hs)
  cases e2
  have e3 : ETyped .Scenario _ := hte _ (definition_mem hs)
  obtain ⟨hts, hmt⟩ := keyLine_tokens hkl hl
  rw [if_neg (by decide), itemsElems_view hok hwf]
  simp only [viewKeys, readKey, List.flatMap_cons, List.flatMap_nil, List.append_nil, elems_tags is hwf hte, hs,
    valElems_raw, e3 _ _ rfl, tagElemsOf_some htags, hts, leafElems_title line _ kw nm (by decide) hmt hkw hnm,
    valElems, scenarioElems, tagElems_numberTags, List.singleton_append]
  rfl

theorem nodeElems_examples : NodeElems .ExamplesDefinition := by
  intro cs is n m v hok hwf hte h
  obtain ⟨toks, htags, rt, ex, hs, line, hl, d, -, kw, hkw, nm, hnm, rfl, rfl⟩ := (examples_ok cs is n m v).1 h
  refine ⟨trivial, ?_⟩
  obtain ⟨ex', e2, hkl⟩ : WFVal .Examples _ := hwf _ (definition_mem hs)
  cases e2
  have e3 : ETyped .Examples _ := hte _ (definition_mem hs)
  obtain ⟨hts, hmt⟩ := keyLine_tokens hkl hl
  rw [if_neg (by decide), itemsElems_view hok hwf]
  simp only [viewKeys, readKey, List.flatMap_cons, List.flatMap_nil, List.append_nil, elems_tags is hwf hte, hs,
    valElems_raw, e3 _ _ rfl, tagElemsOf_some htags, hts, leafElems_title line _ kw nm (by decide) hmt hkw hnm,
    valElems, examplesElems, tagElems_numberTags, List.singleton_append, rowElems_head_drop]
  rfl

theorem nodeElems_rule : NodeElems .Rule := by
  intro cs is n m v hok hwf hte h
  obtain ⟨-, hd, hh, hkl, line, hl⟩ := header_needed hok hwf .RuleHeader (by decide) (by decide)
  obtain ⟨toks, htags, d, -, kw, hkw, nm, hnm, rfl, rfl⟩ := (rule_ok_at cs is n m _ hh hl).1 h
  refine ⟨trivial, ?_⟩
  have hE : ETyped .RuleHeader _ := hte _ (definition_mem hh)
  obtain ⟨hts, hmt⟩ := keyLine_tokens hkl hl
  rw [if_neg (by decide), itemsElems_view hok hwf]
  simp only [viewKeys, List.flatMap_cons, List.flatMap_nil, List.append_nil, readKey_background valElems valElems_reading hwf]
  simp only [readKey, hh, valElems_raw, hE _ _ rfl, tagElemsOf_some htags, hts, List.flatMap_cons, List.flatMap_nil,
    List.append_nil, leafElems_title line _ kw nm (by decide) hmt hkw hnm, valElems, ruleElems, tagElems_numberTags,
    ruleChildren_eq, List.flatMap_append, flatMap_map, ruleChildElems, List.append_assoc, List.singleton_append]
  rfl

theorem nodeElems_feature : NodeElems .Feature := by
  intro cs is n m v hok hwf hte h
  obtain ⟨-, hd, hh, hkl, line, hl⟩ := header_needed hok hwf .FeatureHeader (by decide) (by decide)
  obtain ⟨toks, htags, d, -, kw, hkw, nm, hnm, rfl, rfl⟩ := (feature_ok_at cs is n m _ hh hl).1 h
  refine ⟨trivial, ?_⟩
  have hE : ETyped .FeatureHeader _ := hte _ (definition_mem hh)
  obtain ⟨hts, hmt⟩ := keyLine_tokens hkl hl
  rw [if_neg (by decide), itemsElems_view hok hwf]
  simp only [viewKeys, List.flatMap_cons, List.flatMap_nil, List.append_nil, readKey_background valElems valElems_reading hwf]
  simp only [readKey, hh, valElems_raw, hE _ _ rfl, tagElemsOf_some htags, hts, List.flatMap_cons, List.flatMap_nil,
    List.append_nil, leafElems_title line _ kw nm (by decide) hmt hkw hnm, valElems, featureElems, tagElems_numberTags,
    featureChildren_eq, List.flatMap_append, flatMap_map, featureChildElems, List.append_assoc, List.singleton_append]
  rfl

theorem nodeElems_document : NodeElems .GherkinDocument := by
  intro cs is n m v hok hwf hte h
  rw [document_eq] at h
  simp only [res_inj, Except.ok.injEq] at h
  obtain ⟨rfl, rfl⟩ := h
  refine ⟨trivial, ?_⟩
  rw [if_neg (by decide), itemsElems_view hok hwf]
  simp only [viewKeys, readKey, List.flatMap_cons, List.flatMap_nil, List.append_nil, valElems, srcElems, featureOf]
  rcases wf_getSingle hwf .Feature with h0 | ⟨f, hf⟩
  · simp only [h0, valElems]
  · simp only [hf, valElems]

theorem nodeElems_all (R : RuleType) : NodeElems R := by
  cases R
  case None_ => exact nodeElems_raw _ (fun _ _ => rfl) (by decide) fun _ _ _ _ => trivial
  case StepArg => exact nodeElems_raw _ (fun _ _ => rfl) (by decide) fun _ _ _ _ => trivial
  case DescriptionHelper => exact nodeElems_raw _ (fun _ _ => rfl) (by decide) fun _ _ _ _ => trivial
  case GherkinDocument => exact nodeElems_document
  case Feature => exact nodeElems_feature
  case FeatureHeader => exact nodeElems_featureHeader
  case Rule => exact nodeElems_rule
  case RuleHeader => exact nodeElems_ruleHeader
  case Background => exact nodeElems_background
  case ScenarioDefinition => exact nodeElems_scenario
  case Scenario => exact nodeElems_scenarioRaw
  case ExamplesDefinition => exact nodeElems_examples
  case Examples => exact nodeElems_examplesRaw
  case ExamplesTable => exact nodeElems_examplesTable
  case Step => exact nodeElems_step
  case DataTable => exact nodeElems_dataTable
  case DocString => exact nodeElems_docString
  case Tags => exact nodeElems_tags
  case Description => exact nodeElems_description

def ElemsSpecList (ts : List TTree) : Prop :=
  shapedList ts = true → ∀ (cs : List Comment) (n : Nat) (is : List (Key × Val)) (n' : Nat),
    (itemsOfList cs ts).run.run n = (.ok is, n') →
    (∀ kv ∈ is, TypedItemE kv) ∧ itemsElems is = elemsOfTreeList ts

theorem elemsStep (cs : List Comment) :
    ItemsStep cs (fun _ t is _ => (∀ kv ∈ is, TypedItemE kv) ∧ itemsElems is = elemsOfTree t)
      (fun _ ts is _ => (∀ kv ∈ is, TypedItemE kv) ∧ itemsElems is = elemsOfTreeList ts) where
  comment t _ h := ⟨fun _ h => (nomatch h), by rw [itemsElems_nil, elemsOfTree, leafElems_comment t h]⟩
  line t k _ _ _ := ⟨fun kv hkv => List.mem_singleton.1 hkv ▸ trivial,
    by rw [itemsElems_singleton, valElems, elemsOfTree]⟩
  node r ch n is n₁ v n₂ q hok hwf _ h := by
    obtain ⟨b1, b2⟩ := nodeElems_all r cs is n₁ n₂ v hok hwf q.1 h
    exact ⟨fun kv hkv => List.mem_singleton.1 hkv ▸ b1, by rw [itemsElems_singleton, b2, q.2, elemsOfTree]⟩
  nil _ := ⟨fun _ h => (nomatch h), by rw [itemsElems_nil, elemsOfTreeList]⟩
  cons c ts _ i _ is _ p q := ⟨fun kv hkv => (List.mem_append.1 hkv).elim (p.1 kv) (q.1 kv),
    by rw [itemsElems_append, p.2, q.2, elemsOfTreeList]⟩

theorem elemsSpecList_all : ∀ ts : List TTree, ElemsSpecList ts := fun ts hs cs n is n' h =>
  (itemsOfList_induct (elemsStep cs) ts hs n is n' h).1

theorem valElems_astOf (r : RuleType) (ch : List TTree) (hs : shaped (.node r ch) = true) (cs : List Comment)
    (n n' : Nat) (v : Val) (h : (astOf cs (.node r ch)).run.run n = (.ok v, n')) :
    valElems v = elemsOfTree (.node r ch) := by
  have := (itemsOf_induct (elemsStep cs) _ hs n _ n' (itemsOf_node_ok cs r ch n n' v h)).1.2
  rwa [itemsElems_singleton] at this

theorem elems_once_in_order (t : TTree) (hs : shaped t = true) (cs : List Comment) (n n' : Nat) (d : Doc)
    (h : (astOf cs t).run.run n = (.ok (.doc d), n')) : srcElems d = elemsOfTree t := by
  cases t with
  | leaf tk => have := astOf_leaf_ok cs tk n n' _ h; cases this
  | node r ch =>
    have := valElems_astOf r ch hs cs n n' _ h
    rwa [valElems] at this

/-! ## the free text: descriptions and doc-string contents

  Same method, for `Spec.srcTexts` / `Spec.textsOfTree`.  What a node owns (`Spec.ownTexts`) is read
  off its child lines by kind and the strings of its `Description` children; on the builder's side
  these are `getTokens items` and `itemDescrs items`.  That the two views agree is
  `getTokens_itemsOfList` for the lines; for the descriptions the induction carries it (`textsStep`,
  last component of its motives). -/

def itemDescrs (items : List (Key × Val)) : List Str :=
  items.filterMap fun kv =>
    match kv with
    | (.rule .Description, .descr s) => some s
    | _ => none

mutual
def valTexts : Val → List (Loc × Str)
  | .tok _ => []
  | .step s => stepTexts s
  | .docString d => [(d.loc, d.content)]
  | .dataTable _ => []
  | .background b => backgroundTexts b
  | .scenario s => scenarioTexts s
  | .examples e => examplesTexts e
  | .rows _ => []
  | .rule r => ruleTexts r
  | .feature f => featureTexts f
  | .doc d => srcTexts d
  | .raw rt items => ownTexts rt (getTokens items) (itemDescrs items) ++ itemsTexts items
  | .none => []
  | .descr _ => []
def itemsTexts : List (Key × Val) → List (Loc × Str)
  | [] => []
  | (_, v) :: rest => valTexts v ++ itemsTexts rest
end

theorem itemsTexts_eq (is : List (Key × Val)) : itemsTexts is = itemsMap valTexts is := by
  induction is with
  | nil => rw [itemsTexts]; rfl
  | cons kv l ih => obtain ⟨k, v⟩ := kv; rw [itemsTexts, ih, itemsMap_cons]
theorem itemsTexts_nil : itemsTexts [] = [] := by rw [itemsTexts]
theorem itemsTexts_append (a b : List (Key × Val)) : itemsTexts (a ++ b) = itemsTexts a ++ itemsTexts b := by
  simp only [itemsTexts_eq, itemsMap_append]
theorem itemsTexts_singleton (k : Key) (v : Val) : itemsTexts [(k, v)] = valTexts v := by
  rw [itemsTexts_eq, itemsMap_singleton]
theorem valTexts_raw (rt : RuleType) (is : List (Key × Val)) :
    valTexts (.raw rt is) = ownTexts rt (getTokens is) (itemDescrs is) ++ itemsTexts is := by
  rw [valTexts]

def TTyped : RuleType → Val → Prop
  | .Tags, v => ∀ rt is, v = .raw rt is → itemsTexts is = []
  | .Scenario, v => ∀ rt sc, v = .raw rt sc →
      itemsTexts sc = (getSteps sc).flatMap stepTexts ++ (getExamples sc).flatMap examplesTexts
  | .Examples, v => ∀ rt ex, v = .raw rt ex → itemsTexts ex = []
  | .RuleHeader, v => ∀ rt hd, v = .raw rt hd → itemsTexts hd = []
  | .FeatureHeader, v => ∀ rt hd, v = .raw rt hd → itemsTexts hd = []
  | _, _ => True

def TypedItemT (kv : Key × Val) : Prop :=
  match kv.1 with
  | .tok _ => True
  | .rule r => TTyped r kv.2

theorem ownTexts_nil (r : RuleType) (toks : Kind → List Token) (descrs : List Str)
    (h : r ∉ [RuleType.DocString, .Background, .Scenario, .Examples, .RuleHeader, .FeatureHeader]) :
    ownTexts r toks descrs = [] := by
  cases r <;> first | rfl | exact absurd (by decide) h

/-- `ownTexts` never reads the comment lines -/
theorem ownTexts_congr (r : RuleType) (toks toks' : Kind → List Token) (descrs : List Str)
    (h : ∀ k, k ≠ .Comment → toks k = toks' k) : ownTexts r toks descrs = ownTexts r toks' descrs := by
  simp only [ownTexts, h _ (by decide : Kind.DocStringSeparator ≠ .Comment), h _ (by decide : Kind.Other ≠ .Comment),
    h _ (by decide : Kind.BackgroundLine ≠ .Comment), h _ (by decide : Kind.ScenarioLine ≠ .Comment),
    h _ (by decide : Kind.ExamplesLine ≠ .Comment), h _ (by decide : Kind.RuleLine ≠ .Comment),
    h _ (by decide : Kind.FeatureLine ≠ .Comment)]

theorem ownTexts_key (r : RuleType) (k : Kind)
    (h : (r, k) ∈ [(RuleType.Background, Kind.BackgroundLine), (.Scenario, .ScenarioLine), (.Examples, .ExamplesLine),
      (.RuleHeader, .RuleLine), (.FeatureHeader, .FeatureLine)])
    (toks : Kind → List Token) (descrs : List Str) (line : Token) (ht : toks k = [line]) :
    ownTexts r toks descrs = [(line.loc, descrs.headD [])] := by
  simp only [List.mem_cons, Prod.mk.injEq, List.not_mem_nil, or_false] at h
  rcases h with ⟨rfl, rfl⟩ | ⟨rfl, rfl⟩ | ⟨rfl, rfl⟩ | ⟨rfl, rfl⟩ | ⟨rfl, rfl⟩ <;> simp only [ownTexts, ht]

theorem valTexts_reading : Reading valTexts :=
  ⟨fun _ _ _ _ => by rw [valTexts], fun _ => by rw [valTexts], by rw [valTexts]⟩

theorem itemsTexts_view {R : RuleType} {is : List (Key × Val)} (hok : ItemsOK R is)
    (hwf : ∀ kv ∈ is, WFItem kv) (hR : R ∉ inlinedRules := by decide) :
    itemsTexts is = (viewKeys R).flatMap (readKey valTexts is) := by
  rw [itemsTexts_eq, read_view valTexts valTexts_reading hok hwf hR]

theorem texts_tags (is : List (Key × Val)) (hwf : ∀ kv ∈ is, WFItem kv) (htt : ∀ kv ∈ is, TypedItemT kv) :
    valTexts (getSingle is (.rule .Tags)) = [] := by
  rcases getSingle_none_or_mem is (.rule .Tags) with h0 | hm
  · rw [h0, valTexts]
  · obtain ⟨tis, e⟩ : WFVal .Tags (getSingle is (.rule .Tags)) := hwf _ hm
    have he : TTyped .Tags (getSingle is (.rule .Tags)) := htt _ hm
    rw [e] at he ⊢
    rw [valTexts_raw, he _ _ rfl, ownTexts_nil _ _ _ (by decide)]; rfl

theorem itemDescrs_eq (is : List (Key × Val)) :
    itemDescrs is = (getItems is (.rule .Description)).filterMap fun v =>
      match v with | .descr s => some s | _ => none := by
  induction is with
  | nil => rfl
  | cons kv l ih =>
    obtain ⟨k, v⟩ := kv
    by_cases hk : k = .rule .Description
    · subst hk
      rw [getItems_cons_same (Key.rule .Description, v) l, List.filterMap_cons, ← ih]
      cases v <;> rfl
    · rw [getItems_cons_ne (k, v) l _ hk, ← ih]
      unfold itemDescrs
      rw [List.filterMap_cons]
      cases k with
      | tok k' => rfl
      | rule r' => cases r' <;> first | exact absurd rfl hk | rfl

theorem descOf_headD {is : List (Key × Val)} {d : Str} (h : descOf is = some d) : (itemDescrs is).headD [] = d := by
  rw [itemDescrs_eq]
  unfold descOf at h
  split at h
  · next h0 => rw [h0]; cases h; rfl
  · next s rest h0 => rw [h0]; cases h; rfl
  · cases h

theorem map_some_getD {α} (as : List (Option α)) (bs : List α) (dflt : α) (h : as = bs.map some) :
    bs = as.map (·.getD dflt) := by
  subst h; simp [List.map_map, Function.comp_def]

def NodeTexts (R : RuleType) : Prop :=
  ∀ (cs : List Comment) (is : List (Key × Val)) (n m : Nat) (v : Val),
    ItemsOK R is → (∀ kv ∈ is, WFItem kv) → (∀ kv ∈ is, TypedItemT kv) →
    (transformNode cs ⟨R, is⟩).run.run n = (.ok v, m) →
    TTyped R v ∧ valTexts v = ownTexts R (getTokens is) (itemDescrs is) ++ itemsTexts is

theorem nodeTexts_raw (R : RuleType) (hR : ∀ cs is, transformNode cs ⟨R, is⟩ = pure (.raw R is))
    (hT : ∀ is, ItemsOK R is → (∀ kv ∈ is, WFItem kv) → (∀ kv ∈ is, TypedItemT kv) → TTyped R (.raw R is)) :
    NodeTexts R := by
  intro cs is n m v hok hwf htt h
  obtain ⟨rfl, rfl⟩ := raw_ok cs _ is n m v (hR cs is) h
  exact ⟨hT is hok hwf htt, valTexts_raw _ _⟩

theorem itemsTexts_tokens {R : RuleType} {is : List (Key × Val)} (hok : ItemsOK R is)
    (hwf : ∀ kv ∈ is, WFItem kv) (ks : List Kind) (hv : viewKeys R = ks.map .tok) (hR : R ∉ inlinedRules := by decide) :
    itemsTexts is = [] := by
  rw [itemsTexts_view hok hwf hR, hv, List.flatMap_map, List.flatMap_eq_nil_iff]
  intro k _
  simp only [readKey, valTexts, flatMap_const_nil]

theorem nodeTexts_tags : NodeTexts .Tags :=
  nodeTexts_raw _ (fun _ _ => rfl) fun is hok hwf htt rt is' e => by
    cases e; exact itemsTexts_tokens hok hwf [.TagLine] rfl

theorem nodeTexts_examplesRaw : NodeTexts .Examples :=
  nodeTexts_raw _ (fun _ _ => rfl) fun is hok hwf htt rt is' e => by
    cases e
    rw [itemsTexts_view hok hwf]
    simp only [viewKeys, readKey, valTexts, List.flatMap_cons, List.flatMap_nil, List.append_nil, flatMap_const_nil,
      List.nil_append]
    rcases wf_getSingle hwf .ExamplesTable with h0 | ⟨rs, hrs⟩
    · simp only [h0, valTexts]
    · simp only [hrs, valTexts]

theorem header_texts {R : RuleType} {is : List (Key × Val)} (hok : ItemsOK R is)
    (hwf : ∀ kv ∈ is, WFItem kv) (htt : ∀ kv ∈ is, TypedItemT kv) (k : Kind)
    (hv : viewKeys R = [.rule .Tags, .tok k]) (hR : R ∉ inlinedRules := by decide) : itemsTexts is = [] := by
  rw [itemsTexts_view hok hwf hR, hv]
  simp only [readKey, valTexts, List.flatMap_cons, List.flatMap_nil, List.append_nil, texts_tags is hwf htt,
    flatMap_const_nil]

theorem nodeTexts_ruleHeader : NodeTexts .RuleHeader :=
  nodeTexts_raw _ (fun _ _ => rfl) fun is hok hwf htt rt is' e => by
    cases e; exact header_texts hok hwf htt .RuleLine rfl

theorem nodeTexts_featureHeader : NodeTexts .FeatureHeader :=
  nodeTexts_raw _ (fun _ _ => rfl) fun is hok hwf htt rt is' e => by
    cases e; exact header_texts hok hwf htt .FeatureLine rfl

theorem nodeTexts_scenarioRaw : NodeTexts .Scenario :=
  nodeTexts_raw _ (fun _ _ => rfl) fun is hok hwf htt rt is' e => by
    cases e
    rw [itemsTexts_view hok hwf]
    simp only [viewKeys, readKey, valTexts, List.flatMap_cons, List.flatMap_nil, List.append_nil, flatMap_const_nil,
      List.nil_append]

theorem nodeTexts_dataTable : NodeTexts .DataTable := by
  intro cs is n m v hok hwf htt h
  obtain ⟨-, t0, rest, -, rfl, rfl⟩ := (dataTable_ok cs is n m v).1 h
  refine ⟨trivial, ?_⟩
  rw [valTexts, itemsTexts_tokens hok hwf [.TableRow] rfl, ownTexts_nil _ _ _ (by decide)]; rfl

theorem nodeTexts_examplesTable : NodeTexts .ExamplesTable := by
  intro cs is n m v hok hwf htt h
  obtain ⟨-, rfl, rfl⟩ := (examplesTable_ok cs is n m v).1 h
  refine ⟨trivial, ?_⟩
  rw [valTexts, itemsTexts_tokens hok hwf [.TableRow] rfl, ownTexts_nil _ _ _ (by decide)]; rfl

theorem nodeTexts_description : NodeTexts .Description := by
  intro cs is n m v hok hwf htt h
  obtain ⟨ls, -, rfl, rfl⟩ := (description_ok cs is n m v).1 h
  refine ⟨trivial, ?_⟩
  rw [valTexts, itemsTexts_tokens hok hwf [] rfl, ownTexts_nil _ _ _ (by decide)]; rfl

theorem description_value (cs : List Comment) (is : List (Key × Val)) (n m : Nat) (v : Val)
    (h : (transformNode cs ⟨.Description, is⟩).run.run n = (.ok v, m)) :
    v = .descr (joinWith [10] (trimDescLines ((getTokens is .Other).map fun t => t.text.getD []))) := by
  obtain ⟨ls, hm, rfl, -⟩ := (description_ok cs is n m v).1 h
  rw [map_some_getD _ ls [] hm, List.map_map]
  rfl

theorem nodeTexts_docString : NodeTexts .DocString := by
  intro cs is n m v hok hwf htt h
  obtain ⟨sep, rest, heq, st, -, dl, -, ls, hm, rfl, rfl⟩ := (docString_ok cs is n m v).1 h
  refine ⟨trivial, ?_⟩
  rw [valTexts, itemsTexts_tokens hok hwf [.DocStringSeparator] rfl, List.append_nil]
  simp only [ownTexts, heq]
  rw [map_some_getD _ ls [] hm, List.map_map]
  rfl

theorem nodeTexts_step : NodeTexts .Step := by
  intro cs is n m v hok hwf htt h
  obtain ⟨line, hl, kw, hkw, kt, hkt, tx, htx, rfl, rfl⟩ := (step_ok cs is n m v).1 h
  refine ⟨trivial, ?_⟩
  rw [ownTexts_nil _ _ _ (by decide), List.nil_append, itemsTexts_view hok hwf]
  simp only [viewKeys, readKey, valTexts, stepTexts, List.flatMap_cons, List.flatMap_nil, List.append_nil,
    flatMap_const_nil, List.nil_append]
  rcases stepArgOf_cases hok hwf with ⟨d, a, b, c⟩ | ⟨d, a, b, c⟩ | ⟨a, b, c⟩ <;> rw [a, b, c] <;> simp [valTexts, argTexts]

theorem ownTexts_keyLine {R : RuleType} {is : List (Key × Val)} (hkl : KeyLine k is)
    (h : (R, k) ∈ [(RuleType.Background, Kind.BackgroundLine), (.Scenario, .ScenarioLine), (.Examples, .ExamplesLine),
      (.RuleHeader, .RuleLine), (.FeatureHeader, .FeatureLine)])
    {line : Token} (hl : getSingle is (.tok k) = .tok line) {d : Str} (hd : descOf is = some d) :
    ownTexts R (getTokens is) (itemDescrs is) = [(line.loc, d)] := by
  rw [ownTexts_key R k h _ _ line (keyLine_tokens hkl hl).1, descOf_headD hd]

theorem nodeTexts_background : NodeTexts .Background := by
  intro cs is n m v hok hwf htt h
  obtain ⟨line, hl, d, hd, kw, -, nm, -, rfl, rfl⟩ := (background_ok cs is n m v).1 h
  refine ⟨trivial, ?_⟩
  rw [ownTexts_keyLine (keyLine_of_once hwf .BackgroundLine
      (hok.order (.tok .BackgroundLine, .tok .BackgroundLine) (by decide))) (by decide) hl hd, itemsTexts_view hok hwf]
  simp only [viewKeys, readKey, valTexts, backgroundTexts, List.flatMap_cons, List.flatMap_nil, List.append_nil,
    flatMap_const_nil, List.nil_append, List.singleton_append]
  rfl

theorem nodeTexts_scenario : NodeTexts .ScenarioDefinition := by
  intro cs is n m v hok hwf htt h
  obtain ⟨toks, htags, rt, sc, hs, line, hl, d, hd, kw, -, nm, -, rfl, rfl⟩ := (scenario_ok cs is n m v).1 h
  refine ⟨trivial, ?_⟩
  obtain ⟨sc', e2, hkl⟩ : WFVal .Scenario _ := hwf _ (definition_mem hs)
  cases e2
  have e3 : TTyped .Scenario _ := htt _ (definition_mem hs)
  rw [ownTexts_nil _ _ _ (by decide), List.nil_append, itemsTexts_view hok hwf]
  simp only [viewKeys, readKey, List.flatMap_cons, List.flatMap_nil, List.append_nil, texts_tags is hwf htt, hs,
    valTexts_raw, e3 _ _ rfl, ownTexts_keyLine (R := .Scenario) hkl (by decide) hl hd, valTexts, scenarioTexts, List.nil_append,
    List.singleton_append]
  rfl

theorem nodeTexts_examples : NodeTexts .ExamplesDefinition := by
  intro cs is n m v hok hwf htt h
  obtain ⟨toks, htags, rt, ex, hs, line, hl, d, hd, kw, -, nm, -, rfl, rfl⟩ := (examples_ok cs is n m v).1 h
  refine ⟨trivial, ?_⟩
  obtain ⟨ex', e2, hkl⟩ : WFVal .Examples _ := hwf _ (definition_mem hs)
  cases e2
  have e3 : TTyped .Examples _ := htt _ (definition_mem hs)
  rw [ownTexts_nil _ _ _ (by decide), List.nil_append, itemsTexts_view hok hwf]
  simp only [viewKeys, readKey, List.flatMap_cons, List.flatMap_nil, List.append_nil, texts_tags is hwf htt, hs,
    valTexts_raw, e3 _ _ rfl, ownTexts_keyLine (R := .Examples) hkl (by decide) hl hd, valTexts, examplesTexts, List.nil_append]
  rfl

theorem nodeTexts_rule : NodeTexts .Rule := by
  intro cs is n m v hok hwf htt h
  obtain ⟨-, hd, hh, hkl, line, hl⟩ := header_needed hok hwf .RuleHeader (by decide) (by decide)
  obtain ⟨toks, htags, d, hdesc, kw, -, nm, -, rfl, rfl⟩ := (rule_ok_at cs is n m _ hh hl).1 h
  refine ⟨trivial, ?_⟩
  have hE : TTyped .RuleHeader _ := htt _ (definition_mem hh)
  rw [ownTexts_nil _ _ _ (by decide), List.nil_append, itemsTexts_view hok hwf]
  simp only [viewKeys, List.flatMap_cons, List.flatMap_nil, List.append_nil, readKey_background valTexts valTexts_reading hwf]
  simp only [readKey, hh, valTexts_raw, hE _ _ rfl, List.append_nil, ownTexts_keyLine (R := .RuleHeader) hkl (by decide) hl hdesc,
    valTexts, ruleTexts, ruleChildren_eq, List.flatMap_append, flatMap_map, ruleChildTexts, List.singleton_append]
  rfl

theorem nodeTexts_feature : NodeTexts .Feature := by
  intro cs is n m v hok hwf htt h
  obtain ⟨-, hd, hh, hkl, line, hl⟩ := header_needed hok hwf .FeatureHeader (by decide) (by decide)
  obtain ⟨toks, htags, d, hdesc, kw, -, nm, -, rfl, rfl⟩ := (feature_ok_at cs is n m _ hh hl).1 h
  refine ⟨trivial, ?_⟩
  have hE : TTyped .FeatureHeader _ := htt _ (definition_mem hh)
  rw [ownTexts_nil _ _ _ (by decide), List.nil_append, itemsTexts_view hok hwf]
  simp only [viewKeys, List.flatMap_cons, List.flatMap_nil, List.append_nil, readKey_background valTexts valTexts_reading hwf]
  simp only [readKey, hh, valTexts_raw, hE _ _ rfl, List.append_nil, ownTexts_keyLine (R := .FeatureHeader) hkl (by decide) hl hdesc,
    valTexts, featureTexts, featureChildren_eq, List.flatMap_append, flatMap_map, featureChildTexts, List.append_assoc,
    List.singleton_append]
  rfl

theorem nodeTexts_document : NodeTexts .GherkinDocument := by
  intro cs is n m v hok hwf htt h
  rw [document_eq] at h
  simp only [res_inj, Except.ok.injEq] at h
  obtain ⟨rfl, rfl⟩ := h
  refine ⟨trivial, ?_⟩
  rw [ownTexts_nil _ _ _ (by decide), List.nil_append, itemsTexts_view hok hwf]
  simp only [viewKeys, readKey, List.flatMap_cons, List.flatMap_nil, List.append_nil, valTexts, srcTexts, featureOf]
  rcases wf_getSingle hwf .Feature with h0 | ⟨f, hf⟩
  · simp only [h0, valTexts]
  · simp only [hf, valTexts]

theorem nodeTexts_all (R : RuleType) : NodeTexts R := by
  cases R
  case None_ => exact nodeTexts_raw _ (fun _ _ => rfl) (fun _ _ _ _ => trivial)
  case StepArg => exact nodeTexts_raw _ (fun _ _ => rfl) (fun _ _ _ _ => trivial)
  case DescriptionHelper => exact nodeTexts_raw _ (fun _ _ => rfl) (fun _ _ _ _ => trivial)
  case GherkinDocument => exact nodeTexts_document
  case Feature => exact nodeTexts_feature
  case FeatureHeader => exact nodeTexts_featureHeader
  case Rule => exact nodeTexts_rule
  case RuleHeader => exact nodeTexts_ruleHeader
  case Background => exact nodeTexts_background
  case ScenarioDefinition => exact nodeTexts_scenario
  case Scenario => exact nodeTexts_scenarioRaw
  case ExamplesDefinition => exact nodeTexts_examples
  case Examples => exact nodeTexts_examplesRaw
  case ExamplesTable => exact nodeTexts_examplesTable
  case Step => exact nodeTexts_step
  case DataTable => exact nodeTexts_dataTable
  case DocString => exact nodeTexts_docString
  case Tags => exact nodeTexts_tags
  case Description => exact nodeTexts_description

theorem itemDescrs_append (a b : List (Key × Val)) : itemDescrs (a ++ b) = itemDescrs a ++ itemDescrs b := by
  simp [itemDescrs]

theorem childDescrs_cons (c : TTree) (ts : List TTree) : childDescrs (c :: ts) = childDescrs [c] ++ childDescrs ts := by
  simp only [childDescrs, List.filterMap_cons, List.filterMap_nil]
  split <;> rfl

def TextsSpecList (ts : List TTree) : Prop :=
  shapedList ts = true → ∀ (cs : List Comment) (n : Nat) (is : List (Key × Val)) (n' : Nat),
    (itemsOfList cs ts).run.run n = (.ok is, n') →
    (∀ kv ∈ is, TypedItemT kv) ∧ itemsTexts is = textsOfTreeList ts ∧
    (∀ k, k ≠ .Comment → getTokens is k = childToks k ts) ∧ itemDescrs is = childDescrs ts

theorem textsStep (cs : List Comment) :
    ItemsStep cs
      (fun _ t is _ => (∀ kv ∈ is, TypedItemT kv) ∧ itemsTexts is = textsOfTree t ∧ itemDescrs is = childDescrs [t])
      (fun _ ts is _ => (∀ kv ∈ is, TypedItemT kv) ∧ itemsTexts is = textsOfTreeList ts ∧
        itemDescrs is = childDescrs ts) where
  comment t _ _ := ⟨fun _ h => (nomatch h), by rw [itemsTexts_nil, textsOfTree], rfl⟩
  line t k' _ _ _ :=
    ⟨fun kv hkv => List.mem_singleton.1 hkv ▸ trivial, by rw [itemsTexts_singleton, valTexts, textsOfTree], rfl⟩
  node r ch n is n₁ v n₂ q hok hwf htoks h := by
    obtain ⟨a1, a2, a4⟩ := q
    obtain ⟨b1, b2⟩ := nodeTexts_all r cs is n₁ n₂ v hok hwf a1 h
    refine ⟨fun kv hkv => List.mem_singleton.1 hkv ▸ b1,
      by rw [itemsTexts_singleton, b2, a2, a4, textsOfTree, ownTexts_congr r _ _ _ htoks], ?_⟩
    by_cases hr : r = .Description
    · subst hr
      rw [description_value cs is n₁ n₂ v h, htoks .Other (by decide)]
      rfl
    · simp only [itemDescrs, childDescrs, List.filterMap_cons, List.filterMap_nil]
      cases r <;> first | exact absurd rfl hr | rfl
  nil _ := ⟨fun _ h => (nomatch h), by rw [itemsTexts_nil, textsOfTreeList], rfl⟩
  cons c ts _ i _ is _ p q := by
    obtain ⟨a1, a2, a4⟩ := p
    obtain ⟨b1, b2, b4⟩ := q
    exact ⟨fun kv hkv => (List.mem_append.1 hkv).elim (a1 kv) (b1 kv),
      by rw [itemsTexts_append, a2, b2, textsOfTreeList], by rw [itemDescrs_append, a4, b4, ← childDescrs_cons]⟩

theorem textsSpecList_all : ∀ ts : List TTree, TextsSpecList ts := fun ts hs cs n is n' h =>
  let ⟨a1, a2, a4⟩ := (itemsOfList_induct (textsStep cs) ts hs n is n' h).1
  ⟨a1, a2, getTokens_itemsOfList cs ts n is n' h, a4⟩

theorem texts_once_in_order (t : TTree) (hs : shaped t = true) (cs : List Comment) (n n' : Nat) (d : Doc)
    (h : (astOf cs t).run.run n = (.ok (.doc d), n')) : srcTexts d = textsOfTree t := by
  cases t with
  | leaf tk => have := astOf_leaf_ok cs tk n n' _ h; cases this
  | node r ch =>
    have := (itemsOf_induct (textsStep cs) _ hs n _ n' (itemsOf_node_ok cs r ch n n' _ h)).1.2.1
    rwa [itemsTexts_singleton, valTexts] at this

end Lemmas
end GV
