/-
  Lemmas/FactsLayout.lean — the Boolean facts about the regenerated transition table that the
  whole-document layout theorems (Props/C16Doc3–7) rest on, each evaluated by the kernel once.  They
  speak of the checkers of Spec/StackDepth.lean and Spec/LayoutChecks*.lean only, so nothing of the
  simulations has to be checked before them.  (`indentFacts` is a definition of
  Lemmas/LayoutDoc3IndentSim.lean; its fact `C16_fact_indent` is evaluated in Props/C16Doc3.lean.)
-/
import GherkinVerif.Spec.LayoutChecks6
import GherkinVerif.Gen.ParserTable
import GherkinVerif.KDecide
namespace GV.Facts
open Spec

/-- the number of open builder nodes as a function of the parser state, found by a breadth-first walk
    from the start state (depth 2) -/
def depths : List (Nat × Nat) := computeDepths Gen.parserTable 5000 [(0, 2)] []

/-- the assignment passes the check, and at these depths every branch of the table may run; one
    evaluation, so that the walk is made once -/
theorem depths_prods_table : (depthsOk Gen.parserTable depths && prodsOk Gen.parserTable depths) = true := by
  kdecide

theorem depthsOk_table : depthsOk Gen.parserTable depths = true := (Bool.and_eq_true_iff.1 depths_prods_table).1
theorem prodsOk_table : prodsOk Gen.parserTable depths = true := (Bool.and_eq_true_iff.1 depths_prods_table).2

theorem lookaheadsCommentOk_table : lookaheadsCommentOk Gen.parserTable = true := by kdecide

theorem descRowsOk_table : descRowsOk Gen.parserTable = true := by kdecide

/-- A round that changes nothing ends the iteration: every later round returns the same assignment.
    So it is enough to evaluate one round beyond the first assignment that is a fixed point. -/
theorem computeDescStacks_stable {T : Table} {n : Nat}
    (h : stepDescStacks T (computeDescStacks T n) = computeDescStacks T n) :
    ∀ k, computeDescStacks T (n + k) = computeDescStacks T n
  | 0 => rfl
  | k + 1 => by rw [← Nat.add_assoc, computeDescStacks, computeDescStacks_stable h k, h]

theorem computeDescFlags_stable {T : Table} {n : Nat}
    (h : stepDescFlags T (computeDescFlags T n) = computeDescFlags T n) :
    ∀ k, computeDescFlags T (n + k) = computeDescFlags T n
  | 0 => rfl
  | k + 1 => by rw [← Nat.add_assoc, computeDescFlags, computeDescFlags_stable h k, h]

theorem descFlags_table : descFlagsOk Gen.parserTable (computeDescFlags Gen.parserTable 4) = true := by
  -- the first round already reaches the fixed point: the second changes nothing, so neither do the others
  have h : (stepDescFlags Gen.parserTable (computeDescFlags Gen.parserTable 1) == computeDescFlags Gen.parserTable 1 &&
      descFlagsOk Gen.parserTable (computeDescFlags Gen.parserTable 1)) = true := by kdecide
  rw [Bool.and_eq_true, beq_iff_eq] at h
  exact (computeDescFlags_stable h.1 3).symm ▸ h.2

theorem descStacks_table : descStacksOk Gen.parserTable (computeDescStacks Gen.parserTable 4) = true := by
  have h : (stepDescStacks Gen.parserTable (computeDescStacks Gen.parserTable 1) == computeDescStacks Gen.parserTable 1 &&
      descStacksOk Gen.parserTable (computeDescStacks Gen.parserTable 1)) = true := by kdecide
  rw [Bool.and_eq_true, beq_iff_eq] at h
  exact (computeDescStacks_stable h.1 3).symm ▸ h.2

end GV.Facts
