/-
  Lemmas/C02Cert.lean — property C02 on the regenerated table and grammar.

  Generic part: the table side (look-ahead eliminated, `Lemmas/LookAhead.lean`) and the grammar
  side (derivative reader, `Lemmas/Regex.lean`) are total deterministic automata; if the Boolean
  checker `c02Check` succeeds — the future classes are closed (`clsOK`) and the pairs explored
  from the two start states form a closed relation (`bisimCheck`) — then `acceptsAbs` and
  `Sentence` agree on every document (`accept_iff_sentence_gen`).

  Concrete part: `c02Check` evaluated on `Gen.parserTable` / `Gen.grammar` by the kernel
  (`kdecide`).  Nothing here is specific to today's table: the certificate (set of future
  classes, reachable pairs) is computed by `classes` / `explore`, then checked.
-/
import GherkinVerif.Lemmas.Regex
import GherkinVerif.Lemmas.LookAhead
import GherkinVerif.Lemmas.Bisim
import GherkinVerif.Gen.ParserTable
import GherkinVerif.Gen.Grammar
import GherkinVerif.KDecide
namespace GV.Lemmas

open GV.Spec

/-- the table with its look-aheads eliminated, as a total deterministic automaton on sets of
    (state, claimed future class) -/
def tableDet (T : Table) (C : List Cls) : TDet (List St) Kind := ⟨setStep T C, setAcc T⟩

def specDet (G : Grammar) : TDet (Option (Spec.RE Kind)) Kind := ⟨specStepO G, specAccO⟩

theorem tableDet_run (T : Table) (C : List Cls) (S : List St) (ks : List Kind) :
    (tableDet T C).run S ks = setRun T C S ks := by
  induction ks generalizing S with
  | nil => rfl
  | cons k ks ih => exact ih _

theorem specDet_run (G : Grammar) (a : Option (Spec.RE Kind)) (ks : List Kind) :
    (specDet G).run a ks = specRunO G a ks := by
  induction ks generalizing a with
  | nil => rfl
  | cons k ks ih => exact ih _

def c02Check (T : Table) (G : Grammar) (start : RuleType) (fuel : Nat) : Bool :=
  clsOK T (classes T) &&
  bisimCheck (tableDet T (classes T)) (specDet G) Kind.all .EOF fuel
    (setStart (classes T) 0) (some (startRE G start))

theorem accept_iff_sentence_gen (T : Table) (G : Grammar) (start : RuleType) (fuel : Nat)
    (h : c02Check T G start fuel = true) (ks : List Kind) (hks : Kind.EOF ∉ ks) :
    acceptsAbs T ks = Sentence G start ks := by
  simp only [c02Check, Bool.and_eq_true] at h
  have hb := bisimCheck_sound _ _ _ _ _ _ _ kind_mem_all h.2 ks hks
  simp only [TDet.accepts, tableDet_run, specDet_run] at hb
  have hs : (specDet G).acc (specRunO G (some (startRE G start)) (ks ++ [.EOF])) = Sentence G start ks :=
    (sentence_eq G start ks).symm
  rw [← hs, ← hb]
  exact accepts_iff_setRun h.1 0 (ks ++ [.EOF])

theorem c02Check_gen : c02Check Gen.parserTable Gen.grammar .GherkinDocument 100000 = true := by
  kdecide

theorem accept_iff_sentence (ks : List Kind) (h : Kind.EOF ∉ ks) :
    acceptsAbs Gen.parserTable ks = Spec.Sentence Gen.grammar .GherkinDocument ks :=
  accept_iff_sentence_gen _ _ _ _ c02Check_gen ks h

theorem sentence_of_lang (ks : List Kind) (_h : Kind.EOF ∉ ks)
    (hw : Spec.RE.Lang (Spec.startRE Gen.grammar .GherkinDocument) (ks ++ [.EOF]))
    (hown : ReadsOwn Gen.grammar (Spec.startRE Gen.grammar .GherkinDocument) (ks ++ [.EOF])) :
    Spec.Sentence Gen.grammar .GherkinDocument ks = true :=
  sentence_of_lang_gen _ _ ks hw hown

end GV.Lemmas
