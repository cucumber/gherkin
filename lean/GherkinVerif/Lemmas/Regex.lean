/-
  Lemmas/Regex.lean — regular-expression facts used by property C02 (generic; no reference to
  the generated grammar).

  The derivative with the smart constructors of Spec/Grammar.lean is the semantic one; the reader
  of Spec/Grammar.lean is a total deterministic automaton on `Option (RE Kind)` (`none` =
  rejected), which is what the bisimulation checker runs; `sentence_of_lang_gen` links sentences to
  plain language membership.
-/
import GherkinVerif.Spec.Grammar
namespace GV.Lemmas

open GV.Spec

namespace RE
open GV.Spec.RE
variable {α : Type}

theorem not_lang_emp (w : List α) : ¬ Lang (RE.emp : RE α) w := by intro h; cases h

theorem lang_mkCat {r s : RE α} {w : List α} : Lang (mkCat r s) w ↔ Lang (.cat r s) w := by
  constructor
  · intro h
    unfold mkCat at h
    split at h
    · exact absurd h (not_lang_emp _)
    · exact absurd h (not_lang_emp _)
    · simpa using Lang.cat Lang.eps h
    · have := Lang.cat h Lang.eps; simpa using this
    · exact h
  · intro h
    unfold mkCat
    split
    · cases h with | cat h1 _ => exact absurd h1 (not_lang_emp _)
    · cases h with | cat _ h2 => exact absurd h2 (not_lang_emp _)
    · cases h with | cat h1 h2 => cases h1; simpa using h2
    · cases h with | cat h1 h2 => cases h2; simpa using h1
    · exact h

theorem nullable_iff (r : RE α) : nullable r = true ↔ Lang r [] := by
  induction r with
  | emp => simp [nullable]; exact not_lang_emp _
  | eps => simp [nullable]; exact Lang.eps
  | sym a => simp [nullable]; intro h; cases h
  | cat r s ihr ihs =>
    simp [nullable, ihr, ihs]
    constructor
    · rintro ⟨h1, h2⟩; simpa using Lang.cat h1 h2
    · intro h
      generalize hw : ([] : List α) = w at h
      cases h with
      | cat h1 h2 =>
        rename_i u v
        have : u = [] ∧ v = [] := by simpa using hw.symm
        obtain ⟨rfl, rfl⟩ := this
        exact ⟨h1, h2⟩
  | alt r s ihr ihs =>
    simp [nullable, ihr, ihs]
    constructor
    · rintro (h | h); exact Lang.altL h; exact Lang.altR h
    · intro h; cases h with | altL h => exact Or.inl h | altR h => exact Or.inr h
  | star r _ => simp [nullable]; exact Lang.starNil

theorem star_cons_split {r : RE α} {a : α} {w : List α} (h : Lang (.star r) (a :: w)) :
    ∃ u v, w = u ++ v ∧ Lang r (a :: u) ∧ Lang (.star r) v := by
  generalize hx : a :: w = x at h
  generalize hr : RE.star r = q at h
  induction h with
  | eps => cases hr
  | sym => cases hr
  | cat => cases hr
  | altL => cases hr
  | altR => cases hr
  | starNil => cases hx
  | @starCons r' u v h1 h2 _ ih2 =>
    cases hr
    cases u with
    | nil => simp at hx; exact ih2 hx rfl
    | cons b u' =>
      simp at hx
      obtain ⟨rfl, rfl⟩ := hx
      exact ⟨u', v, rfl, h1, h2⟩

variable [DecidableEq α]

theorem lang_mkAlt {r s : RE α} {w : List α} : Lang (mkAlt r s) w ↔ Lang (.alt r s) w := by
  unfold mkAlt
  constructor
  · intro h
    split at h
    · exact Lang.altR h
    · split at h
      · exact Lang.altL h
      · split at h
        · exact Lang.altL h
        · exact h
  · intro h
    split
    · next he => subst he; cases h with | altL h => exact absurd h (not_lang_emp _) | altR h => exact h
    · split
      · next he => subst he; cases h with | altL h => exact h | altR h => exact absurd h (not_lang_emp _)
      · split
        · next he => subst he; cases h with | altL h => exact h | altR h => exact h
        · exact h

theorem deriv_correct (a : α) (r : RE α) : ∀ w, Lang (deriv a r) w ↔ Lang r (a :: w) := by
  induction r with
  | emp => intro w; simp [deriv]; constructor <;> (intro h; cases h)
  | eps => intro w; simp [deriv]; constructor <;> (intro h; cases h)
  | sym b =>
    intro w; simp only [deriv]
    split
    · next h => subst h; constructor
                · intro h; cases h; exact Lang.sym a
                · intro h; cases h; exact Lang.eps
    · next h => constructor
                · intro h'; cases h'
                · intro h'; cases h'; exact absurd rfl h
  | cat r s ihr ihs =>
    intro w
    have key : Lang (.cat r s) (a :: w) ↔
        (∃ u v, w = u ++ v ∧ Lang r (a :: u) ∧ Lang s v) ∨ (Lang r [] ∧ Lang s (a :: w)) := by
      constructor
      · intro h
        generalize hx : a :: w = x at h
        cases h with
        | cat h1 h2 =>
          rename_i u v
          cases u with
          | nil => simp at hx; subst hx; exact Or.inr ⟨h1, h2⟩
          | cons b u' => simp at hx; obtain ⟨rfl, rfl⟩ := hx; exact Or.inl ⟨u', v, rfl, h1, h2⟩
      · rintro (⟨u, v, rfl, h1, h2⟩ | ⟨h1, h2⟩)
        · exact Lang.cat h1 h2
        · simpa using Lang.cat h1 h2
    have hc : Lang (mkCat (deriv a r) s) w ↔ ∃ u v, w = u ++ v ∧ Lang r (a :: u) ∧ Lang s v := by
      rw [lang_mkCat]
      constructor
      · intro h; cases h with | cat h1 h2 => exact ⟨_, _, rfl, (ihr _).1 h1, h2⟩
      · rintro ⟨u, v, rfl, h1, h2⟩; exact Lang.cat ((ihr _).2 h1) h2
    simp only [deriv]
    split
    · next hn =>
      rw [lang_mkAlt, key]
      have hn' := (nullable_iff r).1 hn
      constructor
      · intro h; cases h with
        | altL h => exact Or.inl (hc.1 h)
        | altR h => exact Or.inr ⟨hn', (ihs _).1 h⟩
      · rintro (h | ⟨_, h⟩)
        · exact Lang.altL (hc.2 h)
        · exact Lang.altR ((ihs _).2 h)
    · next hn =>
      rw [key, hc]
      constructor
      · intro h; exact Or.inl h
      · rintro (h | ⟨h, _⟩)
        · exact h
        · exact absurd ((nullable_iff r).2 h) hn
  | alt r s ihr ihs =>
    intro w; simp only [deriv]; rw [lang_mkAlt]
    constructor
    · intro h; cases h with
      | altL h => exact Lang.altL ((ihr _).1 h)
      | altR h => exact Lang.altR ((ihs _).1 h)
    · intro h; cases h with
      | altL h => exact Lang.altL ((ihr _).2 h)
      | altR h => exact Lang.altR ((ihs _).2 h)
  | star r ih =>
    intro w; simp only [deriv]; rw [lang_mkCat]
    constructor
    · intro h; cases h with | cat h1 h2 => exact Lang.starCons ((ih _).1 h1) h2
    · intro h
      obtain ⟨u, v, rfl, h1, h2⟩ := star_cons_split h
      exact Lang.cat ((ih _).2 h1) h2

end RE

def specStepO (G : Grammar) (a : Option (Spec.RE Kind)) (k : Kind) : Option (Spec.RE Kind) :=
  match a with
  | none => none
  | some r =>
    match specStep G r k with
    | none => none
    | some (r', _) => some r'

def specAccO (a : Option (Spec.RE Kind)) : Bool :=
  match a with
  | none => false
  | some r => Spec.RE.nullable r

def specRunO (G : Grammar) : Option (Spec.RE Kind) → List Kind → Option (Spec.RE Kind)
  | a, [] => a
  | a, k :: ks => specRunO G (specStepO G a k) ks

theorem specRunO_none (G : Grammar) (ks : List Kind) : specRunO G none ks = none := by
  induction ks with
  | nil => rfl
  | cons k ks ih => simpa [specRunO, specStepO] using ih

theorem specRun_eq (G : Grammar) (r : Spec.RE Kind) (ks : List Kind) :
    specRun G r ks = specRunO G (some r) ks := by
  induction ks generalizing r with
  | nil => rfl
  | cons k ks ih =>
    simp only [specRun, specRunO, specStepO]
    cases h : specStep G r k with
    | none => simp [specRunO_none]
    | some p => obtain ⟨r', o⟩ := p; simpa using ih r'

theorem sentence_eq (G : Grammar) (start : RuleType) (ks : List Kind) :
    Sentence G start ks = specAccO (specRunO G (some (startRE G start)) (ks ++ [.EOF])) := by
  unfold Sentence
  rw [specRun_eq]
  cases specRunO G (some (startRE G start)) (ks ++ [.EOF]) <;> rfl

/-- every line of the sequence is read as its own kind by `specStep`, starting from residual `r`:
    the first test of the line's fallback chain that the grammar can continue with is the line's
    own kind (so the line is neither skipped nor read as a comment / free text instead). -/
def ReadsOwn (G : Grammar) : Spec.RE Kind → List Kind → Prop
  | _, [] => True
  | r, k :: ks => specStep G r k = some (Spec.RE.deriv k r, some k) ∧ ReadsOwn G (Spec.RE.deriv k r) ks

theorem sentence_of_lang_run (G : Grammar) :
    ∀ (w : List Kind) (r : Spec.RE Kind), Spec.RE.Lang r w → ReadsOwn G r w →
      ∃ r', specRun G r w = some r' ∧ Spec.RE.nullable r' = true := by
  intro w
  induction w with
  | nil =>
    intro r hw _
    exact ⟨r, rfl, (RE.nullable_iff r).2 hw⟩
  | cons k ks ih =>
    intro r hw hown
    obtain ⟨h1, h2⟩ := hown
    obtain ⟨r', hr', hn⟩ := ih _ ((RE.deriv_correct k r ks).2 hw) h2
    exact ⟨r', by simp only [specRun, h1]; exact hr', hn⟩

theorem sentence_of_lang_gen (G : Grammar) (start : RuleType) (ks : List Kind)
    (hw : Spec.RE.Lang (startRE G start) (ks ++ [.EOF]))
    (hown : ReadsOwn G (startRE G start) (ks ++ [.EOF])) :
    Sentence G start ks = true := by
  obtain ⟨r', hr', hn⟩ := sentence_of_lang_run G _ _ hw hown
  simp [Sentence, hr', hn]

end GV.Lemmas
