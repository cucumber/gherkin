/-
  Lemmas/Roundtrip2Builder.lean — round trip: the builder on the data table of a step.
-/
import GherkinVerif.Lemmas.Roundtrip2Rows
import GherkinVerif.Lemmas.RoundtripBuilder
namespace GV
namespace Lemmas
open Spec

def rowItems (toks : List Token) : List (Key × Val) := toks.map fun t => (Key.tok .TableRow, Val.tok t)

theorem rowItems_snoc (toks : List Token) (t : Token) :
    rowItems toks ++ [(Key.tok .TableRow, Val.tok t)] = rowItems (toks ++ [t]) := by simp [rowItems]

theorem getTokens_rowItems (toks : List Token) : getTokens (rowItems toks) .TableRow = toks := by
  unfold getTokens
  rw [rowItems, getItems_map, if_pos rfl]
  exact filterMap_map_some Val.tok _ (fun _ => rfl) toks

def rowToks (μ : MState) : Nat → List (List Str) → List Token
  | _, [] => []
  | n, r :: rs => rowTok μ n r :: rowToks μ (n + 1) rs

theorem rowToks_length (μ : MState) (rows : List (List Str)) : ∀ n, (rowToks μ n rows).length = rows.length := by
  induction rows with
  | nil => intro n; rfl
  | cons r rs ih => intro n; simp [rowToks, ih]

theorem rowToks_append (μ : MState) (a b : List (List Str)) : ∀ n,
    rowToks μ n (a ++ b) = rowToks μ n a ++ rowToks μ (n + a.length) b := by
  induction a with
  | nil => intro n; simp [rowToks]
  | cons r rs ih => intro n; simp [rowToks, ih, Nat.add_assoc, Nat.add_comm 1]

theorem cellCols_length (cells : List Str) : ∀ p, (cellCols p cells).length = cells.length := by
  induction cells with
  | nil => intro p; rfl
  | cons c cs ih => intro p; simp [cellCols, ih]

theorem cellCols_pos (cells : List Str) : ∀ p, ∀ q ∈ cellCols p cells, (q.1 == 0) = false := by
  induction cells with
  | nil => intro p q hq; cases hq
  | cons c cs ih =>
    intro p q hq
    simp only [cellCols, List.mem_cons] at hq
    rcases hq with rfl | hq
    · split <;> simp
    · exact ih _ q hq

theorem getCells_rowTok (μ : MState) (n : Nat) (cells : List Str) :
    getCells (rowTok μ n cells) = (cellCols 6 cells).map fun p => ⟨⟨n, some p.1⟩, p.2⟩ := by
  unfold getCells
  apply List.map_congr_left
  intro p hp
  have := cellCols_pos cells 6 p hp
  simp [getLocation, this, rowTok]

theorem numberRows_rowToks (μ : MState) (rows : List (List Str)) : ∀ n i,
    numberRows (rowToks μ n rows) i = expRows n i rows := by
  induction rows with
  | nil => intro n i; rfl
  | cons r rs ih =>
    intro n i
    rw [rowToks, numberRows_cons, ih, expRows, expRow, getCells_rowTok]
    rfl

theorem endRule_datatable (t0 : Token) (ts : List Token) (hrect : ∀ t ∈ ts, t.items.length = t0.items.length)
    (rt : RuleType) (items : List (Key × Val)) (rest : List Node) (cm : List Comment) (i : Nat) :
    (⟨⟨.DataTable, rowItems (t0 :: ts)⟩ :: ⟨rt, items⟩ :: rest, cm⟩ : BState).endRule i =
      (.ok (), ⟨⟨rt, items ++ [(.rule .DataTable, .dataTable ⟨getLocation t0, numberRows (t0 :: ts) i⟩)]⟩ :: rest, cm⟩,
        i + (t0 :: ts).length) := by
  simp only [BState.endRule, dataTable_eq cm _ i t0 ts (getTokens_rowItems _) hrect]
  rfl

theorem rowToks_items_length (μ : MState) {r : List Str} : ∀ (rs : List (List Str)) (k : Nat),
    (∀ r' ∈ rs, r'.length = r.length) → ∀ t ∈ rowToks μ k rs, t.items.length = r.length
  | [], _, _, _, ht => by cases ht
  | a :: rs, k, hl, t, ht => by
    simp only [rowToks, List.mem_cons] at ht
    rcases ht with rfl | ht
    · simp [rowTok, cellCols_length, hl a (by simp)]
    · exact rowToks_items_length μ rs (k + 1) (fun r' hr' => hl r' (by simp [hr'])) t ht

theorem rowToks_rect (μ : MState) (n : Nat) {r : List Str} {rs : List (List Str)} (h : ∀ r' ∈ rs, r'.length = r.length) :
    ∀ t ∈ rowToks μ (n + 1) rs, t.items.length = (rowTok μ n r).items.length := by
  intro t ht
  rw [rowToks_items_length μ rs _ h t ht]
  simp [rowTok, cellCols_length]

theorem endRule_datatable_rows (μ : MState) (n : Nat) (r : List Str) (rs : List (List Str))
    (h : ∀ r' ∈ rs, r'.length = r.length) (rt : RuleType) (items : List (Key × Val)) (rest : List Node)
    (cm : List Comment) (i : Nat) :
    (⟨⟨.DataTable, rowItems (rowToks μ n (r :: rs))⟩ :: ⟨rt, items⟩ :: rest, cm⟩ : BState).endRule i =
      (.ok (), ⟨⟨rt, items ++ [(.rule .DataTable, .dataTable ⟨⟨n, some 5⟩, expRows n i (r :: rs)⟩)]⟩ :: rest, cm⟩,
        i + (r :: rs).length) := by
  rw [rowToks, endRule_datatable _ _ (rowToks_rect μ n h), ← rowToks, numberRows_rowToks, ← rowToks_length μ (r :: rs) n]
  rfl

theorem endRule_step_table (μ : MState) (n : Nat) (s : MStep) (dt : DataTable) (rt : RuleType)
    (items : List (Key × Val)) (rest : List Node) (cm : List Comment) (i : Nat) :
    (⟨⟨.Step, [(.tok .StepLine, .tok (stepTok μ n s)), (.rule .DataTable, .dataTable dt)]⟩ ::
        ⟨rt, items⟩ :: rest, cm⟩ : BState).endRule i =
      (.ok (), ⟨⟨rt, items ++ [(.rule .Step, .step
          { id := i, loc := ⟨n, some 3⟩, keyword := s.kw, ktype := stepKType μ.dialect s.kw, text := s.text,
            arg := .table dt })]⟩ :: rest, cm⟩, i + 1) := rfl

end Lemmas
end GV
