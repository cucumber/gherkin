/-
  Lemmas/PyStr.lean — the Python string primitives of Model/Py.lean on whitespace-indented
  lines.  The centre is `indent_split`: a line is its leading whitespace followed by `lstrip` of
  it, and conversely (`lstrip_ws_append`, `indentOf_space_append`) any such decomposition is that
  one.
-/
import GherkinVerif.Spec.DialectFacts
namespace GV.Lemmas
open GV Spec

theorem startsWith_iff (p s : Str) : startsWith p s = true ↔ ∃ r, s = p ++ r := by
  induction p generalizing s with
  | nil => simp [startsWith]
  | cons a p ih =>
    cases s with
    | nil => simp [startsWith]
    | cons b s =>
      simp only [startsWith, Bool.and_eq_true, beq_iff_eq, ih, List.cons_append, List.cons.injEq]
      constructor
      · rintro ⟨rfl, r, rfl⟩; exact ⟨r, rfl, rfl⟩
      · rintro ⟨r, rfl, rfl⟩; exact ⟨rfl, r, rfl⟩

theorem startsWith_iff_prefix (p s : Str) : startsWith p s = true ↔ p <+: s :=
  (startsWith_iff p s).trans ⟨fun ⟨r, h⟩ => ⟨r, h.symm⟩, fun ⟨r, h⟩ => ⟨r, h.symm⟩⟩

theorem startsWith_append (p r : Str) : startsWith p (p ++ r) = true :=
  (startsWith_iff p (p ++ r)).2 ⟨r, rfl⟩

theorem startsWith_nil_right (p : Str) : startsWith p [] = true ↔ p = [] := by
  cases p <;> simp [startsWith]

theorem startsWith_length (p s : Str) (h : startsWith p s = true) : p.length ≤ s.length := by
  obtain ⟨r, rfl⟩ := (startsWith_iff p s).1 h
  simp

theorem drop_length_append (k r : Str) : (k ++ r).drop k.length = r := List.drop_left

theorem drop_length_succ_append (k r : Str) (c : Nat) : (k ++ c :: r).drop (k.length + 1) = r := by
  rw [← List.drop_drop, drop_length_append]
  rfl

theorem noWsStart_cons {c : Nat} {r : Str} : noWsStart (c :: r) = !isSpace c := rfl

theorem noWsStart_append (k r : Str) (hk : noWsStart k = true) (hne : k ≠ []) :
    noWsStart (k ++ r) = true := by
  cases k with
  | nil => exact absurd rfl hne
  | cons a k => exact hk

theorem noWsStart_append_cons (k r : Str) (c : Nat) (hk : noWsStart k = true) (hc : isSpace c = false) :
    noWsStart (k ++ c :: r) = true := by
  cases k with
  | nil => simp [noWsStart, hc]
  | cons a k => exact hk

theorem indent_split (l : Str) :
    l = l.take (indentOf l) ++ lstrip l ∧ (∀ c ∈ l.take (indentOf l), isSpace c = true) ∧
    (l.take (indentOf l)).length = indentOf l ∧ l.drop (indentOf l) = lstrip l := by
  induction l with
  | nil => simp [indentOf, lstrip]
  | cons c cs ih =>
    by_cases hc : isSpace c = true
    · simp only [indentOf, lstrip, hc, if_true, List.take_succ_cons, List.cons_append,
        List.length_cons, List.drop_succ_cons, List.mem_cons]
      obtain ⟨h1, h2, h3, h4⟩ := ih
      refine ⟨by rw [← h1], ?_, by rw [h3], h4⟩
      rintro x (rfl | hx)
      · exact hc
      · exact h2 x hx
    · simp [indentOf, lstrip, hc]

theorem lstrip_eq_drop (l : Str) : lstrip l = l.drop (indentOf l) := (indent_split l).2.2.2.symm

theorem trimmed_eq_drop (l : Str) : trimmed l = l.drop (lineIndent l) := lstrip_eq_drop l

theorem indent_all_space (l : Str) : ∀ c ∈ l.take (indentOf l), isSpace c = true :=
  (indent_split l).2.1

theorem noWsStart_lstrip (s : Str) : noWsStart (lstrip s) = true := by
  induction s with
  | nil => rfl
  | cons c cs ih =>
    simp only [lstrip]
    split
    · exact ih
    · next h => simpa [noWsStart] using h

theorem indent_next_nonspace (l : Str) : ∀ c, l[indentOf l]? = some c → isSpace c = false := by
  intro c hc
  have h := noWsStart_lstrip l
  rw [lstrip_eq_drop] at h
  rw [← List.head?_drop] at hc
  cases hd : l.drop (indentOf l) with
  | nil => rw [hd] at hc; cases hc
  | cons a r =>
    rw [hd] at hc h
    cases hc
    simpa [noWsStart] using h

theorem lstrip_of_noWsStart (x : Str) (h : noWsStart x = true) : lstrip x = x := by
  cases x with
  | nil => rfl
  | cons c cs =>
    have : isSpace c = false := by simpa [noWsStart] using h
    simp [lstrip, this]

theorem lstrip_lstrip (s : Str) : lstrip (lstrip s) = lstrip s :=
  lstrip_of_noWsStart _ (noWsStart_lstrip s)

theorem lstrip_ws_append (ws x : Str) (hws : ∀ c ∈ ws, isSpace c = true) :
    lstrip (ws ++ x) = lstrip x := by
  induction ws with
  | nil => rfl
  | cons c cs ih =>
    have hc : isSpace c = true := hws c (by simp)
    simp only [List.cons_append, lstrip, hc, if_true]
    exact ih fun c h => hws c (by simp [h])

theorem lstrip_ws (ws : Str) (hws : ∀ c ∈ ws, isSpace c = true) : lstrip ws = [] := by
  have := lstrip_ws_append ws [] hws
  rwa [List.append_nil] at this

theorem indentOf_space_append : ∀ (l s : Str), (∀ c ∈ l, isSpace c = true) →
    indentOf (l ++ s) = l.length + indentOf s
  | [], _, _ => by simp
  | x :: l, s, h => by
    simp only [List.cons_append, indentOf, h x (by simp), if_true, List.length_cons,
      indentOf_space_append l s (fun c hc => h c (by simp [hc]))]
    omega

theorem indentOf_of_noWsStart (x : Str) (h : noWsStart x = true) : indentOf x = 0 := by
  cases x with
  | nil => rfl
  | cons c cs =>
    have : isSpace c = false := by simpa [noWsStart] using h
    simp [indentOf, this]

theorem trimmed_ws_append (ws x : Str) (hws : ∀ c ∈ ws, isSpace c = true) (hx : noWsStart x = true) :
    trimmed (ws ++ x) = x := by
  rw [trimmed, lstrip_ws_append ws x hws, lstrip_of_noWsStart x hx]

theorem indentOf_ws_append (ws x : Str) (hws : ∀ c ∈ ws, isSpace c = true) (hx : noWsStart x = true) :
    indentOf (ws ++ x) = ws.length := by
  rw [indentOf_space_append ws x hws, indentOf_of_noWsStart x hx, Nat.add_zero]

theorem dropWhileEnd_prefix (p : Nat → Bool) (x : Str) : dropWhileEnd p x <+: x := by
  induction x with
  | nil => exact List.prefix_refl _
  | cons a as ih =>
    unfold dropWhileEnd
    split
    · split
      · exact List.nil_prefix
      · exact List.prefix_cons_inj a |>.2 List.nil_prefix
    · exact List.prefix_cons_inj a |>.2 ih

theorem dropWhileEnd_idem (p q : Nat → Bool) (h : ∀ c, q c = true → p c = true) (s : Str) :
    dropWhileEnd q (dropWhileEnd p s) = dropWhileEnd p s := by
  induction s with
  | nil => rfl
  | cons c cs ih =>
    simp only [dropWhileEnd]
    split
    · next heq =>
      split
      · rfl
      · next hp =>
        have : q c = false := by
          cases hq : q c with
          | false => rfl
          | true => exact absurd (h c hq) hp
        simp [dropWhileEnd, this]
    · next r hne =>
      simp only [dropWhileEnd]
      rw [ih]
      split
      · next heq => exact absurd heq hne
      · rfl

/-- `strip` already removed any trailing CR/LF, so the `rstrip("\r\n")` of `_set_token_matched`
    leaves a stripped text unchanged -/
theorem rstripCRLF_strip (s : Str) : rstripCRLF (strip s) = strip s := by
  unfold rstripCRLF strip rstrip
  apply dropWhileEnd_idem
  intro c hc
  simp only [Bool.or_eq_true, beq_iff_eq] at hc
  rcases hc with rfl | rfl <;> decide

theorem takeWhile_dropWhile_append_cons (p : Nat → Bool) (a b : Str) (c : Nat)
    (ha : ∀ x ∈ a, p x = true) (hc : p c = false) :
    (a ++ c :: b).takeWhile p = a ∧ (a ++ c :: b).dropWhile p = c :: b := by
  rw [List.takeWhile_append_of_pos ha, List.dropWhile_append_of_pos ha]
  simp [hc]

theorem takeWhile_dropWhile_append (p : Nat → Bool) (a b : Str) (ha : ∀ c ∈ a, p c = true)
    (hb : ∀ c ∈ b, p c = false) : (a ++ b).takeWhile p = a ∧ (a ++ b).dropWhile p = b := by
  cases b with
  | nil => rw [List.takeWhile_append_of_pos ha, List.dropWhile_append_of_pos ha]; simp
  | cons c b => exact takeWhile_dropWhile_append_cons p a b c ha (hb c (by simp))

theorem dropWhileEnd_all {p : Nat → Bool} {w : Str} (h : ∀ c ∈ w, p c = true) : dropWhileEnd p w = [] := by
  induction w with
  | nil => rfl
  | cons c w ih =>
    have h1 := ih (fun d hd => h d (by simp [hd]))
    simp [dropWhileEnd, h1, h c (by simp)]

theorem dropWhileEnd_append_all {p : Nat → Bool} (s : Str) {w : Str} (h : ∀ c ∈ w, p c = true) :
    dropWhileEnd p (s ++ w) = dropWhileEnd p s := by
  induction s with
  | nil => simpa [dropWhileEnd] using dropWhileEnd_all h
  | cons c s ih => simp only [List.cons_append, dropWhileEnd, ih]

end GV.Lemmas
