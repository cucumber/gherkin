/-
  Lemmas/LayoutDoc4.lean — property C16, whole document: inserting a comment line.

  The lock-step simulation `SimX` of Lemmas/LayoutDoc3.lean for an inserted COMMENT line `b` read in
  a state whose `Comment` test is an unguarded build-only self-loop (`Spec.commentSelfLoop`): the
  second run hands `b` to the builder, which appends it to its comment list and leaves the stack of
  open nodes alone.  The builder states stay related by `BRel` (Lemmas/LayoutDoc4Builder.lean); the
  final `end_rule` yields documents whose comment lists differ by exactly that comment.  To know
  that no `end_rule` of the main loop closes the node of the start rule, the number of open nodes
  is tracked (`Spec.depthsOk`, `Spec.prodsOk`).
-/
import GherkinVerif.Lemmas.LayoutDoc4Builder
import GherkinVerif.Lemmas.LayoutDoc3
import GherkinVerif.Spec.LayoutChecks2
namespace GV
namespace Layout4
open Lemmas Spec Layout3

theorem matchLine_hash_no (D : List Dialect) (k : Kind) (μ : MState) (t : Token) {l r : Str}
    (hl : trimmed l = 35 :: r) (hk : k ≠ .Comment ∧ k ≠ .Other ∧ k ≠ .Language)
    (hkw : ∀ kw ∈ μ.dialect.allKeywords, plainStart kw = true)
    (hstep : ∀ kw ∈ μ.dialect.stepKeywords, kw ≠ []) (hsep : SepOk μ) :
    matchLine D k μ t l = ⟨t, μ, .no⟩ := by
  -- what a test finds at the start of this line starts with `#`
  have hs : ∀ {a : Nat} {p : Str}, lineStartsWith l (a :: p) = true → a = 35 := fun h => by
    unfold lineStartsWith at h
    rw [hl] at h
    exact startsWith_cons_head h
  have plain : ∀ {a : Nat} {kw : Str}, a :: kw ∈ μ.dialect.allKeywords → a ≠ 35 := fun hm ha => by
    have hp := hkw _ hm
    simp only [plainStart, Bool.and_eq_true, Bool.not_eq_true'] at hp
    obtain ⟨⟨⟨⟨⟨-, h35⟩, -⟩, -⟩, -⟩, -⟩ := hp
    subst ha
    simp [startsWith] at h35
  rw [matchLine_eq]
  rcases lineDec_cases D k μ l with h | h
  · rw [h]; rfl
  · exfalso
    generalize lineDec D k μ l = d at h
    cases h with
    | @title _ kw _ hm h =>
      cases kw with
      | nil => exact absurd (hs (a := 58) (p := []) (show lineStartsWith l [58] = true from h)) (by decide)
      | cons a kw =>
        exact plain (mem_allKeywords_title (mem_titleKeywords_of_role _ _ _ hm)) (hs (p := kw ++ [58]) (show lineStartsWith l (a :: (kw ++ [58])) = true from h))
    | @step kw hm h =>
      cases kw with
      | nil => exact hstep _ hm rfl
      | cons a kw => exact plain (mem_allKeywords_step hm) (hs h)
    | comment => exact hk.1 rfl
    | other => exact hk.2.1 rfl
    | language => exact hk.2.2 rfl
    | langErr => exact hk.2.2 rfl
    | empty he =>
      unfold lineIsEmpty at he
      rw [hl] at he
      cases he
    | row h | tags h | tagErr h => exact absurd (hs h) (by decide)
    | sepOpen hsep' _ h => rcases hsep' with rfl | rfl <;> exact absurd (hs h) (by decide)
    | sepClose ha _ h => rcases hsep _ ha with rfl | rfl <;> exact absurd (hs h) (by decide)

/-- `Layout3.CtxRest` with `BRel` between the builder states; `xo` says whether the second run has
    built the inserted comment yet -/
structure CtxR (D : List Dialect) (k : Nat) (xo : Option Comment) (c1 c2 : Ctx) : Prop where
  errors : c2.errors = c1.errors.map (mapErr (insertMap k))
  μ : c2.μ = c1.μ
  β : BRel (insertMap k) k xo c1.β c2.β
  ids : c2.ids = c1.ids
  unexpected : c2.unexpected = c1.unexpected.map (insertMap k).ln
  sane : Sane D c1.μ

/-- the two ways `PostIns (CtxR D k xo) k` holds, spelt out -/
def PostC (D : List Dialect) (k : Nat) (xo : Option Comment) {α} (R : α → α → Prop) (c1 c2 : Ctx)
    (x1 x2 : Except Abort α × Ctx) : Prop :=
  (∃ a1 a2 c1' c2', x1 = (.ok a1, c1') ∧ x2 = (.ok a2, c2') ∧ R a1 a2 ∧ CtxR D k xo c1' c2' ∧
    Frame c1 c1' ∧ Frame c2 c2') ∨
  (∃ e c1' c2', x1 = (.error e, c1') ∧ x2 = (.error (mapAbort (insertMap k) e), c2') ∧ CtxR D k xo c1' c2')

/-- … and `SimIns (CtxR D k xo) b k` -/
def SimC (D : List Dialect) (b : Str) (k : Nat) (xo : Option Comment) {α} (R : α → α → Prop) (m1 m2 : PM α) : Prop :=
  ∀ c1 c2, CtxR D k xo c1 c2 → LinesIns b k c1.lines c1.lineNo c2.lines c2.lineNo →
    PostC D k xo R c1 c2 (run m1 c1) (run m2 c2)


section simc
variable {D : List Dialect} {b : Str} {k : Nat} {xo : Option Comment}

theorem CtxR.scanRel : ScanIns D k (CtxR D k xo) where
  μ h := h.μ
  sane h := h.sane
  scan h _ _ hm hs _ _ _ _ _ _ _ _ := ⟨h.errors, hm, h.β, h.ids, h.unexpected, hs⟩
  single _ := rfl
  crash _ := rfl
  addErr cap e _ _ hc := addErr_of_map CtxR.errors (fun h _ => ⟨rfl, h.μ, h.β, h.ids, h.unexpected, h.sane⟩) cap e hc
  unexp n _ _ h := ⟨h.errors, h.μ, h.β, h.ids, by simp [h.unexpected], h.sane⟩

theorem CtxR.obs {c1 c2 : Ctx} (h : CtxR D k xo c1 c2) : CtxObs (insertMap k) c1 c2 :=
  ⟨h.errors, h.μ, h.ids, h.unexpected⟩

theorem SimC.mono {α} {R S : α → α → Prop} {m1 m2 : PM α} (h : SimC D b k xo R m1 m2)
    (hRS : ∀ a b, R a b → S a b) : SimC D b k xo S m1 m2 := by
  intro c1 c2 hc hl
  rcases h c1 c2 hc hl with ⟨a1, a2, c1', c2', e1, e2, hr, rest⟩ | h
  · exact .inl ⟨a1, a2, c1', c2', e1, e2, hRS _ _ hr, rest⟩
  · exact .inr h

/-- the kinds a comment line is matched as (apart from `Language`) -/
def commentTestK (K : Kind) : Bool := K == .Comment || K == .Other

/-- what the per-line lemmas need of the dialect in force -/
def KwOk (μ : MState) : Prop :=
  (∀ kw ∈ μ.dialect.allKeywords, plainStart kw = true) ∧ (∀ kw ∈ μ.dialect.stepKeywords, kw ≠ [])

theorem kwOk_of (hD : Spec.stepKeywordsOk D = true) (hP : Spec.keywordsPlainStart D = true) {μ : MState}
    (hμ : Sane D μ) : KwOk μ :=
  ⟨fun _ h => keywordsPlainStart_spec hP hμ.2 h, kw_ne_nil hD hμ⟩

theorem hash_matchAny (cap : Nat) (stop : Bool) {l r : Str} (hl : trimmed l = 35 :: r) :
    ∀ (ks : List Kind) (t : Token) (c : Ctx), Kind.Language ∉ ks → t.line = some l → KwOk c.μ → SepOk c.μ →
      ∃ t' j, run (matchAny D cap stop ks t) c = (.ok (ks.any commentTestK, t'), { c with calls := c.calls + j }) ∧
        (ks.any commentTestK = false → t' = t) := by
  intro ks
  induction ks with
  | nil => intro t c _ _ _ _; exact ⟨t, 0, rfl, fun _ => rfl⟩
  | cons K ks ih =>
    intro t c hlang htl hkw hsep
    have hlang' : Kind.Language ∉ ks := fun h => hlang (List.mem_cons_of_mem _ h)
    have hKL : K ≠ .Language := fun h => hlang (h ▸ List.mem_cons_self)
    unfold matchAny
    rw [prun_bind, run_matchP]
    have e : matchTok D K c.μ t = (matchLine D K c.μ t l, true) := by unfold matchTok; rw [htl]
    by_cases hK : commentTestK K = true
    · have hm : (matchLine D K c.μ t l).res = .matched ∧ (matchLine D K c.μ t l).μ = c.μ := by
        unfold commentTestK at hK
        simp only [Bool.or_eq_true, beq_iff_eq] at hK
        rcases hK with rfl | rfl
        · have : lineStartsWith l [35] = true := by unfold lineStartsWith; rw [hl]; rfl
          simp only [matchLine, this, ↓reduceIte, and_self]
        · exact ⟨rfl, rfl⟩
      simp only [e, hm.1, hm.2, ↓reduceIte, prun_pure, List.any_cons, hK, Bool.true_or]
      exact ⟨_, 1, rfl, fun h => by cases h⟩
    · have hne : K ≠ .Comment ∧ K ≠ .Other ∧ K ≠ .Language := by
        unfold commentTestK at hK
        simp only [Bool.or_eq_true, beq_iff_eq, not_or] at hK
        exact ⟨hK.1, hK.2, hKL⟩
      have hno := matchLine_hash_no D K c.μ t hl hne hkw.1 hkw.2 hsep
      simp only [e, hno, ↓reduceIte, Bool.false_eq_true, List.any_cons]
      obtain ⟨t', j, hr, hl'⟩ := ih t { c with calls := c.calls + 1 } hlang' htl hkw hsep
      have hKf : commentTestK K = false := by simpa using hK
      refine ⟨t', 1 + j, ?_, ?_⟩
      rotate_left
      · rw [hKf, Bool.false_or]; exact hl'
      rw [hKf, Bool.false_or]
      have ec : ({ c with μ := c.μ, calls := c.calls + 1 } : Ctx) = { c with calls := c.calls + 1 } := rfl
      rw [ec, hr]
      simp only [Nat.add_assoc]

def LaOkC (la : LookAhead) : Prop :=
  la.expected.any commentTestK = false ∧ la.skip.any commentTestK = true ∧
  Kind.Language ∉ la.expected ∧ Kind.Language ∉ la.skip

theorem peek_comment (hD : Spec.stepKeywordsOk D = true) (hP : Spec.keywordsPlainStart D = true) (cap : Nat)
    (stop : Bool) {la : LookAhead} (hla : LaOkC la) {r : Str} (hb : trimmed b = 35 :: r) :
    SkipsLine D cap stop b la := by
  intro ls n c hμ
  have hkw := kwOk_of hD hP hμ
  obtain ⟨t1, j1, h1, ht1⟩ := hash_matchAny (D := D) cap stop hb la.expected
    { line := some b, lineNo := n } c hla.2.2.1 rfl hkw hμ.1
  rw [hla.1] at h1
  have e1 := ht1 hla.1
  subst e1
  obtain ⟨t2, j2, h2, -⟩ := hash_matchAny (D := D) cap stop hb la.skip
    { line := some b, lineNo := n } { c with calls := c.calls + j1 } hla.2.2.2 rfl hkw hμ.1
  rw [hla.2.1] at h2
  refine ⟨j1 + j2, ?_⟩
  conv => lhs; unfold peekLoop
  rw [prun_bind, h1]
  simp only [Bool.false_eq_true, ↓reduceIte]
  rw [prun_bind, h2]
  simp only [↓reduceIte, Nat.add_assoc]

theorem okProds_cons {p : Prod} {ps : List Prod} {d : Nat} (h : okProds (p :: ps) d = true) :
    okProds [p] d = true ∧ okProds ps (applyProd p d) = true := by
  cases p <;> simp only [okProds, applyProd, Bool.and_eq_true, Bool.and_true] at h ⊢
  · exact h
  · exact h
  · exact ⟨trivial, h⟩

theorem csim_runProd (cap : Nat) (stop : Bool) {t1 t2 : Token} (p : Prod)
    (ht : p = .build → TokMap (insertMap k) t1 t2 ∧ LineOk k xo t1.lineNo) (c1 c2 : Ctx)
    (hc : CtxR D k xo c1 c2) (hp : okProds [p] c1.β.stack.length = true) :
    PostIns (CtxR D k xo) k (fun _ _ => True) c1 c2 (run (runProd cap stop t1 p) c1) (run (runProd cap stop t2 p) c2) := by
  rw [run_runProd, run_runProd]
  cases p with
  | start r =>
    have hr : r ≠ .GherkinDocument := by
      simp only [okProds, Bool.and_true, bne_iff_ne, ne_eq] at hp
      exact hp
    exact .ok ⟨trivial, ⟨hc.errors, hc.μ, hc.β.startRule hr, hc.ids, hc.unexpected, hc.sane⟩, ⟨rfl, rfl⟩, ⟨rfl, rfl⟩⟩
  | end_ r =>
    have hlen : 3 ≤ c1.β.stack.length := by
      simp only [okProds, Bool.and_true, decide_eq_true_eq] at hp
      exact hp
    simp only []
    rw [hc.ids]
    obtain ⟨h1, h2, h3, -⟩ := hc.β.endRule hlen c1.ids
    rw [h1, h3]
    have hc' : CtxR D k xo { c1 with β := (c1.β.endRule c1.ids).2.1, ids := (c1.β.endRule c1.ids).2.2 }
        { c2 with β := (c2.β.endRule c1.ids).2.1, ids := (c1.β.endRule c1.ids).2.2 } :=
      ⟨hc.errors, hc.μ, h2, rfl, hc.unexpected, hc.sane⟩
    exact (postX_liftB CtxR.scanRel cap stop _ hc').frames ⟨rfl, rfl⟩ ⟨rfl, rfl⟩
  | build =>
    simp only []
    obtain ⟨htm, hln⟩ := ht rfl
    rcases hc.β.build htm hln with ⟨w, e1, e2⟩ | ⟨β1, β2, e1, e2, hβ⟩
    · rw [e1, e2]
      exact postX_liftB CtxR.scanRel cap stop (.error (.crash w)) hc
    · rw [e1, e2]
      exact .ok ⟨trivial, ⟨hc.errors, hc.μ, hβ, hc.ids, hc.unexpected, hc.sane⟩, ⟨rfl, rfl⟩, ⟨rfl, rfl⟩⟩

theorem csim_runProds (cap : Nat) (stop : Bool) {t1 t2 : Token} (ht : TokMap (insertMap k) t1 t2)
    (hln : LineOk k xo t1.lineNo) :
    ∀ (ps : List Prod) (c1 c2 : Ctx), CtxR D k xo c1 c2 → okProds ps c1.β.stack.length = true →
      PostIns (CtxR D k xo) k (fun _ _ => True) c1 c2 (run (runProds cap stop t1 ps) c1) (run (runProds cap stop t2 ps) c2) := by
  intro ps
  induction ps with
  | nil => intro c1 c2 hc _; exact .ok ⟨trivial, hc, Frame.refl _, Frame.refl _⟩
  | cons p ps ih =>
    intro c1 c2 hc hp
    obtain ⟨hp1, hp2⟩ := okProds_cons hp
    unfold runProds
    refine PostR.bind (csim_runProd cap stop p (fun _ => ⟨ht, hln⟩) c1 c2 hc hp1) (fun a1 _ c1' c2' e1 _ ⟨_, hc', fr1, fr2⟩ => ?_)
      (Sticky.abort2 (fun _ _ => False) _ _)
    have hd := depthTo_runProd cap stop t1 p c1 a1 c1' e1
    exact (ih c1' c2' hc' (by rw [hd]; exact hp2)).frames fr1 fr2

structure TableOkC (T : Table) (ds : List (Nat × Nat)) : Prop where
  la : ∀ (i : Nat) (la : LookAhead), T.lookaheads[i]? = some la → LaOkC la
  depths : Spec.depthsOk T ds = true
  prods : Spec.prodsOk T ds = true

theorem TableOkC.of_facts {T : Table} {ds : List (Nat × Nat)} (hL : Spec.lookaheadsCommentOk T = true)
    (hd : Spec.depthsOk T ds = true) (hp : Spec.prodsOk T ds = true) : TableOkC T ds := by
  refine ⟨fun i la hla => ?_, hd, hp⟩
  have hmem : la ∈ T.lookaheads := List.mem_of_getElem? hla
  unfold Spec.lookaheadsCommentOk at hL
  rw [List.all_eq_true] at hL
  have h0 := hL la hmem
  simp only [Bool.and_eq_true, Bool.not_eq_true', List.contains_eq_mem, decide_eq_true_eq,
    decide_eq_false_iff_not] at h0
  obtain ⟨⟨⟨⟨⟨h1, h2⟩, h3⟩, h4⟩, h5⟩, h6⟩ := h0
  refine ⟨?_, ?_, h4, h5⟩
  · rw [List.any_eq_false]
    intro K hK hKe
    unfold commentTestK at hKe
    simp only [Bool.or_eq_true, beq_iff_eq] at hKe
    rcases hKe with rfl | rfl
    · exact h2 hK
    · exact h3 hK
  · rw [List.any_eq_true]
    exact ⟨.Comment, h1, rfl⟩

theorem csim_matchTokenPure (hD : Spec.stepKeywordsOk D = true) (hP : Spec.keywordsPlainStart D = true) {T : Table}
    {ds : List (Nat × Nat)} (hT : TableOkC T ds) {r : Str} (hb : trimmed b = 35 :: r) (stop : Bool) (state : Nat)
    {t1 t2 : Token} (ht : TokIns k t1 t2) (hln : LineOk k xo t1.lineNo) (c1 c2 : Ctx) (hc : CtxR D k xo c1 c2)
    (hl : LinesIns b k c1.lines c1.lineNo c2.lines c2.lineNo) (hd : c1.β.stack.length = depthAt ds state) :
    PostIns (CtxR D k xo) k Eq c1 c2 (run (matchTokenPure D T stop state t1) c1)
      (run (matchTokenPure D T stop state t2) c2) := by
  refine simX_matchTokenPure CtxR.scanRel state ht c1 c2 hc hl
    (fun _ _ _ _ i la _ h _ => simX_lookaheadPure CtxR.scanRel T.errorCap stop (peek_comment hD hP T.errorCap stop (hT.la i la h) hb))
    fun row hrow br hbr u1 u2 hu hcol hn d1 d2 hdc _ hβ => ?_
  have hmem : row ∈ T.rows := List.mem_of_find?_eq_some hrow
  have hid : row.id = state := by
    have := List.find?_some hrow
    simpa using this
  have hp := hT.prods
  unfold Spec.prodsOk at hp
  rw [List.all_eq_true] at hp
  have h1 := hp row hmem
  rw [List.all_eq_true, hid] at h1
  exact csim_runProds T.errorCap stop (hu.tokMap hcol) (hn ▸ hln) br.prods d1 d2 hdc (by rw [hβ, hd]; exact h1 br hbr)

/-- the relations of the two main loops: `CtxR`, and the first builder's stack has the depth of the
    parser state -/
abbrev JC0 (D : List Dialect) (ds : List (Nat × Nat)) (b : Str) (k : Nat) (q : List Str) :=
  JX0 (CtxR D k none) (fun _ s c _ => c.β.stack.length = depthAt ds s) b k q
abbrev JC1 (D : List Dialect) (ds : List (Nat × Nat)) (k : Nat) (x : Comment) :=
  JX1 (CtxR D k (some x)) (fun s c => c.β.stack.length = depthAt ds s) k
abbrev ECR (D : List Dialect) (k : Nat) (xo : Option Comment) := EC (CtxR D k xo) (mapAbort (insertMap k))

theorem csim_step0 (hD : Spec.stepKeywordsOk D = true) (hP : Spec.keywordsPlainStart D = true) {T : Table}
    {ds : List (Nat × Nat)} (hT : TableOkC T ds) {r : Str} (hb : trimmed b = 35 :: r) (stop : Bool)
    {q p : List Str} {l : Str} {s : Nat} {c1 c2 : Ctx} (h : JC0 D ds b k q (l :: p) s c1 c2) :
    PostR (fun s1 s2 d1 d2 => s2 = s1 ∧ JC0 D ds b k q p s1 d1 d2) (ECR D k none) (Escaped fun _ => False)
      (run (matchTokenPure D T stop s (nextTok c1)) (taken c1)) (run (matchTokenPure D T stop s (nextTok c2)) (taken c2)) :=
  h.step (csim_matchTokenPure hD hP hT hb stop s h.tok.1 (xo := none) h.tok.2.1 _ _ (h.next CtxR.scanRel) h.linesIns
      h.2.2.2.2.2)
    fun s' d1 _ r1 _ => depth_matchTokenPure D hT.depths stop s _ (taken c1) s' d1 h.2.2.2.2.2 r1

theorem csim_step1 (hD : Spec.stepKeywordsOk D = true) (hP : Spec.keywordsPlainStart D = true) {T : Table}
    {ds : List (Nat × Nat)} (hT : TableOkC T ds) {r : Str} (hb : trimmed b = 35 :: r) (stop : Bool) {x : Comment}
    {s1 s2 : Nat} {c1 c2 : Ctx} (h : JC1 D ds k x s1 s2 c1 c2) :
    PostR (JC1 D ds k x) (ECR D k (some x)) (Escaped fun _ => False)
      (run (matchTokenPure D T stop s1 (nextTok c1)) (taken c1)) (run (matchTokenPure D T stop s2 (nextTok c2)) (taken c2)) := by
  obtain rfl : s2 = s1 := h.1
  exact h.step (csim_matchTokenPure hD hP hT hb stop s2 h.tok.1 (xo := some x) h.tok.2 _ _ (h.next CtxR.scanRel)
      (h.linesIns (b := b)) h.2.2.2.2.2)
    fun s' d1 r1 => depth_matchTokenPure D hT.depths stop s2 _ (taken c1) s' d1 h.2.2.2.2.2 r1

def commentTok (μ : MState) (t : Token) (l : Str) : Token := setMatched μ t .Comment (text := some l) (indent := some 0)

theorem tryBranchesPure_comment (T : Table) (stop : Bool) (row : StateRow) (μ : MState)
    {t : Token} {l r : Str} (hl : t.line = some l) (hb : trimmed l = 35 :: r) (hkw : KwOk μ) (hsep : SepOk μ)
    (bs : List Branch) (b0 : Branch) (hf : bs.find? (fun br => passes .Comment br.kind) = some b0)
    (hk : b0.kind = .Comment) (hg : b0.guard = none)
    (hlang : (∃ br ∈ bs, br.kind = .Language) → languageRe (lineText l none) = none) (c : Ctx) (hμ : c.μ = μ) :
    ∃ n, run (tryBranchesPure D T stop row bs t) c =
      run (do runProds T.errorCap stop (commentTok μ t l) b0.prods; Pure.pure b0.target : PM Nat)
        { c with calls := c.calls + (n + 1) } := by
  refine tryBranchesPure_first T stop row μ (fun br => passes .Comment br.kind) bs b0 hf
    (fun br hbr he => ?_) ?_ hg c hμ
  · have hne : br.kind ≠ .Comment ∧ br.kind ≠ .Other := by
      rw [passes_comment] at he
      simp only [Bool.or_eq_false_iff, beq_eq_false_iff_ne, ne_eq] at he
      exact he
    unfold matchTok; rw [hl]; simp only []
    by_cases hL : br.kind = .Language
    · rw [hL]
      have := hlang ⟨br, hbr, hL⟩
      simp only [matchLine, this]
    · rw [matchLine_hash_no D br.kind μ t hb ⟨hne.1, hne.2, hL⟩ hkw.1 hkw.2 hsep]
  · have hs : lineStartsWith l [35] = true := by unfold lineStartsWith; rw [hb]; rfl
    unfold matchTok; rw [hl, hk]; simp only [matchLine, hs, ↓reduceIte]; rfl

theorem commentSelfLoop_spec {T : Table} {s : Nat} (h : Spec.commentSelfLoop T s = true) :
    ∃ row b0, T.row? s = some row ∧ commentBranch row = some b0 ∧ b0.kind = .Comment ∧ b0.guard = none ∧
      b0.prods = [.build] ∧ b0.target = s := by
  unfold Spec.commentSelfLoop at h
  cases hrow : T.row? s with
  | none => rw [hrow] at h; cases h
  | some row =>
    rw [hrow] at h
    simp only [] at h
    cases hfind : commentBranch row with
    | none => rw [hfind] at h; cases h
    | some b0 =>
      rw [hfind] at h
      simp only [Bool.and_eq_true, beq_iff_eq, Option.isNone_iff_eq_none] at h
      exact ⟨row, b0, rfl, hfind, h.1.1.1, h.1.1.2, h.1.2, h.2⟩

theorem matchTokenPure_comment (T : Table) (stop : Bool) {s : Nat} {row : StateRow} {b0 : Branch}
    (hrow : T.row? s = some row) (hfind : commentBranch row = some b0) (hk : b0.kind = .Comment)
    (hg : b0.guard = none) {t : Token} {l r : Str} (hl : t.line = some l) (hb : trimmed l = 35 :: r) (c : Ctx)
    (hkw : KwOk c.μ) (hsep : SepOk c.μ)
    (hlang : Spec.languageTested T s = true → languageRe (lineText l none) = none) :
    ∃ n, run (matchTokenPure D T stop s t) c =
      run (do runProds T.errorCap stop (commentTok c.μ t l) b0.prods; Pure.pure b0.target : PM Nat)
        { c with calls := c.calls + (n + 1) } := by
  unfold Spec.languageTested at hlang
  rw [hrow] at hlang
  unfold matchTokenPure
  rw [hrow]
  refine tryBranchesPure_comment T stop row c.μ hl hb hkw hsep row.branches b0 hfind hk hg
    (fun ⟨br, hbr, hkL⟩ => hlang ?_) c rfl
  rw [List.any_eq_true]
  exact ⟨br, hbr, by rw [hkL]; rfl⟩

/-- the second run reads the inserted comment (as line `n`): it comes back to the same state with the
    comment in the builder's list -/
theorem comment_step (hD : Spec.stepKeywordsOk D = true) (hP : Spec.keywordsPlainStart D = true) {T : Table}
    {r : Str} (hb : trimmed b = 35 :: r) (stop : Bool) {s : Nat} (hs : Spec.commentSelfLoop T s = true)
    (hlang : Spec.languageTested T s = true → languageRe (lineText b none) = none) (n : Nat)
    {c1 c2 : Ctx} (hc : CtxR D k none c1 c2) :
    ∃ c2', run (matchTokenPure D T stop s { line := some b, lineNo := n }) c2 = (.ok s, c2') ∧
      CtxR D k (some ⟨⟨n, some 1⟩, rstripCRLF b⟩) c1 c2' ∧ Frame c2 c2' := by
  have hsane : Sane D c2.μ := hc.μ ▸ hc.sane
  obtain ⟨row, b0, hrow, hfind, hk, hg, hp, htg⟩ := commentSelfLoop_spec hs
  obtain ⟨m, hn⟩ := matchTokenPure_comment (D := D) T stop hrow hfind hk hg
    (t := { line := some b, lineNo := n }) rfl hb c2 (kwOk_of hD hP hsane) hsane.1 hlang
  obtain ⟨β2', e2, hβ⟩ := hc.β.build_extra
    (t := commentTok c2.μ { line := some b, lineNo := n } b) (tx := rstripCRLF b) rfl rfl
  rw [hn, hp, htg]
  simp only [runProds, prun_bind, run_runProd, e2, prun_pure]
  exact ⟨_, rfl, ⟨hc.errors, hc.μ, hβ, hc.ids, hc.unexpected, hc.sane⟩, rfl, rfl⟩

theorem csim_lines (hD : Spec.stepKeywordsOk D = true) (hP : Spec.keywordsPlainStart D = true) {T : Table}
    {ds : List (Nat × Nat)} (hT : TableOkC T ds) {r : Str} (hb : trimmed b = 35 :: r)
    (stop : Bool) (pre post : List Str) {c1 c2 : Ctx} (hc : CtxR D pre.length none c1 c2)
    (h1 : c1.lines = pre ++ post) (h2 : c2.lines = pre ++ b :: post) (hn1 : c1.lineNo = 0) (hn2 : c2.lineNo = 0)
    (hd : c1.β.stack.length = depthAt ds 0)
    (hst : ∀ s flag c, run (parsePrefixPure D T stop pre.length 0) c1 = (.ok (s, flag), c) →
      Spec.commentSelfLoop T s = true ∧ (Spec.languageTested T s = true → languageRe (lineText b none) = none)) :
    PostR (JC1 D ds pre.length ⟨⟨pre.length + 1, some 1⟩, rstripCRLF b⟩) (EX pre.length) (Escaped fun _ => False)
      (run (parseLinesPure D T stop ((pre ++ post).length + 2) 0) c1)
      (run (parseLinesPure D T stop ((pre ++ b :: post).length + 2) 0) c2) := by
  refine PostR.monoE (simX_insert rfl pre post (c1 := c1) (c2 := c2) ⟨hc, h1, h2, by rw [hn1, hn2], by rw [hn1]; simp, hd⟩
    (fun l p s c1 c2 h => csim_step0 hD hP hT hb stop h) (fun s flag d1 d2 r1 _ hj => ?_)
    (fun s1 s2 c1 c2 h => csim_step1 hD hP hT hb stop h))
    fun _ _ _ _ _ h => h.elim (EC.obs CtxR.obs) fun h => EC.obs CtxR.obs h.1
  obtain ⟨hs, hlang⟩ := hst s flag d1 r1
  obtain ⟨d2', hr, hc', fr⟩ := comment_step hD hP hb stop hs hlang (pre.length + 1) (hj.next2 CtxR.scanRel)
  exact .inl ⟨d2', hr, hc', fr, hj.2.2.2.2.2⟩

/-- the renamed comment list with the inserted comment is what `insertComment` makes -/
theorem commRel_insert {x : Comment} {cs1 cs2 : List Comment} (h : CommRel (insertMap k) k (some x) cs1 cs2) :
    cs2 = (cs1.map (mapComment (insertMap k))).takeWhile (fun c => decide (c.loc.line ≤ k)) ++
      x :: (cs1.map (mapComment (insertMap k))).dropWhile (fun c => decide (c.loc.line ≤ k)) := by
  obtain ⟨A, B, e1, e2, hA, hB⟩ := h
  have pA : ∀ a ∈ A.map (mapComment (insertMap k)), decide (a.loc.line ≤ k) = true := by
    intro a ha
    obtain ⟨a0, ha0, rfl⟩ := List.mem_map.1 ha
    have := hA a0 ha0
    simp only [mapComment, insertMap_loc, decide_eq_true_eq, insertMap_ln_le k this]
    exact this
  have pB : ∀ b' ∈ B.map (mapComment (insertMap k)), decide (b'.loc.line ≤ k) = false := by
    intro b' hb'
    obtain ⟨b0, hb0, rfl⟩ := List.mem_map.1 hb'
    have := hB b0 hb0
    simp only [mapComment, insertMap_loc, decide_eq_false_iff_not, insertMap_ln_gt k this]
    omega
  have tw : ∀ (X Y : List Comment) (p : Comment → Bool), (∀ a ∈ X, p a = true) → (∀ b' ∈ Y, p b' = false) →
      (X ++ Y).takeWhile p = X ∧ (X ++ Y).dropWhile p = Y := by
    intro X Y p hX hY
    induction X with
    | nil =>
      cases Y with
      | nil => exact ⟨rfl, rfl⟩
      | cons y Y => simp [hY y List.mem_cons_self]
    | cons a X ih =>
      obtain ⟨i1, i2⟩ := ih fun a' h' => hX a' (List.mem_cons_of_mem _ h')
      simp [hX a List.mem_cons_self, i1, i2]
  obtain ⟨t1, t2⟩ := tw _ _ _ pA pB
  rw [e1, List.map_append, t1, t2, e2]

/-- the document `d` renamed, with the comment `x` of line `k + 1` among its comments -/
def insertDoc (k : Nat) (x : Comment) (d : Doc) : Doc :=
  { feature := d.feature.map (mapFeature (insertMap k)),
    comments := (d.comments.map (mapComment (insertMap k))).takeWhile (fun c => decide (c.loc.line ≤ k)) ++
      x :: (d.comments.map (mapComment (insertMap k))).dropWhile (fun c => decide (c.loc.line ≤ k)) }

/-- how the two parses end after their main loops: with documents that differ by the renaming and the
    comment `x`, or with the same abort, renamed -/
abbrev PostD (k : Nat) (x : Comment) (y1 y2 : Except Abort Doc × Ctx) : Prop :=
  PostR (fun d1 d2 c1' c2' => d2 = insertDoc k x d1 ∧ CtxObs (insertMap k) c1' c2') (EX k) (Escaped fun _ => False) y1 y2

theorem PostD.outcome {x : Comment} {y1 y2 : Except Abort Doc × Ctx} (h : PostD k x y1 y2) :
    (toOutcome y2).1 = insertComment k x (mapOutcome (insertMap k) (toOutcome y1).1) ∧
    CtxObs (insertMap k) (toOutcome y1).2 (toOutcome y2).2 := by
  rcases h with ⟨d, _, c1', c2', rfl, rfl, rfl, hc⟩ | ⟨e, _, c1', c2', rfl, rfl, rfl, hc⟩ | ⟨_, _, h⟩
  · exact ⟨rfl, hc⟩
  · cases e <;> exact ⟨rfl, hc⟩
  · exact h.elim

theorem tail_csim {T : Table} (stop : Bool) {x : Comment} {c1' c2' : Ctx} (hc' : CtxR D k (some x) c1' c2') :
    PostD k x (run (bodyTail T stop) c1') (run (bodyTail T stop) c2') := by
  refine bodyTail_rel (C := fun _ _ d1 d2 => CtxObs (insertMap k) d1 d2 ∧
    ResRel (insertMap k) k (some x) d1.β.result d2.β.result) ?_ (fun d1 d2 ⟨hod, hres⟩ => ?_)
    fun _ _ => Sticky.abort2 (fun _ _ => False) _ _
  · rw [run_runProd, run_runProd]
    simp only []
    rw [hc'.ids]
    obtain ⟨q1, q2, -, hres⟩ := hc'.β.endRule_result c1'.ids
    rw [q1, q2]
    have ho : CtxObs (insertMap k)
        { c1' with β := (c1'.β.endRule c1'.ids).2.1, ids := (c1'.β.endRule c1'.ids).2.2 }
        { c2' with β := (c2'.β.endRule c1'.ids).2.1, ids := (c1'.β.endRule c1'.ids).2.2 } :=
      ⟨hc'.errors, hc'.μ, rfl, hc'.unexpected⟩
    rcases postX_liftB CtxObs.scanRel T.errorCap stop (c1'.β.endRule c1'.ids).1 ⟨ho, hc'.sane⟩ with
      ⟨_, _, d1, d2, p1, p2, -, ⟨hod, -⟩, -, -⟩ | ⟨a', _, d1, d2, p1, p2, rfl, hod, -⟩ | ⟨_, _, h⟩
    · rw [p1, p2]
      refine .ok ⟨hod, ?_⟩
      rw [run_beta (keepsB_liftB _ _ _) p1, run_beta (keepsB_liftB _ _ _) p2]
      exact hres
    · rw [p1, p2]
      exact .err ⟨rfl, hod⟩
    · exact h.elim
  · unfold bodyResult
    rw [hod.errors, List.isEmpty_map]
    split
    · exact .err ⟨rfl, hod⟩
    · rcases hres with ⟨z1, z2⟩ | ⟨x1, x2, z1, z2, hf, hcm⟩
      · rw [z1, z2]
        exact .err ⟨rfl, hod⟩
      · rw [z1, z2]
        refine .ok ⟨?_, hod⟩
        cases x2 with
        | mk ft cm =>
          simp only at hf hcm
          rw [hf, commRel_insert hcm]
          rfl

theorem CtxR.start {T : Table} {μ : MState} (hμ : (μ.reset D).dialect ∈ D) (ids : Nat) (src src' : Str) :
    CtxR D k none (startCtx D T μ ids src) (startCtx D T μ ids src') :=
  ⟨rfl, rfl, BRel.start0 _ _, rfl, rfl, sane_start hμ⟩

theorem parseWithPure_comment {D : List Dialect} (hD : Spec.stepKeywordsOk D = true)
    (hP : Spec.keywordsPlainStart D = true) {T : Table} {ds : List (Nat × Nat)} (hT : TableOkC T ds)
    {b : Str} (hb : lineStartsWith b [35] = true) (stop : Bool) (μ : MState) (ids : Nat) {src src' : Str}
    (pre post : List Str) (h1 : splitLines src = pre ++ post) (h2 : splitLines src' = pre ++ b :: post)
    (hμ : (μ.reset D).dialect ∈ D)
    (hst : ∀ s c, Spec.runAfter D T stop μ ids src pre.length = some (s, c) →
      Spec.commentSelfLoop T s = true ∧ (Spec.languageTested T s = true → languageRe (lineText b none) = none)) :
    (parseWithPure D T stop μ ids src').1 =
      insertComment pre.length ⟨⟨pre.length + 1, some 1⟩, rstripCRLF b⟩
        (mapOutcome (insertMap pre.length) (parseWithPure D T stop μ ids src).1) ∧
    CtxObs (insertMap pre.length) (parseWithPure D T stop μ ids src).2 (parseWithPure D T stop μ ids src').2 := by
  obtain ⟨r, hbr⟩ := (startsWith_iff _ _).1 (show startsWith [35] (trimmed b) = true from hb)
  rw [parseWithPure_lines, parseWithPure_lines]
  exact PostD.outcome <| insert_parseWithPure h1 h2
    (csim_lines hD hP hT hbr stop pre post (CtxR.start hμ ids src src') h1 h2 rfl rfl
      (by rw [depthsOk_start hT.depths]; rfl) fun s _ c hrun => hst s c (runAfter_of_prefix hrun))
    (fun _ _ _ _ h => tail_csim stop h.2.1) (Sticky.abort2 (fun _ _ => False) _ _)

end simc

theorem comment_line_parseWith {D : List Dialect} {T : Table} (hD : Spec.stepKeywordsOk D = true)
    (hQD : Spec.queueDialectFacts D = true) (hQT : Spec.queueFacts T = true)
    (hCB : Spec.commentBlankTested T = true) {ds : List (Nat × Nat)} (hT : TableOkC T ds)
    {b : Str} (hb : lineStartsWith b [35] = true) (stop : Bool) (μ : MState) (ids : Nat)
    {src src' : Str} (pre post : List Str)
    (h1 : splitLines src = pre ++ post) (h2 : splitLines src' = pre ++ b :: post)
    (hμ : (μ.reset D).dialect ∈ D)
    (hst : ∀ s, Spec.stateAfter D T stop μ ids src pre.length = some s →
      Spec.commentSelfLoop T s = true ∧ (Spec.languageTested T s = true → languageRe (lineText b none) = none)) :
    (parseWith D T stop μ ids src').1 =
      insertComment pre.length ⟨⟨pre.length + 1, some 1⟩, rstripCRLF b⟩
        (mapOutcome (insertMap pre.length) (parseWith D T stop μ ids src).1) ∧
    CtxObs (insertMap pre.length) (parseWith D T stop μ ids src).2 (parseWith D T stop μ ids src').2 :=
  parseWith_of_pure hQD hQT hCB stop μ ids src src' hμ
    (g := fun o => insertComment pre.length ⟨⟨pre.length + 1, some 1⟩, rstripCRLF b⟩ (mapOutcome (insertMap pre.length) o))
    (parseWithPure_comment hD hQD hT hb stop μ ids pre post h1 h2 hμ
      fun s c hr => hst s (by unfold Spec.stateAfter; rw [hr]; rfl))

end Layout4
end GV
