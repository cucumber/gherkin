/-
  Lemmas/Roundtrip2Rows.lean — round trip: the rendered table row `    | a | bb |` is
  matched as a table row with the cells at their columns (`row_match`).
-/
import GherkinVerif.Spec.Render2
import GherkinVerif.Lemmas.RoundtripTags
import GherkinVerif.Lemmas.Cells
namespace GV
namespace Lemmas
open Spec

theorem cellOK_spec {c : Str} (h : cellOK c = true) :
    noWsStart c = true ∧ noWsEnd c = true ∧ ∀ x ∈ c, x ≠ 124 ∧ x ≠ 92 ∧ x ≠ 10 := by
  simp only [cellOK, Bool.and_eq_true, List.all_eq_true, bne_iff_ne, ne_eq] at h
  exact ⟨h.1.1, h.1.2, fun x hx => ⟨(h.2 x hx).1.1, (h.2 x hx).1.2, (h.2 x hx).2⟩⟩

theorem tableOK_spec {rows : List (List Str)} (h : tableOK rows = true) :
    ∀ r ∈ rows, r.length = (rows.headD []).length ∧ ∀ c ∈ r, cellOK c = true := by
  simp only [tableOK, List.all_eq_true, Bool.and_eq_true, beq_iff_eq] at h
  exact fun r hr => ⟨(h r hr).1.2, (h r hr).2⟩

theorem splitCells_run (s rest : Str) (hs : ∀ x ∈ s, x ≠ 124 ∧ x ≠ 92) : ∀ (col start : Nat) (acc : Str),
    splitCells (s ++ 124 :: rest) col start acc false =
      (acc ++ s, start) :: splitCells rest (col + s.length + 1) (col + s.length + 2) [] false := by
  induction s with
  | nil => intro col start acc; rw [List.nil_append, splitCells_pipe_false]; simp
  | cons x s ih =>
    intro col start acc
    obtain ⟨h1, h2⟩ := hs x (by simp)
    rw [List.cons_append, splitCells_chr _ _ _ _ _ _ h1 h2]
    rw [ih (fun y hy => hs y (by simp [hy]))]
    simp [Nat.add_assoc, Nat.add_comm 1]

/-- the raw cells (text between the bars, start column in the stripped row) -/
def rawCells : Nat → List Str → List (Str × Nat)
  | _, [] => []
  | st, c :: cs => (32 :: c ++ [32], st) :: rawCells (st + c.length + 3) cs

theorem splitCells_cells (cells : List Str) (h : ∀ c ∈ cells, ∀ x ∈ c, x ≠ 124 ∧ x ≠ 92) : ∀ col,
    splitCells (cells.flatMap fun c => 32 :: c ++ [32, 124]) col (col + 1) [] false = rawCells (col + 1) cells := by
  induction cells with
  | nil => intro col; rfl
  | cons c cs ih =>
    intro col
    have e : ((c :: cs).flatMap fun c => 32 :: c ++ [32, 124]) =
        (32 :: c ++ [32]) ++ 124 :: (cs.flatMap fun c => 32 :: c ++ [32, 124]) := by simp
    rw [e, splitCells_run _ _ (by
      intro x hx
      simp only [List.mem_cons, List.mem_append, List.not_mem_nil, or_false] at hx
      rcases hx with (rfl | hx) | rfl
      · decide
      · exact h c (by simp) x hx
      · decide)]
    have hl : (32 :: c ++ [32]).length = c.length + 2 := by simp
    rw [hl, rawCells, List.nil_append]
    have e2 : col + (c.length + 2) + 2 = (col + (c.length + 2) + 1) + 1 := by omega
    rw [e2, ih (fun c' hc' => h c' (by simp [hc'])) (col + (c.length + 2) + 1)]
    have e3 : col + (c.length + 2) + 1 + 1 = col + 1 + c.length + 3 := by omega
    rw [e3]

theorem isBlank_32 : isBlank 32 = true := by decide

theorem cell_fields (c : Str) (h1 : noWsStart c = true) (h2 : noWsEnd c = true) :
    lstripBlank (32 :: c ++ [32]) = (if c.isEmpty then [] else c ++ [32]) ∧
    rstripBlank (lstripBlank (32 :: c ++ [32])) = c := by
  have hb : ∀ x, isBlank x = true → isSpace x = true := by
    intro x hx; simp only [isBlank, Bool.and_eq_true] at hx; exact hx.1
  cases c with
  | nil => simp [lstripBlank, isBlank_32, rstripBlank, dropWhileEnd]
  | cons a r =>
    have ha : isSpace a = false := by simpa [noWsStart] using h1
    have hba : isBlank a = false := by simp [isBlank, ha]
    have e : lstripBlank (32 :: (a :: r) ++ [32]) = (a :: r) ++ [32] := by
      simp [lstripBlank, isBlank_32, hba]
    refine ⟨by rw [e]; simp, ?_⟩
    rw [e, rstripBlank, dropWhileEnd_append_single _ _ _ isBlank_32, dropWhileEnd_noWsEnd _ hb _ h2]

theorem map_rawCells (cells : List Str) (h : ∀ c ∈ cells, noWsStart c = true ∧ noWsEnd c = true) : ∀ st,
    (rawCells st cells).map (fun (p : Str × Nat) =>
      (p.2 + 4 + (p.1.length - (lstripBlank p.1).length), rstripBlank (lstripBlank p.1))) =
    cellCols (st + 4) cells := by
  induction cells with
  | nil => intro st; rfl
  | cons c cs ih =>
    intro st
    obtain ⟨h1, h2⟩ := h c (by simp)
    obtain ⟨e1, e2⟩ := cell_fields c h1 h2
    simp only [rawCells, List.map_cons, cellCols, e2]
    rw [ih (fun c' hc' => h c' (by simp [hc']))]
    have e3 : st + c.length + 3 + 4 = st + 4 + c.length + 3 := by omega
    rw [e3]
    congr 2
    rw [e1]
    cases c with
    | nil => simp
    | cons a r => simp <;> omega

theorem noWsEnd_rowBody (cells : List Str) : ∀ pre : Str,
    noWsEnd (pre ++ 124 :: cells.flatMap fun c => 32 :: c ++ [32, 124]) = true := by
  induction cells with
  | nil => intro pre; rw [List.flatMap_nil, noWsEnd_append_cons]; decide
  | cons c cs ih =>
    intro pre
    have := ih (pre ++ 124 :: 32 :: c ++ [32])
    simpa [List.append_assoc] using this

theorem rowBody_noLF (cells : List Str) (h : ∀ c ∈ cells, ∀ x ∈ c, x ≠ 10) : ∀ x ∈ rowLineOf cells, x ≠ 10 := by
  intro x hx
  simp only [rowLineOf, rowBody, List.mem_append, List.mem_cons, List.mem_flatMap, List.not_mem_nil, or_false] at hx
  rcases hx with (rfl | rfl | rfl | rfl) | rfl | ⟨c, hc, (rfl | hx) | rfl | rfl⟩
  all_goals first | decide | exact h c hc x hx

def rowTok (μ : MState) (n : Nat) (cells : List Str) : Token :=
  { line := some (rowLineOf cells ++ [10]), lineNo := n, col := some 5, mtype := some .TableRow,
    text := none, keyword := none, ktype := none, indent := 4, items := cellCols 6 cells, dialect := μ.name }

theorem row_trimmed (cells : List Str) : trimmed (rowLineOf cells ++ [10]) = rowBody cells ++ [10] := by
  have : rowLineOf cells ++ [10] = [32, 32, 32, 32] ++ (rowBody cells ++ [10]) := by simp [rowLineOf]
  rw [this]
  exact trimmed_ws_append _ _ (by intro c hc; simp at hc; subst hc; exact isSpace_32) (by simp [rowBody, noWsStart]; decide)

theorem row_startsWith (cells : List Str) : lineStartsWith (rowLineOf cells ++ [10]) [124] = true := by
  rw [lineStartsWith, row_trimmed]; simp [rowBody, startsWith]

theorem row_match (D : List Dialect) (μ : MState) (cells : List Str) (h : ∀ c ∈ cells, cellOK c = true)
    (t : Token) (n : Nat) (hl : t.line = some (rowLineOf cells ++ [10])) (hno : t.lineNo = n) :
    matchLine D .TableRow μ t (rowLineOf cells ++ [10]) = ⟨rowTok μ n cells, μ, .matched⟩ := by
  have htr := row_trimmed cells
  have hind : lineIndent (rowLineOf cells ++ [10]) = 4 := by
    have : rowLineOf cells ++ [10] = [32, 32, 32, 32] ++ (rowBody cells ++ [10]) := by simp [rowLineOf]
    rw [this]
    exact indentOf_ws_append _ _ (by intro c hc; simp at hc; subst hc; exact isSpace_32)
      (by simp [rowBody, noWsStart]; decide)
  have hstrip : strip (rowBody cells ++ [10]) = rowBody cells := by
    have := strip_clean [] (rowBody cells) 10 isSpace_10 (by simp) (by simp [rowBody, noWsStart]; decide)
      (by have := noWsEnd_rowBody cells []; simpa [rowBody] using this)
    simpa using this
  have hcells : tableCells (rowLineOf cells ++ [10]) = cellCols 6 cells := by
    unfold tableCells
    rw [htr, hstrip, hind]
    have hs : splitCells (rowBody cells) 0 1 [] true = rawCells 2 cells := by
      have := splitCells_cells cells (fun c hc x hx => ⟨((cellOK_spec (h c hc)).2.2 x hx).1,
        ((cellOK_spec (h c hc)).2.2 x hx).2.1⟩) 1
      show splitCells (124 :: _) 0 1 [] true = _
      rw [splitCells_pipe_true]
      simpa using this
    rw [hs]
    exact map_rawCells cells (fun c hc => ⟨(cellOK_spec (h c hc)).1, (cellOK_spec (h c hc)).2.1⟩) 2
  have hsw := row_startsWith cells
  cases t
  simp only at hl hno
  subst hl hno
  simp [matchLine, hsw, hcells, setMatched, rowTok, hind]

end Lemmas
end GV
