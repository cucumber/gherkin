/-
  The statements about the hand-written glue of the generated parser (Model/Parser.lean) and the
  stream (Model/Stream.lean) that Props/C01, C14, C18 use, each restated as an `example` with the
  type the property files see; the proofs are in GlueOutcome, GluePartition, GlueTerm, GlueLines.

  Not here: a linear bound on `Ctx.calls` for an arbitrary table.  It is false — a guarded branch
  can fire on every line and its look-ahead rescans the whole rest of the queue.  With
    rows       = [⟨0, "", [⟨.EOF, none, [.build], 1⟩, ⟨.TagLine, some 0, [.build], 0⟩,
                           ⟨.TagLine, none, [.build], 0⟩], [], 0⟩]
    lookaheads = [⟨[.FeatureLine], [.TagLine]⟩]
  (`lookaheadsStopAtEOF` and `oneBuildLast` hold) and a source of n lines "@a" the model makes
  (n+1)² matcher calls on an accepted parse: 36 for n = 5, 1681 for n = 40, against
  (maxTests + lookaheadCost) · (n+1) = 30 and 205.
-/
import GherkinVerif.Model.Stream
import GherkinVerif.Spec.TableFacts
import GherkinVerif.Lemmas.GlueOutcome
import GherkinVerif.Lemmas.GluePartition
import GherkinVerif.Lemmas.GlueTerm
import GherkinVerif.Lemmas.GlueLines
namespace GV
namespace Lemmas

/-- matcher calls one visit of a line costs in each look-ahead of the table -/
def lookaheadCost (T : Table) : Nat :=
  (T.lookaheads.map fun la => la.expected.length + la.skip.length).sum

example (D : List Dialect) (T : Table) (stop : Bool) (μ : MState) (ids : Nat) (src : Str)
    (es : List PErr) (comp : Bool) (h : (parseWith D T stop μ ids src).1 = .rejected es comp) :
    (stop = true → es.length = 1 ∧ comp = false) ∧
    (stop = false → comp = true ∧ 1 ≤ es.length ∧ es.length ≤ T.errorCap + 1 ∧ (es.map PErr.message).Nodup) :=
  parse_outcome D T stop μ ids src es comp h

example (D : List Dialect) (T : Table) (hT : Spec.lookaheadsStopAtEOF T = true)
    (stop : Bool) (μ : MState) (ids : Nat) (src : Str) :
    (parseWith D T stop μ ids src).1 ≠ .fuel :=
  parse_terminates D T hT stop μ ids src

example (D : List Dialect) (T : Table) (hT : Spec.lookaheadsStopAtEOF T = true)
    (stop : Bool) (μ : MState) (ids : Nat) (src : Str) (es : List PErr) (comp : Bool)
    (h : (parseWith D T stop μ ids src).1 = .rejected es comp) :
    ∀ e ∈ es, 1 ≤ e.loc.line ∧ e.loc.line ≤ (splitLines src).length + 1 :=
  parse_error_lines D T hT stop μ ids src es comp h

example (D : List Dialect) (T : Table) (opts : Opts) (ids : Nat) (uri data : Str) :
    ∀ e ∈ (streamEnum D T opts ids uri data).1,
      (∃ u d, e = .source u d) ∨ (∃ u d, e = .gherkinDocument u d) ∨ (∃ p, e = .pickle p) ∨
      (∃ u x, e = .parseError u x) ∨ (∃ w, e = .crash w) :=
  stream_kinds D T opts ids uri data

example (row : StateRow) (t : Token) :
    (∀ l, t.line = some l →
      (unexpectedErr row t).body = lit "expected: " ++ joinWith (lit ", ") (row.expected.map lit) ++
        lit ", got '" ++ strip (trimmed l) ++ lit "'" ∧ (unexpectedErr row t).loc.line = t.lineNo) ∧
    (t.line = none →
      (unexpectedErr row t).body = lit "unexpected end of file, expected: " ++ joinWith (lit ", ") (row.expected.map lit) ∧
      (unexpectedErr row t).loc = t.loc) :=
  unexpectedErr_form row t

example (D : List Dialect) (T : Table) (opts : Opts) (ids : Nat) (uri data : Str)
    (μ : MState) (hμ : MState.init D (lit "en") = some μ) (es : List PErr) (comp : Bool)
    (h : (parseWith D T false μ ids data).1 = .rejected es comp) :
    (streamEnum D T opts ids uri data).1 = es.map (Envelope.parseError uri) :=
  stream_rejected D T opts ids uri data μ hμ es comp h

example (D : List Dialect) (T : Table) (hT : Spec.oneBuildLast T = true)
    (stop : Bool) (μ : MState) (ids : Nat) (src : Str) (d : Doc)
    (h : (parseWith D T stop μ ids src).1 = .ok d) :
    (parseWith D T stop μ ids src).2.builds.map (·.lineNo) = (parseWith D T stop μ ids src).2.reads ∧
    (parseWith D T stop μ ids src).2.unexpected = [] :=
  accepted_builds_eq_reads D T hT stop μ ids src d h

example (D : List Dialect) (T : Table) (hT : Spec.oneBuildLast T = true)
    (stop : Bool) (μ : MState) (ids : Nat) (src : Str) :
    let ctx := (parseWith D T stop μ ids src).2
    ((ctx.builds.map (·.lineNo) ++ ctx.unexpected).Perm ctx.reads ∨
     (ctx.builds.map (·.lineNo) ++ ctx.unexpected).Perm ctx.reads.dropLast) ∧
    (ctx.builds.map (·.lineNo)).Sublist ctx.reads ∧ ctx.unexpected.Sublist ctx.reads :=
  partition D T hT stop μ ids src

example (D : List Dialect) (cap : Nat) (stop : Bool) (la : LookAhead) (ctx : Ctx) (b : Bool) (ctx' : Ctx)
    (h : (lookahead D cap stop la).run.run ctx = (.ok b, ctx')) :
    (ctx'.queue.map (·.lineNo)).Perm (ctx.queue.map (·.lineNo) ++
      (List.range' (ctx.lineNo + 1) (ctx'.lineNo - ctx.lineNo))) ∧
    ctx'.lines = ctx.lines.drop (ctx'.lineNo - ctx.lineNo) ∧ ctx.lineNo ≤ ctx'.lineNo ∧
    ctx'.builds = ctx.builds ∧ ctx'.reads = ctx.reads :=
  lookahead_conserves D cap stop la ctx b ctx' h

end Lemmas
end GV
