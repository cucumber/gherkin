/-
  A run invariant of the queue-free parse (Spec/PureParse.lean) that holds on EVERY run: accepted,
  rejected in either error mode, aborted by the error cap, crashed.

  `Spec.BuiltOK D L t`: the token `t` is the end-of-file token of the document with the physical
  lines `L`, or the output of a successful `match_<K>` on the FRESH token of its own physical line
  (the vocabulary of `Spec.LineToks`, Lemmas/ParseDoc.lean) under a matcher state whose dialect is
  one of the table.

  `Core D L n c`: the main loop has taken `n` lines: scanner position, `reads = 1 … n`, matcher
  dialect in the table, every built token `BuiltOK`.  Aborts satisfy `AE`: `Core` for some `n`, and
  a composite abort with at most `cap` errors happened at the very end of the parse (all `|L| + 1`
  tokens read).  That every line read has then been built or reported (`Full`) is taken from the
  parse with the queue, where it holds for every table (Lemmas/GluePartition.lean).
-/
import GherkinVerif.Lemmas.ParseDoc
import GherkinVerif.Lemmas.PureInv
namespace GV
namespace Spec

/-- a raw token of the document with the physical lines `L`: the end-of-file token, or line
    `t.lineNo` with its text -/
def SrcTok (L : List Str) (t : Token) : Prop :=
  (t.line = none ∧ t.lineNo = L.length + 1) ∨
  (∃ l, L[t.lineNo - 1]? = some l ∧ 1 ≤ t.lineNo ∧ t.line = some l)

/-- the end-of-file token as handed to the builder -/
def EofTok (L : List Str) (t : Token) : Prop :=
  t.line = none ∧ t.mtype = some .EOF ∧ t.lineNo = L.length + 1

/-- the matcher's output on the fresh token of the physical line `t.lineNo` -/
def LineTok (D : List Dialect) (L : List Str) (t : Token) : Prop :=
  ∃ l, L[t.lineNo - 1]? = some l ∧ 1 ≤ t.lineNo ∧ t.line = some l ∧
    ∃ K μi, μi.dialect ∈ D ∧ (matchLine D K μi (freshTok l t.lineNo) l).res = .matched ∧
      t = (matchLine D K μi (freshTok l t.lineNo) l).tok ∧ t.mtype = some K

def BuiltOK (D : List Dialect) (L : List Str) (t : Token) : Prop := EofTok L t ∨ LineTok D L t

end Spec

namespace AnyRun
open Lemmas Spec

theorem srcTok_match {D : List Dialect} {L : List Str} {k : Kind} {μ : MState} {t : Token} (ht : SrcTok L t) :
    SrcTok L (matchTok D k μ t).1.tok := by
  obtain ⟨h1, h2⟩ := matchTok_tok D k μ t
  rcases ht with ⟨hl, hn⟩ | ⟨l, hL, h1n, hl⟩
  · exact .inl ⟨h1.trans hl, h2.trans hn⟩
  · exact .inr ⟨l, by rw [h2]; exact hL, by rw [h2]; exact h1n, h1.trans hl⟩

theorem srcTok_at {L : List Str} {n : Nat} (hn : n ≤ L.length) : SrcTok L { line := L[n]?, lineNo := n + 1 } := by
  rcases Nat.lt_or_ge n L.length with h | h
  · exact .inr ⟨L[n], List.getElem?_eq_getElem h, Nat.le_add_left _ _, List.getElem?_eq_getElem h⟩
  · exact .inl ⟨List.getElem?_eq_none h, by rw [Nat.le_antisymm hn h]⟩

theorem built_of_match {D : List Dialect} {L : List Str} {k : Kind} {μ : MState} {t : Token} (ht : SrcTok L t)
    (hμ : μ.dialect ∈ D) (hres : (matchTok D k μ t).1.res = .matched) :
    BuiltOK D L (matchTok D k μ t).1.tok := by
  obtain ⟨h1, h2⟩ := matchTok_tok D k μ t
  have hm := (matchTok_well_matched D k μ t hres).1
  rcases ht with ⟨hl, hn⟩ | ⟨l, hL, h1n, hl⟩
  · have hk : k = .EOF := by
      unfold matchTok at hres
      simp only [hl] at hres
      split at hres
      · rename_i h; exact beq_iff_eq.1 h
      · cases hres
    exact .inl ⟨h1.trans hl, hm.trans (by rw [hk]), h2.trans hn⟩
  · obtain ⟨hfres, hftok⟩ := matchTok_fresh hl hres
    refine .inr ⟨l, by rw [h2]; exact hL, by rw [h2]; exact h1n, h1.trans hl, k, μ, hμ, ?_, ?_, hm⟩
    · rw [h2]; exact hfres
    · rw [h2]; exact hftok

structure Core (D : List Dialect) (L : List Str) (n : Nat) (c : Ctx) : Prop where
  dial : c.μ.dialect ∈ D
  le : n ≤ L.length + 1
  lineNo : c.lineNo = n
  lines : c.lines = L.drop n
  reads : c.reads = List.range' 1 n
  builds : ∀ t ∈ c.builds, BuiltOK D L t

/-- aborts: the invariant holds for some number of lines taken, and a composite abort with at most
    `cap` errors happened when all `|L| + 1` tokens had been taken -/
def AE (D : List Dialect) (L : List Str) (cap : Nat) (a : Abort) (c : Ctx) : Prop :=
  (∃ n, Core D L n c) ∧ ∀ es, a = .composite es → es.length ≤ cap → Core D L (L.length + 1) c

section
variable {D : List Dialect} {L : List Str} {n : Nat}

theorem Core.same {c c' : Ctx} (h : Core D L n c) (hμ : c'.μ.dialect ∈ D)
    (h1 : c'.lineNo = c.lineNo) (h2 : c'.lines = c.lines) (h3 : c'.reads = c.reads)
    (h4 : c'.builds = c.builds) : Core D L n c' :=
  ⟨hμ, h.le, h1.trans h.lineNo, h2.trans h.lines, h3.trans h.reads, by rw [h4]; exact h.builds⟩

theorem Core.ae_of {cap : Nat} {a : Abort} {c : Ctx} (h : Core D L n c) (ha : ∀ es, a ≠ .composite es) : AE D L cap a c :=
  ⟨⟨n, h⟩, fun es he => absurd he (ha es)⟩

theorem report_c (cap : Nat) (stop : Bool) : Report cap stop (fun _ => Core D L n) (Core D L n) (AE D L cap) where
  single := fun _ _ _ hc => hc.ae_of nofun
  add := fun _ e => addError_rule e (fun _ hc _ => hc) (fun _ hc => hc.same hc.dial rfl rfl rfl rfl)
    fun c hc hlen => ⟨⟨n, hc.same (c' := { c with errors := c.errors ++ [e] }) hc.dial rfl rfl rfl rfl⟩,
      fun es he hle => by cases he; rw [List.length_append] at hle; exact absurd hle (Nat.not_le.2 hlen)⟩

theorem Core.test {c : Ctx} (h : Core D L n c) (k : Kind) (t : Token) (m : Nat) :
    Core D L n { c with μ := (matchTok D k c.μ t).1.μ, calls := m } :=
  h.same (matchTok_dialect D k c.μ t h.dial) rfl rfl rfl rfl

theorem lookaheadPure_inv (cap : Nat) (stop : Bool) (la : LookAhead) :
    Inv (Core D L n) (AE D L cap) (lookaheadPure D cap stop la) :=
  lookaheadPure_rule (Tk := fun _ => True) (fun _ _ _ _ h => h)
    (fun k t _ => matchP_inv_rule (report_c cap stop) k t (fun _ m hc => hc.test k t m) fun _ m _ hc _ => hc.test k t m)
    la fun _ _ _ _ => trivial

theorem runProd_inv (cap : Nat) (stop : Bool) (t : Token) (p : Prod) (hb : p = .build → BuiltOK D L t) :
    Inv (Core D L n) (AE D L cap) (runProd cap stop t p) :=
  runProd_rule (report_c cap stop) t p fun c hc => by
    cases p with
    | start r => exact hc.same hc.dial rfl rfl rfl rfl
    | end_ r =>
      have hc1 : Core D L n { c with β := (c.β.endRule c.ids).2.1, ids := (c.β.endRule c.ids).2.2 } :=
        hc.same hc.dial rfl rfl rfl rfl
      dsimp only
      split
      · exact hc1
      · exact hc1
      · exact hc1.ae_of nofun
    | build =>
      dsimp only
      split
      · exact ⟨hc.dial, hc.le, hc.lineNo, hc.lines, hc.reads, fun t' ht' =>
          (List.mem_append.1 ht').elim (hc.builds t') fun h => List.mem_singleton.1 h ▸ hb rfl⟩
      · exact fun w => hc.ae_of nofun

/-- The tests of one state: the token stays a line of the source; the token of a test that matched
    is the builder's. -/
theorem tryBranchesPure_c (T : Table) (stop : Bool) (row : StateRow) (bs : List Branch) (t : Token) (hs : SrcTok L t) :
    Inv (Core D L n) (AE D L T.errorCap) (tryBranchesPure D T stop row bs t) := by
  rw [tryBranchesPure_eq_X]
  exact branches_rule row (Tk := fun _ t => SrcTok L t) (Pm := fun _ t' c => Core D L n c ∧ BuiltOK D L t')
    (Q := fun _ => Core D L n) (report_c _ stop)
    (fun b _ t h c m hc hres => ⟨⟨hc.test _ t m, built_of_match h hc.dial hres⟩, fun _ => srcTok_match h⟩)
    (fun b _ t h c m hc _ => ⟨hc.test _ t m, srcTok_match h⟩) (fun b _ t _ c m _ hc _ => hc.test b.kind t m)
    (fun _ _ _ _ _ la _ _ _ => (lookaheadPure_inv _ stop la).guard _) (fun _ _ _ _ _ _ _ _ _ _ hc => hc.1.ae_of nofun)
    (fun b _ _ t' _ => Triple.pre_fact (fun _ hc => ⟨hc.2, hc.1⟩) fun hb =>
      Inv.runProds _ fun p _ => runProd_inv _ stop t' p fun _ => hb)
    (fun t _ => tail_rule (Q := fun _ => Core D L n) (report_c _ stop) t fun c (hc : Core D L n c) =>
      hc.same hc.dial rfl rfl rfl rfl) bs t hs

end

theorem parseBodyPure_c {D : List Dialect} {L : List Str} (T : Table) (stop : Bool) (k : Nat) :
    Triple (Core D L 0) (parseBodyPure D T stop k) (fun _ => Core D L (L.length + 1)) (AE D L T.errorCap) :=
  (body_rule (P2 := fun _ => Core D L (L.length + 1)) (fun _ hc => hc.same hc.dial rfl rfl rfl rfl)
    (parseLinesPure_rule (I := Core D L) (I' := Core D L) L (fun _ _ hc => ⟨hc.lineNo, hc.lines⟩)
      (fun n c hn hc => ⟨hc.dial, Nat.succ_le_succ hn, rfl, by show c.lines.tail = _; rw [hc.lines, List.tail_drop],
        by show c.reads ++ [n + 1] = _; rw [hc.reads, List.range'_concat]; simp [Nat.add_comm], hc.builds⟩)
      (fun _ s hn => matchTokenPure_rule s _ (fun row _ => tryBranchesPure_c T stop row _ _ (srcTok_at hn))
        fun _ _ _ hc => hc.ae_of nofun)
      (fun _ _ hc => hc.ae_of nofun) _ 0 0 (Nat.zero_le _))
    (fun _ => runProd_inv _ _ _ _ nofun) (fun _ hc _ => ⟨⟨_, hc⟩, fun _ _ _ => hc⟩)
    fun _ _ hc _ _ => hc.ae_of nofun).post fun _ _ h => h.1

/-- the run reached the end of the source: accepted, or rejected with a composite error within the cap -/
def Finished (cap : Nat) (o : Outcome) : Prop :=
  (∃ d, o = .ok d) ∨ (∃ es, o = .rejected es true ∧ es.length ≤ cap)

/-- The invariant on the queue-free parse, carried over to the parser with its token queue; the
    partition is the one proved with the queue (`part_parseBody`, Lemmas/GluePartition.lean). -/
theorem anyrun {D : List Dialect} {T : Table} (hD : queueDialectFacts D = true) (hQ : queueFacts T = true)
    (hCB : commentBlankTested T = true) (hT : oneBuildLast T = true) (stop : Bool) (μ : MState) (ids : Nat)
    (src : Str) (hμ : (μ.reset D).dialect ∈ D) :
    (∀ t ∈ (parseWith D T stop μ ids src).2.builds, BuiltOK D (splitLines src) t) ∧
    (∃ n, n ≤ (splitLines src).length + 1 ∧ (parseWith D T stop μ ids src).2.reads = List.range' 1 n) ∧
    (Finished T.errorCap (parseWith D T stop μ ids src).1 →
      Full (parseWith D T stop μ ids src).2 ∧
      (parseWith D T stop μ ids src).2.reads = List.range' 1 ((splitLines src).length + 1)) := by
  obtain ⟨ho, hg⟩ := observe_ghost (queue_refines_peek D T hD hQ hCB stop μ ids src hμ)
  have h0 : Core D (splitLines src) 0 (ctx0 D μ ids src) := ⟨hμ, Nat.zero_le _, rfl, rfl, rfl, fun t ht => by cases ht⟩
  have hfull : Finished T.errorCap (parseWith D T stop μ ids src).1 → Full (parseWith D T stop μ ids src).2 := by
    have h := Triple.parseWith (part_parseBody D T stop hT _) (full_ctx0 D μ ids src)
    rintro (⟨d, hd⟩ | ⟨es, hd, hle⟩) <;> rw [hd] at h
    · exact h
    · rcases h with ⟨-, h⟩ | ⟨e, -, he, -⟩
      · exact h.2 _ rfl hle
      · cases he
  rw [hg.1, hg.2.1]
  rcases parseWithPure_spec (parseBodyPure_c T stop _) h0 with ⟨d, -, hj⟩ | ⟨a, ha, ⟨n, hcore⟩, hfin⟩
  · exact ⟨hj.builds, ⟨_, hj.le, hj.reads⟩, fun hf => ⟨hfull hf, hj.reads⟩⟩
  · refine ⟨hcore.builds, ⟨n, hcore.le, hcore.reads⟩, fun hf => ⟨hfull hf, ?_⟩⟩
    rw [ho, ha] at hf
    rcases hf with ⟨d, hd⟩ | ⟨es, hd, hle⟩ <;> cases a <;> cases hd
    exact (hfin es rfl hle).reads

end AnyRun
end GV
