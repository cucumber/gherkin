/-
  The fuel of the parse loop and of the look-ahead loops always suffices.

  Measures: `measN` = tokens queued + lines unread bounds a look-ahead (it stops at the first
  end-of-file token, and only an exhausted scanner makes one); `measM` = queued tokens that are not
  end-of-file + lines unread is conserved by a look-ahead and decreases with every line the main
  loop reads.
-/
import GherkinVerif.Lemmas.GluePartition
namespace GV
namespace Lemmas

def cntNE (l : List Token) : Nat := l.countP fun t => t.line.isSome
def measM (c : Ctx) : Nat := cntNE c.queue + c.lines.length
def measN (c : Ctx) : Nat := c.queue.length + c.lines.length

theorem cntNE_append (a b : List Token) : cntNE (a ++ b) = cntNE a + cntNE b := List.countP_append
theorem cntNE_single_le (t : Token) : cntNE [t] ≤ 1 := by
  unfold cntNE; rw [List.countP_singleton]; split <;> omega
theorem cntNE_single_of_tok {t t' : Token} (h : t'.line = t.line) : cntNE [t'] = cntNE [t] := by
  unfold cntNE; rw [List.countP_singleton, List.countP_singleton, h]
theorem cntNE_single_eof {t : Token} (h : t.line = none) : cntNE [t] = 0 := by
  unfold cntNE; rw [List.countP_singleton, h]; rfl
theorem cntNE_single_line {t : Token} (h : t.line ≠ none) : cntNE [t] = 1 := by
  unfold cntNE; rw [List.countP_singleton]
  cases hl : t.line with
  | none => exact absurd hl h
  | some l => rfl

theorem ScanEq.measM {c c' : Ctx} (h : ScanEq c c') : measM c' = measM c := by
  unfold Lemmas.measM; rw [h.1, h.2.1]
theorem ScanEq.measN {c c' : Ctx} (h : ScanEq c c') : measN c' = measN c := by
  unfold Lemmas.measN; rw [h.1, h.2.1]

theorem readToken_meas {c : Ctx} {t : Token} {c1 : Ctx} (h : run readToken c = (.ok t, c1)) :
    measM c1 + cntNE [t] = measM c ∧ (t.line ≠ none → measN c1 + 1 = measN c) := by
  rcases readToken_eq h with ⟨q, hq, rfl⟩ | ⟨hq, rfl, rfl⟩
  · unfold measM measN
    dsimp only
    rw [hq]
    refine ⟨?_, fun _ => by simp; omega⟩
    have : cntNE (t :: q) = cntNE [t] + cntNE q := cntNE_append [t] q
    omega
  · unfold measM measN
    dsimp only
    rw [hq]
    cases hl : c.lines with
    | nil => exact ⟨by simp [cntNE], fun h => absurd rfl h⟩
    | cons l ls => exact ⟨by simp [cntNE], fun _ => by simp⟩

def NoFuel (e : Abort) : Prop := e ≠ .fuel

theorem addError_nofuel (cap : Nat) (e : PErr) (c : Ctx) (a : Abort) (c' : Ctx)
    (h : run (addError cap e) c = (.error a, c')) : NoFuel a := by
  rcases addError_cases h with ⟨-, hr, -⟩ | ⟨-, -, ⟨hr, -⟩ | ⟨hr, -⟩⟩ <;> cases hr
  intro h'; cases h'

theorem liftB_nofuel (cap : Nat) (stop : Bool) (x : Except BErr Unit) (c : Ctx) (a : Abort) (c' : Ctx)
    (h : run (liftB cap stop x) c = (.error a, c')) : NoFuel a := by
  rw [run_liftB] at h
  split at h
  · cases h
  · cases h; intro h'; cases h'
  · split at h
    · cases h; intro h'; cases h'
    · exact addError_nofuel _ _ _ _ _ h

theorem matchP_nofuel (D : List Dialect) (cap : Nat) (stop : Bool) (k : Kind) (t : Token) (c : Ctx)
    (a : Abort) (c' : Ctx) (h : run (matchP D cap stop k t) c = (.error a, c')) : NoFuel a := by
  obtain ⟨c1, -, ⟨m, -, hr, -⟩ | ⟨e, -, ⟨-, hr, -⟩ | ⟨-, r2, h2, hr⟩⟩⟩ := matchP_cases h
  · cases hr
  · cases hr; intro h'; cases h'
  · cases r2 <;> cases hr
    exact addError_nofuel _ _ _ _ _ h2

theorem runProd_nofuel (cap : Nat) (stop : Bool) (t : Token) (p : Prod) (c : Ctx)
    (a : Abort) (c' : Ctx) (h : run (runProd cap stop t p) c = (.error a, c')) : NoFuel a := by
  rw [run_runProd] at h
  split at h
  · cases h
  · exact liftB_nofuel _ _ _ _ _ _ h
  · split at h
    · cases h
    · exact liftB_nofuel _ _ _ _ _ _ h

theorem Inv.of_scan {α} {m : PM α} {P : Ctx → Prop}
    (hscan : ∀ c r c', run m c = (r, c') → ScanEq c c')
    (hnf : ∀ c a c', run m c = (.error a, c') → NoFuel a)
    (hP : ∀ c c', ScanEq c c' → P c → P c') : Inv P (fun e _ => NoFuel e) m := by
  refine Triple.intro fun c r c' hc hr => ?_
  cases r with
  | ok a => exact hP _ _ (hscan _ _ _ hr) hc
  | error e => exact hnf _ _ _ hr

theorem matchAny_nofuel (D : List Dialect) (cap : Nat) (stop : Bool) (ks : List Kind) (t : Token) (c : Ctx)
    (a : Abort) (c' : Ctx) (h : run (matchAny D cap stop ks t) c = (.error a, c')) : NoFuel a :=
  ((Inv.matchAny (P := fun _ => True) (E := fun e _ => NoFuel e)
    (fun k t => Inv.of_scan (fun c r c' h => (matchP_foot D cap stop k t c r c' h).scan)
      (matchP_nofuel D cap stop k t) (fun _ _ _ h => h)) ks t) c trivial).2 _ _ h

theorem matchP_eofNo (D : List Dialect) (cap : Nat) (stop : Bool) (k : Kind) (hk : k ≠ .EOF) (t : Token)
    (ht : t.line = none) (c : Ctx) : ∃ c', run (matchP D cap stop k t) c = (.ok (false, t), c') := by
  rw [run_matchP]
  have h : matchTok D k c.μ t = (⟨t, c.μ, .no⟩, false) := by
    unfold matchTok
    rw [ht]
    simp [hk]
  rw [h]
  exact ⟨_, rfl⟩

theorem matchAny_eof (D : List Dialect) (cap : Nat) (stop : Bool) (ks : List Kind) (hks : Kind.EOF ∉ ks)
    (t : Token) (ht : t.line = none) (c : Ctx) :
    ∃ c', run (matchAny D cap stop ks t) c = (.ok (false, t), c') := by
  induction ks generalizing c with
  | nil => exact ⟨_, rfl⟩
  | cons k ks ih =>
    have hk : k ≠ .EOF := fun h => hks (h ▸ List.mem_cons_self ..)
    obtain ⟨c1, h1⟩ := matchP_eofNo D cap stop k hk t ht c
    rw [GV.matchAny, prun_bind, h1]
    dsimp only
    simp only [Bool.false_eq_true, if_false]
    exact ih (fun h => hks (List.mem_cons_of_mem _ h)) c1

theorem meas_step {a x m1 m : Nat} (h : m1 + x = m) : a + x + m1 = a + m := by omega

theorem lookaheadLoop_term (D : List Dialect) (cap : Nat) (stop : Bool) (la : LookAhead)
    (h2 : Kind.EOF ∉ la.skip) :
    ∀ (fuel : Nat) (acc : List Token) (c : Ctx), measN c + 1 ≤ fuel →
      ∀ r c', run (lookaheadLoop D cap stop la fuel acc) c = (r, c') →
        match r with
        | .ok (_, read) => cntNE read + measM c' = cntNE acc + measM c
        | .error e => NoFuel e := by
  intro fuel
  induction fuel with
  | zero => intro acc c hN; exact absurd hN (Nat.not_succ_le_zero _)
  | succ n ih =>
    intro acc c hN r c' h
    obtain ⟨t, c1, r1, c2, hr0, hr1, hcase⟩ := lookaheadLoop_step h
    obtain ⟨hM, hNt⟩ := readToken_meas hr0
    have hs1 := (matchAny_foot D cap stop _ _ _ _ _ hr1).scan
    -- the loop ends on the token `u`, a copy of `t`, with the scanner where it was after the read
    have hend : ∀ (u : Token) (c3 : Ctx), u.line = t.line → ScanEq c1 c3 →
        cntNE (acc ++ [u]) + measM c3 = cntNE acc + measM c := fun u c3 hu hs => by
      rw [cntNE_append, hs.measM, cntNE_single_of_tok hu]
      exact meas_step hM
    rcases hcase with ⟨e, rfl, rfl, rfl⟩ | ⟨t1, rfl, rfl, rfl⟩ | ⟨t1, r2, c3, rfl, hr2, hcase⟩
    · exact matchAny_nofuel _ _ _ _ _ _ _ _ hr1
    · exact hend t1 _ (matchAny_tok D cap stop _ _ _ _ _ hr1).1 hs1
    · have ht1 := (matchAny_tok D cap stop _ _ _ _ _ hr1).1
      have hs2 := hs1.trans (matchAny_foot D cap stop _ _ _ _ _ hr2).scan
      rcases hcase with ⟨e, rfl, rfl, rfl⟩ | ⟨t2, rfl, rfl, rfl⟩ | ⟨t2, rfl, hrec⟩
      · exact matchAny_nofuel _ _ _ _ _ _ _ _ hr2
      · exact hend t2 _ ((matchAny_tok D cap stop _ _ _ _ _ hr2).1.trans ht1) hs2
      · have hline : t.line ≠ none := by
          intro hnone
          obtain ⟨_, he⟩ := matchAny_eof D cap stop la.skip h2 t1 (ht1.trans hnone) c2
          rw [hr2] at he
          cases he
        have hN3 : measN c3 + 1 ≤ n := by
          apply Nat.le_of_succ_le_succ
          rw [hs2.measN, hNt hline]
          exact hN
        have := ih (acc ++ [t2]) c3 hN3 r c' hrec
        cases r with
        | error e => exact this
        | ok r =>
          obtain ⟨m, read⟩ := r
          exact this.trans (hend t2 _ ((matchAny_tok D cap stop _ _ _ _ _ hr2).1.trans ht1) hs2)

theorem lookahead_term (D : List Dialect) (cap : Nat) (stop : Bool) (la : LookAhead)
    (h2 : Kind.EOF ∉ la.skip) (k : Nat) :
    Inv (fun c => measM c = k) (fun e _ => NoFuel e) (lookahead D cap stop la) := by
  refine Triple.intro fun c r c' hc hr => ?_
  rw [run_lookahead] at hr
  rcases hl : run (lookaheadLoop D cap stop la (c.queue.length + c.lines.length + 2) []) c with ⟨r1, c1⟩
  rw [hl] at hr
  have := lookaheadLoop_term D cap stop la h2 _ [] c (show measN c + 1 ≤ measN c + 2 from Nat.le_succ _) _ _ hl
  cases r1 with
  | error e => cases hr; exact this
  | ok r1 =>
    obtain ⟨m, read⟩ := r1
    cases hr
    show cntNE (c1.queue ++ read) + c1.lines.length = k
    rw [cntNE_append, ← hc, Nat.add_right_comm, Nat.add_comm]
    exact this.trans (Nat.zero_add _)

theorem lookaheads_noEOF (T : Table) (hT : Spec.lookaheadsStopAtEOF T = true) (i : Nat) (la : LookAhead)
    (h : T.lookaheads[i]? = some la) : Kind.EOF ∉ la.expected ∧ Kind.EOF ∉ la.skip := by
  have hmem : la ∈ T.lookaheads := List.mem_of_getElem? h
  simp only [Spec.lookaheadsStopAtEOF, List.all_eq_true, Bool.and_eq_true] at hT
  have := (hT la hmem).1
  simp at this
  exact this

theorem term_primsT (D : List Dialect) (T : Table) (hT : Spec.lookaheadsStopAtEOF T = true) (stop : Bool) (k : Nat) :
    PrimsT D T stop (fun c => measM c = k) (fun e _ => NoFuel e) where
  matchP kd t := Inv.of_scan (fun c r c' h => (matchP_foot D _ stop kd t c r c' h).scan)
    (matchP_nofuel D _ stop kd t) (fun c c' hs h => by rw [hs.measM]; exact h)
  lookahead i la hla := lookahead_term D _ stop la (lookaheads_noEOF T hT i la hla).2 k
  runProd t p := Inv.of_scan (fun c r c' h => (runProd_foot' _ stop t p c r c' h).scan)
    (runProd_nofuel _ stop t p) (fun c c' hs h => by rw [hs.measM]; exact h)
  crash w c _ := by intro h; cases h
  tail row t := by
    unfold GV.tryBranches
    refine Triple.bind (Q := fun _ c => measM c = k) (Triple.modify _ fun c hc => hc) fun _ => ?_
    split
    · exact Triple.throw _ fun _ _ h => by cases h
    · exact Inv.bind (Inv.of_scan (fun c r c' h => (addError_foot _ _ c r c' h).toM.scan)
        (addError_nofuel _ _) (fun c c' hs h => by rw [hs.measM]; exact h)) fun _ => Inv.pure _

theorem Inv.of_meas {α} {m : PM α} {E : Abort → Ctx → Prop} (F : Nat → Prop)
    (h : ∀ k, Inv (fun c => measM c = k) E m) : Inv (fun c => F (measM c)) E m := by
  refine Triple.intro fun c r c' hc hr => ?_
  cases r with
  | ok a => have := (h (measM c) c rfl).1 _ _ hr; rw [this]; exact hc
  | error e => exact (h (measM c) c rfl).2 _ _ hr

theorem parseBody_term (D : List Dialect) (T : Table) (hT : Spec.lookaheadsStopAtEOF T = true) (stop : Bool)
    (n : Nat) : Triple (fun c => measM c + 1 ≤ n + 2) (parseBody D T stop n) (fun _ _ => True)
      (fun e _ => NoFuel e) := by
  refine Triple.conseq (Triple.parseBody (L := fun c => measM c + 1 ≤ n + 2) (Done := fun _ => True)
    (Fin := fun _ => True) (fun _ h => h) ?_
    (Triple.intro fun c r c' _ hr => ?_) (fun _ _ _ h => by cases h) fun _ _ _ h => by cases h)
    (fun _ h => h) (fun _ _ _ => trivial) fun _ _ h => h
  · -- every line token read lowers the measure; the end-of-file token ends the loop
    refine Triple.parseLoop (H := fun n _ c => measM c + 1 ≤ n) (M := fun n _ t c => t.line = none ∨ measM c + 1 ≤ n)
      (fun _ c hc => absurd hc (Nat.not_succ_le_zero _)) (fun n _ => Triple.intro fun c r c' hc hr => ?_)
      (fun n s t => ?_) _ _
    · obtain ⟨t, c1, hr0, -⟩ := readToken_cases c
      rw [hr0] at hr; cases hr
      have hM := (readToken_meas hr0).1
      by_cases hl : t.line = none
      · exact .inl hl
      · rw [cntNE_single_line hl] at hM
        exact .inr (Nat.le_of_succ_le_succ (hM ▸ hc))
    · refine Triple.conseq
        (Inv.of_meas (fun k => t.line = none ∨ k + 1 ≤ n) fun k => (term_primsT D T hT stop k).matchToken s t)
        (fun _ h => h) (fun _ c hc => ?_) fun _ _ h => h
      split
      · trivial
      · rename_i heof
        exact hc.resolve_left fun hl => heof (by simp [Token.eof, hl])
  · cases r with
    | ok _ => trivial
    | error e => exact runProd_nofuel _ _ _ _ _ _ _ hr

theorem parse_terminates (D : List Dialect) (T : Table) (hT : Spec.lookaheadsStopAtEOF T = true)
    (stop : Bool) (μ : MState) (ids : Nat) (src : Str) :
    (parseWith D T stop μ ids src).1 ≠ .fuel := by
  have hb := Triple.parseWith (μ := μ) (ids := ids) (parseBody_term D T hT stop (splitLines src).length)
    (by show measM (ctx0 D μ ids src) + 1 ≤ _; simp [measM, ctx0, cntNE])
  intro h
  rw [h] at hb
  exact hb rfl

end Lemmas
end GV
