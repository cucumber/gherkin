/-
  Lemmas/NoCrashLoop.lean — crash-freedom of the parser for every run (property C01): the glue.
  Under `Spec.noCrashCheck T fuel = true` (Lemmas/NoCrashRun.lean) the invariant `J σ s` — the
  typing `σ` has an entry `(a, d)` for the current state `s`, the builder's stack is typed by `a`
  and the matcher is inside a doc string iff `d` — holds at every turn of the parse loop, in both
  error modes, for accepted and rejected runs alike.  After the loop the final `end_rule` pops a
  node that has its required children whatever state the loop ended in (`topOK`), and
  `get_result()` is consulted only when no error is on record: then the last test was the
  end-of-file test and the root holds the document.  Result: `parseWith_no_crash`.
-/
import GherkinVerif.Lemmas.NoCrashRun
import GherkinVerif.Lemmas.PureInv
import GherkinVerif.Lemmas.GlueOutcome
namespace GV
namespace Lemmas
namespace NC
open Spec

theorem matchTok_keeps_sep (D : List Dialect) (k : Kind) (μ : MState) (t : Token)
    (hk : k ≠ .DocStringSeparator) : (matchTok D k μ t).1.μ.activeSep = μ.activeSep := by
  unfold matchTok
  split
  · split <;> rfl
  · exact keeps_activeSep D k μ t _ hk

theorem matchTok_docsep (D : List Dialect) (μ : MState) (t : Token)
    (h : (matchTok D .DocStringSeparator μ t).1.res = .matched) :
    (matchTok D .DocStringSeparator μ t).1.tok.text.isSome = !μ.inDocString ∧
    (matchTok D .DocStringSeparator μ t).1.μ.inDocString = !μ.inDocString := by
  unfold matchTok at h ⊢
  cases hl : t.line with
  | none => simp only [hl] at h; exact absurd h (by simp)
  | some l =>
    simp only [hl] at h ⊢
    obtain ⟨-, -, h3, h4⟩ := docsep_match D μ t l h
    exact ⟨h3, h4⟩

theorem matchTok_unmatched_μ (D : List Dialect) (k : Kind) (μ : MState) (t : Token)
    (h : (matchTok D k μ t).1.res ≠ .matched) : (matchTok D k μ t).1.μ = μ := by
  unfold matchTok at h ⊢
  cases hl : t.line with
  | none => dsimp only; split <;> rfl
  | some l =>
    simp only [hl, matchLine_eq] at h ⊢
    cases hd : lineDec D k μ l <;> first | rfl | (rw [hd] at h; exact absurd rfl h)

theorem matchTok_eof_iff (D : List Dialect) (k : Kind) (μ : MState) (t : Token)
    (h : (matchTok D k μ t).1.res = .matched) : t.line = none ↔ k = .EOF := by
  unfold matchTok at h
  cases hl : t.line with
  | none =>
    simp only [hl] at h
    by_cases hk : (k == .EOF) = true
    · exact ⟨fun _ => by simpa using hk, fun _ => rfl⟩
    · simp only [hk] at h; cases h
  | some l =>
    simp only [hl] at h
    refine ⟨fun e => (by cases e), fun e => ?_⟩
    subst e
    unfold matchLine at h
    cases h

theorem matchTok_mode_matched (D : List Dialect) (k : Kind) (μ : MState) (t : Token)
    (h : (matchTok D k μ t).1.res = .matched) :
    (matchTok D k μ t).1.μ.inDocString = flipD k μ.inDocString := by
  unfold flipD
  by_cases hk : k = .DocStringSeparator
  · subst hk; rw [if_pos rfl]; exact (matchTok_docsep D μ t h).2
  · rw [if_neg hk]; exact inDocString_congr (matchTok_keeps_sep D k μ t hk)

theorem matchTok_mode_other (D : List Dialect) (k : Kind) (μ : MState) (t : Token)
    (h : (matchTok D k μ t).1.res ≠ .matched) :
    (matchTok D k μ t).1.μ.inDocString = μ.inDocString := by
  rw [matchTok_unmatched_μ D k μ t h]

theorem tokOK_of_matched (D : List Dialect) (k : Kind) (μ : MState) (t : Token)
    (h : (matchTok D k μ t).1.res = .matched) : TokOK k μ.inDocString (matchTok D k μ t).1.tok := by
  obtain ⟨h1, h2⟩ := matchTok_well_matched D k μ t h
  refine ⟨h1, h2, ?_⟩
  intro hk; subst hk
  exact (matchTok_docsep D μ t h).1

/-- the invariant between two tests of one state -/
def S (a : List NFrame) (d : Bool) (c : Ctx) : Prop := STyped a c.β.stack ∧ c.μ.inDocString = d

theorem report_s (cap : Nat) (stop : Bool) (a : List NFrame) (d : Bool) :
    Report cap stop (fun _ => S a d) (fun c => S a d c ∧ c.errors ≠ []) NoCrashE :=
  report_nc cap stop fun _ _ h => h

theorem S.test_other {a : List NFrame} {d : Bool} {c : Ctx} (h : S a d c) (D : List Dialect) (k : Kind) (t : Token)
    (n : Nat) (hres : (matchTok D k c.μ t).1.res ≠ .matched) :
    S a d { c with μ := (matchTok D k c.μ t).1.μ, calls := n } :=
  ⟨h.1, (matchTok_mode_other D k c.μ t hres).trans h.2⟩

theorem lookahead_s (D : List Dialect) (cap : Nat) (stop : Bool) (la : LookAhead) (a : List NFrame) (d : Bool)
    (hla : Kind.DocStringSeparator ∉ la.expected ++ la.skip) : Inv (S a d) NoCrashE (lookahead D cap stop la) := by
  have hupd : ∀ k ∈ la.expected ++ la.skip, ∀ t c n, S a d c →
      S a d { c with μ := (matchTok D k c.μ t).1.μ, calls := n } := fun k hk t c n h =>
    ⟨h.1, (inDocString_congr (matchTok_keeps_sep D k c.μ t fun e => hla (e ▸ hk))).trans h.2⟩
  refine lookahead_rule la (Triple.intro fun c r c' hc hr => ?_)
    (fun k hk t => matchP_inv_rule ((report_s cap stop a d).mono fun _ h => h.1) k t (hupd k hk t)
      fun c n _ hc _ => hupd k hk t c n hc)
    (fun _ _ h => h) fun _ _ => nofun
  rw [run_readToken] at hr
  split at hr
  · cases hr; exact hc
  · split at hr <;> (cases hr; exact hc)

def J (σ : NTyping) (s : Nat) (c : Ctx) : Prop :=
  ∃ a d, nlookup σ s = some (a, d) ∧ STyped a c.β.stack ∧ c.μ.inDocString = d

/-- after one `match_token`; `eof`: the token was the end of file -/
def Post (σ : NTyping) (T : Table) (eof : Bool) (s' : Nat) (c' : Ctx) : Prop :=
  J σ s' c' ∧ (eof = false → (T.row? s').isSome = true) ∧
  (eof = true → c'.errors ≠ [] ∨ ∃ a d, nlookup σ s' = some (a, d) ∧ eofFinal a = true)

theorem nbranchOK_guard {T : Table} {σ : NTyping} {a : List NFrame} {d : Bool} {b : Branch}
    (h : nbranchOK T σ a d b = true) {i : Nat} (hg : b.guard = some i) :
    b.kind ≠ .DocStringSeparator ∧
    ∀ o, T.lookaheads[i]? = o → ∃ la, o = some la ∧ Kind.DocStringSeparator ∉ la.expected ++ la.skip := by
  simp only [nbranchOK, hg, Bool.and_eq_true, decide_eq_true_eq] at h
  refine ⟨h.1.1, fun o ho => ?_⟩
  rw [ho] at h
  cases o with
  | none => cases h.1.2
  | some la => exact ⟨la, rfl, by simpa using h.1.2⟩

theorem nbranchOK_exec {T : Table} {σ : NTyping} {a : List NFrame} {d : Bool} {b : Branch}
    (h : nbranchOK T σ a d b = true) :
    ∃ a' a'', nexecProds b.kind d a b.prods = some a' ∧ nlookup σ b.target = some (a'', flipD b.kind d) ∧
      subFrames a' a'' = true ∧ (if b.kind = .EOF then eofFinal a'' else (T.row? b.target).isSome) = true := by
  simp only [nbranchOK, Bool.and_eq_true] at h
  have h := h.2
  cases hx : nexecProds b.kind d a b.prods with
  | none => rw [hx] at h; cases h
  | some a' =>
    rw [hx] at h
    cases hl : nlookup σ b.target with
    | none => rw [hl] at h; cases h
    | some ty =>
      obtain ⟨a'', d''⟩ := ty
      rw [hl] at h
      simp only [Bool.and_eq_true, decide_eq_true_eq] at h
      exact ⟨a', a'', rfl, by rw [h.1.1], h.1.2, h.2⟩

/-- A test that matches hands a token the builder can take and moves the mode by `flipD`; a guard
    keeps the mode (`nbranchOK_guard`); the productions of the branch lead to the typing of the
    target (`nbranchOK_exec`), which has a row unless the token was the end of file; the error tail
    records an error and stays. -/
theorem tryBranches_safe (D : List Dialect) (T : Table) (stop : Bool) (σ : NTyping) {s : Nat} {a : List NFrame}
    {d : Bool} (hs : nlookup σ s = some (a, d)) (row : StateRow) (herr : row.errTarget = s)
    (hrow : (T.row? s).isSome = true) (l0 : Option Str) (bs : List Branch) (t : Token)
    (hbs : ∀ b ∈ bs, nbranchOK T σ a d b = true) (ht : t.line = l0) :
    Triple (S a d) (tryBranches D T stop row bs t) (fun s' c' => Post σ T l0.isNone s' c') NoCrashE := by
  rw [tryBranches_eq_X]
  have hrest : ∀ {b : Branch} {bs : List Branch} {t : Token} (μ : MState), ((∀ b' ∈ b :: bs, nbranchOK T σ a d b' = true) ∧ t.line = l0) →
      (∀ b' ∈ bs, nbranchOK T σ a d b' = true) ∧ (matchTok D b.kind μ t).1.tok.line = l0 := fun μ h =>
    ⟨fun b' hb' => h.1 b' (List.mem_cons_of_mem _ hb'), (matchTok_tok D _ μ _).1.trans h.2⟩
  refine branches_rule (Tk := fun bs t => (∀ b ∈ bs, nbranchOK T σ a d b = true) ∧ t.line = l0)
    (Pm := fun b t' c => S a (flipD b.kind d) c ∧ (TokOK b.kind d t' ∧ (l0 = none ↔ b.kind = .EOF))) row
    ((report_s _ stop a d).mono fun _ h => h.1)
    (fun b _ t h c _ hc hres => ⟨⟨⟨hc.1, (matchTok_mode_matched D b.kind c.μ t hres).trans (hc.2 ▸ rfl)⟩,
      hc.2 ▸ tokOK_of_matched D b.kind c.μ t hres, h.2 ▸ matchTok_eof_iff D b.kind c.μ t hres⟩, fun _ => hrest c.μ h⟩)
    (fun b _ t h c n hc hres => ⟨hc.test_other D b.kind t n hres, hrest c.μ h⟩)
    (fun b _ t _ c n _ hc hres => hc.test_other D b.kind t n (by rw [hres]; nofun))
    (fun b _ _ t' i la h hg hla => ?_) (fun b _ _ _ i _ _ h hg hla _ => ?_) (fun b _ _ t' h => ?_)
    (fun t _ => tail_rule (Q := fun s' c' => Post σ T l0.isNone s' c')
      ((report_s _ stop a d).mono fun c hc => ⟨⟨a, d, herr ▸ hs, hc.1⟩, fun _ => herr ▸ hrow, fun _ => .inl hc.2⟩)
      t fun _ hc => hc) bs t ⟨hbs, ht⟩
  · obtain ⟨hk, hl⟩ := nbranchOK_guard (h.1 b List.mem_cons_self) hg
    obtain ⟨la', hla', hno⟩ := hl _ hla
    cases hla'
    have hfl : flipD b.kind d = d := by unfold flipD; rw [if_neg hk]
    rw [hfl]
    exact (lookahead_s D _ stop la a d hno).guard _
  · obtain ⟨la', hla', -⟩ := (nbranchOK_guard (h.1 b List.mem_cons_self) hg).2 _ hla
    cases hla'
  · obtain ⟨a', a'', hx, hl, hsub, hfin⟩ := nbranchOK_exec (h.1 b List.mem_cons_self)
    refine Triple.pre_fact (fun _ hc => ⟨hc.2, hc.1⟩) fun hF => ?_
    refine (runProds_safe _ stop t' (fun μ => μ.inDocString = flipD b.kind d) hF.1 b.prods hx).post fun _ c hc => ?_
    refine ⟨⟨a'', _, hl, hc.1.sub hsub, hc.2⟩, fun hl0 => ?_, fun hl0 => ?_⟩
    · have hne : b.kind ≠ .EOF := fun hk => by rw [hF.2.2 hk] at hl0; cases hl0
      rw [if_neg hne] at hfin; exact hfin
    · have hk : b.kind = .EOF := hF.2.1 (by cases l0 with | none => rfl | some l => cases hl0)
      rw [if_pos hk] at hfin
      exact Or.inr ⟨a'', _, hl, hfin⟩

theorem nlookup_mem {σ : NTyping} {s : Nat} {ty : NTy} (h : nlookup σ s = some ty) : (s, ty) ∈ σ := by
  induction σ with
  | nil => cases h
  | cons p σ ih =>
    obtain ⟨s', ty'⟩ := p
    simp only [nlookup] at h
    split at h
    · next e => simp only [Option.some.injEq] at h; subst h; subst e; exact List.mem_cons_self
    · exact List.mem_cons_of_mem _ (ih h)

structure Checked (T : Table) (σ : NTyping) : Prop where
  start : nlookup σ 0 = some ([(T.startRule, []), (.None_, [])], false)
  row0 : (T.row? 0).isSome = true
  top : ∀ s a d, nlookup σ s = some (a, d) → topOK a = true
  rows : ∀ s a d, nlookup σ s = some (a, d) → ∀ row, T.row? s = some row →
    row.errTarget = s ∧ ∀ b ∈ row.branches, nbranchOK T σ a d b = true

theorem checked_of_ok {T : Table} {σ : NTyping} (h : ntypingOK T σ = true) : Checked T σ := by
  simp only [ntypingOK, Bool.and_eq_true, decide_eq_true_eq, List.all_eq_true] at h
  obtain ⟨⟨h0, hr0⟩, hall⟩ := h
  refine ⟨h0, hr0, ?_, ?_⟩
  · intro s a d hs
    have := hall _ (nlookup_mem hs)
    simp only [nstateOK, Bool.and_eq_true] at this
    exact this.1
  · intro s a d hs row hrow
    have := hall _ (nlookup_mem hs)
    simp only [nstateOK, Bool.and_eq_true, hrow, decide_eq_true_eq, List.all_eq_true] at this
    exact this.2

theorem matchToken_safe (D : List Dialect) {T : Table} (stop : Bool) {σ : NTyping} (hC : Checked T σ)
    (s : Nat) (hrow : (T.row? s).isSome = true) (t : Token) :
    Triple (J σ s) (matchToken D T stop s t) (fun s' c' => Post σ T t.line.isNone s' c') NoCrashE :=
  matchToken_rule s t
    (fun row hr c ⟨a, d, hs, hc⟩ => tryBranches_safe D T stop σ hs row (hC.rows s a d hs row hr).1 hrow t.line
      row.branches t (hC.rows s a d hs row hr).2 rfl c hc)
    fun _ _ h _ => by rw [h] at hrow; cases hrow

def LoopEnd (σ : NTyping) (s' : Nat) (c' : Ctx) : Prop :=
  J σ s' c' ∧ (c'.errors ≠ [] ∨ ∃ a d, nlookup σ s' = some (a, d) ∧ eofFinal a = true)

theorem parseLoop_safe (D : List Dialect) {T : Table} (stop : Bool) {σ : NTyping} (hC : Checked T σ) (fuel s : Nat)
    (hrow : (T.row? s).isSome = true) : Triple (J σ s) (parseLoop D T stop fuel s) (LoopEnd σ) NoCrashE := by
  refine (Triple.parseLoop (H := fun _ s c => J σ s c ∧ (T.row? s).isSome = true)
    (M := fun _ s _ c => J σ s c ∧ (T.row? s).isSome = true) (fun _ _ _ => nofun) (fun _ s => ?_)
    (fun _ s t => Triple.pre_fact (fun _ hc => ⟨hc.2, hc.1⟩) fun hrow =>
      (matchToken_safe D stop hC s hrow t).post fun s' c hc => ?_) fuel s).pre fun _ hc => ⟨hc, hrow⟩
  · refine Triple.intro fun c r c' hc hr => ?_
    rw [run_readToken] at hr
    split at hr
    · cases hr; exact hc
    · split at hr <;> (cases hr; exact hc)
  · show if t.line.isNone then LoopEnd σ s' c else J σ s' c ∧ (T.row? s').isSome = true
    cases hl : t.line.isNone <;> rw [hl] at hc
    · exact ⟨hc.1, hc.2.1 rfl⟩
    · exact ⟨hc.1, hc.2.2 rfl⟩

theorem result_of_doc_item {β : BState} {m : Node} {st : List Node} (hst : β.stack = m :: st)
    (hne : getItems m.items (.rule .GherkinDocument) ≠ [])
    (hdoc : ∀ v, (Key.rule .GherkinDocument, v) ∈ m.items → ∃ d, v = .doc d) :
    ∃ d, β.result = .ok (some d) := by
  cases hi : getItems m.items (.rule .GherkinDocument) with
  | nil => exact absurd hi hne
  | cons v vs =>
    obtain ⟨d, rfl⟩ := hdoc v (mem_getItems _ _ _ (by rw [hi]; exact List.mem_cons_self))
    refine ⟨d, ?_⟩
    unfold BState.result
    rw [hst]
    simp only [getSingle_of_cons _ _ _ vs hi]

theorem finalEnd_safe {T : Table} (stop : Bool) {σ : NTyping} (hC : Checked T σ) (s : Nat) (x : RuleType) :
    Triple (LoopEnd σ s) (runProd T.errorCap stop default (.end_ x))
      (fun _ c => c.errors ≠ [] ∨ ∃ d, c.β.result = .ok (some d)) NoCrashE := by
  refine runProd_rule ((report_nc T.errorCap stop (P := fun _ => True) fun _ _ h => h).mono fun _ h => .inl h.2)
    default (.end_ x) fun c ⟨⟨a, d, hs, hty, _⟩, hfin⟩ => ?_
  have htop := hC.top s a d hs
  dsimp only
  cases a with
  | nil => simp [topOK] at htop
  | cons f a =>
    obtain ⟨r0, ks⟩ := f
    cases a with
    | nil => simp [topOK] at htop
    | cons g a =>
      obtain ⟨p0, ps⟩ := g
      simp only [topOK] at htop
      rcases endRule_typed c.ids htop hty with ⟨hok, hty', hitem⟩ | ⟨e, herr, -, -⟩
      · rw [hok]
        rcases hfin with hne | ⟨a2, d2, hs2, hf2⟩
        · exact Or.inl hne
        · right
          rw [hs] at hs2
          simp only [Option.some.injEq, Prod.mk.injEq] at hs2
          rw [← hs2.1] at hf2
          cases a with
          | cons _ _ => simp [eofFinal] at hf2
          | nil =>
            simp only [eofFinal, decide_eq_true_eq] at hf2
            subst hf2
            show ∃ d, (c.β.endRule c.ids).2.1.result = .ok (some d)
            cases hst : (c.β.endRule c.ids).2.1.stack with
            | nil => rw [hst] at hty'; exact hty'.elim
            | cons m st =>
              rw [hst] at hty'
              exact result_of_doc_item hst (hitem m st hst) hty'.1.2.2.2.2
      · rw [herr]
        trivial

theorem parseBody_safe (D : List Dialect) {T : Table} (stop : Bool) {σ : NTyping} (hC : Checked T σ) (n : Nat) :
    Triple (fun c => c.β.stack = [⟨.None_, []⟩] ∧ c.μ.inDocString = false) (parseBody D T stop n)
      (fun _ _ => True) NoCrashE :=
  (body_rule (P1 := J σ 0) (P2 := LoopEnd σ) (P3 := fun c => c.errors ≠ [] ∨ ∃ d, c.β.result = .ok (some d))
    (fun c hc => ⟨_, _, hC.start, by
      show STyped _ (⟨T.startRule, []⟩ :: c.β.stack)
      rw [hc.1]
      exact ⟨⟨rfl, fun _ hx => (nomatch hx), nodeInv_empty _⟩, ⟨rfl, fun _ hx => (nomatch hx), nodeInv_empty _⟩, trivial⟩,
      hc.2⟩)
    (parseLoop_safe D stop hC _ 0 hC.row0) (fun s => finalEnd_safe stop hC s _) (fun _ _ _ => nofun)
    fun _ _ hc he hno => hc.elim (fun h => absurd he h) fun ⟨d, hd⟩ => absurd hd (hno d)).post fun _ _ _ => trivial

theorem parseWith_no_crash (D : List Dialect) (T : Table) (fuel : Nat) (hT : noCrashCheck T fuel = true)
    (stop : Bool) (μ : MState) (ids : Nat) (src : Str) (w : String) :
    (parseWith D T stop μ ids src).1 ≠ .crash w := by
  intro hw
  have h := Triple.parseWith (parseBody_safe D stop (checked_of_ok hT) _) (μ := μ) (ids := ids) (src := src)
    ⟨rfl, by simp [ctx0, MState.reset, MState.inDocString]⟩
  rw [hw] at h
  exact h w rfl

end NC
end Lemmas
end GV
