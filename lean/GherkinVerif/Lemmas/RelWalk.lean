/-
  Lemmas/RelWalk.lean — two runs of the glue that do the same thing: a congruence.  `SimJ W m1 m2`:
  from contexts related by `W.J` the runs of `m1` and `m2` return the same value in contexts related
  by `W.J`, or abort alike (`W.A`), or the escape `W.X` has been taken (`PostR`, Lemmas/Rel.lean).
  Related primitives give related compounds: the rules below walk through `matchAny`, the
  look-ahead, the productions, the tests of a state, the main loop and the body of `parse`, so that
  a simulation owes the primitives only.  The escape is absorbed because what follows is harmless
  (`W.K1`, `W.K2`), and a `SimJ` says of its own two computations that they are; hence `bind` asks
  for nothing.  The compound operations are taken with their parts as parameters (`tryBranchesX`,
  `loopX`, `bodyX`), so that the two sides may differ in the error mode and in the builder; the
  parse with the builder as a parameter (Model/Formatter.lean) is an instance of them by
  `tryBranchesG_eq_X`, `parseLoopG_eq_X`, `parseBodyG_eq_X`, proved here.
-/
import GherkinVerif.Lemmas.Rel
import GherkinVerif.Lemmas.GlueOps
import GherkinVerif.Model.Formatter
namespace GV
namespace Lemmas

/-- `K m` is meant as "`m`, run after an escape, leaves it standing" (`Walk.OK.sticky`).  The control skeleton of the
    glue is of that kind (return, crash, out of fuel, reading the context), and so is `>>=` of such computations. -/
structure Harmless (K : {α : Type} → PM α → Prop) : Prop where
  pure : ∀ {α} (a : α), K (pure a : PM α)
  crash : ∀ {α} (w : String), K (throw (.crash w) : PM α)
  fuel : ∀ {α}, K (throw .fuel : PM α)
  get : K (get : PM Ctx)
  bind : ∀ {α β} {m : PM α} {f : α → PM β}, K m → (∀ a, K (f a)) → K (m >>= f)

/-- The parameters of a simulation of two runs that do the same thing: `J` relates the contexts before and after,
    `A e` those in which both have aborted with `e`, `X` is the escape, `K1`, `K2` are the computations of the first
    and of the second run that leave it standing. -/
structure Walk where
  J : Ctx → Ctx → Prop
  A : Abort → Ctx → Ctx → Prop
  X : Option Abort × Ctx → Option Abort × Ctx → Prop
  K1 : {α : Type} → PM α → Prop
  K2 : {α : Type} → PM α → Prop

/-- What the walk asks of its parameters.  `k1`, `k2`: the control skeleton of the glue leaves the escape standing;
    `sticky`: and so the escape survives whatever such computations the two runs go on with; `crash`, `fuel`: from
    related contexts both runs may crash, or run out of fuel, alike; `len`: a look-ahead gets the same fuel in
    both runs. -/
structure Walk.OK (W : Walk) : Prop where
  k1 : Harmless W.K1
  k2 : Harmless W.K2
  sticky : ∀ {α β γ δ} {f1 : α → PM γ} {f2 : β → PM δ}, (∀ a, W.K1 (f1 a)) → (∀ b, W.K2 (f2 b)) → Sticky W.X f1 f2
  crash : ∀ w c1 c2, W.J c1 c2 → W.A (.crash w) c1 c2
  fuel : ∀ c1 c2, W.J c1 c2 → W.A .fuel c1 c2
  len : ∀ c1 c2, W.J c1 c2 → c1.queue.length + c1.lines.length = c2.queue.length + c2.lines.length

abbrev Walk.Post (W : Walk) {α β} (R : α → β → Prop) :=
  PostR (fun a1 a2 d1 d2 => R a1 a2 ∧ W.J d1 d2) (fun e1 e2 d1 d2 => e1 = e2 ∧ W.A e1 d1 d2) W.X

/-- From contexts related by `W.J` the runs of `m1` and `m2` return values related by `R` in contexts related by
    `W.J`, or abort with the same abort and `W.A`, or the escape has been taken (`rel`); and `m1`, `m2`
    themselves leave an escape standing that was taken before them (`k1`, `k2`). -/
structure SimR (W : Walk) {α β} (R : α → β → Prop) (m1 : PM α) (m2 : PM β) : Prop where
  rel : ∀ c1 c2, W.J c1 c2 → W.Post R (run m1 c1) (run m2 c2)
  k1 : W.K1 m1
  k2 : W.K2 m2

abbrev SimJ (W : Walk) {α} (m1 m2 : PM α) : Prop := SimR W Eq m1 m2

section rules
variable {W : Walk}

theorem SimR.pure {α β} {R : α → β → Prop} (hW : W.OK) {a1 : α} {a2 : β} (h : R a1 a2) :
    SimR W R (Pure.pure a1) (Pure.pure a2) :=
  ⟨fun _ _ hc => .ok ⟨h, hc⟩, hW.k1.pure a1, hW.k2.pure a2⟩

theorem SimR.crash {α β} {R : α → β → Prop} (hW : W.OK) (w : String) :
    SimR W R (throw (.crash w) : PM α) (throw (.crash w) : PM β) :=
  ⟨fun c1 c2 hc => .err ⟨rfl, hW.crash w c1 c2 hc⟩, hW.k1.crash w, hW.k2.crash w⟩

theorem SimR.fuel {α β} {R : α → β → Prop} (hW : W.OK) : SimR W R (throw .fuel : PM α) (throw .fuel : PM β) :=
  ⟨fun c1 c2 hc => .err ⟨rfl, hW.fuel c1 c2 hc⟩, hW.k1.fuel, hW.k2.fuel⟩

theorem SimR.bind {α β γ} {R : β → γ → Prop} {m1 m2 : PM α} {f1 : α → PM β} {f2 : α → PM γ} (hW : W.OK)
    (h1 : SimJ W m1 m2) (h2 : ∀ a, SimR W R (f1 a) (f2 a)) : SimR W R (m1 >>= f1) (m2 >>= f2) :=
  ⟨fun c1 c2 hc => (h1.rel c1 c2 hc).bind (fun a1 _ d1 d2 _ _ hq => hq.1 ▸ (h2 a1).rel d1 d2 hq.2)
      (hW.sticky (fun a => (h2 a).k1) fun a => (h2 a).k2),
    hW.k1.bind h1.k1 fun a => (h2 a).k1, hW.k2.bind h1.k2 fun a => (h2 a).k2⟩

section walk
variable {D1 D2 : List Dialect} {cap1 cap2 : Nat} {s1 s2 : Bool} {T : Table}

theorem SimJ.matchAny (hW : W.OK) (ks : List Kind)
    (h : ∀ k ∈ ks, ∀ t, SimJ W (matchP D1 cap1 s1 k t) (matchP D2 cap2 s2 k t)) (t : Token) :
    SimJ W (GV.matchAny D1 cap1 s1 ks t) (GV.matchAny D2 cap2 s2 ks t) := by
  induction ks generalizing t with
  | nil => exact SimR.pure hW rfl
  | cons k ks ih =>
    unfold GV.matchAny
    refine SimR.bind hW (h k List.mem_cons_self t) fun r => ?_
    obtain ⟨m, t'⟩ := r
    cases m
    · exact ih (fun k hk => h k (List.mem_cons_of_mem _ hk)) _
    · exact SimR.pure hW rfl

theorem SimJ.lookahead (hW : W.OK) (la : LookAhead) (hread : SimJ W readToken readToken)
    (hmatch : ∀ k ∈ la.expected ++ la.skip, ∀ t, SimJ W (matchP D1 cap1 s1 k t) (matchP D2 cap2 s2 k t))
    (hq : ∀ r, SimJ W (modify fun c => { c with queue := c.queue ++ r } : PM PUnit)
      (modify fun c => { c with queue := c.queue ++ r })) :
    SimJ W (GV.lookahead D1 cap1 s1 la) (GV.lookahead D2 cap2 s2 la) := by
  have hloop : ∀ fuel acc, SimJ W (lookaheadLoop D1 cap1 s1 la fuel acc) (lookaheadLoop D2 cap2 s2 la fuel acc) := by
    intro fuel
    induction fuel with
    | zero => intro acc; exact SimR.fuel hW
    | succ n ih =>
      intro acc
      unfold GV.lookaheadLoop
      refine SimR.bind hW hread fun t => SimR.bind hW
        (SimJ.matchAny hW _ (fun k hk => hmatch k (List.mem_append_left _ hk)) t) fun r => ?_
      obtain ⟨m, t1⟩ := r
      cases m
      · refine SimR.bind hW (SimJ.matchAny hW _ (fun k hk => hmatch k (List.mem_append_right _ hk)) t1) fun r => ?_
        obtain ⟨s, t2⟩ := r
        cases s
        · exact SimR.pure hW rfl
        · exact ih _
      · exact SimR.pure hW rfl
  have hrest : ∀ fuel, SimJ W
      (do let (m, read) ← lookaheadLoop D1 cap1 s1 la fuel []
          modify fun c => { c with queue := c.queue ++ read }
          Pure.pure m)
      (do let (m, read) ← lookaheadLoop D2 cap2 s2 la fuel []
          modify fun c => { c with queue := c.queue ++ read }
          Pure.pure m) := fun fuel =>
    SimR.bind hW (hloop fuel []) fun r => SimR.bind hW (hq r.2) fun _ => SimR.pure hW rfl
  unfold GV.lookahead
  refine ⟨fun c1 c2 hc => ?_, hW.k1.bind hW.k1.get fun _ => (hrest _).k1, hW.k2.bind hW.k2.get fun _ => (hrest _).k2⟩
  rw [prun_bind, prun_bind, run_get, run_get]
  dsimp only
  rw [hW.len c1 c2 hc]
  exact (hrest _).rel c1 c2 hc

theorem runProdsG_eq_X {ρ} (B : BuilderI ρ) (t : Token) (ps : List Prod) :
    runProdsG B t ps = runProdsX (runProdG B t) ps := by
  induction ps with
  | nil => rfl
  | cons p ps ih => rw [runProdsG, runProdsX, ih]

theorem SimJ.runProdsX (hW : W.OK) {rp1 rp2 : Prod → PM Unit} (h : ∀ p, SimJ W (rp1 p) (rp2 p)) (ps : List Prod) :
    SimJ W (Lemmas.runProdsX rp1 ps) (Lemmas.runProdsX rp2 ps) := by
  induction ps with
  | nil => exact SimR.pure hW rfl
  | cons p ps ih => exact SimR.bind hW (h p) fun _ => ih

theorem tryBranchesG_eq_X {ρ} (B : BuilderI ρ) {D : List Dialect} {stop : Bool} (row : StateRow) (bs : List Branch)
    (t : Token) :
    tryBranchesG B D T stop row bs t =
      tryBranchesX (matchP D T.errorCap stop) (lookahead D T.errorCap stop) (runProdG B) T
        (tryBranches D T stop row []) bs t := by
  induction bs generalizing t with
  | nil => rfl
  | cons b bs ih =>
    rw [tryBranchesG, tryBranchesX]
    refine bind_congr fun x => ?_
    obtain ⟨m, t'⟩ := x
    dsimp only
    rw [ih, runProdsG_eq_X]
    cases m
    · rfl
    · unfold guardX
      cases b.guard with
      | none => rfl
      | some i => dsimp only; cases T.lookaheads[i]? <;> rfl

theorem SimJ.tryBranchesX (hW : W.OK) {mp1 mp2 : Kind → Token → PM (Bool × Token)} {look1 look2 : LookAhead → PM Bool}
    {rp1 rp2 : Token → Prod → PM Unit} {tail1 tail2 : Token → PM Nat}
    (hmatch : ∀ k t, SimJ W (mp1 k t) (mp2 k t)) (hlook : ∀ la, SimJ W (look1 la) (look2 la))
    (hprod : ∀ t p, SimJ W (rp1 t p) (rp2 t p)) (htail : ∀ t, SimJ W (tail1 t) (tail2 t))
    (bs : List Branch) (t : Token) :
    SimJ W (Lemmas.tryBranchesX mp1 look1 rp1 T tail1 bs t) (Lemmas.tryBranchesX mp2 look2 rp2 T tail2 bs t) := by
  induction bs generalizing t with
  | nil => exact htail t
  | cons b bs ih =>
    rw [Lemmas.tryBranchesX, Lemmas.tryBranchesX]
    refine SimR.bind hW (hmatch b.kind t) fun r => ?_
    obtain ⟨m, t'⟩ := r
    cases m
    · exact ih t'
    · have hguard : SimJ W (guardX look1 T b) (guardX look2 T b) := by
        unfold guardX
        cases b.guard with
        | none => exact SimR.pure hW rfl
        | some i =>
          dsimp only
          cases T.lookaheads[i]? with
          | some la => exact hlook la
          | none => exact SimR.crash hW _
      refine SimR.bind hW hguard fun ok => ?_
      cases ok
      · exact ih t'
      · exact SimR.bind hW (SimJ.runProdsX hW (hprod t') _) fun _ => SimR.pure hW rfl

/-- `match_token`: the tests of the row of the state, or a crash -/
theorem SimJ.matchRow (hW : W.OK) (s : Nat) (w : String) {tb1 tb2 : StateRow → PM Nat}
    (h : ∀ row, SimJ W (tb1 row) (tb2 row)) :
    SimJ W
      (match T.row? s with
        | some row => tb1 row
        | none => throw (.crash w))
      (match T.row? s with
        | some row => tb2 row
        | none => throw (.crash w)) := by
  cases T.row? s with
  | some row => exact h row
  | none => exact SimR.crash hW w

theorem parseLoopG_eq_X {ρ} (B : BuilderI ρ) {D : List Dialect} {stop : Bool} (fuel s : Nat) :
    parseLoopG B D T stop fuel s = loopX (matchTokenG B D T stop) fuel s := by
  induction fuel generalizing s with
  | zero => rfl
  | succ n ih => simp only [parseLoopG, loopX, ih]

theorem SimJ.loopX (hW : W.OK) {mt1 mt2 : Nat → Token → PM Nat} (hread : SimJ W readToken readToken)
    (hrec : ∀ n, SimJ W (modify fun c => { c with reads := c.reads ++ [n] } : PM PUnit)
      (modify fun c => { c with reads := c.reads ++ [n] }))
    (hstep : ∀ s t, SimJ W (mt1 s t) (mt2 s t)) (fuel s : Nat) :
    SimJ W (Lemmas.loopX mt1 fuel s) (Lemmas.loopX mt2 fuel s) := by
  induction fuel generalizing s with
  | zero => exact SimR.fuel hW
  | succ n ih =>
    rw [Lemmas.loopX, Lemmas.loopX]
    refine SimR.bind hW hread fun t => SimR.bind hW (hrec _) fun _ => SimR.bind hW (hstep s t) fun s' => ?_
    cases t.eof
    · exact ih s'
    · exact SimR.pure hW rfl

theorem parseBodyG_eq_X {ρ} (B : BuilderI ρ) {D : List Dialect} {stop : Bool} (n : Nat) :
    parseBodyG B D T stop n = bodyX (B.startRule T.startRule) (parseLoopG B D T stop (n + 2) 0)
      (B.endRule T.startRule) fun _ => B.result := rfl

theorem SimR.finishX {ρ1 ρ2} {R : ρ1 → ρ2 → Prop} {res1 : Ctx → PM ρ1} {res2 : Ctx → PM ρ2}
    (herr : ∀ c1 c2, W.J c1 c2 → c1.errors = c2.errors ∧ (c1.errors ≠ [] → W.A (.composite c1.errors) c1 c2))
    (hres : ∀ c1 c2, W.J c1 c2 → c1.errors = [] → W.Post R (run (res1 c1) c1) (run (res2 c2) c2))
    (k1 : W.K1 (Lemmas.finishX res1)) (k2 : W.K2 (Lemmas.finishX res2)) :
    SimR W R (Lemmas.finishX res1) (Lemmas.finishX res2) := by
  refine ⟨fun c1 c2 hc => ?_, k1, k2⟩
  obtain ⟨he, hA⟩ := herr c1 c2 hc
  unfold Lemmas.finishX
  rw [prun_bind, prun_bind, run_get, run_get]
  dsimp only
  rw [← he]
  cases h : c1.errors with
  | nil => exact hres c1 c2 hc h
  | cons a l => exact .err ⟨rfl, h ▸ hA (by rw [h]; exact List.cons_ne_nil _ _)⟩

theorem SimR.bodyX (hW : W.OK) {ρ1 ρ2} {R : ρ1 → ρ2 → Prop} {start1 start2 fin1 fin2 : PM Unit} {loop1 loop2 : PM Nat}
    {res1 : Ctx → PM ρ1} {res2 : Ctx → PM ρ2} (hstart : SimJ W start1 start2) (hloop : SimJ W loop1 loop2)
    (hfin : SimJ W fin1 fin2) (hfinish : SimR W R (Lemmas.finishX res1) (Lemmas.finishX res2)) :
    SimR W R (Lemmas.bodyX start1 loop1 fin1 res1) (Lemmas.bodyX start2 loop2 fin2 res2) :=
  SimR.bind hW hstart fun _ => SimR.bind hW hloop fun _ => SimR.bind hW hfin fun _ => hfinish

end walk

end rules

end Lemmas
end GV
