/-
  Lemmas/NoCrashRun.lean — crash-freedom of the parser for every run (property C01): the abstract
  interpretation and the builder side.

  The builder's stack of open nodes is abstracted to a list of frames `(rule, present)`: the rule
  type of the open node and the `Spec.required` children it is KNOWN to hold (must-information);
  the matcher to one Boolean, "inside a doc string".  `nexecProd` executes one production
  symbolically and fails where the builder could crash.  A node whose `transform_node` may raise the
  ragged-table error is dropped in collecting mode (recorded, popped, not added to its parent), so
  a finished child is only known to be present when its rule type is in `sureRules`.
  `noCrashCheck` computes a typing of the states by exploration from the start state and checks
  every branch of every state, the glue's own crash sites (a target without row, a guard without
  look-ahead), and what the final `end_rule` needs of EVERY state (the loop may end anywhere on an
  unexpected end of file).  `STyped`: a concrete stack is typed by an abstract one; one production
  keeps that or raises the ragged-table error, never a crash (`runProd_safe`).
-/
import GherkinVerif.Lemmas.NoCrash
import GherkinVerif.Lemmas.PureInv
namespace GV
namespace Spec
open GV.Lemmas

abbrev NFrame := RuleType × List Sym
/-- abstract stack (innermost first, the builder's `None` root last) and "inside a doc string" -/
abbrev NTy := List NFrame × Bool
abbrev NTyping := List (Nat × NTy)

/-- rule types whose `transform_node` cannot raise: the raw ones and the document -/
def sureRules : List RuleType :=
  [.None_, .StepArg, .DescriptionHelper, .FeatureHeader, .RuleHeader, .Scenario, .Examples, .Tags,
   .GherkinDocument]

def addSym (r : RuleType) (ks : List Sym) (x : Sym) : List Sym :=
  if (required r).contains x && !ks.contains x then ks ++ [x] else ks

/-- one production on an abstract stack; `k` is the kind of the test that succeeded, `d` whether
    the matcher was inside a doc string before that test.  Apart from a stack that is too short it
    fails on an `end_rule` of a node not known to hold its required children, and on the first
    separator of a `DocString` node matched inside a doc string: that one is a closing separator,
    without the text the builder reads. -/
def nexecProd (k : Kind) (d : Bool) : List NFrame → Prod → Option (List NFrame)
  | st, .start r => some ((r, []) :: st)
  | (r, ks) :: st, .build =>
    if k = .Comment then some ((r, ks) :: st)
    else if r = .DocString ∧ k = .DocStringSeparator ∧ ks.contains (Sym.tok k) = false ∧ d = true then none
    else some ((r, addSym r ks (.tok k)) :: st)
  | (r, ks) :: (p, ps) :: st, .end_ _ =>
    if (required r).all ks.contains then
      some ((p, if sureRules.contains r then addSym p ps (.rule r) else ps) :: st)
    else none
  | _, _ => none

def nexecProds (k : Kind) (d : Bool) : List NFrame → List Prod → Option (List NFrame)
  | a, [] => some a
  | a, p :: ps =>
    match nexecProd k d a p with
    | none => none
    | some a' => nexecProds k d a' ps

def nlookup : NTyping → Nat → Option NTy
  | [], _ => none
  | (s', a) :: rest, s => if s' = s then some a else nlookup rest s

/-- `a'` knows at least what `a` knows -/
def subFrames : List NFrame → List NFrame → Bool
  | [], [] => true
  | (r', ks') :: a', (r, ks) :: a => decide (r' = r) && ks.all ks'.contains && subFrames a' a
  | _, _ => false

/-- what the final `end_rule` needs: the top node has its required children and is not the root -/
def topOK : List NFrame → Bool
  | (r, ks) :: _ :: _ => (required r).all ks.contains
  | _ => false

/-- after an end-of-file branch only the document node is open -/
def eofFinal : List NFrame → Bool
  | [(r, _), _] => decide (r = .GherkinDocument)
  | _ => false

/-- a successful `match_DocStringSeparator` toggles the doc-string mode; no other test touches it -/
def flipD (k : Kind) (d : Bool) : Bool := if k = .DocStringSeparator then !d else d

/-- one branch: a guard refers to an existing look-ahead that does not test doc-string
    separators (and the guarded test is not that test either); the productions run without
    crash and lead to (something at least as informative as) the typing of the target; the
    target has a row, or — on end of file — is left with the document node only -/
def nbranchOK (T : Table) (σ : NTyping) (a : List NFrame) (d : Bool) (b : Branch) : Bool :=
  (match b.guard with
   | none => true
   | some i => decide (b.kind ≠ .DocStringSeparator) &&
      match T.lookaheads[i]? with
      | some la => !(la.expected ++ la.skip).contains .DocStringSeparator
      | none => false) &&
  (match nexecProds b.kind d a b.prods with
   | none => false
   | some a' =>
     match nlookup σ b.target with
     | none => false
     | some (a'', d'') => decide (d'' = flipD b.kind d) && subFrames a' a'' &&
        (if b.kind = .EOF then eofFinal a'' else (T.row? b.target).isSome))

def nstateOK (T : Table) (σ : NTyping) (p : Nat × NTy) : Bool :=
  topOK p.2.1 &&
  match T.row? p.1 with
  | none => true
  | some row => decide (row.errTarget = p.1) && row.branches.all (nbranchOK T σ p.2.1 p.2.2)

def ntypingOK (T : Table) (σ : NTyping) : Bool :=
  decide (nlookup σ 0 = some ([(T.startRule, []), (.None_, [])], false)) && (T.row? 0).isSome &&
  σ.all (nstateOK T σ)

def nsucc (T : Table) (s : Nat) (a : List NFrame) (d : Bool) : NTyping :=
  match T.row? s with
  | none => []
  | some row => row.branches.filterMap fun b =>
      match nexecProds b.kind d a b.prods with
      | some a' => some (b.target, (a', flipD b.kind d))
      | none => none

def nexplore (T : Table) : Nat → NTyping → NTyping → NTyping
  | 0, _, σ => σ
  | _ + 1, [], σ => σ
  | n + 1, (s, (a, d)) :: todo, σ =>
    match nlookup σ s with
    | some _ => nexplore T n todo σ
    | none => nexplore T n (nsucc T s a d ++ todo) ((s, (a, d)) :: σ)

/-- the typing computed from the start state: the start rule's node on the builder's root -/
def ncompute (T : Table) (fuel : Nat) : NTyping :=
  nexplore T fuel [(0, ([(T.startRule, []), (.None_, [])], false))] []

def noCrashCheck (T : Table) (fuel : Nat) : Bool := ntypingOK T (ncompute T fuel)

end Spec

namespace Lemmas
namespace NC
open Spec

/-- on an open node: `GoodItems`; the first separator of a `DocString` node is an opening one; what
    lies under `GherkinDocument` is a document (for `get_result()` after the final `end_rule`) -/
def NodeInv (n : Node) : Prop :=
  GoodItems n.items ∧
  (n.rt = .DocString → ∀ sep rest, getTokens n.items .DocStringSeparator = sep :: rest → sep.text.isSome = true) ∧
  (∀ v, (Key.rule .GherkinDocument, v) ∈ n.items → ∃ d, v = .doc d)

def FrameTyped (f : NFrame) (n : Node) : Prop :=
  f.1 = n.rt ∧ (∀ x ∈ f.2, getItems n.items (symKey x) ≠ []) ∧ NodeInv n

def STyped : List NFrame → List Node → Prop
  | [], [] => True
  | f :: a, n :: c => FrameTyped f n ∧ STyped a c
  | _, _ => False

theorem FrameTyped.weaken {r : RuleType} {ks ks' : List Sym} {n : Node} (h : FrameTyped (r, ks') n)
    (hs : ∀ x ∈ ks, x ∈ ks') : FrameTyped (r, ks) n :=
  ⟨h.1, fun x hx => h.2.1 x (hs x hx), h.2.2⟩

theorem STyped.sub : ∀ {a' a : List NFrame} {c : List Node}, subFrames a' a = true → STyped a' c → STyped a c
  | [], [], c, _, h => h
  | [], _ :: _, _, hs, _ => by simp [subFrames] at hs
  | _ :: _, [], _, hs, _ => by simp [subFrames] at hs
  | (r', ks') :: a', (r, ks) :: a, [], _, h => h.elim
  | (r', ks') :: a', (r, ks) :: a, n :: c, hs, h => by
    simp only [subFrames, Bool.and_eq_true, decide_eq_true_eq, List.all_eq_true, List.contains_iff_mem] at hs
    obtain ⟨⟨rfl, hk⟩, hrest⟩ := hs
    exact ⟨h.1.weaken hk, STyped.sub hrest h.2⟩

theorem STyped.weakenTop {p : RuleType} {ks ks' : List Sym} {a : List NFrame} {c : List Node}
    (h : STyped ((p, ks') :: a) c) (hs : ∀ x ∈ ks, x ∈ ks') : STyped ((p, ks) :: a) c := by
  cases c with
  | nil => exact h.elim
  | cons n c => exact ⟨h.1.weaken hs, h.2⟩

theorem mem_addSym {r : RuleType} {ks : List Sym} {x y : Sym} (h : y ∈ addSym r ks x) : y ∈ ks ∨ y = x := by
  unfold addSym at h
  split at h
  · rcases List.mem_append.1 h with h | h
    · exact Or.inl h
    · exact Or.inr (by simpa using h)
  · exact Or.inl h

theorem nodeInv_empty (r : RuleType) : NodeInv ⟨r, []⟩ :=
  ⟨goodItems_nil, fun _ sep rest h => by simp [getTokens, getItems] at h, fun _ h => (nomatch h)⟩

theorem styped_start {a : List NFrame} {st : List Node} (r : RuleType) (h : STyped a st) :
    STyped ((r, []) :: a) (⟨r, []⟩ :: st) :=
  ⟨⟨rfl, fun _ hx => (nomatch hx), nodeInv_empty r⟩, h⟩

/-- what a successful test of kind `k`, made while the matcher's doc-string mode was `d`, hands
    to the builder -/
def TokOK (k : Kind) (d : Bool) (t : Token) : Prop :=
  t.mtype = some k ∧ WellMatched t ∧ (k = .DocStringSeparator → t.text.isSome = !d)

theorem getTokens_rule_item (r : RuleType) (v : Val) (k : Kind) : getTokens [(Key.rule r, v)] k = [] := by
  simp [getTokens, getItems]

theorem getTokens_tok_item (k k' : Kind) (t : Token) :
    getTokens [(Key.tok k, Val.tok t)] k' = if k = k' then [t] else [] := by
  by_cases h : k = k'
  · subst h; simp [getTokens, getItems]
  · simp [getTokens, getItems, h]

theorem frameTyped_add {r : RuleType} {ks : List Sym} {n : Node} {x : Sym} {v : Val} (h : FrameTyped (r, ks) n)
    (hgood : GoodItems [(symKey x, v)]) (hdoc : symKey x = .rule .GherkinDocument → ∃ d, v = .doc d)
    (hsep : n.rt = .DocString → ∀ sep rest,
      getTokens (n.items ++ [(symKey x, v)]) .DocStringSeparator = sep :: rest → sep.text.isSome = true) :
    FrameTyped (r, addSym r ks x) { n with items := n.items ++ [(symKey x, v)] } := by
  obtain ⟨hr, hp, hg, -, hdc⟩ := h
  refine ⟨hr, fun y hy => ?_, hg.append hgood, hsep, fun v' hm => ?_⟩
  · show getItems (n.items ++ _) (symKey y) ≠ []
    rw [getItems_append]
    rcases mem_addSym hy with hy | rfl
    · intro e; exact hp y hy (List.append_eq_nil_iff.1 e).1
    · intro e
      have := (List.append_eq_nil_iff.1 e).2
      simp [getItems] at this
  · rcases List.mem_append.1 hm with hm | hm
    · exact hdc v' hm
    · simp only [List.mem_singleton, Prod.mk.injEq] at hm
      exact hm.2 ▸ hdoc hm.1.symm

theorem frameTyped_addTok {r : RuleType} {ks : List Sym} {n : Node} {k : Kind} {d : Bool} {t : Token}
    (h : FrameTyped (r, ks) n) (ht : TokOK k d t)
    (hdoc : ¬ (r = .DocString ∧ k = .DocStringSeparator ∧ ks.contains (Sym.tok k) = false ∧ d = true)) :
    FrameTyped (r, addSym r ks (.tok k)) { n with items := n.items ++ [(.tok k, .tok t)] } := by
  refine frameTyped_add (x := .tok k) h (goodItems_tok ht.1 ht.2.1) nofun fun hrt sep rest hs => ?_
  · obtain ⟨hr, hp, hg, hd, -⟩ := h
    simp only at hr
    rw [show symKey (.tok k) = Key.tok k from rfl, getTokens_append, getTokens_tok_item] at hs
    cases hold : getTokens n.items .DocStringSeparator with
    | cons s0 r0 =>
      rw [hold] at hs
      simp only [List.cons_append, List.cons.injEq] at hs
      rw [← hs.1]
      exact hd hrt s0 r0 hold
    | nil =>
      rw [hold] at hs
      -- the node's first separator: `ks` cannot know of one, so `nexecProd` has checked `d = false`
      by_cases hk : k = .DocStringSeparator
      · subst hk
        simp only [if_true, List.nil_append, List.cons.injEq] at hs
        rw [← hs.1]
        have hks : ks.contains (Sym.tok .DocStringSeparator) = false := by
          cases hc : ks.contains (Sym.tok .DocStringSeparator) with
          | false => rfl
          | true =>
            exfalso
            have := hp _ (List.contains_iff_mem.1 hc)
            exact getTokens_ne_nil hg.1 .DocStringSeparator this hold
        have hd' : d = false := by
          cases d with
          | false => rfl
          | true => exact absurd ⟨hr.trans hrt, rfl, hks, rfl⟩ hdoc
        rw [ht.2.2 rfl, hd']; rfl
      · simp [hk] at hs

theorem build_typed {k : Kind} {d : Bool} {a a' : List NFrame} {β : BState} {t : Token}
    (hex : nexecProd k d a .build = some a') (hty : STyped a β.stack) (ht : TokOK k d t) :
    ∃ β', β.build t = .ok β' ∧ STyped a' β'.stack := by
  cases a with
  | nil => simp [nexecProd] at hex
  | cons f a =>
    obtain ⟨r, ks⟩ := f
    cases hst : β.stack with
    | nil => rw [hst] at hty; exact hty.elim
    | cons n st =>
      rw [hst] at hty
      simp only [nexecProd] at hex
      by_cases hc : k = .Comment
      · subst hc
        simp only [if_true, Option.some.injEq] at hex
        subst hex
        have hf' := fieldsRead_of t _ ht.1 ht.2.1
        simp only [fieldsRead, Option.isSome_iff_exists] at hf'
        obtain ⟨tx, htx⟩ := hf'
        exact ⟨_, build_comment β t tx ht.1 htx, by rw [hst]; exact hty⟩
      · simp only [hc, if_false] at hex
        split at hex
        · cases hex
        · next hdoc =>
          simp only [Option.some.injEq] at hex
          subst hex
          exact ⟨_, build_token β t k n st ht.1 hc hst, frameTyped_addTok hty.1 ht hdoc, hty.2⟩

theorem sure_ok (cs : List Comment) (r : RuleType) (is : List (Key × Val)) (n : Nat)
    (h : sureRules.contains r = true) : ∃ v, ((transformNode cs ⟨r, is⟩).run.run n).1 = .ok v := by
  cases r <;> first | exact absurd h (by decide) | exact ⟨_, rfl⟩

theorem doc_val (cs : List Comment) (is : List (Key × Val)) (n : Nat) (v : Val)
    (h : ((transformNode cs ⟨.GherkinDocument, is⟩).run.run n).1 = .ok v) : ∃ d, v = .doc d := by
  rw [document_eq] at h
  simp only [Except.ok.injEq] at h
  exact ⟨_, h.symm⟩

theorem frameTyped_addVal {p : RuleType} {ps : List Sym} {m : Node} {R : RuleType} {v : Val}
    (h : FrameTyped (p, ps) m) (hv : GoodVal R v) (hdv : R = .GherkinDocument → ∃ d, v = .doc d) :
    FrameTyped (p, addSym p ps (.rule R)) { m with items := m.items ++ [(.rule R, v)] } := by
  refine frameTyped_add (x := .rule R) h (goodItems_rule hv) (fun e => hdv (Key.rule.inj e)) fun hrt sep rest hs => ?_
  · rw [show symKey (.rule R) = Key.rule R from rfl, getTokens_append, getTokens_rule_item, List.append_nil] at hs
    exact h.2.2.2.1 hrt sep rest hs

theorem endRule_typed {r p : RuleType} {ks ps : List Sym} {a : List NFrame} {β : BState} (ids : Nat)
    (hreq : (required r).all ks.contains = true) (hty : STyped ((r, ks) :: (p, ps) :: a) β.stack) :
    ((β.endRule ids).1 = .ok () ∧ STyped ((p, addSym p ps (.rule r)) :: a) (β.endRule ids).2.1.stack ∧
      ∀ m' st', (β.endRule ids).2.1.stack = m' :: st' → getItems m'.items (.rule r) ≠ []) ∨
    (∃ e, (β.endRule ids).1 = .error (.ast e) ∧ sureRules.contains r = false ∧
      STyped ((p, ps) :: a) (β.endRule ids).2.1.stack) := by
  cases hst : β.stack with
  | nil => rw [hst] at hty; exact hty.elim
  | cons n st =>
    cases st with
    | nil => rw [hst] at hty; exact hty.2.elim
    | cons m st =>
      rw [hst] at hty
      obtain ⟨hf, hfm, hrest⟩ := hty
      obtain ⟨R, is⟩ := n
      obtain ⟨hR, hpres, hinv⟩ := hf
      simp only at hR hpres
      subst hR
      have hreq' : NodeReq r is := by
        refine ⟨?_, fun hd => hinv.2.1 hd⟩
        intro x hx
        exact hpres x (List.contains_iff_mem.1 (List.all_eq_true.1 hreq x hx))
      have hno := node_outcome β.comments r is ids hinv.1 hreq'
      rcases hrun : (transformNode β.comments ⟨r, is⟩).run.run ids with ⟨res, n'⟩
      rw [hrun] at hno
      cases res with
      | ok v =>
        left
        rw [endRule_ok β _ m st ids n' v hst hrun]
        rcases hno with ⟨v', hv', hgv⟩ | ⟨_, h, _⟩
        · simp only [Except.ok.injEq] at hv'; subst hv'
          refine ⟨rfl, ⟨frameTyped_addVal hfm hgv ?_, hrest⟩, ?_⟩
          · intro hr; subst hr
            exact doc_val β.comments is ids v (by rw [hrun])
          · intro m' st' he
            simp only [List.cons.injEq] at he
            rw [← he.1]
            show getItems (m.items ++ [(Key.rule r, v)]) (.rule r) ≠ []
            rw [getItems_snoc_same]; simp
        · cases h
      | error e =>
        right
        rw [endRule_error β _ _ ids n' e hst hrun]
        rcases hno with ⟨_, h, _⟩ | ⟨e', he', _⟩
        · cases h
        · simp only [Except.error.injEq] at he'
          subst he'
          refine ⟨e', rfl, ?_, hfm, hrest⟩
          cases hs : sureRules.contains r with
          | false => rfl
          | true =>
            obtain ⟨v, hv⟩ := sure_ok β.comments r is ids hs
            rw [hrun] at hv; cases hv

def NoCrashE (e : Abort) (_ : Ctx) : Prop := ∀ w, e ≠ .crash w

theorem report_nc (cap : Nat) (stop : Bool) {P : Ctx → Prop} (hP : ∀ c es, P c → P { c with errors := es }) :
    Report cap stop (fun _ => P) (fun c => P c ∧ c.errors ≠ []) NoCrashE where
  single := fun _ _ _ _ _ => nofun
  add := fun _ e => addError_rule e (fun c h ⟨_, he', _⟩ => ⟨h, fun h0 => by rw [h0] at he'; cases he'⟩)
    (fun c h => ⟨hP c _ h, by simp⟩) fun _ _ _ _ => nofun

theorem runProd_safe {k : Kind} {d : Bool} {a a' : List NFrame} {p : Prod} (cap : Nat) (stop : Bool) (t : Token)
    (Pμ : MState → Prop) (hex : nexecProd k d a p = some a') (ht : TokOK k d t) :
    Triple (fun c => STyped a c.β.stack ∧ Pμ c.μ) (runProd cap stop t p)
      (fun _ c => STyped a' c.β.stack ∧ Pμ c.μ) NoCrashE := by
  refine runProd_rule ((report_nc cap stop (P := fun c => STyped a' c.β.stack ∧ Pμ c.μ) fun _ _ h => h).mono
    fun _ h => h.1) t p fun c ⟨hty, hμ⟩ => ?_
  cases p with
  | start x =>
    simp only [nexecProd, Option.some.injEq] at hex
    subst hex
    exact ⟨styped_start x hty, hμ⟩
  | build =>
    obtain ⟨β', hb, hty'⟩ := build_typed hex hty ht
    dsimp only
    rw [hb]
    exact ⟨hty', hμ⟩
  | end_ x =>
    dsimp only
    cases a with
    | nil => simp [nexecProd] at hex
    | cons f a =>
      obtain ⟨r0, ks⟩ := f
      cases a with
      | nil => simp [nexecProd] at hex
      | cons g a =>
        obtain ⟨p0, ps⟩ := g
        simp only [nexecProd] at hex
        split at hex
        · next hreq =>
          simp only [Option.some.injEq] at hex
          subst hex
          rcases endRule_typed c.ids hreq hty with ⟨hok, hty', -⟩ | ⟨e, herr, hns, hty'⟩
          · rw [hok]
            refine ⟨?_, hμ⟩
            split
            · exact hty'
            · exact hty'.weakenTop fun x hx => by unfold addSym; split <;> simp [hx]
          · rw [herr]
            simp only [hns, Bool.false_eq_true, if_false]
            exact ⟨hty', hμ⟩
        · cases hex

theorem runProds_safe {k : Kind} {d : Bool} (cap : Nat) (stop : Bool) (t : Token) (Pμ : MState → Prop) (ht : TokOK k d t) :
    ∀ (ps : List Prod) {a a' : List NFrame}, nexecProds k d a ps = some a' →
      Triple (fun c => STyped a c.β.stack ∧ Pμ c.μ) (runProds cap stop t ps)
        (fun _ c => STyped a' c.β.stack ∧ Pμ c.μ) NoCrashE
  | [], a, a', hex => by
    simp only [nexecProds, Option.some.injEq] at hex
    subst hex
    exact Triple.pure _ fun _ h => h
  | p :: ps, a, a', hex => by
    simp only [nexecProds] at hex
    split at hex
    · cases hex
    · next a1 h1 =>
      unfold runProds
      exact Triple.bind (runProd_safe cap stop t Pμ h1 ht) fun _ => runProds_safe cap stop t Pμ ht ps hex

end NC
end Lemmas
end GV
