/-
  The glue only ever appends to the ghost list `builds` of the tokens handed to the builder: `Grows`
  goes through both parses (`growsPrims`; Lemmas/GlueBase.lean `Prims`, Lemmas/PureInv.lean
  `PrimsP`).
-/
import GherkinVerif.Lemmas.GlueBase
namespace GV
namespace Lemmas

def Grows (c c' : Ctx) : Prop := ∃ suf, c'.builds = c.builds ++ suf

theorem Grows.refl (c : Ctx) : Grows c c := ⟨[], (List.append_nil _).symm⟩

theorem Grows.trans {a b c : Ctx} (h1 : Grows a b) (h2 : Grows b c) : Grows a c := by
  obtain ⟨s1, e1⟩ := h1
  obtain ⟨s2, e2⟩ := h2
  exact ⟨s1 ++ s2, by rw [e2, e1, List.append_assoc]⟩

def GrowsM {α} (m : PM α) : Prop := ∀ c0, Inv (Grows c0) (fun _ => Grows c0) m

theorem GrowsM.of_builds {α} {m : PM α} (h : ∀ c r c', run m c = (r, c') → c'.builds = c.builds) : GrowsM m :=
  Inv.of_foot Grows (fun _ _ _ => Grows.trans) fun c r c' hr => ⟨[], by rw [h c r c' hr, List.append_nil]⟩

theorem growsM_runProd (cap : Nat) (stop : Bool) (t : Token) (p : Prod) : GrowsM (runProd cap stop t p) := by
  refine Inv.of_foot Grows (fun _ _ _ => Grows.trans) fun c r c' h => ?_
  rw [run_runProd] at h
  split at h
  · cases h; exact Grows.refl c
  · obtain ⟨es, rfl⟩ := liftB_foot _ _ _ _ _ _ h
    exact Grows.refl c
  · split at h
    · cases h; exact ⟨[t], rfl⟩
    · obtain ⟨es, rfl⟩ := liftB_foot _ _ _ _ _ _ h
      exact Grows.refl c

theorem growsPrims (D : List Dialect) (T : Table) (stop : Bool) (c0 : Ctx) :
    Prims D T stop (Grows c0) (fun _ => Grows c0) :=
  { readToken := GrowsM.of_builds (fun c r c' h => by
      obtain ⟨_, _, _, _, _, _, rfl⟩ := readToken_foot c r c' h; rfl) c0
    matchP := fun k t => GrowsM.of_builds (fun c r c' h => by
      obtain ⟨_, _, _, rfl⟩ := matchP_foot D T.errorCap stop k t c r c' h; rfl) c0
    modQ := fun _ _ h => h
    fuel := fun _ h => h
    runProd := fun t p => growsM_runProd T.errorCap stop t p c0
    modR := fun _ _ h => h
    crash := fun _ _ h => h
    tail := fun row t => GrowsM.of_builds (fun c r c' h => by
      obtain ⟨⟨_, _, rfl⟩, -⟩ := tail_spec D T stop row t h; rfl) c0 }

end Lemmas
end GV
