/-
  Lemmas/AstOf.lean — the AST builder's stack machine computes the fold `Spec.itemsOf` /
  `Spec.astOf` of the derivation tree (property C03, `C03_ast_of_tree`).  Table-independent.
-/
import GherkinVerif.Spec.AstOf
namespace GV
namespace Lemmas
open Spec

theorem applyOps_nil (β : BState) (n : Nat) : applyOps [] β n = (.ok (), β, n) := rfl

theorem applyOps_cons (op : BOp) (ops : List BOp) (β : BState) (n : Nat) :
    applyOps (op :: ops) β n =
      match applyOp op β n with
      | (.ok (), β', n') => applyOps ops β' n'
      | (.error e, β', n') => (.error e, β', n') := rfl

theorem applyOps_append (a b : List BOp) (β : BState) (n : Nat) :
    applyOps (a ++ b) β n =
      match applyOps a β n with
      | (.ok (), β', n') => applyOps b β' n'
      | (.error e, β', n') => (.error e, β', n') := by
  induction a generalizing β n with
  | nil => rfl
  | cons op a ih =>
    rw [List.cons_append, applyOps_cons, applyOps_cons]
    rcases applyOp op β n with ⟨_ | ⟨⟨⟩⟩, β', n'⟩
    · rfl
    · exact ih β' n'

theorem applyOps_append_ok (a b : List BOp) (β β' : BState) (n n' : Nat)
    (h : applyOps a β n = (.ok (), β', n')) : applyOps (a ++ b) β n = applyOps b β' n' := by
  rw [applyOps_append, h]

theorem applyOps_append_error (a b : List BOp) (β β' : BState) (n n' : Nat) (e : BErr)
    (h : applyOps a β n = (.error e, β', n')) : applyOps (a ++ b) β n = (.error e, β', n') := by
  rw [applyOps_append, h]

theorem applyOps_start (r : RuleType) (ops : List BOp) (β : BState) (n : Nat) :
    applyOps (.start r :: ops) β n = applyOps ops (β.startRule r) n := rfl

theorem run_leafItems_token (t : Token) (k : Kind) (n : Nat) (hk : t.mtype = some k) (hc : k ≠ .Comment) :
    (leafItems t).run.run n = (.ok [(.tok k, .tok t)], n) := by
  unfold leafItems
  rw [hk]
  cases k <;> first | exact absurd rfl hc | rfl

theorem leafComments_token (t : Token) (k : Kind) (hk : t.mtype = some k) (hc : k ≠ .Comment) :
    leafComments t = [] := by
  unfold leafComments
  rw [hk]
  cases k <;> first | exact absurd rfl hc | rfl

/-- what a call sequence `ops` does to a builder with stack `top :: rest`, against the outcome of the
    fold: the items are appended to `top`, the comments `cms` to the comment list, and the counter
    is where the fold leaves it; if the fold fails, the calls stop with the same error and counter -/
def OpsOutcome (ops : List BOp) (cms : List Comment) (β : BState) (top : Node) (rest : List Node) (n : Nat) :
    Except BErr (List (Key × Val)) × Nat → Prop
  | (.ok is, n') =>
    applyOps ops β n =
      (.ok (), { stack := ⟨top.rt, top.items ++ is⟩ :: rest, comments := β.comments ++ cms }, n')
  | (.error e, n') => ∃ β', applyOps ops β n = (.error e, β', n')

theorem OpsOutcome.ok {ops : List BOp} {cms : List Comment} {β : BState} {top : Node} {rest : List Node}
    {n : Nat} {r : Except BErr (List (Key × Val)) × Nat} (h : OpsOutcome ops cms β top rest n r)
    {is : List (Key × Val)} {n' : Nat} (hr : r = (.ok is, n')) :
    applyOps ops β n =
      (.ok (), { stack := ⟨top.rt, top.items ++ is⟩ :: rest, comments := β.comments ++ cms }, n') := by
  subst hr; exact h

theorem OpsOutcome.error {ops : List BOp} {cms : List Comment} {β : BState} {top : Node} {rest : List Node}
    {n : Nat} {r : Except BErr (List (Key × Val)) × Nat} (h : OpsOutcome ops cms β top rest n r)
    {e : BErr} {n' : Nat} (hr : r = (.error e, n')) : ∃ β', applyOps ops β n = (.error e, β', n') := by
  subst hr; exact h

def OpsSpec (cs : List Comment) (t : TTree) : Prop :=
  ∀ (β : BState) (top : Node) (rest : List Node) (n : Nat), β.stack = top :: rest →
    OpsOutcome (opsOf t) (commentsOf t) β top rest n ((itemsOf cs t).run.run n)

def OpsSpecList (cs : List Comment) (ts : List TTree) : Prop :=
  ∀ (β : BState) (top : Node) (rest : List Node) (n : Nat), β.stack = top :: rest →
    OpsOutcome (opsOfList ts) (commentsOfList ts) β top rest n ((itemsOfList cs ts).run.run n)

theorem opsSpec_leaf (cs : List Comment) (t : Token) : OpsSpec cs (.leaf t) := by
  intro β top rest n hs
  simp only [itemsOf, opsOf, commentsOf]
  cases hm : t.mtype with
  | none =>
    have hb : β.build t = .error (.crash "build of unmatched token") := by
      unfold BState.build; rw [hm]
    have hl : (leafItems t).run.run n = (.error (.crash "build of unmatched token"), n) := by
      unfold leafItems; rw [hm]; rfl
    rw [hl]
    exact ⟨β, by simp only [applyOps_cons, applyOp, hb]⟩
  | some k =>
    by_cases hc : k = .Comment
    · subst hc
      cases ht : t.text with
      | none =>
        have hb : β.build t = .error (.crash "comment without text") := by
          unfold BState.build; rw [hm]; simp only [ht]
        have hl : (leafItems t).run.run n = (.error (.crash "comment without text"), n) := by
          unfold leafItems; rw [hm]; simp only [ht]; rfl
        rw [hl]
        exact ⟨β, by simp only [applyOps_cons, applyOp, hb]⟩
      | some tx =>
        have hl : (leafItems t).run.run n = (.ok [], n) := by
          unfold leafItems; rw [hm]; simp only [ht]; rfl
        have hcm : leafComments t = [{ loc := getLocation t, text := tx }] := by
          unfold leafComments; rw [hm, ht]
        rw [hl, hcm]
        simp only [OpsOutcome, applyOps_cons, applyOps_nil, applyOp, build_comment β t tx hm ht, List.append_nil, hs]
    · rw [run_leafItems_token t k n hm hc, leafComments_token t k hm hc]
      simp only [OpsOutcome, applyOps_cons, applyOps_nil, applyOp, build_token β t k top rest hm hc hs,
        List.append_nil]

theorem opsSpec_nil (cs : List Comment) : OpsSpecList cs [] := by
  intro β top rest n hs
  simp only [itemsOfList, opsOfList, commentsOfList, applyOps_nil, run_pure, OpsOutcome, List.append_nil, ← hs]

theorem run_itemsOfList_cons (cs : List Comment) (c : TTree) (ts : List TTree) (n : Nat) :
    (itemsOfList cs (c :: ts)).run.run n =
      match (itemsOf cs c).run.run n with
      | (.ok i, n₁) =>
        (match (itemsOfList cs ts).run.run n₁ with
         | (.ok is, n₂) => (.ok (i ++ is), n₂)
         | (.error e, n₂) => (.error e, n₂))
      | (.error e, n₁) => (.error e, n₁) := by
  rw [itemsOfList, run_bind]
  rcases (itemsOf cs c).run.run n with ⟨e | i, n₁⟩
  · rfl
  · simp only [run_bind, run_pure]
    rcases (itemsOfList cs ts).run.run n₁ with ⟨e | is, n₂⟩ <;> rfl

theorem run_itemsOfList_cons_ok (cs : List Comment) (c : TTree) (ts : List TTree) (n n' : Nat)
    (is : List (Key × Val)) :
    (itemsOfList cs (c :: ts)).run.run n = (.ok is, n') ↔
      ∃ i n₁ is', (itemsOf cs c).run.run n = (.ok i, n₁) ∧
        (itemsOfList cs ts).run.run n₁ = (.ok is', n') ∧ is = i ++ is' := by
  rw [itemsOfList]
  simp only [run_bind_ok, run_pure_ok]
  constructor
  · rintro ⟨i, n₁, h1, is', _, h2, rfl, rfl⟩; exact ⟨i, n₁, is', h1, h2, rfl⟩
  · rintro ⟨i, n₁, is', h1, h2, rfl⟩; exact ⟨i, n₁, h1, is', n', h2, rfl, rfl⟩

theorem opsSpec_cons (cs : List Comment) (c : TTree) (ts : List TTree)
    (hc : OpsSpec cs c) (hts : OpsSpecList cs ts) : OpsSpecList cs (c :: ts) := by
  intro β top rest n hs
  have h1' := hc β top rest n hs
  rw [run_itemsOfList_cons]
  simp only [opsOfList, commentsOfList]
  rcases h1 : (itemsOf cs c).run.run n with ⟨e | i, n₁⟩
  · rw [h1] at h1'
    obtain ⟨β', hβ'⟩ := h1'
    simp only [OpsOutcome]
    exact ⟨β', applyOps_append_error _ _ _ _ _ _ _ hβ'⟩
  · rw [h1] at h1'
    have h2' := hts { stack := ⟨top.rt, top.items ++ i⟩ :: rest, comments := β.comments ++ commentsOf c }
      ⟨top.rt, top.items ++ i⟩ rest n₁ rfl
    simp only [OpsOutcome] at h1'
    dsimp only
    rcases h2 : (itemsOfList cs ts).run.run n₁ with ⟨e | is, n₂⟩
    · rw [h2] at h2'
      simp only [OpsOutcome] at h2' ⊢
      rw [applyOps_append_ok _ _ _ _ _ _ h1']
      exact h2'
    · rw [h2] at h2'
      simp only [OpsOutcome, List.append_assoc] at h2' ⊢
      rw [applyOps_append_ok _ _ _ _ _ _ h1']
      exact h2'

theorem run_itemsOf_node (cs : List Comment) (r : RuleType) (ch : List TTree) (n : Nat) :
    (itemsOf cs (.node r ch)).run.run n =
      match (itemsOfList cs ch).run.run n with
      | (.ok is, n₁) =>
        (match (transformNode cs ⟨r, is⟩).run.run n₁ with
         | (.ok v, n₂) => (.ok [(.rule r, v)], n₂)
         | (.error e, n₂) => (.error e, n₂))
      | (.error e, n₁) => (.error e, n₁) := by
  rw [itemsOf, run_bind]
  rcases (itemsOfList cs ch).run.run n with ⟨e | is, n₁⟩
  · rfl
  · simp only [run_bind, run_pure]
    rcases (transformNode cs ⟨r, is⟩).run.run n₁ with ⟨e | v, n₂⟩ <;> rfl

theorem run_itemsOf_node_ok (cs : List Comment) (r : RuleType) (ch : List TTree) (n n' : Nat)
    (is : List (Key × Val)) :
    (itemsOf cs (.node r ch)).run.run n = (.ok is, n') ↔
      ∃ is₁ n₁ v, (itemsOfList cs ch).run.run n = (.ok is₁, n₁) ∧
        (transformNode cs ⟨r, is₁⟩).run.run n₁ = (.ok v, n') ∧ is = [(.rule r, v)] := by
  rw [itemsOf]
  simp only [run_bind_ok, run_pure_ok]
  constructor
  · rintro ⟨is₁, n₁, h1, v, _, h2, rfl, rfl⟩; exact ⟨is₁, n₁, v, h1, h2, rfl⟩
  · rintro ⟨is₁, n₁, v, h1, h2, rfl⟩; exact ⟨is₁, n₁, h1, v, n', h2, rfl, rfl⟩

theorem run_astOf_node (cs : List Comment) (r : RuleType) (ch : List TTree) (n : Nat) :
    (astOf cs (.node r ch)).run.run n =
      match (itemsOfList cs ch).run.run n with
      | (.ok is, n₁) => (transformNode cs ⟨r, is⟩).run.run n₁
      | (.error e, n₁) => (.error e, n₁) := by
  rw [astOf, run_bind]
  rcases (itemsOfList cs ch).run.run n with ⟨e | is, n₁⟩ <;> rfl

theorem run_astOf_node_ok (cs : List Comment) (r : RuleType) (ch : List TTree) (n n' : Nat) (v : Val) :
    (astOf cs (.node r ch)).run.run n = (.ok v, n') ↔
      ∃ is n₁, (itemsOfList cs ch).run.run n = (.ok is, n₁) ∧
        (transformNode cs ⟨r, is⟩).run.run n₁ = (.ok v, n') := by
  rw [astOf]; exact run_bind_ok _ _ _ _ _

theorem run_itemsOf_node_eq_astOf (cs : List Comment) (r : RuleType) (ch : List TTree) (n : Nat) :
    (itemsOf cs (.node r ch)).run.run n =
      match (astOf cs (.node r ch)).run.run n with
      | (.ok v, n') => (.ok [(.rule r, v)], n')
      | (.error e, n') => (.error e, n') := by
  rw [run_itemsOf_node, run_astOf_node]
  rcases (itemsOfList cs ch).run.run n with ⟨e | is, n₁⟩ <;> rfl

/-- `hT`: the comments the model passes to `transformNode` at this node's `end_rule` — those
    collected so far — make no difference to the result compared with `cs` -/
theorem opsSpec_node_at (cs : List Comment) (r : RuleType) (ch : List TTree) (hch : OpsSpecList cs ch)
    (β : BState) (top : Node) (rest : List Node) (n : Nat) (hs : β.stack = top :: rest)
    (hT : ∀ is, transformNode (β.comments ++ commentsOfList ch) ⟨r, is⟩ = transformNode cs ⟨r, is⟩) :
    OpsOutcome (opsOf (.node r ch)) (commentsOf (.node r ch)) β top rest n
      ((itemsOf cs (.node r ch)).run.run n) := by
  rw [run_itemsOf_node]
  simp only [opsOf, commentsOf]
  have h1' := hch (β.startRule r) ⟨r, []⟩ (top :: rest) n (by simp only [BState.startRule, hs])
  rcases h1 : (itemsOfList cs ch).run.run n with ⟨e | is, n₁⟩
  · rw [h1] at h1'
    obtain ⟨β', hβ'⟩ := h1'
    simp only [OpsOutcome]
    exact ⟨β', by rw [applyOps_start]; exact applyOps_append_error _ _ _ _ _ _ _ hβ'⟩
  · rw [h1] at h1'
    simp only [OpsOutcome] at h1'
    have hrun : applyOps (.start r :: (opsOfList ch ++ [.end_])) β n =
        applyOps [.end_] { stack := ⟨r, is⟩ :: top :: rest, comments := β.comments ++ commentsOfList ch } n₁ := by
      rw [applyOps_start, applyOps_append_ok _ _ _ _ _ _ h1']; rfl
    dsimp only
    rcases h2 : (transformNode cs ⟨r, is⟩).run.run n₁ with ⟨e | v, n₂⟩ <;>
      simp only [OpsOutcome, hrun, applyOps_cons, applyOps_nil, applyOp]
    · rw [endRule_error _ ⟨r, is⟩ (top :: rest) n₁ n₂ e rfl (by rw [hT]; exact h2)]
      exact ⟨_, rfl⟩
    · rw [endRule_ok _ ⟨r, is⟩ top rest n₁ n₂ v rfl (by rw [hT]; exact h2)]

mutual
theorem opsSpec_of_docFree (cs : List Comment) : ∀ (t : TTree), docFree t = true → OpsSpec cs t
  | .leaf t, _ => opsSpec_leaf cs t
  | .node r ch, h => by
    simp only [docFree, Bool.and_eq_true, bne_iff_ne, ne_eq] at h
    intro β top rest n hs
    exact opsSpec_node_at cs r ch (opsSpecList_of_docFree cs ch h.2) β top rest n hs
      (fun is => transformNode_comments _ _ r is h.1)
theorem opsSpecList_of_docFree (cs : List Comment) : ∀ (ts : List TTree), docFreeList ts = true → OpsSpecList cs ts
  | [], _ => opsSpec_nil cs
  | c :: ts, h => by
    simp only [docFreeList, Bool.and_eq_true] at h
    exact opsSpec_cons cs c ts (opsSpec_of_docFree cs c h.1) (opsSpecList_of_docFree cs ts h.2)
end

/-- at the document node `cs` has to be what the builder has collected by the root's `end_rule`:
    the comments it started with followed by all comments of the tree -/
theorem opsSpec_document (ch : List TTree) (h : docFreeList ch = true) (β : BState) (top : Node)
    (rest : List Node) (n : Nat) (hs : β.stack = top :: rest) :
    OpsOutcome (opsOf (.node .GherkinDocument ch)) (commentsOf (.node .GherkinDocument ch)) β top rest n
      ((itemsOf (β.comments ++ commentsOfList ch) (.node .GherkinDocument ch)).run.run n) :=
  opsSpec_node_at _ .GherkinDocument ch (opsSpecList_of_docFree _ ch h) β top rest n hs (fun _ => rfl)

theorem itemsOf_node_ok (cs : List Comment) (r : RuleType) (ch : List TTree) (n n' : Nat) (v : Val)
    (h : (astOf cs (.node r ch)).run.run n = (.ok v, n')) :
    (itemsOf cs (.node r ch)).run.run n = (.ok [(.rule r, v)], n') := by
  rw [run_itemsOf_node_eq_astOf, h]

theorem itemsOf_node_error (cs : List Comment) (r : RuleType) (ch : List TTree) (n n' : Nat) (e : BErr)
    (h : (astOf cs (.node r ch)).run.run n = (.error e, n')) :
    (itemsOf cs (.node r ch)).run.run n = (.error e, n') := by
  rw [run_itemsOf_node_eq_astOf, h]

/-- for ANY `cs`: below the document node `transformNode` does not look at the comments
    (`transformNode_comments`) -/
theorem applyOps_node (cs : List Comment) (r : RuleType) (ch : List TTree)
    (hd : docFree (.node r ch) = true) (β : BState) (top : Node) (rest : List Node) (n n' : Nat) (v : Val)
    (hs : β.stack = top :: rest) (h : (astOf cs (.node r ch)).run.run n = (.ok v, n')) :
    applyOps (opsOf (.node r ch)) β n =
      (.ok (), { stack := ⟨top.rt, top.items ++ [(.rule r, v)]⟩ :: rest,
                 comments := β.comments ++ commentsOf (.node r ch) }, n') :=
  (opsSpec_of_docFree cs _ hd β top rest n hs).ok (itemsOf_node_ok cs r ch n n' v h)

theorem applyOps_node_error (cs : List Comment) (r : RuleType) (ch : List TTree)
    (hd : docFree (.node r ch) = true) (β : BState) (top : Node) (rest : List Node) (n n' : Nat) (e : BErr)
    (hs : β.stack = top :: rest) (h : (astOf cs (.node r ch)).run.run n = (.error e, n')) :
    ∃ β', applyOps (opsOf (.node r ch)) β n = (.error e, β', n') :=
  (opsSpec_of_docFree cs _ hd β top rest n hs).error (itemsOf_node_error cs r ch n n' e h)

theorem isDocument_iff (t : TTree) :
    t.isDocument = true ↔ ∃ ch, t = .node .GherkinDocument ch ∧ docFreeList ch = true := by
  cases t with
  | leaf t => simp [TTree.isDocument]
  | node r ch => cases r <;> simp [TTree.isDocument]

theorem getSingle_snoc_doc (d : Doc) :
    getSingle ([] ++ [(Key.rule .GherkinDocument, Val.doc d)]) (.rule .GherkinDocument) = .doc d := rfl

theorem ast_of_tree (t : TTree) (ht : t.isDocument = true) (n : Nat) :
    (∀ v n', (astOf (commentsOf t) t).run.run n = (.ok v, n') →
      ∃ β, applyOps (opsOf t) BState.reset n = (.ok (), β, n') ∧
        β.stack = [⟨.None_, [(.rule .GherkinDocument, v)]⟩] ∧ β.comments = commentsOf t ∧
        ∃ d, v = .doc d ∧ β.result = .ok (some d) ∧ d.comments = commentsOf t) ∧
    (∀ e n', (astOf (commentsOf t) t).run.run n = (.error e, n') →
      ∃ β, applyOps (opsOf t) BState.reset n = (.error e, β, n')) := by
  obtain ⟨ch, rfl, hd⟩ := (isDocument_iff t).1 ht
  have key := opsSpec_document ch hd BState.reset ⟨.None_, []⟩ [] n rfl
  simp only [BState.reset, List.nil_append] at key
  simp only [commentsOf]
  constructor
  · intro v n' h
    have h' := key.ok (itemsOf_node_ok _ _ ch n n' v h)
    refine ⟨_, h', rfl, rfl, ?_⟩
    obtain ⟨is, n₁, -, h2⟩ := (run_astOf_node_ok _ _ ch n n' v).1 h
    rw [document_eq, res_inj] at h2
    cases h2.1
    exact ⟨_, rfl, rfl, rfl⟩
  · intro e n' h
    exact key.error (itemsOf_node_error _ _ ch n n' e h)

/-! ### a small concrete document tree for the non-vacuity examples of the property files -/
namespace Ex

def eofTok : Token := { line := none, lineNo := 13, col := some 1, mtype := some .EOF }
def commentTok2 : Token := { commentTok with lineNo := 6, text := some (lit "# two") }

/-- a feature (a comment line after the feature line: it opens a description) with one tagged
    scenario outline: a step with a data table (a comment between its rows) and an examples
    table; the tree the parser builds for these twelve lines, see Props/C11Tree.lean -/
def docTree : TTree :=
  .node .GherkinDocument
    [.node .Feature
      [.node .FeatureHeader [.leaf featTok, .node .Description [.leaf commentTok]],
       .node .ScenarioDefinition
         [.node .Tags [.leaf tagTok1, .leaf tagTok2],
          .node .Scenario
            [.leaf scTok,
             .node .Step [.leaf stepTok, .node .DataTable [.leaf rowTok1, .leaf commentTok2, .leaf rowTok2]],
             .node .ExamplesDefinition
               [.node .Examples [.leaf exTok, .node .ExamplesTable [.leaf rowTok1, .leaf rowTok2]]]]]],
     .leaf eofTok]

def docOf : Except BErr Val × Nat → Option Doc
  | (.ok (.doc d), _) => some d
  | _ => none

end Ex

end Lemmas
end GV
