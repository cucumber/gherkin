/-
  Lemmas/Rel.lean — two runs of the glue side by side.  `PostR Q E X x1 x2`: the runs end alike —
  both return, `Q`; both abort, `E` — or an escape `X` has been taken that whatever follows does
  not undo (`Sticky`); `PostR.bind` is the rule for `>>=`, `PostR.bindS` the rule after a first part
  that cannot escape.
-/
import GherkinVerif.Lemmas.GlueRun
namespace GV
namespace Lemmas

/-- an outcome without its value: what an escape may speak of, whatever the two result types -/
def erase {α} (x : Except Abort α × Ctx) : Option Abort × Ctx :=
  (match x.1 with | .ok _ => none | .error e => some e, x.2)

/-- Read the alternatives as: both runs have returned, and `Q` of the two values and contexts; both have aborted,
    and `E` of the two aborts and contexts; or the runs need not be alike any more, because `X` holds of what `erase`
    leaves of the outcomes — a condition that no continuation undoes (`StickyTo`), typically "the second run has
    aborted on such an error". -/
def PostR {α β} (Q : α → β → Ctx → Ctx → Prop) (E : Abort → Abort → Ctx → Ctx → Prop)
    (X : Option Abort × Ctx → Option Abort × Ctx → Prop)
    (x1 : Except Abort α × Ctx) (x2 : Except Abort β × Ctx) : Prop :=
  (∃ a1 a2 d1 d2, x1 = (.ok a1, d1) ∧ x2 = (.ok a2, d2) ∧ Q a1 a2 d1 d2) ∨
  (∃ e1 e2 d1 d2, x1 = (.error e1, d1) ∧ x2 = (.error e2, d2) ∧ E e1 e2 d1 d2) ∨
  X (erase x1) (erase x2)

/-- an escape `X0` taken by a first part is an escape `X` once the two runs have gone on with `k1`, `k2` -/
def StickyTo (X0 X : Option Abort × Ctx → Option Abort × Ctx → Prop) {α β γ δ} (k1 : α → PM γ) (k2 : β → PM δ) : Prop :=
  ∀ (m1 : PM α) (m2 : PM β) c1 c2, X0 (erase (run m1 c1)) (erase (run m2 c2)) →
    X (erase (run (m1 >>= k1) c1)) (erase (run (m2 >>= k2) c2))

abbrev Sticky (X : Option Abort × Ctx → Option Abort × Ctx → Prop) {α β γ δ} (k1 : α → PM γ) (k2 : β → PM δ) : Prop :=
  StickyTo X X k1 k2

theorem StickyTo.none (X : Option Abort × Ctx → Option Abort × Ctx → Prop) {α β γ δ} (k1 : α → PM γ) (k2 : β → PM δ) :
    StickyTo (fun _ _ => False) X k1 k2 := fun _ _ _ _ h => h.elim

theorem Sticky.none {α β γ δ} (k1 : α → PM γ) (k2 : β → PM δ) : Sticky (fun _ _ => False) k1 k2 :=
  StickyTo.none _ k1 k2

theorem Sticky.abort2 (P : Abort → Ctx → Prop) {α β γ δ} (k1 : α → PM γ) (k2 : β → PM δ) :
    Sticky (fun _ x2 => ∃ e, x2.1 = some e ∧ P e x2.2) k1 k2 := by
  intro m1 m2 c1 c2 ⟨e, he, hp⟩
  rw [prun_bind (m := m2)]
  rcases hr : run m2 c2 with ⟨r, d⟩
  rw [hr] at he hp
  cases r with
  | ok a => cases he
  | error e' => exact ⟨e, he, hp⟩

theorem erase_bind_pure {α β} (m : PM α) (b : β) (c : Ctx) : erase (run (m >>= fun _ => pure b) c) = erase (run m c) := by
  rw [prun_bind]
  rcases run m c with ⟨r, d⟩
  cases r <;> rfl

theorem Sticky.pure (X : Option Abort × Ctx → Option Abort × Ctx → Prop) {α β γ δ} (b1 : γ) (b2 : δ) :
    Sticky X (fun _ : α => (Pure.pure b1 : PM γ)) (fun _ : β => (Pure.pure b2 : PM δ)) := by
  intro m1 m2 c1 c2 h
  rwa [erase_bind_pure, erase_bind_pure]

section
variable {α β γ δ : Type} {Q : α → β → Ctx → Ctx → Prop} {E : Abort → Abort → Ctx → Ctx → Prop}
  {X : Option Abort × Ctx → Option Abort × Ctx → Prop}

theorem PostR.ok {a1 : α} {a2 : β} {d1 d2 : Ctx} (h : Q a1 a2 d1 d2) : PostR Q E X (.ok a1, d1) (.ok a2, d2) :=
  .inl ⟨a1, a2, d1, d2, rfl, rfl, h⟩

theorem PostR.err {e1 e2 : Abort} {d1 d2 : Ctx} (h : E e1 e2 d1 d2) :
    PostR Q E X ((.error e1, d1) : Except Abort α × Ctx) ((.error e2, d2) : Except Abort β × Ctx) :=
  .inr (.inl ⟨e1, e2, d1, d2, rfl, rfl, h⟩)

theorem PostR.esc {x1 : Except Abort α × Ctx} {x2 : Except Abort β × Ctx} (h : X (erase x1) (erase x2)) :
    PostR Q E X x1 x2 := .inr (.inr h)

theorem PostR.bindTo {X0 : Option Abort × Ctx → Option Abort × Ctx → Prop} {Q' : γ → δ → Ctx → Ctx → Prop}
    {m1 : PM α} {m2 : PM β} {f1 : α → PM γ} {f2 : β → PM δ}
    {c1 c2 : Ctx} (h : PostR Q E X0 (run m1 c1) (run m2 c2))
    (hf : ∀ a1 a2 d1 d2, run m1 c1 = (.ok a1, d1) → run m2 c2 = (.ok a2, d2) → Q a1 a2 d1 d2 →
      PostR Q' E X (run (f1 a1) d1) (run (f2 a2) d2))
    (hX : StickyTo X0 X f1 f2) : PostR Q' E X (run (m1 >>= f1) c1) (run (m2 >>= f2) c2) := by
  rcases h with ⟨a1, a2, d1, d2, e1, e2, hq⟩ | ⟨a1, a2, d1, d2, e1, e2, he⟩ | hx
  · rw [prun_bind, prun_bind, e1, e2]
    exact hf a1 a2 d1 d2 e1 e2 hq
  · rw [prun_bind, prun_bind, e1, e2]
    exact .err he
  · exact .esc (hX m1 m2 c1 c2 hx)

theorem PostR.bind {Q' : γ → δ → Ctx → Ctx → Prop} {m1 : PM α} {m2 : PM β} {f1 : α → PM γ} {f2 : β → PM δ}
    {c1 c2 : Ctx} (h : PostR Q E X (run m1 c1) (run m2 c2))
    (hf : ∀ a1 a2 d1 d2, run m1 c1 = (.ok a1, d1) → run m2 c2 = (.ok a2, d2) → Q a1 a2 d1 d2 →
      PostR Q' E X (run (f1 a1) d1) (run (f2 a2) d2))
    (hX : Sticky X f1 f2) : PostR Q' E X (run (m1 >>= f1) c1) (run (m2 >>= f2) c2) :=
  h.bindTo hf hX

theorem PostR.bindS {Q' : γ → δ → Ctx → Ctx → Prop} {m1 : PM α} {m2 : PM β} {f1 : α → PM γ} {f2 : β → PM δ}
    {c1 c2 : Ctx} (h : PostR Q E (fun _ _ => False) (run m1 c1) (run m2 c2))
    (hf : ∀ a1 a2 d1 d2, run m1 c1 = (.ok a1, d1) → run m2 c2 = (.ok a2, d2) → Q a1 a2 d1 d2 →
      PostR Q' E X (run (f1 a1) d1) (run (f2 a2) d2)) : PostR Q' E X (run (m1 >>= f1) c1) (run (m2 >>= f2) c2) :=
  h.bindTo hf (StickyTo.none X f1 f2)

theorem PostR.mono {Q' : α → β → Ctx → Ctx → Prop} {x1 : Except Abort α × Ctx} {x2 : Except Abort β × Ctx}
    (h : PostR Q E X x1 x2) (hq : ∀ a1 a2 d1 d2, x1 = (.ok a1, d1) → x2 = (.ok a2, d2) → Q a1 a2 d1 d2 → Q' a1 a2 d1 d2) :
    PostR Q' E X x1 x2 := by
  rcases h with ⟨a1, a2, d1, d2, e1, e2, h⟩ | h
  · exact .inl ⟨a1, a2, d1, d2, e1, e2, hq _ _ _ _ e1 e2 h⟩
  · exact .inr h

theorem PostR.monoE {E' : Abort → Abort → Ctx → Ctx → Prop} {x1 : Except Abort α × Ctx} {x2 : Except Abort β × Ctx}
    (h : PostR Q E X x1 x2) (he : ∀ e1 e2 d1 d2, x2 = (.error e2, d2) → E e1 e2 d1 d2 → E' e1 e2 d1 d2) :
    PostR Q E' X x1 x2 := by
  rcases h with h | ⟨e1, e2, d1, d2, r1, r2, h⟩ | h
  · exact .inl h
  · exact .inr (.inl ⟨e1, e2, d1, d2, r1, r2, he _ _ _ _ r2 h⟩)
  · exact .esc h

theorem PostR.strict {x1 : Except Abort α × Ctx} {x2 : Except Abort β × Ctx}
    (h : PostR Q E (fun _ _ => False) x1 x2) : PostR Q E X x1 x2 := by
  rcases h with h | h | h
  · exact .inl h
  · exact .inr (.inl h)
  · exact h.elim

end

end Lemmas
end GV
