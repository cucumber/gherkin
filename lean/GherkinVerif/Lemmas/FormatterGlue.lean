/-
  (1) The builder-parametrised glue of Model/Formatter.lean, instantiated at the AST builder, is
  the glue of Model/Parser.lean (equations);
  (2) the listing a formatter run returns is the formatted list of the tokens handed to `build`.
-/
import GherkinVerif.Model.Formatter
import GherkinVerif.Lemmas.GlueOutcome
import GherkinVerif.Lemmas.RelWalk
namespace GV
namespace Lemmas

theorem runProdG_ast (cap : Nat) (stop : Bool) : runProdG (astBuilder cap stop) = runProd cap stop :=
  funext fun _ => funext fun p => by cases p <;> rfl

theorem matchTokenG_ast (D : List Dialect) (T : Table) (stop : Bool) :
    matchTokenG (astBuilder T.errorCap stop) D T stop = matchToken D T stop :=
  funext fun state => funext fun t => by
    unfold matchTokenG matchToken
    cases T.row? state with
    | none => rfl
    | some row => dsimp only; rw [tryBranchesG_eq_X, tryBranches_eq_X, runProdG_ast]

/-- the AST builder's `get_result` reads the context once more; nothing has changed it -/
theorem finishX_ast (cap : Nat) (stop : Bool) : finishX (fun _ => (astBuilder cap stop).result) = finishX astResult := by
  funext c
  show run (finishX fun _ => (astBuilder cap stop).result) c = run (finishX astResult) c
  unfold finishX
  rw [prun_bind, prun_bind, run_get]
  dsimp only
  split
  · rfl
  · rfl

theorem parseBodyG_ast (D : List Dialect) (T : Table) (stop : Bool) (n : Nat) :
    parseBodyG (astBuilder T.errorCap stop) D T stop n = parseBody D T stop n := by
  rw [parseBodyG_eq_X, parseBody_eq_X, parseLoopG_eq_X, parseLoop_eq_X, matchTokenG_ast]
  unfold bodyX
  rw [finishX_ast]
  rfl

theorem parseWith_generic (D : List Dialect) (T : Table) (stop : Bool) (μ : MState) (ids : Nat) (src : Str) :
    parseWith D T stop μ ids src =
      match run (parseBodyG (astBuilder T.errorCap stop) D T stop (splitLines src).length) (ctx0 D μ ids src) with
      | (.ok d, ctx) => (.ok d, ctx)
      | (.error (.single e), ctx) => (.rejected [e] false, ctx)
      | (.error (.composite es), ctx) => (.rejected es true, ctx)
      | (.error (.crash w), ctx) => (.crash w, ctx)
      | (.error .fuel, ctx) => (.fuel, ctx) := by
  rw [parseBodyG_ast, parseWith_eq]
  rfl

/-- the context `parseWithF` starts from -/
def ctx0F (D : List Dialect) (μ : MState) (src : Str) : Ctx := { lines := splitLines src, μ := μ.reset D }

theorem parseWithF_eq (D : List Dialect) (T : Table) (stop : Bool) (μ : MState) (src : Str) :
    parseWithF D T stop μ src =
      match run (parseBodyG fmtBuilder D T stop (splitLines src).length) (ctx0F D μ src) with
      | (.ok s, ctx) => (.ok s, .ofCtx ctx)
      | (.error (.single e), ctx) => (.rejected [e] false, .ofCtx ctx)
      | (.error (.composite es), ctx) => (.rejected es true, .ofCtx ctx)
      | (.error (.crash w), ctx) => (.crash w, .ofCtx ctx)
      | (.error .fuel, ctx) => (.fuel, .ofCtx ctx) := rfl

theorem Triple.trivial {α} (m : PM α) : Triple (fun _ => True) m (fun _ _ => True) (fun _ _ => True) :=
  fun _ _ => ⟨fun _ _ _ => True.intro, fun _ _ _ => True.intro⟩

/-- what `get_result` returns is the formatted `_tokens` = `builds` of the final context -/
theorem parseBodyG_fmt_listing (D : List Dialect) (T : Table) (stop : Bool) (n : Nat) :
    Triple (fun _ => True) (parseBodyG fmtBuilder D T stop n)
      (fun s c => s = formatListing c.builds) (fun _ _ => True) := by
  unfold parseBodyG
  refine Triple.bind (Triple.trivial _) fun _ => Triple.bind (Triple.trivial _) fun _ =>
    Triple.bind (Triple.trivial _) fun _ => Triple.bind (Triple.trivial _) fun c0 => ?_
  have hres : Triple (fun _ => True) fmtBuilder.result (fun s c => s = formatListing c.builds) (fun _ _ => True) := by
    refine Triple.bind Triple.get fun c1 => Triple.pure _ fun c hc => ?_
    rw [hc.1]
  dsimp only
  split
  · exact Triple.bind (Q := fun _ _ => False) (Triple.throw _ fun _ _ => True.intro) fun _ _ hf => hf.elim
  · exact hres

theorem listing_is_builds (D : List Dialect) (T : Table) (stop : Bool) (μ : MState) (src : Str) (s : Str)
    (h : (parseWithF D T stop μ src).1 = .ok s) :
    s = formatListing (parseWithF D T stop μ src).2.builds := by
  have key := parseWithF_eq D T stop μ src
  rcases hr : run (parseBodyG fmtBuilder D T stop (splitLines src).length) (ctx0F D μ src) with ⟨r, c⟩
  rw [hr] at key
  rw [key] at h ⊢
  cases r with
  | ok s' =>
    cases h
    exact ((parseBodyG_fmt_listing D T stop _) _ True.intro).1 _ _ hr
  | error a => cases a <;> cases h

end Lemmas
end GV
