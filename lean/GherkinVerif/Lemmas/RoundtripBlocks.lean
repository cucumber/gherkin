/-
  Lemmas/RoundtripBlocks.lean — property C03, round trip: the blocks of a rendered document — steps with
  their tables, background, examples blocks, scenarios — each proved once.  None of the proofs looks below
  the node it works on, and the state numbers only select table facts: so a block is stated for any stack
  below (`hostSt`, `scSt`), and for a `Level` (the state numbers of the children of the feature, or of a
  rule) whose branches are given as `LevelFacts`.  What is open in a state is recorded by the productions
  that close it: `Pend` (inside a scenario or background), `Follows` (a scenario, a rule or the end of
  file may come).
-/
import GherkinVerif.Lemmas.RoundtripDoc
namespace GV
namespace Lemmas
open Spec

/-- the state of `σ` is one of `ps`, and its productions close what is open in `σ`, leaving the builder
    `stk` and the id counter `i₁` -/
def Pend (ps : List (Nat × List Prod)) (σ : Nat × BState × Nat) (stk : BState) (i₁ : Nat) : Prop :=
  ∃ cl, (σ.1, cl) ∈ ps ∧ ∀ t, applyOps (prodOps t cl) σ.2.1 σ.2.2 = (.ok (), stk, i₁)

theorem Pend.mono {ps ps' : List (Nat × List Prod)} (h : ∀ p ∈ ps, p ∈ ps') {σ : Nat × BState × Nat} {stk : BState}
    {i₁ : Nat} : Pend ps σ stk i₁ → Pend ps' σ stk i₁ := fun ⟨cl, hm, hc⟩ => ⟨cl, h _ hm, hc⟩

structure StepFacts (T : Table) (s₀ s₁ s₂ : Nat) : Prop where
  step : ∀ p ∈ pend3 s₀ s₁ s₂, Picks T p.1 (firstOf .StepLine) ⟨.StepLine, none, p.2 ++ [.start .Step, .build], s₁⟩
  row₁ : Picks T s₁ (firstOf .TableRow) ⟨.TableRow, none, [.start .DataTable, .build], s₂⟩
  row₂ : Picks T s₂ (firstOf .TableRow) ⟨.TableRow, none, [.build], s₂⟩

theorem StepFacts.of_bool {T : Table} {s₀ s₁ s₂ : Nat} (h : stepB T s₀ s₁ s₂ = true) : StepFacts T s₀ s₁ s₂ := by
  simp only [stepB, Bool.and_eq_true, List.all_eq_true] at h
  exact ⟨fun p hp => .of_bool (h.1.1 p hp), .of_bool h.1.2, .of_bool h.2⟩

/-- a node holding its keyword line `hd` and the finished steps `L` -/
def hostSt (host : RuleType) (hd : Key × Val) (below : List Node) (L : List Step) : BState :=
  ⟨⟨host, hd :: stepItems L⟩ :: below, []⟩

theorem stepLines2_length (st : MStep2) : (stepLines2 st).length = stepLineCount st := by
  simp [stepLines2, stepLineCount]; omega

section blocks
variable {D' : List Dialect} (hf : keywordFacts D' = true) (hr : renderFacts D' = true)
variable (D : List Dialect) (stop : Bool) {T : Table}
variable {μ : MState} (hμ : μ.dialect ∈ D') (hsep : μ.activeSep = none)
include hf hr hμ hsep

theorem rows_loop {s₂ : Nat} (hrow : Picks T s₂ (firstOf .TableRow) ⟨.TableRow, none, [.build], s₂⟩)
    (tbl : RuleType) (below : List Node) (i : Nat) :
    ∀ (rs : List (List Str)), (∀ r ∈ rs, ∀ c ∈ r, cellOK c = true) → ∀ (toks : List Token) (n : Nat),
      Runs D T stop μ (rs.map rowLineOf) n (s₂, ⟨⟨tbl, rowItems toks⟩ :: below, []⟩, i)
        (s₂, ⟨⟨tbl, rowItems (toks ++ rowToks μ (n + 1) rs)⟩ :: below, []⟩, i)
  | [], _, toks, n => by simpa [rowToks] using Runs.nil n _
  | r :: rs, hrs, toks, n => by
    have h₁ : Runs D T stop μ [rowLineOf r] n (s₂, ⟨⟨tbl, rowItems toks⟩ :: below, []⟩, i)
        (s₂, ⟨⟨tbl, rowItems (toks ++ [rowTok μ (n + 1) r])⟩ :: below, []⟩, i) :=
      Runs.line hrow (row_lineIs hf hr D hμ hsep r (hrs r (by simp))) (by rw [← rowItems_snoc]; rfl)
    have h₂ := rows_loop hrow tbl below i rs (fun r' hr' => hrs r' (by simp [hr'])) (toks ++ [rowTok μ (n + 1) r]) (n + 1)
    simpa [rowToks] using h₁.append h₂

theorem step_block {s₀ s₁ s₂ : Nat} (S : StepFacts T s₀ s₁ s₂) (host : RuleType) (hd : Key × Val)
    (below : List Node) (st : MStep2) (hst : stepOK2 μ.dialect st = true) (σ : Nat × BState × Nat)
    (L : List Step) (i₁ n : Nat) (hin : Pend (pend3 s₀ s₁ s₂) σ (hostSt host hd below L) i₁) :
    ∃ σ', Pend (pend3 s₀ s₁ s₂) σ' (hostSt host hd below (L ++ [expStep2 μ.dialect (n + 1) i₁ st])) (i₁ + stepIdCount st) ∧
      Runs D T stop μ (stepLines2 st) n σ σ' := by
  obtain ⟨kw, text, table⟩ := st
  obtain ⟨s, β, i⟩ := σ
  simp only [stepOK2, Bool.and_eq_true] at hst
  obtain ⟨hcore, htab⟩ := hst
  obtain ⟨cl, hmem, hcl⟩ := hin
  have h₁ : Runs D T stop μ [stepLineOf ⟨kw, text⟩] n (s, β, i)
      (s₁, ⟨⟨.Step, [(.tok .StepLine, .tok (stepTok μ (n + 1) ⟨kw, text⟩))]⟩ :: (hostSt host hd below L).stack, []⟩, i₁) :=
    Runs.line (S.step _ hmem) (step_lineIs hf hr D hμ hsep ⟨kw, text⟩ hcore) (applyOps_closing _ hcl rfl)
  cases table with
  | nil =>
    refine ⟨_, ⟨[.end_ .Step], by simp [pend3], fun t => ?_⟩, h₁⟩
    simp only [prodOps, applyOps, applyOp, hostSt, endRule_step, List.cons_append, stepItems_snoc]
    simp [expStep2, expArg, stepIdCount]
  | cons r rs =>
    have htab' := tableOK_spec htab
    have hcells : ∀ r' ∈ r :: rs, ∀ c ∈ r', cellOK c = true := fun r' hr' => (htab' r' hr').2
    have h₂ := Runs.line (stop := stop) S.row₁ (row_lineIs hf hr D hμ hsep r (hcells r (by simp))) (n := n + 1)
      (β := ⟨⟨.Step, [(.tok .StepLine, .tok (stepTok μ (n + 1) ⟨kw, text⟩))]⟩ :: (hostSt host hd below L).stack, []⟩)
      (i := i₁) rfl
    have h₃ := rows_loop hf hr D stop hμ hsep S.row₂ .DataTable
      (⟨.Step, [(.tok .StepLine, .tok (stepTok μ (n + 1) ⟨kw, text⟩))]⟩ :: (hostSt host hd below L).stack) i₁ rs
      (fun r' hr' => hcells r' (by simp [hr'])) [rowTok μ (n + 1 + 1) r] (n + 1 + 1)
    refine ⟨_, ⟨[.end_ .DataTable, .end_ .Step], by simp [pend3], fun t => ?_⟩, h₁.append (h₂.append h₃)⟩
    have hrect : ∀ r' ∈ rs, r'.length = r.length := fun r' hr' => by simpa using (htab' r' (by simp [hr'])).1
    have e : [rowTok μ (n + 1 + 1) r] ++ rowToks μ (n + 1 + 1 + 1) rs = rowToks μ (n + 1 + 1) (r :: rs) := rfl
    simp only [prodOps, applyOps, applyOp, hostSt, e, endRule_datatable_rows μ _ r rs hrect, List.cons_append,
      List.nil_append, endRule_step_table, stepItems_snoc]
    simp [expStep2, expArg, stepIdCount, Nat.add_assoc]

theorem steps_loop {s₀ s₁ s₂ : Nat} (S : StepFacts T s₀ s₁ s₂) (host : RuleType) (hd : Key × Val)
    (below : List Node) (steps : List MStep2) (hok : ∀ st ∈ steps, stepOK2 μ.dialect st = true)
    (σ : Nat × BState × Nat) (L : List Step) (i₁ n : Nat) (hin : Pend (pend3 s₀ s₁ s₂) σ (hostSt host hd below L) i₁) :
    ∃ σ', Pend (pend3 s₀ s₁ s₂) σ' (hostSt host hd below (L ++ expSteps2 μ.dialect (n + 1) i₁ steps)) (i₁ + stepsIds steps) ∧
      Runs D T stop μ (steps.flatMap stepLines2) n σ σ' :=
  Runs.loop stepLines2 stepLineCount stepIdCount (expStep2 μ.dialect) (expSteps2 μ.dialect) (fun _ _ => rfl)
    (fun _ _ _ _ => rfl) stepLines2_length (fun σ acc i₀ => Pend (pend3 s₀ s₁ s₂) σ (hostSt host hd below acc) i₀) steps
    (fun st hst σ acc i₀ n h => step_block hf hr D stop hμ hsep S host hd below st (hok st hst) σ acc i₀ n h) σ L i₁ n hin

end blocks

/-- `nextB` as propositions -/
structure Next (T : Table) (ℓ : Level) (s : Nat) (cl : List Prod) : Prop where
  sc : Picks T s (firstOf .ScenarioLine)
    ⟨.ScenarioLine, none, cl ++ [.start .ScenarioDefinition, .start .Scenario, .build], ℓ.sc₀⟩
  tag : Picks T s firstTag0 ⟨.TagLine, some 0, cl ++ [.start .ScenarioDefinition, .start .Tags, .build], ℓ.tg⟩
  rule : Picks T s (firstOf .RuleLine) ⟨.RuleLine, none, cl ++ ℓ.up ++ [.start .Rule, .start .RuleHeader, .build], 19⟩
  ruleTag : Picks T s firstTagU
    ⟨.TagLine, none, cl ++ ℓ.up ++ [.start .Rule, .start .RuleHeader, .start .Tags, .build], 18⟩
  eof : Picks T s List.head? ⟨.EOF, none, cl ++ ℓ.up ++ [.end_ .Feature, .build], 34⟩

/-- in `σ` a scenario, a rule or the end of file may follow: the branches first close what is open, leaving
    the builder `stk` (the container node on top) and the id counter `i₀` -/
def Follows (T : Table) (ℓ : Level) (σ : Nat × BState × Nat) (stk : BState) (i₀ : Nat) : Prop :=
  ∃ cl, Next T ℓ σ.1 cl ∧ ∀ t, applyOps (prodOps t cl) σ.2.1 σ.2.2 = (.ok (), stk, i₀)

structure LevelFacts (T : Table) (ℓ : Level) : Prop where
  la : T.lookaheads = [la0, la1]
  hdrNext : Next T ℓ ℓ.hdr [.end_ ℓ.hdrRule]
  bgLine : Picks T ℓ.hdr (firstOf .BackgroundLine)
    ⟨.BackgroundLine, none, [.end_ ℓ.hdrRule, .start .Background, .build], ℓ.b₀⟩
  bgSteps : StepFacts T ℓ.b₀ ℓ.b₁ ℓ.b₂
  bgNext : ∀ p ∈ pend3 ℓ.b₀ ℓ.b₁ ℓ.b₂, Next T ℓ p.1 (p.2 ++ [.end_ .Background])
  tagged : Picks T ℓ.tg (firstOf .ScenarioLine) ⟨.ScenarioLine, none, [.end_ .Tags, .start .Scenario, .build], ℓ.sc₀⟩
  steps : StepFacts T ℓ.sc₀ ℓ.sc₁ ℓ.sc₂
  exLine : ∀ p ∈ pend5 ℓ, Picks T p.1 (firstOf .ExamplesLine)
    ⟨.ExamplesLine, none, p.2 ++ [.start .ExamplesDefinition, .start .Examples, .build], ℓ.e₁⟩
  exTag : ∀ p ∈ pend5 ℓ, Picks T p.1 (firstOf .TagLine)
    ⟨.TagLine, some 1, p.2 ++ [.start .ExamplesDefinition, .start .Tags, .build], ℓ.e₀⟩
  exNext : ∀ p ∈ pend5 ℓ, Next T ℓ p.1 (p.2 ++ [.end_ .Scenario, .end_ .ScenarioDefinition])
  exTagged : Picks T ℓ.e₀ (firstOf .ExamplesLine) ⟨.ExamplesLine, none, [.end_ .Tags, .start .Examples, .build], ℓ.e₁⟩
  exRow₁ : Picks T ℓ.e₁ (firstOf .TableRow) ⟨.TableRow, none, [.start .ExamplesTable, .build], ℓ.e₂⟩
  exRow₂ : Picks T ℓ.e₂ (firstOf .TableRow) ⟨.TableRow, none, [.build], ℓ.e₂⟩
  ruleTagged : Picks T 18 (firstOf .RuleLine) ⟨.RuleLine, none, [.end_ .Tags, .build], 19⟩

theorem Next.of_bool {T : Table} {ℓ : Level} {s : Nat} {cl : List Prod} (h : nextB T ℓ s cl = true) : Next T ℓ s cl := by
  simp only [nextB, Bool.and_eq_true] at h
  obtain ⟨⟨⟨⟨h₁, h₂⟩, h₃⟩, h₄⟩, h₅⟩ := h
  exact ⟨.of_bool h₁, .of_bool h₂, .of_bool h₃, .of_bool h₄, .of_bool h₅⟩

theorem LevelFacts.of_bool {T : Table} {ℓ : Level} (h : levelB T ℓ = true) : LevelFacts T ℓ := by
  simp only [levelB, Bool.and_eq_true, List.all_eq_true, beq_iff_eq] at h
  obtain ⟨⟨⟨⟨⟨⟨⟨⟨⟨⟨⟨⟨⟨h₁, h₂⟩, h₃⟩, h₄⟩, h₅⟩, h₆⟩, h₇⟩, h₈⟩, h₉⟩, h₁₀⟩, h₁₁⟩, h₁₂⟩, h₁₃⟩, h₁₄⟩ := h
  exact ⟨h₁, .of_bool h₂, .of_bool h₃, .of_bool h₄, fun p hp => .of_bool (h₅ p hp), .of_bool h₆, .of_bool h₇,
    fun p hp => .of_bool (h₈ p hp), fun p hp => .of_bool (h₉ p hp), fun p hp => .of_bool (h₁₀ p hp), .of_bool h₁₁,
    .of_bool h₁₂, .of_bool h₁₃, .of_bool h₁₄⟩

/-- an open scenario: its keyword line `tk`, finished steps `L` and finished examples blocks `E`; the tags
    `sd` wait in the definition node -/
def scSt (sd : List (Key × Val)) (tk : Token) (below : List Node) (L : List Step) (E : List Examples) : BState :=
  ⟨⟨.Scenario, (.tok .ScenarioLine, .tok tk) :: (stepItems L ++ exItems E)⟩ :: ⟨.ScenarioDefinition, sd⟩ :: below, []⟩

theorem scSt_nil (sd : List (Key × Val)) (tk : Token) (below : List Node) (L : List Step) :
    scSt sd tk below L [] = hostSt .Scenario (.tok .ScenarioLine, .tok tk) (⟨.ScenarioDefinition, sd⟩ :: below) L := by
  simp [scSt, hostSt, exItems]

theorem tagHead_length (tags : List Str) (l : Str) : (tagLineOf tags ++ [l]).length = tagLines tags + 1 := by
  simp only [tagLineOf, tagLines]; split <;> rfl

theorem flatMap_stepLines2_length (steps : List MStep2) : (steps.flatMap stepLines2).length = stepsLines steps := by
  induction steps with
  | nil => rfl
  | cons st steps ih => simp [List.flatMap_cons, stepLines2_length, ih, stepsLines]

theorem examplesLines_length (e : MExamples) : (examplesLines e).length = exLineCount e := by
  simp only [examplesLines, exLineCount, tagLineOf, tagLines, List.length_append, List.length_cons, List.length_map]
  split <;> simp <;> omega

theorem flatMap_examplesLines_length (es : List MExamples) : (es.flatMap examplesLines).length = exsLines es := by
  induction es with
  | nil => rfl
  | cons e es ih => simp [List.flatMap_cons, examplesLines_length, ih, exsLines]

theorem scenarioLines4_eq (sc : MScenario4) : scenarioLines4 sc =
    (tagLineOf sc.tags ++ [titleLineOf sc.kw sc.name]) ++ (sc.steps.flatMap stepLines2 ++ sc.examples.flatMap examplesLines) := by
  simp [scenarioLines4, scenarioLines2, MScenario4.core]

theorem scenarioLines4_length (sc : MScenario4) : (scenarioLines4 sc).length = scLines4 sc := by
  rw [scenarioLines4_eq, List.length_append, tagHead_length, List.length_append, flatMap_stepLines2_length,
    flatMap_examplesLines_length, scLines4]
  omega

theorem flatMap_scenarioLines4_length (scs : List MScenario4) :
    (scs.flatMap scenarioLines4).length = (scs.map scLines4).sum := by
  induction scs with
  | nil => rfl
  | cons sc scs ih => simp [List.flatMap_cons, scenarioLines4_length, ih]

theorem bgLinesOf_length (bg : Option MBackground) : (bgLinesOf bg).length = bgLineCount bg := by
  cases bg with
  | none => rfl
  | some b =>
    show (titleLineOf b.kw b.name :: b.steps.flatMap stepLines2).length = 1 + stepsLines b.steps
    rw [List.length_cons, flatMap_stepLines2_length]; omega

section children
variable {D' : List Dialect} (hf : keywordFacts D' = true) (hr : renderFacts D' = true)
variable (D : List Dialect) (stop : Bool) {T : Table} {ℓ : Level} (F : LevelFacts T ℓ)
variable {μ : MState} (hμ : μ.dialect ∈ D') (hsep : μ.activeSep = none)
include hf hr F hμ hsep

theorem examples_block (sd : List (Key × Val)) (tk : Token) (below : List Node) (L : List Step) (e : MExamples)
    (hok : examplesOK μ.dialect e = true) (σ : Nat × BState × Nat) (E : List Examples) (i₁ n : Nat)
    (hin : Pend (pend5 ℓ) σ (scSt sd tk below L E) i₁) :
    ∃ σ', Pend (pend5 ℓ) σ' (scSt sd tk below L (E ++ [expExamples (n + 1) i₁ e])) (i₁ + exIdCount e) ∧
      Runs D T stop μ (examplesLines e) n σ σ' := by
  obtain ⟨tags, kw, nm, table⟩ := e
  obtain ⟨s, β, i⟩ := σ
  simp only [examplesOK, Bool.and_eq_true, List.all_eq_true, List.contains_eq_mem, decide_eq_true_eq] at hok
  obtain ⟨⟨⟨htags, hk⟩, hn⟩, htab⟩ := hok
  obtain ⟨cl, hmem, hcl⟩ := hin
  have h₁ : Runs D T stop μ (tagLineOf tags ++ [titleLineOf kw nm]) n (s, β, i)
      (ℓ.e₁, ⟨⟨.Examples, [(.tok .ExamplesLine, .tok (titleTok μ (n + tagLines tags + 1) .ExamplesLine kw nm))]⟩ ::
        ⟨.ExamplesDefinition, tagsItem μ (n + 1) tags⟩ :: (scSt sd tk below L E).stack, []⟩, i₁) :=
    tagged_head hf hr D stop hμ hsep rfl (F.exLine _ hmem) (TagRuns.of_pick hf hr D stop hμ hsep F.la rfl ((F.exTag _ hmem).imp fun _ => pickBy_of_firstOf (.inr ⟨1, rfl, rfl⟩)))
      F.exTagged tags kw nm htags hk hn
      (fun ht => by subst ht; exact applyOps_closing _ hcl rfl)
      (fun ht => by
        have hemp : tags.isEmpty = false := by cases tags <;> simp_all
        refine ⟨_, applyOps_closing _ hcl rfl, ?_⟩
        simp only [prodOps, applyOps, applyOp]
        simp [tagsItem, tagLines, hemp]
        rfl)
  have hmk : ∀ R, R = expRows (n + tagLines tags + 1 + 1) i₁ table →
      mkEx (n + 1) (n + tagLines tags + 1) (i₁ + table.length) tags kw nm R = expExamples (n + 1) i₁ ⟨tags, kw, nm, table⟩ := by
    intro R hR
    subst hR
    simp [mkEx, expExamples, Nat.add_assoc, Nat.add_comm, Nat.add_left_comm]
  have hlines : examplesLines ⟨tags, kw, nm, table⟩ = (tagLineOf tags ++ [titleLineOf kw nm]) ++ table.map rowLineOf := by
    simp [examplesLines]
  rw [hlines]
  cases table with
  | nil =>
    rw [List.map_nil, List.append_nil]
    refine ⟨_, ⟨[.end_ .Examples, .end_ .ExamplesDefinition], by simp [pend5], fun t => ?_⟩, h₁⟩
    have e0 : [(Key.tok .ExamplesLine, Val.tok (titleTok μ (n + tagLines tags + 1) .ExamplesLine kw nm))] =
        (Key.tok .ExamplesLine, Val.tok (titleTok μ (n + tagLines tags + 1) .ExamplesLine kw nm)) :: tbItem [] := rfl
    simp only [prodOps, applyOps, applyOp, scSt, endRule_raw_examples, e0, endRule_exdef,
      List.cons_append, List.append_assoc, exItems_snoc]
    have hm0 := hmk [] rfl
    simp only [List.length_nil, Nat.add_zero] at hm0
    rw [hm0]
    simp [exIdCount, Nat.add_assoc]
  | cons r rs =>
    have htab' := tableOK_spec htab
    have hcells : ∀ r' ∈ r :: rs, ∀ c ∈ r', cellOK c = true := fun r' hr' => (htab' r' hr').2
    have hrect : ∀ r' ∈ rs, r'.length = r.length := fun r' hr' => by simpa using (htab' r' (by simp [hr'])).1
    have h₂ := Runs.line (stop := stop) F.exRow₁ (row_lineIs hf hr D hμ hsep r (hcells r (by simp))) (n := n + tagLines tags + 1)
      (β := ⟨⟨.Examples, [(.tok .ExamplesLine, .tok (titleTok μ (n + tagLines tags + 1) .ExamplesLine kw nm))]⟩ ::
        ⟨.ExamplesDefinition, tagsItem μ (n + 1) tags⟩ :: (scSt sd tk below L E).stack, []⟩) (i := i₁) rfl
    have h₃ := rows_loop hf hr D stop hμ hsep F.exRow₂ .ExamplesTable
      (⟨.Examples, [(.tok .ExamplesLine, .tok (titleTok μ (n + tagLines tags + 1) .ExamplesLine kw nm))]⟩ ::
        ⟨.ExamplesDefinition, tagsItem μ (n + 1) tags⟩ :: (scSt sd tk below L E).stack) i₁ rs
      (fun r' hr' => hcells r' (by simp [hr'])) [rowTok μ (n + tagLines tags + 1 + 1) r] (n + tagLines tags + 1 + 1)
    refine ⟨_, ⟨[.end_ .ExamplesTable, .end_ .Examples, .end_ .ExamplesDefinition], by simp [pend5], fun t => ?_⟩,
      h₁.append_at (h₂.append h₃) (by rw [tagHead_length, Nat.add_assoc])⟩
    have e : [rowTok μ (n + tagLines tags + 1 + 1) r] ++ rowToks μ (n + tagLines tags + 1 + 1 + 1) rs =
        rowToks μ (n + tagLines tags + 1 + 1) (r :: rs) := rfl
    have e3 : [(Key.tok .ExamplesLine, Val.tok (titleTok μ (n + tagLines tags + 1) .ExamplesLine kw nm)),
          (Key.rule .ExamplesTable, Val.rows (expRows (n + tagLines tags + 1 + 1) i₁ (r :: rs)))] =
        (Key.tok .ExamplesLine, Val.tok (titleTok μ (n + tagLines tags + 1) .ExamplesLine kw nm)) ::
          tbItem (expRows (n + tagLines tags + 1 + 1) i₁ (r :: rs)) := rfl
    simp only [prodOps, applyOps, applyOp, scSt, e, endRule_extable_rows μ _ r rs hrect, endRule_raw_examples,
      List.cons_append, List.nil_append, e3, endRule_exdef, List.append_assoc, exItems_snoc]
    rw [hmk _ rfl]
    simp [exIdCount, Nat.add_assoc]

theorem examples_loop (sd : List (Key × Val)) (tk : Token) (below : List Node) (L : List Step) (es : List MExamples)
    (hok : ∀ e ∈ es, examplesOK μ.dialect e = true) (σ : Nat × BState × Nat) (E : List Examples) (i₁ n : Nat)
    (hin : Pend (pend5 ℓ) σ (scSt sd tk below L E) i₁) :
    ∃ σ', Pend (pend5 ℓ) σ' (scSt sd tk below L (E ++ expExamplesList (n + 1) i₁ es)) (i₁ + exsIds es) ∧
      Runs D T stop μ (es.flatMap examplesLines) n σ σ' :=
  Runs.loop examplesLines exLineCount exIdCount expExamples expExamplesList (fun _ _ => rfl) (fun _ _ _ _ => rfl)
    examplesLines_length (fun σ acc i₀ => Pend (pend5 ℓ) σ (scSt sd tk below L acc) i₀) es
    (fun e he σ acc i₀ n h => examples_block hf hr D stop F hμ hsep sd tk below L e (hok e he) σ acc i₀ n h) σ E i₁ n hin

omit F in
theorem scenario_head (hla : T.lookaheads = [la0, la1]) {s tg sc₀ : Nat} {cl : List Prod}
    (hsc : Picks T s (firstOf .ScenarioLine)
      ⟨.ScenarioLine, none, cl ++ [.start .ScenarioDefinition, .start .Scenario, .build], sc₀⟩)
    (htag : Picks T s firstTag0 ⟨.TagLine, some 0, cl ++ [.start .ScenarioDefinition, .start .Tags, .build], tg⟩)
    (htagged : Picks T tg (firstOf .ScenarioLine) ⟨.ScenarioLine, none, [.end_ .Tags, .start .Scenario, .build], sc₀⟩)
    (tags : List Str) (kw nm : Str) (htags : ∀ t ∈ tags, tagOK t = true)
    (hk : kw ∈ μ.dialect.roleKeywords .ScenarioLine) (hn : cleanText nm = true)
    {β : BState} {i i₀ : Nat} (n : Nat) {below : List Node}
    (hcl : ∀ t, applyOps (prodOps t cl) β i = (.ok (), ⟨below, []⟩, i₀)) :
    Runs D T stop μ (tagLineOf tags ++ [titleLineOf kw nm]) n (s, β, i)
      (sc₀, scSt (tagsItem μ (n + 1) tags) (titleTok μ (n + tagLines tags + 1) .ScenarioLine kw nm) below [] [], i₀) :=
  tagged_head hf hr D stop hμ hsep rfl hsc (TagRuns.of_pick hf hr D stop hμ hsep hla rfl (htag.imp fun _ => pickBy_of_firstTag0 rfl rfl)) htagged tags kw nm htags hk hn
    (fun ht => by subst ht; exact applyOps_closing _ hcl rfl)
    (fun ht => by
      have hemp : tags.isEmpty = false := by cases tags <;> simp_all
      refine ⟨⟨⟨.Tags, [(.tok .TagLine, .tok (tagTok μ (n + 1) tags))]⟩ :: ⟨.ScenarioDefinition, []⟩ :: below, []⟩,
        applyOps_closing _ hcl rfl, ?_⟩
      simp only [prodOps, applyOps, applyOp, endRule_raw .Tags (.inr (.inl rfl))]
      simp [tagsItem, tagLines, hemp, scSt]
      rfl)

omit hf hr hμ hsep in
theorem scenario_closes (nt m : Nat) (tags : List Str) (kw nm : Str) (cont : RuleType) (fi : List (Key × Val))
    (rest : List Node) (L : List Step) (E : List Examples) (σ : Nat × BState × Nat) (i₁ : Nat)
    (hin : Pend (pend5 ℓ) σ (scSt (tagsItem μ nt tags) (titleTok μ m .ScenarioLine kw nm) (⟨cont, fi⟩ :: rest) L E) i₁) :
    Follows T ℓ σ ⟨⟨cont, fi ++ [(.rule .ScenarioDefinition, Val.scenario (mkSc4 nt m i₁ tags kw nm L E))]⟩ :: rest, []⟩
      (i₁ + tags.length + 1) := by
  obtain ⟨cl, hmem, hcl⟩ := hin
  refine ⟨cl ++ [.end_ .Scenario, .end_ .ScenarioDefinition], F.exNext _ hmem, fun t => applyOps_closing t hcl ?_⟩
  simp only [prodOps, applyOps, applyOp, scSt, endRule_raw .Scenario (.inl rfl), endRule_scdef4]

theorem container_scenario_block (cont : RuleType) (rest : List Node) (sc : MScenario4) (hok : scenarioOK4 μ.dialect sc = true)
    (σ : Nat × BState × Nat) (fi : List (Key × Val)) (i₀ n : Nat) (hcl : Follows T ℓ σ ⟨⟨cont, fi⟩ :: rest, []⟩ i₀) :
    ∃ σ', Follows T ℓ σ'
        ⟨⟨cont, fi ++ [(.rule .ScenarioDefinition, Val.scenario (expScenario4 μ.dialect (n + 1) i₀ sc))]⟩ :: rest, []⟩
        (i₀ + scIds4 sc) ∧
      Runs D T stop μ (scenarioLines4 sc) n σ σ' := by
  obtain ⟨tags, kw, nm, steps, es⟩ := sc
  obtain ⟨s, β, i⟩ := σ
  simp only [scenarioOK4, scenarioOK2, MScenario4.core, Bool.and_eq_true, List.all_eq_true, List.contains_eq_mem,
    decide_eq_true_eq] at hok
  obtain ⟨⟨⟨⟨htags, hk⟩, hn⟩, hsteps⟩, hes⟩ := hok
  obtain ⟨cl, hnext, hcl⟩ := hcl
  have h₁ := scenario_head hf hr D stop hμ hsep F.la hnext.sc hnext.tag F.tagged tags kw nm htags hk hn n hcl
  obtain ⟨σ₂, hin₂, h₂⟩ := steps_loop hf hr D stop hμ hsep F.steps .Scenario
    (.tok .ScenarioLine, .tok (titleTok μ (n + tagLines tags + 1) .ScenarioLine kw nm))
    (⟨.ScenarioDefinition, tagsItem μ (n + 1) tags⟩ :: ⟨cont, fi⟩ :: rest) steps hsteps
    (ℓ.sc₀, scSt (tagsItem μ (n + 1) tags) (titleTok μ (n + tagLines tags + 1) .ScenarioLine kw nm) (⟨cont, fi⟩ :: rest) [] [], i₀)
    [] i₀ (n + tagLines tags + 1) ⟨[], by simp [pend3], fun t => rfl⟩
  rw [← scSt_nil] at hin₂
  obtain ⟨σ₃, hin₃, h₃⟩ := examples_loop hf hr D stop F hμ hsep _ _ _ _ es hes σ₂ [] _ (n + tagLines tags + 1 + stepsLines steps)
    (hin₂.mono fun _ hp => List.mem_append_left _ hp)
  have hcl' := scenario_closes F (n + 1) (n + tagLines tags + 1) tags kw nm cont fi rest _ _ σ₃ _ hin₃
  refine ⟨σ₃, ?_, ?_⟩
  · have e1 : mkSc4 (n + 1) (n + tagLines tags + 1) (i₀ + stepsIds steps + exsIds es) tags kw nm
        ([] ++ expSteps2 μ.dialect (n + tagLines tags + 1 + 1) i₀ steps)
        ([] ++ expExamplesList (n + tagLines tags + 1 + stepsLines steps + 1) (i₀ + stepsIds steps) es) =
        expScenario4 μ.dialect (n + 1) i₀ ⟨tags, kw, nm, steps, es⟩ := by
      simp [mkSc4, expScenario4, Nat.add_assoc, Nat.add_comm, Nat.add_left_comm]
    have e2 : i₀ + stepsIds steps + exsIds es + tags.length + 1 = i₀ + scIds4 ⟨tags, kw, nm, steps, es⟩ := by
      simp [scIds4]; omega
    rwa [e1, e2] at hcl'
  · rw [scenarioLines4_eq]
    exact h₁.append_at (h₂.append_at h₃ (by rw [flatMap_stepLines2_length])) (by rw [tagHead_length, Nat.add_assoc])

theorem container_scenarios_loop (cont : RuleType) (pre : List (Key × Val)) (rest : List Node) (scs : List MScenario4)
    (hok : ∀ sc ∈ scs, scenarioOK4 μ.dialect sc = true) (σ : Nat × BState × Nat) (S : List Scenario) (i₀ n : Nat)
    (hcl : Follows T ℓ σ ⟨⟨cont, pre ++ scItems S⟩ :: rest, []⟩ i₀) :
    ∃ σ', Follows T ℓ σ' ⟨⟨cont, pre ++ scItems (S ++ expScenarios4 μ.dialect (n + 1) i₀ scs)⟩ :: rest, []⟩
        (i₀ + idsOfScenarios4 scs) ∧
      Runs D T stop μ (scs.flatMap scenarioLines4) n σ σ' :=
  Runs.loop scenarioLines4 scLines4 scIds4 (expScenario4 μ.dialect) (expScenarios4 μ.dialect) (fun _ _ => rfl)
    (fun _ _ _ _ => rfl) scenarioLines4_length (fun σ acc i₀ => Follows T ℓ σ ⟨⟨cont, pre ++ scItems acc⟩ :: rest, []⟩ i₀) scs
    (fun sc hsc σ acc i₀ n h => by
      rw [← scItems_snoc, ← List.append_assoc]
      exact container_scenario_block hf hr D stop F hμ hsep cont rest sc (hok sc hsc) σ _ i₀ n h) σ S i₀ n hcl

theorem background_block (cont : RuleType) (fi : List (Key × Val)) (rest : List Node) (b : MBackground)
    (hok : backgroundOK μ.dialect b = true) (β : BState) (i n : Nat)
    (hcl : ∀ t, applyOps (prodOps t [.end_ ℓ.hdrRule]) β i = (.ok (), ⟨⟨cont, fi⟩ :: rest, []⟩, i)) :
    ∃ σ', Follows T ℓ σ'
        ⟨⟨cont, fi ++ [(.rule .Background, Val.background (expBackground μ.dialect (n + 1) i b))]⟩ :: rest, []⟩
        (i + (stepsIds b.steps + 1)) ∧
      Runs D T stop μ (backgroundLines b) n (ℓ.hdr, β, i) σ' := by
  obtain ⟨kw, nm, steps⟩ := b
  simp only [backgroundOK, Bool.and_eq_true, List.all_eq_true, List.contains_eq_mem, decide_eq_true_eq] at hok
  obtain ⟨⟨hk, hn⟩, hsteps⟩ := hok
  have h₁ : Runs D T stop μ [titleLineOf kw nm] n (ℓ.hdr, β, i) (ℓ.b₀, hostSt .Background
      (.tok .BackgroundLine, .tok (titleTok μ (n + 1) .BackgroundLine kw nm)) (⟨cont, fi⟩ :: rest) [], i) :=
    Runs.line F.bgLine (title_lineIs hf hr D hμ hsep .BackgroundLine rfl kw nm hk hn)
      (applyOps_closing (cl := [.end_ ℓ.hdrRule]) (ps := [.start .Background, .build]) _ hcl rfl)
  obtain ⟨σ', ⟨cl, hmem, hcl'⟩, h₂⟩ := steps_loop hf hr D stop hμ hsep F.bgSteps .Background _ _ steps hsteps (ℓ.b₀, _, i) [] i
    (n + 1) ⟨[], by simp [pend3], fun t => rfl⟩
  refine ⟨σ', ⟨cl ++ [.end_ .Background], F.bgNext _ hmem, fun t => applyOps_closing t hcl' ?_⟩, h₁.append h₂⟩
  simp only [prodOps, applyOps, applyOp, hostSt, endRule_background]
  simp [mkBg, expBackground, Nat.add_assoc]

theorem children_block (cont : RuleType) (hd : Key × Val) (rest : List Node) (bg : Option MBackground)
    (hbg : (match bg with | none => true | some b => backgroundOK μ.dialect b) = true) (scs : List MScenario4)
    (hscs : ∀ sc ∈ scs, scenarioOK4 μ.dialect sc = true) (β : BState) (i n : Nat)
    (hcl : ∀ t, applyOps (prodOps t [.end_ ℓ.hdrRule]) β i = (.ok (), ⟨⟨cont, [hd]⟩ :: rest, []⟩, i)) :
    ∃ σ', Follows T ℓ σ' ⟨⟨cont, hd :: (bgItems (bg.map (expBackground μ.dialect (n + 1) i)) ++
          scItems (expScenarios4 μ.dialect (n + bgLineCount bg + 1) (i + bgIdCount bg) scs))⟩ :: rest, []⟩
        (i + bgIdCount bg + idsOfScenarios4 scs) ∧
      Runs D T stop μ (bgLinesOf bg ++ scs.flatMap scenarioLines4) n (ℓ.hdr, β, i) σ' := by
  have hb : ∃ σ₁, Follows T ℓ σ₁ ⟨⟨cont, (hd :: bgItems (bg.map (expBackground μ.dialect (n + 1) i))) ++ scItems []⟩ :: rest, []⟩
        (i + bgIdCount bg) ∧ Runs D T stop μ (bgLinesOf bg) n (ℓ.hdr, β, i) σ₁ := by
    cases bg with
    | none => exact ⟨_, ⟨[.end_ ℓ.hdrRule], F.hdrNext, hcl⟩, Runs.nil n _⟩
    | some b => exact background_block hf hr D stop F hμ hsep cont [hd] rest b hbg β i n hcl
  obtain ⟨σ₁, hcl₁, h₁⟩ := hb
  obtain ⟨σ₂, hcl₂, h₂⟩ := container_scenarios_loop hf hr D stop F hμ hsep cont _ rest scs hscs σ₁ [] _ (n + bgLineCount bg) hcl₁
  exact ⟨σ₂, hcl₂, h₁.append_at h₂ (by rw [bgLinesOf_length])⟩

end children

end Lemmas
end GV
