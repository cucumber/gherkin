/-
  Lemmas/Layout.lean — property C16 (layout is meaning-neutral), line by line.

  A change of layout is stated on the token-free decision `lineDec` (Lemmas/MatchLine.lean), after
  the string primitives and the observations `match_<k>` makes of a line (prefixes of the trimmed
  line, the rest after a keyword, cells, tags, emptiness, the language header, the indentation) have
  been shown to ignore the whitespace in question: a whitespace tail leaves the decision as it is
  (`lineDec_tail`, `lineDec_blank`), an indentation moves it right (`lineDec_indent`, `DecShift`).
  The token enters once, in `LineDec.out_same` and `DecShift.out`; the per-line theorems
  (`sameMatch_eol`, `sameMatch_blanks`, `shiftMatch_indent`) follow.  Then the physical lines of a
  text (`splitLines`), and the kind-level run of the table (`runAbs`) under an inserted blank or
  comment line.
-/
import GherkinVerif.Model.Abstract
import GherkinVerif.Spec.LayoutFacts
import GherkinVerif.Lemmas.MatchLine
namespace GV.Lemmas

def AllSpace (w : Str) : Prop := ∀ c ∈ w, isSpace c = true

def AllEol (w : Str) : Prop := ∀ c ∈ w, c = 13 ∨ c = 10

theorem AllSpace.nil : AllSpace [] := by intro c h; cases h

theorem AllSpace.cons {c : Nat} {w : Str} (hc : isSpace c = true) (h : AllSpace w) : AllSpace (c :: w) := by
  intro d hd
  rcases List.mem_cons.1 hd with rfl | hd
  · exact hc
  · exact h d hd

theorem AllSpace.append {a b : Str} (ha : AllSpace a) (hb : AllSpace b) : AllSpace (a ++ b) := by
  intro c hc
  rcases List.mem_append.1 hc with h | h
  · exact ha c h
  · exact hb c h

theorem AllSpace.of_prefix {v w : Str} (hw : AllSpace w) (h : v <+: w) : AllSpace v :=
  fun c hc => hw c (h.subset hc)

theorem AllSpace.drop {a : Str} (ha : AllSpace a) (n : Nat) : AllSpace (a.drop n) :=
  fun c hc => ha c (List.mem_of_mem_drop hc)

theorem AllEol.allSpace {w : Str} (h : AllEol w) : AllSpace w := by
  intro c hc
  rcases h c hc with rfl | rfl <;> decide

theorem allEol_crlf : AllEol [13, 10] := by intro c hc; simp at hc; omega
theorem allEol_lf : AllEol [10] := by intro c hc; simp at hc; omega
theorem allEol_nil : AllEol [] := by intro c hc; cases hc

theorem AllEol.append {a b : Str} (ha : AllEol a) (hb : AllEol b) : AllEol (a ++ b) := by
  intro c hc
  rcases List.mem_append.1 hc with h | h
  · exact ha c h
  · exact hb c h

theorem AllEol.drop {a : Str} (ha : AllEol a) (n : Nat) : AllEol (a.drop n) :=
  fun c hc => ha c (List.mem_of_mem_drop hc)

theorem allSpace_of_lstrip_nil {s : Str} (h : lstrip s = []) : AllSpace s := by
  induction s with
  | nil => exact AllSpace.nil
  | cons c s ih =>
    unfold lstrip at h
    by_cases hc : isSpace c = true
    · rw [if_pos hc] at h; exact AllSpace.cons hc (ih h)
    · rw [if_neg hc] at h; cases h

theorem lstrip_append_right {s : Str} (h : lstrip s ≠ []) (w : Str) : lstrip (s ++ w) = lstrip s ++ w := by
  induction s with
  | nil => exact absurd rfl h
  | cons c s ih =>
    simp only [List.cons_append, lstrip] at h ⊢
    by_cases hc : isSpace c = true
    · simp only [hc, ↓reduceIte] at h ⊢; exact ih h
    · simp only [hc]; rfl

theorem lstrip_append_nil {s w : Str} (h : lstrip s = []) (hw : AllSpace w) : lstrip (s ++ w) = [] :=
  lstrip_ws _ ((allSpace_of_lstrip_nil h).append hw)

theorem indentOf_append_right {s : Str} (h : lstrip s ≠ []) (w : Str) : indentOf (s ++ w) = indentOf s := by
  induction s with
  | nil => exact absurd rfl h
  | cons c s ih =>
    simp only [List.cons_append, lstrip, indentOf] at h ⊢
    by_cases hc : isSpace c = true
    · simp only [hc, ↓reduceIte] at h ⊢; rw [ih h]
    · simp only [hc]; rfl

theorem lstrip_head_not_space {s r : Str} {c : Nat} (h : lstrip s = c :: r) : isSpace c = false := by
  have := noWsStart_lstrip s
  rw [h] at this
  simpa [Spec.noWsStart] using this

theorem indentOf_le_length (s : Str) : indentOf s ≤ s.length := by
  induction s with
  | nil => simp [indentOf]
  | cons c s ih => simp only [indentOf, List.length_cons]; split <;> omega

theorem drop_indentOf (s : Str) : s.drop (indentOf s) = lstrip s := (indent_split s).2.2.2

theorem indentOf_allSpace {w : Str} (h : AllSpace w) : indentOf w = w.length := by
  have := indentOf_space_append w [] h
  simpa [indentOf] using this

theorem rstrip_append_allSpace (s : Str) {w : Str} (h : AllSpace w) : rstrip (s ++ w) = rstrip s :=
  dropWhileEnd_append_all s h

theorem strip_append_allSpace (s : Str) {w : Str} (h : AllSpace w) : strip (s ++ w) = strip s := by
  unfold strip
  by_cases hs : lstrip s = []
  · rw [lstrip_append_nil hs h, hs]
  · rw [lstrip_append_right hs, rstrip_append_allSpace _ h]

theorem strip_allSpace {w : Str} (h : AllSpace w) : strip w = [] := by
  simpa [strip, lstrip, rstrip, dropWhileEnd] using strip_append_allSpace [] h

theorem strip_append_left {ws : Str} (h : AllSpace ws) (s : Str) : strip (ws ++ s) = strip s := by
  unfold strip; rw [lstrip_ws_append _ _ h]

theorem rstripCRLF_append_allEol (s : Str) {w : Str} (h : AllEol w) : rstripCRLF (s ++ w) = rstripCRLF s :=
  dropWhileEnd_append_all s (by intro c hc; rcases h c hc with rfl | rfl <;> rfl)

theorem rstripCRLF_allEol {w : Str} (h : AllEol w) : rstripCRLF w = [] := by
  simpa [rstripCRLF, dropWhileEnd] using rstripCRLF_append_allEol [] h

theorem startsWith_append_tail {p x a : Str}
    (h : ∀ w, w ≠ [] → w <+: a → p ≠ x ++ w) : startsWith p (x ++ a) = startsWith p x := by
  induction p generalizing x with
  | nil => cases x <;> cases a <;> rfl
  | cons c p ih =>
    cases x with
    | nil =>
      simp only [List.nil_append, startsWith]
      cases hs : startsWith (c :: p) a with
      | false => rfl
      | true =>
        obtain ⟨r, hr⟩ := (startsWith_iff _ _).1 hs
        exact absurd rfl (h (c :: p) (by simp) ⟨r, hr.symm⟩)
    | cons d x =>
      simp only [List.cons_append, startsWith]
      by_cases hcd : c = d
      · subst hcd
        rw [ih (x := x)]
        intro w hw hp he
        exact h w hw hp (by rw [he]; rfl)
      · have hf : (c == d) = false := by simpa using hcd
        rw [hf]; rfl

def NoTrailWs (p : Str) : Prop := ∀ c, p.getLast? = some c → isSpace c = false

theorem ne_append_of_getLast {P : Nat → Prop} {p x v : Str} (hp : ∀ c, p.getLast? = some c → ¬ P c)
    (hv : ∀ c ∈ v, P c) (hne : v ≠ []) : p ≠ x ++ v := by
  intro he
  rcases List.eq_nil_or_concat v with rfl | ⟨v', b, rfl⟩
  · exact hne rfl
  · have : p.getLast? = some b := by
      rw [he, List.concat_eq_append, ← List.append_assoc, List.getLast?_concat]
    exact hp b this (hv b (by simp))

theorem NoTrailWs.ne_append {p x v : Str} (hp : NoTrailWs p) (hv : AllSpace v) (hne : v ≠ []) : p ≠ x ++ v :=
  ne_append_of_getLast (P := fun c => isSpace c = true) (fun c hc h => by rw [hp c hc] at h; cases h) hv hne

theorem startsWith_append_allSpace {p x w : Str} (hp : NoTrailWs p) (hw : AllSpace w) :
    startsWith p (x ++ w) = startsWith p x :=
  startsWith_append_tail fun _ hv hpre => hp.ne_append (hw.of_prefix hpre) hv

theorem noTrailWs_append_singleton (p : Str) {c : Nat} (hc : isSpace c = false) : NoTrailWs (p ++ [c]) := by
  intro d hd
  rw [List.getLast?_concat] at hd
  cases hd; exact hc

theorem find?_congr' {α} {p q : α → Bool} {l : List α} (h : ∀ x ∈ l, p x = q x) :
    l.find? p = l.find? q := by
  induction l with
  | nil => rfl
  | cons a l ih =>
    simp only [List.find?, h a (by simp), ih (fun x hx => h x (by simp [hx]))]

theorem zip_all_index {α β} {f : α × β → Bool} {as : List α} {bs : List β} (h : (as.zip bs).all f = true)
    (k : Nat) (a : α) (b : β) (ha : as[k]? = some a) (hb : bs[k]? = some b) : f (a, b) = true :=
  List.all_eq_true.1 h (a, b) (List.mem_iff_getElem?.2 ⟨k, List.getElem?_zip_eq_some.2 ⟨ha, hb⟩⟩)

theorem takeWhile_append_tail {p : Nat → Bool} (a : Str) {w : Str} (h : ∀ c ∈ w, p c = false) :
    (a ++ w).takeWhile p = a.takeWhile p := by
  induction a with
  | nil =>
    cases w with
    | nil => rfl
    | cons c w => simp [List.takeWhile, h c (by simp)]
  | cons c a ih => simp only [List.cons_append, List.takeWhile, ih]

theorem dropWhile_append_tail {p : Nat → Bool} (a : Str) {w : Str} (h : ∀ c ∈ w, p c = false) :
    (a ++ w).dropWhile p = a.dropWhile p ++ w := by
  induction a with
  | nil =>
    cases w with
    | nil => rfl
    | cons c w => simp [List.dropWhile, h c (by simp)]
  | cons c a ih =>
    simp only [List.cons_append, List.dropWhile, ih]
    split <;> rfl

theorem stripTrimmed_tail (s : Str) {w : Str} (hw : AllSpace w) :
    strip (trimmed (s ++ w)) = strip (trimmed s) := by
  unfold trimmed
  by_cases hs : lstrip s = []
  · rw [lstrip_append_nil hs hw, hs]
  · rw [lstrip_append_right hs, strip_append_allSpace _ hw]

theorem restTrimmed_tail (s : Str) {w : Str} (hw : AllSpace w) (n : Nat) :
    restTrimmed (s ++ w) n = restTrimmed s n := by
  unfold restTrimmed trimmed
  by_cases hs : lstrip s = []
  · rw [lstrip_append_nil hs hw, hs]
  · rw [lstrip_append_right hs, List.drop_append, strip_append_allSpace _ (hw.drop _)]

theorem lineIndent_tail {s : Str} (hs : lstrip s ≠ []) (w : Str) : lineIndent (s ++ w) = lineIndent s :=
  indentOf_append_right hs w

theorem lineStartsWith_tail {s w p : Str} (hw : AllSpace w)
    (hp : ∀ v, v ≠ [] → v <+: w → p ≠ lstrip s ++ v) :
    lineStartsWith (s ++ w) p = lineStartsWith s p := by
  unfold lineStartsWith trimmed
  by_cases hs : lstrip s = []
  · rw [lstrip_append_nil hs hw, hs]
  · rw [lstrip_append_right hs, startsWith_append_tail hp]

theorem lineStartsWith_tail_noTrail {s w p : Str} (hw : AllSpace w) (hp : NoTrailWs p) :
    lineStartsWith (s ++ w) p = lineStartsWith s p := by
  unfold lineStartsWith trimmed
  by_cases hs : lstrip s = []
  · rw [lstrip_append_nil hs hw, hs]
  · rw [lstrip_append_right hs, startsWith_append_allSpace hp hw]

theorem lineStartsWithTitle_tail (s : Str) {w : Str} (hw : AllSpace w) (kw : Str) :
    lineStartsWithTitle (s ++ w) kw = lineStartsWithTitle s kw :=
  lineStartsWith_tail_noTrail (p := kw ++ [58]) hw (noTrailWs_append_singleton kw (by decide))


theorem tableCells_tail {s : Str} (hs : lstrip s ≠ []) {w : Str} (hw : AllSpace w) :
    tableCells (s ++ w) = tableCells s := by
  unfold tableCells
  rw [stripTrimmed_tail s hw, lineIndent_tail hs]

theorem lineTags_tail {s : Str} (hs : lstrip s ≠ []) {w : Str} (hw : AllSpace w) :
    lineTags (s ++ w) = lineTags s := by
  unfold lineTags
  rw [stripTrimmed_tail s hw, lineIndent_tail hs]

theorem noTrailWs_language : NoTrailWs (lit "language") := by
  intro c hc
  have : (lit "language").getLast? = some 101 := by decide
  rw [this] at hc; cases hc; decide

theorem lstrip_isEmpty_tail (d : Str) {w : Str} (hw : AllSpace w) :
    (lstrip (d ++ w)).isEmpty = (lstrip d).isEmpty := by
  by_cases hs : lstrip d = []
  · rw [lstrip_append_nil hs hw, hs]
  · rw [lstrip_append_right hs]
    cases h : lstrip d with
    | nil => exact absurd h hs
    | cons c r => rfl

theorem lineIsEmpty_tail (s : Str) {w : Str} (hw : AllSpace w) : lineIsEmpty (s ++ w) = lineIsEmpty s :=
  lstrip_isEmpty_tail s hw

/-- the tail of `LANGUAGE_RE` after the colon: `\s*([a-zA-Z\-_]+)\s*$` -/
def langName (s3 : Str) : Option Str :=
  let s4 := lstrip s3
  let name := s4.takeWhile isLangChar
  if name.isEmpty then none
  else if (lstrip (s4.dropWhile isLangChar)).isEmpty then some name else none

theorem langName_tail (s3 : Str) {w : Str} (hw : AllSpace w) : langName (s3 ++ w) = langName s3 := by
  unfold langName
  have hl : ∀ c ∈ w, isLangChar c = false := fun c hc => isLangChar_of_isSpace (hw c hc)
  by_cases hs : lstrip s3 = []
  · rw [lstrip_append_nil hs hw, hs]
  · rw [lstrip_append_right hs]
    simp only [takeWhile_append_tail _ hl, dropWhile_append_tail _ hl, lstrip_isEmpty_tail _ hw]

/-- `LANGUAGE_RE` after `#\s*`: `language\s*:` then `langName` -/
def langKw (s2 : Str) : Option Str :=
  if startsWith (lit "language") s2 then
    match lstrip (s2.drop 8) with
    | 58 :: s3 => langName s3
    | _ => none
  else none

theorem langKw_tail (s2 : Str) {w : Str} (hw : AllSpace w) : langKw (s2 ++ w) = langKw s2 := by
  unfold langKw
  rw [startsWith_append_allSpace noTrailWs_language hw]
  by_cases hsw : startsWith (lit "language") s2 = true
  · have hlen : 8 ≤ s2.length := startsWith_length _ _ hsw
    simp only [hsw, ↓reduceIte]
    rw [List.drop_append_of_le_length hlen]
    by_cases hs : lstrip (s2.drop 8) = []
    · rw [lstrip_append_nil hs hw, hs]
    · rw [lstrip_append_right hs]
      cases h : lstrip (s2.drop 8) with
      | nil => exact absurd h hs
      | cons c r =>
        by_cases hc : c = 58
        · subst hc; exact langName_tail r hw
        · simp only [List.cons_append]
          split
          · rename_i heq; cases heq; exact absurd rfl hc
          · split
            · rename_i heq; cases heq; exact absurd rfl hc
            · rfl
  · simp only [hsw]; rfl

theorem languageRe_eq (s : Str) :
    languageRe s = match lstrip s with
      | 35 :: s1 => langKw (lstrip s1)
      | _ => none := rfl

theorem languageRe_tail (s : Str) {w : Str} (hw : AllSpace w) : languageRe (s ++ w) = languageRe s := by
  rw [languageRe_eq, languageRe_eq]
  by_cases hs : lstrip s = []
  · rw [lstrip_append_nil hs hw, hs]
  · rw [lstrip_append_right hs]
    cases h : lstrip s with
    | nil => exact absurd h hs
    | cons c r =>
      by_cases hc : c = 35
      · subst hc
        show langKw (lstrip (r ++ w)) = langKw (lstrip r)
        by_cases hr : lstrip r = []
        · rw [lstrip_append_nil hr hw, hr]
        · rw [lstrip_append_right hr, langKw_tail _ hw]
      · simp only [List.cons_append]
        split
        · rename_i heq; cases heq; exact absurd rfl hc
        · split
          · rename_i heq; cases heq; exact absurd rfl hc
          · rfl

theorem trimmed_indent {ws : Str} (h : AllSpace ws) (s : Str) : trimmed (ws ++ s) = trimmed s :=
  lstrip_ws_append ws s h

theorem lineIndent_indent {ws : Str} (h : AllSpace ws) (s : Str) :
    lineIndent (ws ++ s) = lineIndent s + ws.length := by
  unfold lineIndent; rw [indentOf_space_append ws s h]; omega

theorem restTrimmed_indent {ws : Str} (h : AllSpace ws) (s : Str) (n : Nat) :
    restTrimmed (ws ++ s) n = restTrimmed s n := by
  unfold restTrimmed; rw [trimmed_indent h]

theorem lineStartsWith_indent {ws : Str} (h : AllSpace ws) (s p : Str) :
    lineStartsWith (ws ++ s) p = lineStartsWith s p := by
  unfold lineStartsWith; rw [trimmed_indent h]

theorem lineStartsWithTitle_indent {ws : Str} (h : AllSpace ws) (s kw : Str) :
    lineStartsWithTitle (ws ++ s) kw = lineStartsWithTitle s kw := by
  unfold lineStartsWithTitle; rw [trimmed_indent h]

def shiftItems (n : Nat) (xs : List (Nat × Str)) : List (Nat × Str) := xs.map fun x => (x.1 + n, x.2)

/-- result of `tags` with every column (of a tag, or of the error) grown by `n` -/
def shiftTags (n : Nat) : Except Nat (List (Nat × Str)) → Except Nat (List (Nat × Str))
  | .error c => .error (c + n)
  | .ok ts => .ok (shiftItems n ts)

theorem tableCells_indent {ws : Str} (h : AllSpace ws) (s : Str) :
    tableCells (ws ++ s) = shiftItems ws.length (tableCells s) := by
  unfold tableCells shiftItems
  rw [trimmed_indent h, lineIndent_indent h, List.map_map]
  apply List.map_congr_left
  intro x _
  simp only [Function.comp, Prod.mk.injEq, and_true]
  omega

theorem tagItems_shift (items : List Str) (col n : Nat) :
    tagItems items (col + n) = shiftTags n (tagItems items col) := by
  induction items generalizing col with
  | nil => rfl
  | cons item rest ih =>
    simp only [tagItems]
    split
    · rfl
    · have e : col + n + item.length + 1 = (col + item.length + 1) + n := by omega
      rw [e, ih]
      cases tagItems rest (col + item.length + 1) <;> rfl

theorem lineTags_indent {ws : Str} (h : AllSpace ws) (s : Str) :
    lineTags (ws ++ s) = shiftTags ws.length (lineTags s) := by
  unfold lineTags
  rw [trimmed_indent h, lineIndent_indent h]
  have e : lineIndent s + ws.length + 1 = (lineIndent s + 1) + ws.length := by omega
  simp only [e, tagItems_shift]

/-- the token the scanner makes of physical line `l` (all other fields as in `t`) -/
def withLine (t : Token) (l : Str) : Token := { t with line := some l }

/-- two tokens agree on everything but the physical line they carry -/
def TokSame (a b : Token) : Prop :=
  a.lineNo = b.lineNo ∧ a.col = b.col ∧ a.mtype = b.mtype ∧ a.text = b.text ∧ a.keyword = b.keyword ∧
  a.ktype = b.ktype ∧ a.indent = b.indent ∧ a.items = b.items ∧ a.dialect = b.dialect

def SameMatch (a b : MOut) : Prop := a.res = b.res ∧ a.μ = b.μ ∧ TokSame a.tok b.tok

theorem TokSame.refl (a : Token) : TokSame a a := ⟨rfl, rfl, rfl, rfl, rfl, rfl, rfl, rfl, rfl⟩
theorem TokSame.symm {a b : Token} (h : TokSame a b) : TokSame b a := by
  obtain ⟨h1, h2, h3, h4, h5, h6, h7, h8, h9⟩ := h
  exact ⟨h1.symm, h2.symm, h3.symm, h4.symm, h5.symm, h6.symm, h7.symm, h8.symm, h9.symm⟩
theorem TokSame.trans {a b c : Token} (h : TokSame a b) (g : TokSame b c) : TokSame a c := by
  obtain ⟨h1, h2, h3, h4, h5, h6, h7, h8, h9⟩ := h
  obtain ⟨g1, g2, g3, g4, g5, g6, g7, g8, g9⟩ := g
  exact ⟨h1.trans g1, h2.trans g2, h3.trans g3, h4.trans g4, h5.trans g5, h6.trans g6, h7.trans g7,
    h8.trans g8, h9.trans g9⟩

theorem SameMatch.refl (a : MOut) : SameMatch a a := ⟨rfl, rfl, TokSame.refl _⟩
theorem SameMatch.symm {a b : MOut} (h : SameMatch a b) : SameMatch b a :=
  ⟨h.1.symm, h.2.1.symm, h.2.2.symm⟩
theorem SameMatch.trans {a b c : MOut} (h : SameMatch a b) (g : SameMatch b c) : SameMatch a c :=
  ⟨h.1.trans g.1, h.2.1.trans g.2.1, h.2.2.trans g.2.2⟩

theorem tokSame_withLine (t : Token) (l1 l2 : Str) : TokSame (withLine t l1) (withLine t l2) :=
  ⟨rfl, rfl, rfl, rfl, rfl, rfl, rfl, rfl, rfl⟩

def shiftLoc (n : Nat) (l : Loc) : Loc := ⟨l.line, l.col.map (· + n)⟩
def shiftErr (n : Nat) (e : PErr) : PErr := ⟨e.kind, shiftLoc n e.loc, e.body⟩

def shiftRes (n : Nat) : MRes → MRes
  | .raised e => .raised (shiftErr n e)
  | r => r

def isMatched : MRes → Bool
  | .matched => true
  | _ => false

/-- `b` is `a` moved right by `n` columns: column, indent and every item column grow by `n` -/
def TokShift (n : Nat) (a b : Token) : Prop :=
  b.lineNo = a.lineNo ∧ b.col = a.col.map (· + n) ∧ b.mtype = a.mtype ∧ b.text = a.text ∧
  b.keyword = a.keyword ∧ b.ktype = a.ktype ∧ b.indent = a.indent + n ∧
  b.items = shiftItems n a.items ∧ b.dialect = a.dialect

/-- matcher state `ν'` is `ν` with `indentToRemove` grown by `d` -/
def MuShift (d : Nat) (ν ν' : MState) : Prop :=
  ν'.defaultName = ν.defaultName ∧ ν'.name = ν.name ∧ ν'.dialect = ν.dialect ∧
  ν'.activeSep = ν.activeSep ∧ ν'.indentToRemove = ν.indentToRemove + d

/-- Output `b` is output `a` moved right by `n` columns.  The matcher state is the same except that
    an *opening* doc-string delimiter (a match that leaves a separator active) records an
    indentation `n` larger. -/
def ShiftMatch (n : Nat) (k : Kind) (a b : MOut) : Prop :=
  b.res = shiftRes n a.res ∧
  MuShift (if k = .DocStringSeparator ∧ isMatched a.res = true ∧ a.μ.activeSep.isSome = true then n else 0) a.μ b.μ ∧
  (if isMatched a.res = true then TokShift n a.tok b.tok else TokSame a.tok b.tok)

theorem MuShift.zero (ν : MState) : MuShift 0 ν ν := ⟨rfl, rfl, rfl, rfl, rfl⟩

theorem matchTok_of_eof {D : List Dialect} {k : Kind} {μ : MState} {t : Token} (h : t.line = none) :
    matchTok D k μ t =
      if k == .EOF then (⟨setMatched μ t .EOF, μ, .matched⟩, true) else (⟨t, μ, .no⟩, false) := by
  unfold matchTok; rw [h]

theorem LineDec.out_same (d : LineDec) (k : Kind) (μ : MState) (t : Token) {l1 l2 : Str}
    (hI : lineIndent l2 = lineIndent l1) :
    SameMatch (d.out k μ (withLine t l1)) (d.out k μ (withLine t l2)) := by
  have hset : ∀ ν ty tx kw kt ind its, TokSame (setMatched ν (withLine t l1) ty tx kw kt ind its)
      (setMatched ν (withLine t l2) ty tx kw kt ind its) := fun ν ty tx kw kt ind its => by
    cases ind with
    | some i => exact ⟨rfl, rfl, rfl, rfl, rfl, rfl, rfl, rfl, rfl⟩
    | none => exact ⟨rfl, congrArg (fun i => some (i + 1)) hI.symm, rfl, rfl, rfl, rfl, hI.symm, rfl, rfl⟩
  cases d with
  | no => exact ⟨rfl, rfl, tokSame_withLine t l1 l2⟩
  | tagErr c => exact ⟨rfl, rfl, tokSame_withLine t l1 l2⟩
  | hit μs tx kw kt ind its μ' => exact ⟨rfl, rfl, hset ..⟩
  | langErr name =>
    have h := hset μ .Language (some name) none none none []
    exact ⟨congrArg (fun c => MRes.raised ⟨.noSuchLanguage, ⟨t.lineNo, c⟩, lit "Language not supported: " ++ name⟩) h.2.1,
      rfl, h⟩

/-- decision `e` is decision `d` for a line whose indentation, cell columns and tag columns are
    `n` larger: same texts and keyword; an opening delimiter records an indentation `n` larger -/
def DecShift (n : Nat) (k : Kind) : LineDec → LineDec → Prop
  | .no, .no => True
  | .tagErr c, .tagErr c' => c' = c + n
  | .hit μs tx kw kt ind its μ', .hit νs tx' kw' kt' ind' its' ν' =>
    tx' = tx ∧ kw' = kw ∧ kt' = kt ∧ ind = none ∧ ind' = none ∧ its' = shiftItems n its ∧
    νs.name = μs.name ∧
    MuShift (if k = .DocStringSeparator ∧ μ'.activeSep.isSome = true then n else 0) μ' ν'
  | _, _ => False

theorem DecShift.hit {n : Nat} {k : Kind} (hk : k ≠ .DocStringSeparator) (μ : MState) (tx kw : Option Str)
    (kt : Option KType) (its : List (Nat × Str)) :
    DecShift n k (.hit μ tx kw kt none its μ) (.hit μ tx kw kt none (shiftItems n its) μ) :=
  ⟨rfl, rfl, rfl, rfl, rfl, rfl, rfl, by rw [if_neg fun h => hk h.1]; exact MuShift.zero μ⟩

theorem DecShift.out {n : Nat} {k : Kind} {d e : LineDec} (h : DecShift n k d e) (μ : MState) (t : Token)
    {l1 l2 : Str} (hI : lineIndent l2 = lineIndent l1 + n) :
    ShiftMatch n k (d.out k μ (withLine t l1)) (e.out k μ (withLine t l2)) := by
  have hno : ∀ (r : MRes), isMatched r = false →
      MuShift (if k = .DocStringSeparator ∧ isMatched r = true ∧ μ.activeSep.isSome = true then n else 0) μ μ :=
    fun r hr => by rw [if_neg fun h => by rw [hr] at h; exact nomatch h.2.1]; exact MuShift.zero μ
  cases d <;> cases e <;> try exact h.elim
  case no.no => exact ⟨rfl, hno _ rfl, tokSame_withLine t l1 l2⟩
  case tagErr.tagErr c c' =>
    cases h
    generalize hm : lit "A tag may not contain whitespace" = msg
    simp only [LineDec.out, hm]
    exact ⟨rfl, hno _ rfl, tokSame_withLine t l1 l2⟩
  case hit.hit μs tx kw kt ind its μ' νs tx' kw' kt' ind' its' ν' =>
    obtain ⟨rfl, rfl, rfl, rfl, rfl, rfl, hname, hμ⟩ := h
    refine ⟨rfl, ?_, ⟨rfl, ?_, rfl, rfl, rfl, rfl, hI, rfl, hname⟩⟩
    · show MuShift (if k = .DocStringSeparator ∧ isMatched .matched = true ∧ μ'.activeSep.isSome = true
        then n else 0) μ' ν'
      by_cases hc : k = .DocStringSeparator ∧ μ'.activeSep.isSome = true
      · rw [if_pos hc] at hμ; rw [if_pos ⟨hc.1, rfl, hc.2⟩]; exact hμ
      · rw [if_neg hc] at hμ; rw [if_neg fun h => hc ⟨h.1, h.2.2⟩]; exact hμ
    · show some (lineIndent l2 + 1) = some (lineIndent l1 + 1 + n)
      rw [hI, Nat.add_right_comm]

theorem sepDec_indent {ws : Str} (hw : AllSpace ws) (μ : MState) (s sep : Str) (o : Bool) :
    DecShift ws.length .DocStringSeparator (sepDec μ s sep o) (sepDec μ (ws ++ s) sep o) := by
  unfold sepDec
  rw [lineStartsWith_indent hw, restTrimmed_indent hw, lineIndent_indent hw]
  cases lineStartsWith s sep <;> cases o <;>
    first | exact trivial | exact ⟨rfl, rfl, rfl, rfl, rfl, rfl, rfl, rfl, rfl, rfl, rfl, rfl⟩

theorem lineDec_indent (D : List Dialect) {k : Kind} (μ : MState) {ws : Str} (hw : AllSpace ws) (s : Str)
    (hk : k ∈ Spec.structural) :
    DecShift ws.length k (lineDec D k μ s) (lineDec D k μ (ws ++ s)) := by
  by_cases hty : k.isTitle = true
  · rw [lineDec_title hty, lineDec_title hty]
    simp only [lineStartsWithTitle_indent hw, restTrimmed_indent hw]
    cases (μ.dialect.roleKeywords k).find? (fun kw => lineStartsWithTitle s kw) with
    | none => exact trivial
    | some kw => exact DecShift.hit (fun h => by rw [h] at hty; cases hty) ..
  cases k with
  | FeatureLine | RuleLine | BackgroundLine | ScenarioLine | ExamplesLine => exact absurd rfl hty
  | EOF | Comment | Empty | Language | Other => exact absurd hk (by decide)
  | TableRow =>
    dsimp only [lineDec]
    rw [lineStartsWith_indent hw, tableCells_indent hw]
    cases lineStartsWith s [124]
    · exact trivial
    · exact DecShift.hit (by decide) ..
  | StepLine =>
    dsimp only [lineDec]
    simp only [lineStartsWith_indent hw, restTrimmed_indent hw]
    cases μ.dialect.stepKeywords.find? (fun kw => lineStartsWith s kw)
    · exact trivial
    · exact DecShift.hit (by decide) ..
  | TagLine =>
    dsimp only [lineDec]
    rw [lineStartsWith_indent hw, lineTags_indent hw]
    cases lineStartsWith s [64]
    · exact trivial
    · cases lineTags s
      · exact rfl
      · exact DecShift.hit (by decide) ..
  | DocStringSeparator =>
    have hopen : DecShift ws.length .DocStringSeparator (openDec μ s) (openDec μ (ws ++ s)) := by
      unfold openDec
      rw [lineStartsWith_indent hw]
      split <;> exact sepDec_indent hw ..
    dsimp only [lineDec]
    split
    · exact hopen
    · split
      · exact hopen
      · exact sepDec_indent hw ..

theorem startsWith_nil_of_ne {p : Str} (h : p ≠ []) : startsWith p [] = false := by
  cases p with
  | nil => exact absurd rfl h
  | cons c p => rfl

theorem lineStartsWith_blank {l p : Str} (hl : lstrip l = []) (hp : p ≠ []) : lineStartsWith l p = false := by
  unfold lineStartsWith trimmed; rw [hl]; exact startsWith_nil_of_ne hp

theorem lineDec_blank (D : List Dialect) {k : Kind} (μ : MState) {l : Str} (hl : lstrip l = [])
    (hk : k ≠ .Empty ∧ k ≠ .Other) (hstep : k = .StepLine → ∀ kw ∈ μ.dialect.stepKeywords, kw ≠ []) :
    lineDec D k μ l = .no := by
  have no : ∀ {p : Str}, p ≠ [] → lineStartsWith l p = true → False := fun hp hs => by
    rw [lineStartsWith_blank hl hp] at hs; cases hs
  have nolang : languageRe (lineText l none) = none := by
    simp only [lineText, trimmed, languageRe_eq, hl]
    rfl
  rcases lineDec_cases D k μ l with h | h
  · exact h
  · exfalso
    generalize lineDec D k μ l = d at h
    cases h with
    | title _ _ hs => exact no (p := _ ++ [58]) (by simp) hs
    | step hm hs => exact no (hstep rfl _ hm) hs
    | empty => exact hk.1 rfl
    | other => exact hk.2 rfl
    | language hre => rw [nolang] at hre; cases hre
    | langErr hre => rw [nolang] at hre; cases hre
    | sepOpen hsep _ hs => exact no (by rcases hsep with rfl | rfl <;> decide) hs
    | sepClose _ hne hs => exact no (fun h => by rw [h] at hne; cases hne) hs
    | row hs | comment hs | tags hs | tagErr hs => exact no (List.cons_ne_nil _ _) hs

theorem lineDec_blank_empty (D : List Dialect) (μ : MState) {l : Str} (hl : lstrip l = []) :
    lineDec D .Empty μ l = .hit μ none none none (some 0) [] μ := by
  dsimp only [lineDec]
  rw [show lineIsEmpty l = true from congrArg List.isEmpty hl]
  rfl

theorem matchLine_blank_no (D : List Dialect) (k : Kind) (μ : MState) (t : Token) {l : Str}
    (hl : lstrip l = []) (hk : k ≠ .Empty ∧ k ≠ .Other)
    (hstep : k = .StepLine → ∀ kw ∈ μ.dialect.stepKeywords, kw ≠ []) :
    matchLine D k μ t l = ⟨t, μ, .no⟩ := by
  rw [matchLine_eq, lineDec_blank D μ hl hk hstep]
  rfl

def emptyTok (μ : MState) (t : Token) : Token := setMatched μ t .Empty (indent := some 0)

theorem matchLine_blank_empty (D : List Dialect) (μ : MState) (t : Token) {l : Str} (hl : lstrip l = []) :
    matchLine D .Empty μ t l = ⟨setMatched μ t .Empty (indent := some 0), μ, .matched⟩ := by
  rw [matchLine_eq, lineDec_blank_empty D μ hl]
  rfl

theorem lineDec_tail (D : List Dialect) {k : Kind} (μ : MState) {s w : Str} (hs : lstrip s ≠ [])
    (hw : AllSpace w) (hk : k ≠ .Comment ∧ k ≠ .Other)
    (hstep : k = .StepLine → ∀ kw ∈ μ.dialect.stepKeywords, ∀ v, v ≠ [] → v <+: w → kw ≠ lstrip s ++ v)
    (hsep : k = .DocStringSeparator → ∀ sep, μ.activeSep = some sep →
      ∀ v, v ≠ [] → v <+: w → sep ≠ lstrip s ++ v) :
    lineDec D k μ (s ++ w) = lineDec D k μ s := by
  have hc : ∀ c : Nat, isSpace c = false → lineStartsWith (s ++ w) [c] = lineStartsWith s [c] :=
    fun c hc => lineStartsWith_tail_noTrail hw (by intro d hd; cases hd; exact hc)
  by_cases hty : k.isTitle = true
  · simp only [lineDec_title hty, lineStartsWithTitle_tail s hw, restTrimmed_tail s hw]
  cases k with
  | FeatureLine | RuleLine | BackgroundLine | ScenarioLine | ExamplesLine => exact absurd rfl hty
  | Comment => exact absurd rfl hk.1
  | Other => exact absurd rfl hk.2
  | EOF => rfl
  | TableRow => dsimp only [lineDec]; rw [hc 124 (by decide), tableCells_tail hs hw]
  | TagLine => dsimp only [lineDec]; rw [hc 64 (by decide), lineTags_tail hs hw]
  | Empty => dsimp only [lineDec]; rw [lineIsEmpty_tail s hw]
  | StepLine =>
    dsimp only [lineDec]
    simp only [restTrimmed_tail s hw]
    rw [find?_congr' fun kw hkw => lineStartsWith_tail hw (hstep rfl kw hkw)]
  | Language =>
    have : languageRe (lineText (s ++ w) none) = languageRe (lineText s none) := by
      simp only [lineText, trimmed]
      rw [lstrip_append_right hs]
      exact languageRe_tail _ hw
    dsimp only [lineDec]
    rw [this]
  | DocStringSeparator =>
    have h3 : ∀ p : Str, (p = dq3 ∨ p = bt3) → lineStartsWith (s ++ w) p = lineStartsWith s p := by
      rintro p (rfl | rfl) <;> exact lineStartsWith_tail_noTrail hw (by intro c hc; cases hc; decide)
    have hopen : openDec μ (s ++ w) = openDec μ s := by
      simp only [openDec, sepDec, h3 dq3 (.inl rfl), h3 bt3 (.inr rfl), restTrimmed_tail s hw,
        lineIndent_tail hs]
    dsimp only [lineDec]
    split
    · exact hopen
    · split
      · exact hopen
      · next sep hsome _ =>
        simp only [sepDec, lineStartsWith_tail hw (hsep rfl sep hsome), restTrimmed_tail s hw,
          lineIndent_tail hs]

theorem sameMatch_tail (D : List Dialect) (k : Kind) (μ : MState) (t : Token) (s w : Str)
    (hw : AllSpace w) (hk : k ≠ .Comment ∧ k ≠ .Other)
    (hstep : k = .StepLine → ∀ kw ∈ μ.dialect.stepKeywords,
      kw ≠ [] ∧ ∀ v, v ≠ [] → v <+: w → kw ≠ lstrip s ++ v)
    (hsep : k = .DocStringSeparator → ∀ sep, μ.activeSep = some sep →
      ∀ v, v ≠ [] → v <+: w → sep ≠ lstrip s ++ v) :
    SameMatch (matchLine D k μ (withLine t s) s) (matchLine D k μ (withLine t (s ++ w)) (s ++ w)) := by
  rw [matchLine_eq, matchLine_eq]
  by_cases hs : lstrip s = []
  · -- a blank line stays blank: `Empty` does not record the indentation, the others say no
    have hs2 : lstrip (s ++ w) = [] := lstrip_append_nil hs hw
    by_cases hke : k = .Empty
    · subst hke
      rw [lineDec_blank_empty D μ hs, lineDec_blank_empty D μ hs2]
      exact ⟨rfl, rfl, rfl, rfl, rfl, rfl, rfl, rfl, rfl, rfl, rfl⟩
    · have hst := fun h kw hkw => (hstep h kw hkw).1
      rw [lineDec_blank D μ hs ⟨hke, hk.2⟩ hst, lineDec_blank D μ hs2 ⟨hke, hk.2⟩ hst]
      exact ⟨rfl, rfl, tokSame_withLine t s (s ++ w)⟩
  · rw [lineDec_tail D μ hs hw hk (fun h kw hkw => (hstep h kw hkw).2) hsep]
    exact LineDec.out_same _ k μ t (lineIndent_tail hs w)

theorem comment_eol (D : List Dialect) (μ : MState) (t : Token) (s w : Str) (hw : AllEol w) :
    SameMatch (matchLine D .Comment μ (withLine t s) s) (matchLine D .Comment μ (withLine t (s ++ w)) (s ++ w)) := by
  have h : lineStartsWith (s ++ w) [35] = lineStartsWith s [35] :=
    lineStartsWith_tail_noTrail hw.allSpace (by intro c hc; cases hc; decide)
  rw [matchLine_eq, matchLine_eq]
  dsimp only [lineDec]
  rw [h]
  cases lineStartsWith s [35] with
  | false => exact ⟨rfl, rfl, tokSame_withLine t s (s ++ w)⟩
  | true =>
    -- the text of a comment is the line without its trailing CR/LF
    exact ⟨rfl, rfl, rfl, rfl, rfl, congrArg some (rstripCRLF_append_allEol s hw).symm, rfl, rfl, rfl, rfl, rfl⟩

theorem replaceAux_noMatch (p v : Str) {t : Str} (ht : ∀ c ∈ t, c ∉ p) : replaceAux p v t 0 = t := by
  induction t with
  | nil => rfl
  | cons c t ih =>
    have hc : ¬ (startsWith p (c :: t) = true ∧ p ≠ []) := by
      intro ⟨h1, h2⟩
      cases p with
      | nil => exact h2 rfl
      | cons a p =>
        simp only [startsWith, Bool.and_eq_true, beq_iff_eq] at h1
        exact ht c (by simp) (by simp [h1.1])
    simp only [replaceAux, hc, ↓reduceIte, ih (fun d hd => ht d (by simp [hd]))]

theorem replaceAux_append_tail (p v : Str) {t : Str} (ht : ∀ c ∈ t, c ∉ p) (y : Str) (skip : Nat)
    (hskip : skip ≤ y.length) : replaceAux p v (y ++ t) skip = replaceAux p v y skip ++ t := by
  induction y generalizing skip with
  | nil =>
    have : skip = 0 := by simpa using hskip
    subst this
    simpa [replaceAux] using replaceAux_noMatch p v ht
  | cons c y ih =>
    cases skip with
    | succ n => simpa [replaceAux] using ih n (by simpa using hskip)
    | zero =>
      have hsw : startsWith p (c :: y ++ t) = startsWith p (c :: y) := by
        apply startsWith_append_tail
        intro w hw hpre he
        cases w with
        | nil => exact hw rfl
        | cons d w =>
          obtain ⟨r, hr⟩ := hpre
          exact ht d (by rw [← hr]; simp) (by rw [he]; simp)
      simp only [List.cons_append, replaceAux]
      rw [← List.cons_append, hsw]
      by_cases hc : startsWith p (c :: y) = true ∧ p ≠ []
      · have hlen := startsWith_length _ _ hc.1
        simp only [hc, and_self, ↓reduceIte, ne_eq, not_false_eq_true]
        rw [ih (p.length - 1) (by simp at hlen; omega), List.append_assoc]
      · simp only [hc, ↓reduceIte, ih 0 (Nat.zero_le _), List.cons_append]

theorem unescapeDoc_append_eol (sep : Option Str) (y : Str) {v : Str} (hv : AllEol v) :
    unescapeDoc sep (y ++ v) = unescapeDoc sep y ++ v := by
  unfold unescapeDoc replaceAll
  split
  · exact replaceAux_append_tail _ _ (by intro c hc hm; rcases hv c hc with rfl | rfl <;> simp at hm) y 0 (Nat.zero_le _)
  · split
    · exact replaceAux_append_tail _ _ (by intro c hc hm; rcases hv c hc with rfl | rfl <;> simp at hm) y 0 (Nat.zero_le _)
    · rfl

theorem lineText_eol (s w : Str) (hw : AllEol w) (k : Nat) :
    ∃ y v1 v2, AllEol v1 ∧ AllEol v2 ∧ lineText (s ++ w) (some k) = y ++ v1 ∧ lineText s (some k) = y ++ v2 := by
  by_cases hs : lstrip s = []
  · have hsp := allSpace_of_lstrip_nil hs
    have hi1 : lineIndent (s ++ w) = (s ++ w).length := indentOf_allSpace (hsp.append hw.allSpace)
    have hi2 : lineIndent s = s.length := indentOf_allSpace hsp
    simp only [lineText, trimmed, lstrip_append_nil hs hw.allSpace, hs, hi1, hi2]
    by_cases h1 : k > s.length
    · refine ⟨[], if k > (s ++ w).length then [] else (s ++ w).drop k, [], ?_, allEol_nil, by simp, by simp [h1]⟩
      split
      · exact allEol_nil
      · rw [List.drop_append, List.drop_eq_nil_of_le (by omega)]
        simpa using hw.drop _
    · have h2 : ¬ k > (s ++ w).length := by simp; omega
      refine ⟨s.drop k, w, [], hw, allEol_nil, ?_, by simp [h1]⟩
      simp only [h2, ↓reduceIte]
      exact List.drop_append_of_le_length (by omega)
  · have hi1 : lineIndent (s ++ w) = lineIndent s := lineIndent_tail hs w
    simp only [lineText, trimmed, lstrip_append_right hs, hi1]
    by_cases h1 : k > lineIndent s
    · exact ⟨lstrip s, w, [], hw, allEol_nil, by simp [h1], by simp [h1]⟩
    · refine ⟨s.drop k, w, [], hw, allEol_nil, ?_, by simp [h1]⟩
      simp only [h1, ↓reduceIte]
      exact List.drop_append_of_le_length (by have := indentOf_le_length s; unfold lineIndent at h1; omega)

theorem other_eol (D : List Dialect) (μ : MState) (t : Token) (s w : Str) (hw : AllEol w) :
    SameMatch (matchLine D .Other μ (withLine t s) s) (matchLine D .Other μ (withLine t (s ++ w)) (s ++ w)) := by
  obtain ⟨y, v1, v2, h1, h2, e1, e2⟩ := lineText_eol s w hw μ.indentToRemove
  have : rstripCRLF (unescapeDoc μ.activeSep (lineText (s ++ w) (some μ.indentToRemove))) =
      rstripCRLF (unescapeDoc μ.activeSep (lineText s (some μ.indentToRemove))) := by
    rw [e1, e2, unescapeDoc_append_eol _ _ h1, unescapeDoc_append_eol _ _ h2,
      rstripCRLF_append_allEol _ h1, rstripCRLF_append_allEol _ h2]
  simp [matchLine, SameMatch, TokSame, setMatched, withLine, this]

def SepOk (μ : MState) : Prop := ∀ sep, μ.activeSep = some sep → sep = dq3 ∨ sep = bt3

def StepKwOk (μ : MState) : Prop := ∀ kw ∈ μ.dialect.stepKeywords, Spec.stepKeywordOk kw = true

theorem stepKeywordOk_iff (kw : Str) :
    Spec.stepKeywordOk kw = true ↔ kw ≠ [] ∧ kw.getLast? ≠ some 13 ∧ kw.getLast? ≠ some 10 := by
  unfold Spec.stepKeywordOk
  cases kw with
  | nil => simp
  | cons c r => simp

theorem findDialect_mem {D : List Dialect} {name : Str} {d : Dialect} (h : findDialect D name = some d) : d ∈ D :=
  List.mem_of_find?_eq_some h

theorem stepKwOk_of_mem {D : List Dialect} (hD : Spec.stepKeywordsOk D = true) {μ : MState} (h : μ.dialect ∈ D) :
    StepKwOk μ := by
  intro kw hkw
  unfold Spec.stepKeywordsOk at hD
  rw [List.all_eq_true] at hD
  have := hD _ h
  rw [List.all_eq_true] at this
  exact this kw hkw

theorem sane_init {D : List Dialect} {name : Str} {μ : MState}
    (h : MState.init D name = some μ) : SepOk μ ∧ μ.dialect ∈ D := by
  unfold MState.init at h
  cases hf : findDialect D name with
  | none => rw [hf] at h; cases h
  | some d =>
    rw [hf] at h; cases h
    exact ⟨(by intro sep hsep; cases hsep), findDialect_mem hf⟩

theorem sane_reset {D : List Dialect} {μ : MState} (h : μ.dialect ∈ D) :
    SepOk (μ.reset D) ∧ (μ.reset D).dialect ∈ D := by
  unfold MState.reset
  refine ⟨(by intro sep hsep; cases hsep), ?_⟩
  simp only
  split
  · split
    · rename_i d hd; exact findDialect_mem hd
    · exact h
  · exact h

theorem matchLine_μ (D : List Dialect) (k : Kind) (μ : MState) (t : Token) (l : Str) :
    (matchLine D k μ t l).μ = μ ∨
    (∃ name d, languageRe (lineText l none) = some name ∧ findDialect D name = some d ∧
      (matchLine D k μ t l).μ = { μ with name := name, dialect := d }) ∨
    (∃ sep i, (sep = none ∨ sep = some dq3 ∨ sep = some bt3) ∧
      (matchLine D k μ t l).μ = { μ with activeSep := sep, indentToRemove := i }) := by
  rw [matchLine_eq]
  rcases lineDec_cases D k μ l with h | h
  · rw [h]; exact .inl rfl
  · generalize lineDec D k μ l = d at h
    cases h with
    | language hre hd => exact .inr (.inl ⟨_, _, hre, hd, rfl⟩)
    | sepOpen hsep =>
      exact .inr (.inr ⟨_, _, .inr (hsep.elim (fun h => .inl (congrArg some h)) fun h => .inr (congrArg some h)),
        rfl⟩)
    | sepClose => exact .inr (.inr ⟨_, _, .inl rfl, rfl⟩)
    | _ => exact .inl rfl

theorem sane_matchLine (D : List Dialect) (k : Kind) (μ : MState) (t : Token) (l : Str)
    (h : SepOk μ ∧ μ.dialect ∈ D) :
    SepOk (matchLine D k μ t l).μ ∧ (matchLine D k μ t l).μ.dialect ∈ D := by
  rcases matchLine_μ D k μ t l with e | ⟨name, d, -, hd, e⟩ | ⟨sep, i, hs, e⟩ <;> rw [e]
  · exact h
  · exact ⟨h.1, findDialect_mem hd⟩
  · refine ⟨fun x hx => ?_, h.2⟩
    rcases hs with rfl | rfl | rfl
    · cases hx
    · cases hx; exact .inl rfl
    · cases hx; exact .inr rfl

theorem sepOk_noTrail {μ : MState} (h : SepOk μ) {sep : Str} (hs : μ.activeSep = some sep) : NoTrailWs sep := by
  rcases h sep hs with rfl | rfl <;> (intro c hc; cases hc; decide)

/-- no step keyword is empty or is the trimmed line `s` followed by more whitespace (then
    appending whitespace to `s` could turn a non-step line into a step line, or make a longer
    keyword match) -/
def StepTailFree (μ : MState) (s : Str) : Prop :=
  ∀ kw ∈ μ.dialect.stepKeywords, kw ≠ [] ∧ ∀ v, v ≠ [] → AllSpace v → kw ≠ lstrip s ++ v

def stepTailFreeB (kws : List Str) (s : Str) : Bool :=
  kws.all fun kw => !kw.isEmpty &&
    !(startsWith (lstrip s) kw && decide ((lstrip s).length < kw.length) && (kw.drop (lstrip s).length).all isSpace)

theorem stepTailFree_of_B {μ : MState} {s : Str} (h : stepTailFreeB μ.dialect.stepKeywords s = true) :
    StepTailFree μ s := by
  intro kw hkw
  unfold stepTailFreeB at h
  rw [List.all_eq_true] at h
  have h1 := h kw hkw
  simp only [Bool.and_eq_true, Bool.not_eq_true', List.isEmpty_eq_false_iff] at h1
  refine ⟨h1.1, fun v hv hsp he => ?_⟩
  have h2 := h1.2
  rw [he, startsWith_append] at h2
  have hlen : (lstrip s).length < (lstrip s ++ v).length := by
    cases v with
    | nil => exact absurd rfl hv
    | cons c v => simp
  have hall : (List.drop (lstrip s).length (lstrip s ++ v)).all isSpace = true := by
    rw [List.drop_left, List.all_eq_true]; exact hsp
  have hd : decide ((lstrip s).length < (lstrip s ++ v).length) = true := by simpa using hlen
  rw [hall, hd] at h2
  cases h2

theorem sameMatch_eol (D : List Dialect) (k : Kind) (μ : MState) (t : Token) (s w : Str)
    (hw : AllEol w) (hkw : StepKwOk μ) (hsep : SepOk μ) :
    SameMatch (matchLine D k μ (withLine t s) s) (matchLine D k μ (withLine t (s ++ w)) (s ++ w)) := by
  by_cases hc : k = .Comment
  · subst hc; exact comment_eol D μ t s w hw
  by_cases ho : k = .Other
  · subst ho; exact other_eol D μ t s w hw
  refine sameMatch_tail D k μ t s w hw.allSpace ⟨hc, ho⟩ ?_ ?_
  · intro _ kw hmem
    have hok := (stepKeywordOk_iff kw).1 (hkw kw hmem)
    refine ⟨hok.1, fun v hv hpre => ?_⟩
    obtain ⟨r, rfl⟩ := hpre
    refine ne_append_of_getLast (P := fun c => c = 13 ∨ c = 10) ?_ (fun c hcv => hw c (by simp [hcv])) hv
    intro c hcl h
    rcases h with rfl | rfl
    · exact hok.2.1 hcl
    · exact hok.2.2 hcl
  · exact fun _ sep hs v hv hpre => (sepOk_noTrail hsep hs).ne_append (hw.allSpace.of_prefix hpre) hv

theorem sameMatch_eol2 (D : List Dialect) (k : Kind) (μ : MState) (t : Token) (s w1 w2 : Str)
    (h1 : AllEol w1) (h2 : AllEol w2) (hkw : StepKwOk μ) (hsep : SepOk μ) :
    SameMatch (matchLine D k μ (withLine t (s ++ w1)) (s ++ w1))
      (matchLine D k μ (withLine t (s ++ w2)) (s ++ w2)) :=
  (sameMatch_eol D k μ t s w1 h1 hkw hsep).symm.trans (sameMatch_eol D k μ t s w2 h2 hkw hsep)

theorem sameMatch_blanks (D : List Dialect) (k : Kind) (μ : MState) (t : Token) (s w1 w2 : Str)
    (h1 : AllSpace w1) (h2 : AllSpace w2) (hk : k ≠ .Comment ∧ k ≠ .Other)
    (hstep : k = .StepLine → StepTailFree μ s) (hsep : SepOk μ) :
    SameMatch (matchLine D k μ (withLine t (s ++ w1)) (s ++ w1))
      (matchLine D k μ (withLine t (s ++ w2)) (s ++ w2)) := by
  have key : ∀ w, AllSpace w →
      SameMatch (matchLine D k μ (withLine t s) s) (matchLine D k μ (withLine t (s ++ w)) (s ++ w)) := by
    intro w hw
    refine sameMatch_tail D k μ t s w hw hk ?_ ?_
    · intro hks kw hmem
      exact ⟨(hstep hks kw hmem).1, fun v hv hpre => (hstep hks kw hmem).2 v hv (hw.of_prefix hpre)⟩
    · exact fun _ sep hs v hv hpre => (sepOk_noTrail hsep hs).ne_append (hw.of_prefix hpre) hv
  exact (key w1 h1).symm.trans (key w2 h2)

/-- the error for an unexpected line quotes `strip`, so a whitespace tail is invisible; its column
    is the line's own indentation unless a matcher set one, so the line must not be blank -/
theorem unexpectedErr_tail (row : StateRow) (t : Token) (s w : Str) (hw : AllSpace w) (hs : lstrip s ≠ []) :
    unexpectedErr row (withLine t (s ++ w)) = unexpectedErr row (withLine t s) := by
  simp only [unexpectedErr, withLine, stripTrimmed_tail s hw, lineIndent_tail hs, Token.loc]

theorem unexpectedErr_of_strip (row : StateRow) (t : Token) {l1 l2 : Str}
    (h : strip (trimmed l2) = strip (trimmed l1)) :
    (unexpectedErr row (withLine t l2)).body = (unexpectedErr row (withLine t l1)).body ∧
    (unexpectedErr row (withLine t l2)).loc.line = (unexpectedErr row (withLine t l1)).loc.line ∧
    (unexpectedErr row (withLine t l2)).kind = (unexpectedErr row (withLine t l1)).kind := by
  simp only [unexpectedErr, withLine, h, Token.loc]
  cases t.col with
  | none => simp
  | some c => by_cases hc : (c == 0) = true <;> simp [hc]

theorem unexpectedErr_tail_body (row : StateRow) (t : Token) (s w : Str) (hw : AllSpace w) :
    (unexpectedErr row (withLine t (s ++ w))).body = (unexpectedErr row (withLine t s)).body ∧
    (unexpectedErr row (withLine t (s ++ w))).loc.line = (unexpectedErr row (withLine t s)).loc.line ∧
    (unexpectedErr row (withLine t (s ++ w))).kind = (unexpectedErr row (withLine t s)).kind :=
  unexpectedErr_of_strip row t (stripTrimmed_tail s hw)

theorem unexpectedErr_indent (row : StateRow) (t : Token) (ws s : Str) (hw : AllSpace ws) :
    (unexpectedErr row (withLine t (ws ++ s))).body = (unexpectedErr row (withLine t s)).body ∧
    (unexpectedErr row (withLine t (ws ++ s))).loc.line = (unexpectedErr row (withLine t s)).loc.line :=
  have h := unexpectedErr_of_strip row t (congrArg strip (trimmed_indent hw s))
  ⟨h.1, h.2.1⟩

theorem shiftMatch_indent (D : List Dialect) (k : Kind) (μ : MState) (t : Token) (ws s : Str)
    (hw : AllSpace ws) (hk : k ∈ Spec.structural) :
    ShiftMatch ws.length k (matchLine D k μ (withLine t s) s) (matchLine D k μ (withLine t (ws ++ s)) (ws ++ s)) := by
  rw [matchLine_eq, matchLine_eq]
  exact (lineDec_indent D μ hw s hk).out μ t (lineIndent_indent hw s)

theorem lineText_indent {ws : Str} (h : AllSpace ws) (s : Str) (k : Nat) :
    lineText (ws ++ s) (some (k + ws.length)) = lineText s (some k) := by
  simp only [lineText, lineIndent_indent h, trimmed_indent h]
  have e : (ws ++ s).drop (k + ws.length) = s.drop k := by
    rw [List.drop_append]
    simp
  by_cases hk : k > lineIndent s
  · have : k + ws.length > lineIndent s + ws.length := by omega
    simp [hk, this]
  · have : ¬ k + ws.length > lineIndent s + ws.length := by omega
    simp [hk, this, e]

/-- a content line of a doc string whose opening delimiter was indented by the same whitespace:
    the text has the recorded indentation removed -/
theorem other_indent (D : List Dialect) (μ : MState) (t : Token) (ws s : Str) (hw : AllSpace ws) :
    let μ' : MState := { μ with indentToRemove := μ.indentToRemove + ws.length }
    let a := matchLine D .Other μ (withLine t s) s
    let b := matchLine D .Other μ' (withLine t (ws ++ s)) (ws ++ s)
    a.res = b.res ∧ TokSame a.tok b.tok ∧ a.μ = μ ∧ b.μ = μ' := by
  simp [matchLine, TokSame, setMatched, withLine, lineText_indent hw]

/-- a closing delimiter does not look at the recorded indentation and resets it -/
theorem docsep_close_indent_free (D : List Dialect) (μ : MState) (t : Token) (l sep : Str) (i : Nat)
    (hsep : μ.activeSep = some sep) (hne : sep.isEmpty = false) :
    let a := matchLine D .DocStringSeparator μ t l
    let b := matchLine D .DocStringSeparator { μ with indentToRemove := i } t l
    a.res = b.res ∧ a.tok = b.tok ∧ (isMatched a.res = true → a.μ = b.μ) := by
  have e : ∀ ν : MState, ν.activeSep = some sep → lineDec D .DocStringSeparator ν l = sepDec ν l sep false :=
    fun ν hν => by simp only [lineDec, hν, hne, Bool.false_eq_true, if_false]
  rw [matchLine_eq, matchLine_eq, e μ hsep, e { μ with indentToRemove := i } hsep]
  unfold sepDec
  cases lineStartsWith l sep with
  | false => exact ⟨rfl, rfl, fun h => nomatch h⟩
  | true => exact ⟨rfl, rfl, fun _ => rfl⟩

theorem splitLines_append_lf {src : Str} (hne : src ≠ []) (hlast : src.getLast? ≠ some 10) :
    ∃ init last, splitLines src = init ++ [last] ∧ splitLines (src ++ [10]) = init ++ [last ++ [10]] := by
  induction src with
  | nil => exact absurd rfl hne
  | cons c cs ih =>
    by_cases hcs : cs = []
    · subst hcs
      have hc : (c == 10) = false := by
        simp only [List.getLast?_singleton, ne_eq, Option.some.injEq] at hlast
        simpa using hlast
      exact ⟨[], [c], by simp [splitLines, hc], by simp [splitLines, hc]⟩
    · have hl : cs.getLast? ≠ some 10 := by
        rw [List.getLast?_cons_of_ne_nil hcs] at hlast; exact hlast
      obtain ⟨init, last, e1, e2⟩ := ih hcs hl
      by_cases hc : (c == 10) = true
      · exact ⟨[10] :: init, last, by simp [splitLines, hc, e1], by simp [splitLines, hc, e2]⟩
      · cases init with
        | nil => exact ⟨[], c :: last, by simp [splitLines, hc, e1], by simp [splitLines, hc, e2]⟩
        | cons a r => exact ⟨(c :: a) :: r, last, by simp [splitLines, hc, e1], by simp [splitLines, hc, e2]⟩

theorem _root_.GV.splitLines_append_of_lf : ∀ (s1 s2 : Str), (s1 = [] ∨ s1.getLast? = some 10) →
    splitLines (s1 ++ s2) = splitLines s1 ++ splitLines s2
  | [], s2, _ => by simp [splitLines]
  | c :: cs, s2, h => by
    have hlast : (c :: cs).getLast? = some 10 := by
      rcases h with h | h
      · cases h
      · exact h
    have hcs : cs = [] ∨ cs.getLast? = some 10 := by
      cases cs with
      | nil => exact .inl rfl
      | cons d ds => right; simpa [List.getLast?_cons_cons] using hlast
    have ih := splitLines_append_of_lf cs s2 hcs
    by_cases hc : (c == 10) = true
    · simp only [List.cons_append, splitLines, hc, ↓reduceIte, ih]
    · have hne : cs ≠ [] := by
        intro e; subst e
        simp only [List.getLast?_singleton, Option.some.injEq] at hlast
        subst hlast
        exact hc rfl
      have hsp : splitLines cs ≠ [] := by
        cases cs with
        | nil => exact absurd rfl hne
        | cons d ds =>
          unfold splitLines
          split
          · simp
          · split <;> simp
      simp only [List.cons_append, splitLines, hc, Bool.false_eq_true, ↓reduceIte, ih]
      cases hs : splitLines cs with
      | nil => exact absurd hs hsp
      | cons l ls => simp

theorem _root_.GV.splitLines_one_line : ∀ (ws : Str), 10 ∉ ws → splitLines (ws ++ [10]) = [ws ++ [10]]
  | [], _ => by decide
  | c :: cs, h => by
    have hc : (c == 10) = false := by
      simp only [List.mem_cons, not_or] at h
      simpa using fun e => h.1 e.symm
    have ih := splitLines_one_line cs (fun hm => h (List.mem_cons_of_mem _ hm))
    simp only [List.cons_append, splitLines, hc, Bool.false_eq_true, ↓reduceIte, ih]

theorem _root_.GV.splitLines_insert_line (s1 s2 c : Str) (hs1 : s1 = [] ∨ s1.getLast? = some 10) (hlf : 10 ∉ c) :
    splitLines (s1 ++ (c ++ [10]) ++ s2) = splitLines s1 ++ (c ++ [10]) :: splitLines s2 := by
  rw [List.append_assoc, splitLines_append_of_lf s1 _ hs1,
    splitLines_append_of_lf (c ++ [10]) s2 (.inr (by simp)), splitLines_one_line c hlf]
  rfl

theorem splitLines_append_lf_after_lf {src : Str} (h : src = [] ∨ src.getLast? = some 10) :
    splitLines (src ++ [10]) = splitLines src ++ [[10]] :=
  splitLines_append_of_lf src [10] h

def toCRLF : Str → Str
  | [] => []
  | c :: cs => if c == 10 then 13 :: 10 :: toCRLF cs else c :: toCRLF cs

theorem splitLines_toCRLF (src : Str) : splitLines (toCRLF src) = (splitLines src).map toCRLF := by
  induction src with
  | nil => rfl
  | cons c cs ih =>
    by_cases hc : (c == 10) = true
    · have : c = 10 := by simpa using hc
      subst this
      simp [toCRLF, splitLines, ih]
    · have hc' : (c == 10) = false := by simpa using hc
      have e : toCRLF (c :: cs) = c :: toCRLF cs := by simp [toCRLF, hc']
      rw [e]
      simp only [splitLines, hc', ih]
      cases splitLines cs <;> simp [toCRLF, hc']

theorem splitLines_line_shape {src l : Str} (h : l ∈ splitLines src) :
    ∃ b, 10 ∉ b ∧ (l = b ++ [10] ∨ l = b) := by
  induction src generalizing l with
  | nil => cases h
  | cons c cs ih =>
    by_cases hc : (c == 10) = true
    · simp only [splitLines, hc, ↓reduceIte, List.mem_cons] at h
      rcases h with rfl | h
      · exact ⟨[], by simp, Or.inl rfl⟩
      · exact ih h
    · have hc' : c ≠ 10 := by simpa using hc
      simp only [splitLines, hc] at h
      cases hsp : splitLines cs with
      | nil =>
        rw [hsp] at h
        simp only [Bool.false_eq_true, ↓reduceIte, List.mem_singleton] at h
        exact ⟨[c], by simp; exact fun e => hc' e.symm, Or.inr h⟩
      | cons l0 ls =>
        rw [hsp] at h
        simp only [Bool.false_eq_true, ↓reduceIte, List.mem_cons] at h
        rcases h with rfl | h
        · obtain ⟨b, hb, hl0⟩ := ih (l := l0) (by rw [hsp]; simp)
          refine ⟨c :: b, by simp; exact ⟨fun e => hc' e.symm, hb⟩, ?_⟩
          rcases hl0 with rfl | rfl
          · exact Or.inl rfl
          · exact Or.inr rfl
        · exact ih (by rw [hsp]; simp [h])

theorem toCRLF_noLF {b : Str} (h : 10 ∉ b) : toCRLF b = b := by
  induction b with
  | nil => rfl
  | cons c b ih =>
    have hc : (c == 10) = false := by
      have : c ≠ 10 := fun e => h (by simp [e])
      simpa using this
    simp [toCRLF, hc, ih (fun hm => h (by simp [hm]))]

theorem toCRLF_line {b : Str} (h : 10 ∉ b) : toCRLF (b ++ [10]) = b ++ [13, 10] := by
  induction b with
  | nil => rfl
  | cons c b ih =>
    have hc : (c == 10) = false := by
      have : c ≠ 10 := fun e => h (by simp [e])
      simpa using this
    simp [toCRLF, hc, ih (fun hm => h (by simp [hm]))]

/-- run of the table over `pre` when `post` follows (look-aheads see through to `post`):
    the state reached and the events so far -/
def runPrefix (T : Table) : Nat → List Kind → List Kind → Option (Nat × List Ev)
  | s, [], _ => some (s, [])
  | s, k :: ks, post =>
    match stepAbs T s k (ks ++ post) with
    | none => none
    | some b =>
      match runPrefix T b.target ks post with
      | none => none
      | some (s', evs) => some (s', prodEvents b.kind b.prods ++ evs)

theorem runAbs_append (T : Table) (s : Nat) (pre post : List Kind) :
    runAbs T s (pre ++ post) =
      match runPrefix T s pre post with
      | none => none
      | some (s', e1) =>
        match runAbs T s' post with
        | none => none
        | some (s'', e2) => some (s'', e1 ++ e2) := by
  induction pre generalizing s with
  | nil =>
    simp only [List.nil_append, runPrefix]
    cases runAbs T s post with
    | none => rfl
    | some r => rfl
  | cons k ks ih =>
    simp only [List.cons_append, runAbs, runPrefix]
    cases stepAbs T s k (ks ++ post) with
    | none => rfl
    | some b =>
      simp only [ih]
      cases runPrefix T b.target ks post with
      | none => rfl
      | some r =>
        obtain ⟨s', e1⟩ := r
        simp only []
        cases runAbs T s' post with
        | none => rfl
        | some r2 => simp

theorem passes_empty (K : Kind) : passes .Empty K = (K == .Empty || K == .Other) := by
  cases K <;> rfl

theorem passes_comment (K : Kind) : passes .Comment K = (K == .Comment || K == .Other) := by
  cases K <;> rfl

def Skips (e : Kind) (la : LookAhead) : Prop :=
  la.skip.contains e = true ∧ la.expected.contains e = false ∧ la.expected.contains .Other = false

theorem peekAbs_skip_cons {e : Kind} (he : ∀ K, passes e K = (K == e || K == .Other)) {la : LookAhead}
    (h : Skips e la) (ks : List Kind) : peekAbs la (e :: ks) = peekAbs la ks := by
  have h1 : la.expected.any (passes e) = false := by
    rw [List.any_eq_false]
    intro K hK hp
    rw [he] at hp
    simp only [Bool.or_eq_true, beq_iff_eq] at hp
    rcases hp with rfl | rfl
    · have := h.2.1; simp [hK] at this
    · have := h.2.2; simp [hK] at this
  have h2 : la.skip.any (passes e) = true := by
    rw [List.any_eq_true]
    exact ⟨e, by simpa using h.1, by rw [he]; simp⟩
  simp [peekAbs, h1, h2]

theorem peekAbs_insert {e : Kind} (he : ∀ K, passes e K = (K == e || K == .Other)) {la : LookAhead}
    (h : Skips e la) (ks1 ks2 : List Kind) : peekAbs la (ks1 ++ e :: ks2) = peekAbs la (ks1 ++ ks2) := by
  induction ks1 with
  | nil => exact peekAbs_skip_cons he h ks2
  | cons k ks ih => simp only [List.cons_append, peekAbs, ih]

theorem peekAbs_insert_empty {la : LookAhead} (h : Skips .Empty la) (ks1 ks2 : List Kind) :
    peekAbs la (ks1 ++ .Empty :: ks2) = peekAbs la (ks1 ++ ks2) := peekAbs_insert passes_empty h ks1 ks2

theorem skipsEmpty_of_fact {T : Table} (hL : Spec.lookaheadsSkipEmpty T = true) :
    ∀ la ∈ T.lookaheads, Skips .Empty la := by
  intro la hla
  unfold Spec.lookaheadsSkipEmpty at hL
  rw [List.all_eq_true] at hL
  have := hL la hla
  simp only [Bool.and_eq_true, Bool.not_eq_true'] at this
  exact ⟨this.1.1, this.1.2, this.2⟩

theorem skipsComment_of_fact {T : Table} (hL : Spec.lookaheadsSkipComment T = true) :
    ∀ la ∈ T.lookaheads, Skips .Comment la := by
  intro la hla
  unfold Spec.lookaheadsSkipComment at hL
  rw [List.all_eq_true] at hL
  have := hL la hla
  simp only [Bool.and_eq_true, Bool.not_eq_true'] at this
  exact ⟨this.1.1, this.1.2, this.2⟩

section insert
variable {T : Table} {e : Kind} (he : ∀ K, passes e K = (K == e || K == .Other))
  (hL : ∀ la ∈ T.lookaheads, Skips e la)
include he hL

theorem guardOkAbs_insert (b : Branch) (ks1 ks2 : List Kind) :
    guardOkAbs T b (ks1 ++ e :: ks2) = guardOkAbs T b (ks1 ++ ks2) := by
  unfold guardOkAbs
  cases b.guard with
  | none => rfl
  | some i =>
    simp only []
    cases hla : T.lookaheads[i]? with
    | none => rfl
    | some la => exact peekAbs_insert he (hL la (List.mem_of_getElem? hla)) ks1 ks2

theorem pickBranch_insert (k : Kind) (ks1 ks2 : List Kind) (bs : List Branch) :
    pickBranch T k (ks1 ++ e :: ks2) bs = pickBranch T k (ks1 ++ ks2) bs := by
  induction bs with
  | nil => rfl
  | cons b bs ih => simp only [pickBranch, guardOkAbs_insert he hL, ih]

theorem stepAbs_insert (s : Nat) (k : Kind) (ks1 ks2 : List Kind) :
    stepAbs T s k (ks1 ++ e :: ks2) = stepAbs T s k (ks1 ++ ks2) := by
  unfold stepAbs
  cases T.row? s with
  | none => rfl
  | some row => exact pickBranch_insert he hL k ks1 ks2 row.branches

theorem runPrefix_insert (s : Nat) (pre post : List Kind) :
    runPrefix T s pre (e :: post) = runPrefix T s pre post := by
  induction pre generalizing s with
  | nil => rfl
  | cons k ks ih => simp only [runPrefix, stepAbs_insert he hL, ih]

end insert

theorem runPrefix_insert_empty {T : Table} (hL : Spec.lookaheadsSkipEmpty T = true) (s : Nat)
    (pre post : List Kind) : runPrefix T s pre (.Empty :: post) = runPrefix T s pre post :=
  runPrefix_insert passes_empty (skipsEmpty_of_fact hL) s pre post

theorem pickBranch_of_find {T : Table} {k : Kind} {fut : List Kind} {bs : List Branch} {b0 : Branch}
    (hf : bs.find? (fun b => passes k b.kind) = some b0) (hg : guardOkAbs T b0 fut = true) :
    pickBranch T k fut bs = some b0 := by
  induction bs with
  | nil => cases hf
  | cons b bs ih =>
    simp only [List.find?] at hf
    cases hp : passes k b.kind with
    | true =>
      rw [hp] at hf; cases hf
      simp [pickBranch, hp, hg]
    | false =>
      rw [hp] at hf
      simp [pickBranch, hp, ih hf]

theorem emptyFirst_spec {T : Table} (hE : Spec.emptySelfLoop T = true) {s : Nat}
    (hs : Spec.emptyFirst T s = true) :
    ∃ row b0, T.row? s = some row ∧ row.branches.find? Spec.emptyTest = some b0 ∧ b0.kind = .Empty ∧
      b0.target = s ∧ b0.prods = [.build] ∧ b0.guard = none := by
  unfold Spec.emptyFirst at hs
  cases hrow : T.row? s with
  | none => rw [hrow] at hs; cases hs
  | some row =>
    rw [hrow] at hs
    simp only [] at hs
    cases hfind : row.branches.find? Spec.emptyTest with
    | none => rw [hfind] at hs; cases hs
    | some b0 =>
      rw [hfind] at hs
      have hk : b0.kind = .Empty := by simpa using hs
      have hid : row.id = s := by simpa using List.find?_some hrow
      unfold Spec.emptySelfLoop at hE
      rw [List.all_eq_true] at hE
      have h1 := hE row (List.mem_of_find?_eq_some hrow)
      rw [List.all_eq_true] at h1
      have h2 := h1 b0 (List.mem_of_find?_eq_some hfind)
      simp only [hk, bne_self_eq_false, Bool.false_or, Bool.and_eq_true, beq_iff_eq] at h2
      exact ⟨row, b0, rfl, hfind, hk, by rw [h2.1.1, hid], h2.1.2, by simpa using h2.2⟩

theorem stepAbs_empty {T : Table} (hE : Spec.emptySelfLoop T = true) {s : Nat}
    (hs : Spec.emptyFirst T s = true) (fut : List Kind) :
    ∃ b, stepAbs T s .Empty fut = some b ∧ b.kind = .Empty ∧ b.target = s ∧ b.prods = [.build] := by
  obtain ⟨row, b0, hrow, hfind, hk, ht, hp, hg⟩ := emptyFirst_spec hE hs
  have hf : row.branches.find? (fun b => passes .Empty b.kind) = some b0 := by
    have : (fun b : Branch => passes .Empty b.kind) = Spec.emptyTest := by
      funext b; rw [passes_empty]; rfl
    rw [this]; exact hfind
  refine ⟨b0, ?_, hk, ht, hp⟩
  unfold stepAbs
  rw [hrow]
  exact pickBranch_of_find hf (by simp [guardOkAbs, hg])

theorem runAbs_insert_empty {T : Table} (hE : Spec.emptySelfLoop T = true)
    (hL : Spec.lookaheadsSkipEmpty T = true) (s : Nat) (pre post : List Kind) (s' : Nat) (e1 : List Ev)
    (hp : runPrefix T s pre post = some (s', e1)) (hs : Spec.emptyFirst T s' = true) :
    runAbs T s (pre ++ .Empty :: post) = (runAbs T s' post).map (fun r => (r.1, e1 ++ .build .Empty :: r.2)) ∧
    runAbs T s (pre ++ post) = (runAbs T s' post).map (fun r => (r.1, e1 ++ r.2)) := by
  constructor
  · rw [runAbs_append, runPrefix_insert_empty hL, hp]
    obtain ⟨b, hb, hk, ht, hpr⟩ := stepAbs_empty hE hs post
    simp only [runAbs, hb, ht, hk, hpr]
    cases runAbs T s' post with
    | none => rfl
    | some r => simp [prodEvents]
  · rw [runAbs_append, hp]
    simp only []
    cases runAbs T s' post <;> simp

theorem runAbs_insert_empty_none {T : Table} (hL : Spec.lookaheadsSkipEmpty T = true) (s : Nat)
    (pre post : List Kind) (hp : runPrefix T s pre post = none) :
    runAbs T s (pre ++ .Empty :: post) = none ∧ runAbs T s (pre ++ post) = none := by
  constructor
  · rw [runAbs_append, runPrefix_insert_empty hL, hp]
  · rw [runAbs_append, hp]

theorem emptyFirst_of_tests {T : Table} (hB : Spec.emptyBeforeOther T = true) {s : Nat} {row : StateRow}
    (hrow : T.row? s = some row) (ht : row.branches.any (·.kind == .Empty) = true) :
    Spec.emptyFirst T s = true := by
  have hrowmem : row ∈ T.rows := List.mem_of_find?_eq_some hrow
  have hid : row.id = s := by
    have := List.find?_some hrow
    simpa using this
  unfold Spec.emptyBeforeOther at hB
  rw [List.all_eq_true] at hB
  have := hB row hrowmem
  rw [ht, hid] at this
  simpa using this

theorem pickBranch_filter (T : Table) (k : Kind) (fut : List Kind) (bs : List Branch) :
    pickBranch T k fut bs = pickBranch T k fut (bs.filter fun b => passes k b.kind) := by
  induction bs with
  | nil => rfl
  | cons b bs ih =>
    cases hp : passes k b.kind with
    | true => simp only [List.filter, hp, pickBranch, ih]
    | false => simp only [List.filter, hp, pickBranch, ih, Bool.false_and]; rfl

theorem guardOkAbs_congr (T : Table) {b b' : Branch} (h : b.guard = b'.guard) (fut : List Kind) :
    guardOkAbs T b fut = guardOkAbs T b' fut := by
  unfold guardOkAbs; rw [h]

theorem pickBranch_view (T : Table) (k : Kind) (fut : List Kind) (bs bs' : List Branch)
    (h : bs.map Spec.branchView = bs'.map Spec.branchView) :
    (pickBranch T k fut bs = none ∧ pickBranch T k fut bs' = none) ∨
    ∃ b b', pickBranch T k fut bs = some b ∧ pickBranch T k fut bs' = some b' ∧
      Spec.branchView b' = Spec.branchView b := by
  induction bs generalizing bs' with
  | nil =>
    cases bs' with
    | nil => exact Or.inl ⟨rfl, rfl⟩
    | cons b' r => cases h
  | cons b r ih =>
    cases bs' with
    | nil => cases h
    | cons b' r' =>
      simp only [List.map_cons, List.cons.injEq] at h
      have hk : b.kind = b'.kind := congrArg (·.1) h.1
      have hg : b.guard = b'.guard := congrArg (·.2.1) h.1
      simp only [pickBranch, hk, guardOkAbs_congr T hg fut]
      cases passes k b'.kind && guardOkAbs T b' fut with
      | true => exact Or.inr ⟨b, b', rfl, rfl, h.1.symm⟩
      | false => exact ih r' h.2

theorem stepAbs_view {T : Table} {r r' : Nat} {row row' : StateRow} (hr : T.row? r = some row)
    (hr' : T.row? r' = some row') {k : Kind} (hv : Spec.viewOf k row = Spec.viewOf k row') (fut : List Kind) :
    (stepAbs T r k fut = none ∧ stepAbs T r' k fut = none) ∨
    ∃ b b', stepAbs T r k fut = some b ∧ stepAbs T r' k fut = some b' ∧
      Spec.branchView b' = Spec.branchView b := by
  unfold stepAbs
  rw [hr, hr']
  simp only []
  rw [pickBranch_filter T k fut row.branches, pickBranch_filter T k fut row'.branches]
  exact pickBranch_view T k fut _ _ hv

theorem commentBefore_at {T : Table} (hC : Spec.commentBefore T = true) {s : Nat}
    (hs : Spec.commentFirst T s = true) :
    ∃ row c row', T.row? s = some row ∧ row.branches.find? (fun b => passes .Comment b.kind) = some c ∧
      c.kind = .Comment ∧ c.guard = none ∧ Spec.dropDescr c.prods = [.build] ∧
      T.row? c.target = some row' ∧ ∀ k ∈ Spec.structural, Spec.viewOf k row = Spec.viewOf k row' := by
  unfold Spec.commentFirst at hs
  cases hrow : T.row? s with
  | none => rw [hrow] at hs; cases hs
  | some row =>
    rw [hrow] at hs
    simp only [] at hs
    cases hc : Spec.commentBranch row with
    | none => rw [hc] at hs; cases hs
    | some c =>
      rw [hc] at hs
      have hk : c.kind = .Comment := by simpa using hs
      have hrowmem : row ∈ T.rows := List.mem_of_find?_eq_some hrow
      unfold Spec.commentBefore at hC
      rw [List.all_eq_true] at hC
      have h1 := hC row hrowmem
      rw [hc] at h1
      simp only [hk, bne_self_eq_false, Bool.false_or, Bool.and_eq_true, beq_iff_eq] at h1
      cases hrow' : T.row? c.target with
      | none => rw [hrow'] at h1; simp at h1
      | some row' =>
        rw [hrow'] at h1
        refine ⟨row, c, row', rfl, hc, hk, h1.1.1, h1.1.2, hrow', ?_⟩
        intro k hk'
        have := h1.2
        rw [List.all_eq_true] at this
        simpa using this k hk'

def dropDescrEv (evs : List Ev) : List Ev :=
  evs.filter fun e => !(e == .start .Description || e == .end_ .Description)

theorem prodEvents_dropDescr (k : Kind) (ps : List Prod) :
    prodEvents k (Spec.dropDescr ps) = dropDescrEv (prodEvents k ps) := by
  induction ps with
  | nil => rfl
  | cons p ps ih =>
    cases p with
    | build => simp [Spec.dropDescr, prodEvents, dropDescrEv, ih]
    | start r =>
      by_cases hr : r = .Description
      · subst hr; simp [Spec.dropDescr, prodEvents, dropDescrEv, ih]
      · simp [Spec.dropDescr, prodEvents, dropDescrEv, ih, hr]
    | end_ r =>
      by_cases hr : r = .Description
      · subst hr; simp [Spec.dropDescr, prodEvents, dropDescrEv, ih]
      · simp [Spec.dropDescr, prodEvents, dropDescrEv, ih, hr]

/-- The branch `c` that consumes the comment only builds, up to opening a `Description` (the states
    directly after a keyword line); so the branches `b`, `b'` that consume `k` without and with the
    comment are compared up to `Description` brackets. -/
theorem runAbs_insert_comment {T : Table} (hC : Spec.commentBefore T = true)
    (hL : Spec.lookaheadsSkipComment T = true) (s : Nat) (pre : List Kind) (k : Kind) (post : List Kind)
    (hk : k ∈ Spec.structural) (s' : Nat) (e1 : List Ev)
    (hp : runPrefix T s pre (k :: post) = some (s', e1)) (hs : Spec.commentFirst T s' = true) :
    (runAbs T s (pre ++ k :: post) = none ∧ runAbs T s (pre ++ .Comment :: k :: post) = none) ∨
    ∃ c b b' : Branch, c.kind = .Comment ∧ Spec.dropDescr c.prods = [.build] ∧
      Spec.branchView b' = Spec.branchView b ∧
      runAbs T s (pre ++ k :: post) =
        (runAbs T b.target post).map (fun r => (r.1, e1 ++ (prodEvents b.kind b.prods ++ r.2))) ∧
      runAbs T s (pre ++ .Comment :: k :: post) =
        (runAbs T b.target post).map
          (fun r => (r.1, e1 ++ (prodEvents .Comment c.prods ++ (prodEvents b.kind b'.prods ++ r.2)))) := by
  obtain ⟨row, c, row', hrow, hfind, hck, hcg, hcp, hrow', hview⟩ := commentBefore_at hC hs
  have hstepC : stepAbs T s' .Comment (k :: post) = some c := by
    unfold stepAbs; rw [hrow]
    exact pickBranch_of_find hfind (by simp [guardOkAbs, hcg])
  have hpre : runPrefix T s pre (.Comment :: k :: post) = some (s', e1) := by
    rw [runPrefix_insert passes_comment (skipsComment_of_fact hL)]; exact hp
  rw [runAbs_append, runAbs_append, hp, hpre]
  simp only [runAbs, hstepC]
  rcases stepAbs_view hrow hrow' (hview k hk) post with ⟨h1, h2⟩ | ⟨b, b', h1, h2, hbv⟩
  · left; simp [h1, h2]
  · right
    have hkind : b'.kind = b.kind := congrArg (·.1) hbv
    have htarget : b'.target = b.target := congrArg (·.2.2.1) hbv
    refine ⟨c, b, b', hck, hcp, hbv, ?_, ?_⟩
    · simp only [h1]
      cases runAbs T b.target post <;> simp
    · simp only [h2, hck, hkind, htarget]
      cases runAbs T b.target post <;> simp

theorem runAbs_insert_comment_events {T : Table} (hC : Spec.commentBefore T = true)
    (hL : Spec.lookaheadsSkipComment T = true) (s : Nat) (pre : List Kind) (k : Kind) (post : List Kind)
    (hk : k ∈ Spec.structural) (s' : Nat) (e1 : List Ev)
    (hp : runPrefix T s pre (k :: post) = some (s', e1)) (hs : Spec.commentFirst T s' = true) :
    (runAbs T s (pre ++ k :: post) = none ∧ runAbs T s (pre ++ .Comment :: k :: post) = none) ∨
    ∃ sf evs evs' rest, runAbs T s (pre ++ k :: post) = some (sf, evs) ∧
      runAbs T s (pre ++ .Comment :: k :: post) = some (sf, evs') ∧
      dropDescrEv evs = dropDescrEv e1 ++ rest ∧
      dropDescrEv evs' = dropDescrEv e1 ++ .build .Comment :: rest := by
  rcases runAbs_insert_comment hC hL s pre k post hk s' e1 hp hs with h | ⟨c, b, b', hck, hcp, hbv, h1, h2⟩
  · exact Or.inl h
  · cases hr : runAbs T b.target post with
    | none => rw [hr] at h1 h2; exact Or.inl ⟨h1, h2⟩
    | some r =>
      rw [hr] at h1 h2
      have hprods : Spec.dropDescr b'.prods = Spec.dropDescr b.prods := congrArg (·.2.2.2) hbv
      refine Or.inr ⟨r.1, _, _, dropDescrEv (prodEvents b.kind b.prods) ++ dropDescrEv r.2, h1, h2, ?_, ?_⟩
      · simp [dropDescrEv, List.filter_append]
      · have e1' : dropDescrEv (prodEvents .Comment c.prods) = [.build .Comment] := by
          rw [← prodEvents_dropDescr, hcp]; rfl
        have e2' : dropDescrEv (prodEvents b.kind b'.prods) = dropDescrEv (prodEvents b.kind b.prods) := by
          rw [← prodEvents_dropDescr, hprods, prodEvents_dropDescr]
        have happ : ∀ x y, dropDescrEv (x ++ y) = dropDescrEv x ++ dropDescrEv y := by
          intro x y; simp [dropDescrEv, List.filter_append]
        simp only [happ, e1', e2', List.singleton_append]

end GV.Lemmas
