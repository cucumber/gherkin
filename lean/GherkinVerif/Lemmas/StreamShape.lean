/-
  Lemmas/StreamShape.lean — for C17: every `toJ` encoder produces a value of the Cucumber Messages
  shape (Spec/Messages.lean), a pickle provided none of its steps has type `Conjunction`, which
  `compile_noConj` gives of the compiler's; the stream's envelope order; `streamAll` is a
  left-to-right fold.
-/
import GherkinVerif.Spec.Messages
import GherkinVerif.Model.Stream
import GherkinVerif.Lemmas.Compile
import GherkinVerif.Lemmas.GlueOutcome
namespace GV

/-- the id counter after a sequence of sources went through one stream -/
def counterAfter (D : List Dialect) (T : Table) (opts : Opts) : List (Str × Str) → Nat → Nat
  | [], n => n
  | (uri, data) :: rest, n => counterAfter D T opts rest (streamEnum D T opts n uri data).2

namespace Lemmas
open Spec

@[simp] theorem hasTy_str (s) : hasTy (.str s) .str = true := rfl
@[simp] theorem hasTy_num (s) : hasTy (.num s) .int = true := rfl
@[simp] theorem hasTy_arr (s) : hasTy (.arr s) .list = true := rfl
@[simp] theorem hasTy_obj (s) : hasTy (.obj s) .obj = true := rfl
@[simp] theorem isNull_str (s) : isNull (.str s) = false := rfl
@[simp] theorem isNull_num (s) : isNull (.num s) = false := rfl
@[simp] theorem isNull_arr (s) : isNull (.arr s) = false := rfl
@[simp] theorem isNull_obj (s) : isNull (.obj s) = false := rfl
@[simp] theorem isStr_str (s) : isStr (.str s) = true := rfl
@[simp] theorem isInt_num (s) : isInt (.num s) = true := rfl

@[simp] theorem hasTy_loc (l : Loc) : hasTy l.toJ .obj = true := rfl
@[simp] theorem isNull_loc (l : Loc) : isNull l.toJ = false := rfl
@[simp] theorem isNull_row (r : Row) : isNull r.toJ = false := rfl
@[simp] theorem isNull_dataTable (t : DataTable) : isNull t.toJ = false := rfl
@[simp] theorem isNull_docString (t : DocString) : isNull t.toJ = false := rfl
@[simp] theorem isNull_feature (f : Feature) : isNull f.toJ = false := rfl
@[simp] theorem isStr_idJ (n : Nat) : isStr (idJ n) = true := rfl

theorem ktype_in_vocab (k : KType) : strIn keywordTypes (.str (lit k.name)) = true := by
  cases k <;> decide

theorem ktype_in_pickle_vocab (k : KType) (h : k ≠ .Conjunction) :
    strIn pickleStepTypes (.str (lit k.name)) = true := by
  cases k <;> first | decide | exact absurd rfl h

/-- `Conjunction` is not in the pickle step vocabulary: the hypothesis of `shapePickleStep_toJ` is
    necessary. -/
theorem conjunction_not_in_pickle_vocab :
    strIn pickleStepTypes (.str (lit KType.Conjunction.name)) = false := by decide

/-! Each encoder writes out an object with literal keys, so the required-field check `req` is decided
by evaluation (`rfl`); what is left are the shapes of the members. -/

theorem all_map_toJ {α} {f : α → J} {p : J → Bool} (h : ∀ a, p (f a) = true) (l : List α) :
    (l.map f).all p = true := by
  simp [h]

theorem shapeLoc_toJ (l : Loc) : shapeLoc l.toJ = true := by
  cases l with | mk line col =>
  cases col <;> rfl

theorem shapeTag_toJ (t : Tag) : shapeTag t.toJ = true := by
  simp only [shapeTag, Tag.toJ, Bool.and_eq_true]
  exact ⟨rfl, shapeLoc_toJ t.loc⟩

theorem shapeCell_toJ (c : Cell) : shapeCell c.toJ = true := by
  simp only [shapeCell, Cell.toJ, Bool.and_eq_true]
  exact ⟨rfl, shapeLoc_toJ c.loc⟩

theorem shapeRow_toJ (r : Row) : shapeRow r.toJ = true := by
  simp only [shapeRow, Row.toJ, Bool.and_eq_true]
  exact ⟨⟨rfl, shapeLoc_toJ r.loc⟩, all_map_toJ shapeCell_toJ r.cells⟩

theorem shapeDataTable_toJ (t : DataTable) : shapeDataTable t.toJ = true := by
  simp only [shapeDataTable, DataTable.toJ, Bool.and_eq_true]
  exact ⟨⟨rfl, shapeLoc_toJ t.loc⟩, all_map_toJ shapeRow_toJ t.rows⟩

theorem shapeDocString_toJ (d : DocString) : shapeDocString d.toJ = true := by
  cases d with | mk loc content delimiter mediaType =>
  simp only [shapeDocString, DocString.toJ, Bool.and_eq_true]
  cases mediaType <;> exact ⟨⟨rfl, shapeLoc_toJ loc⟩, rfl⟩

theorem shapeStep_toJ (s : Step) : shapeStep s.toJ = true := by
  cases s with | mk id loc keyword ktype text arg =>
  simp only [shapeStep, Step.toJ, Bool.and_eq_true]
  cases arg with
  | none => exact ⟨⟨⟨⟨rfl, shapeLoc_toJ loc⟩, ktype_in_vocab ktype⟩, rfl⟩, rfl⟩
  | table t => exact ⟨⟨⟨⟨rfl, shapeLoc_toJ loc⟩, ktype_in_vocab ktype⟩, shapeDataTable_toJ t⟩, rfl⟩
  | doc d => exact ⟨⟨⟨⟨rfl, shapeLoc_toJ loc⟩, ktype_in_vocab ktype⟩, rfl⟩, shapeDocString_toJ d⟩

theorem shapeBackground_toJ (b : Background) : shapeBackground b.toJ = true := by
  simp only [shapeBackground, Background.toJ, Bool.and_eq_true]
  exact ⟨⟨rfl, shapeLoc_toJ b.loc⟩, all_map_toJ shapeStep_toJ b.steps⟩

theorem shapeExamples_toJ (e : Examples) : shapeExamples e.toJ = true := by
  cases e with | mk id tags loc keyword name description header body =>
  simp only [shapeExamples, Examples.toJ, Bool.and_eq_true]
  cases header with
  | none => exact ⟨⟨⟨⟨rfl, all_map_toJ shapeTag_toJ tags⟩, shapeLoc_toJ loc⟩, rfl⟩, all_map_toJ shapeRow_toJ body⟩
  | some h => exact ⟨⟨⟨⟨rfl, all_map_toJ shapeTag_toJ tags⟩, shapeLoc_toJ loc⟩, shapeRow_toJ h⟩, all_map_toJ shapeRow_toJ body⟩

theorem shapeScenario_toJ (s : Scenario) : shapeScenario s.toJ = true := by
  simp only [shapeScenario, Scenario.toJ, Bool.and_eq_true]
  exact ⟨⟨⟨⟨rfl, all_map_toJ shapeTag_toJ s.tags⟩, shapeLoc_toJ s.loc⟩, all_map_toJ shapeStep_toJ s.steps⟩,
    all_map_toJ shapeExamples_toJ s.examples⟩

theorem shapeRuleChild_toJ (c : RuleChild) : shapeRuleChild c.toJ = true := by
  cases c with
  | background b => exact shapeBackground_toJ b
  | scenario s => exact shapeScenario_toJ s

theorem shapeRule_toJ (r : Rule) : shapeRule r.toJ = true := by
  simp only [shapeRule, Rule.toJ, Bool.and_eq_true]
  exact ⟨⟨⟨rfl, all_map_toJ shapeTag_toJ r.tags⟩, shapeLoc_toJ r.loc⟩, all_map_toJ shapeRuleChild_toJ r.children⟩

theorem shapeFeatureChild_toJ (c : FeatureChild) : shapeFeatureChild c.toJ = true := by
  cases c with
  | background b => exact shapeBackground_toJ b
  | scenario s => exact shapeScenario_toJ s
  | rule r => exact shapeRule_toJ r

theorem shapeFeature_toJ (f : Feature) : shapeFeature f.toJ = true := by
  simp only [shapeFeature, Feature.toJ, Bool.and_eq_true]
  exact ⟨⟨⟨rfl, all_map_toJ shapeTag_toJ f.tags⟩, shapeLoc_toJ f.loc⟩, all_map_toJ shapeFeatureChild_toJ f.children⟩

theorem shapeComment_toJ (c : Comment) : shapeComment c.toJ = true := by
  simp only [shapeComment, Comment.toJ, Bool.and_eq_true]
  exact ⟨rfl, shapeLoc_toJ c.loc⟩

theorem gherkinDocument_toJ (uri : Str) (d : Doc) :
    (Envelope.gherkinDocument uri d).toJ =
      .obj [("gherkinDocument", .obj (J.ofOpt "feature" (d.feature.map Feature.toJ) ++
        [("comments", .arr (d.comments.map Comment.toJ)), ("uri", .str uri)]))] := by
  simp [Envelope.toJ, Doc.toJ]

theorem shapeGherkinDocument_toJ (uri : Str) (d : Doc) :
    shapeGherkinDocument (.obj (J.ofOpt "feature" (d.feature.map Feature.toJ) ++
        [("comments", .arr (d.comments.map Comment.toJ)), ("uri", .str uri)])) = true := by
  cases d with | mk feature comments =>
  simp only [shapeGherkinDocument, Bool.and_eq_true]
  cases feature with
  | none => exact ⟨⟨rfl, all_map_toJ shapeComment_toJ comments⟩, rfl⟩
  | some f => exact ⟨⟨rfl, all_map_toJ shapeComment_toJ comments⟩, shapeFeature_toJ f⟩

theorem shapePickleTag_toJ (t : PickleTag) : shapePickleTag t.toJ = true := rfl

theorem shapePickleStep_toJ (s : PickleStep) (h : s.type ≠ .Conjunction) :
    shapePickleStep s.toJ = true := by
  cases s with | mk astNodeIds id type text arg =>
  simp only [shapePickleStep, PickleStep.toJ, Bool.and_eq_true]
  refine ⟨⟨⟨?_, all_map_toJ (fun _ => rfl) astNodeIds⟩, ktype_in_pickle_vocab _ h⟩, ?_⟩
  · cases arg <;> rfl
  · cases arg with
    | none => rfl
    | table rows =>
      exact all_map_toJ (fun r => all_map_toJ (fun _ => rfl) r) rows
    | doc content mediaType => cases mediaType <;> rfl

theorem shapePickle_toJ (p : Pickle) (h : ∀ s ∈ p.steps, s.type ≠ .Conjunction) :
    shapePickle p.toJ = true := by
  simp only [shapePickle, Pickle.toJ, Bool.and_eq_true]
  refine ⟨⟨⟨rfl, all_map_toJ (fun _ => rfl) p.astNodeIds⟩, all_map_toJ shapePickleTag_toJ p.tags⟩, ?_⟩
  exact List.all_eq_true.mpr fun j hj => by
    obtain ⟨s, hs, rfl⟩ := List.mem_map.mp hj
    exact shapePickleStep_toJ s (h s hs)

theorem wellShaped_source (uri data : Str) : wellShaped (Envelope.source uri data).toJ = true :=
  (by decide : strIn [Spec.gherkinMediaType] (.str GV.gherkinMediaType) = true)

theorem wellShaped_gherkinDocument (uri : Str) (d : Doc) :
    wellShaped (Envelope.gherkinDocument uri d).toJ = true := by
  rw [gherkinDocument_toJ]
  exact shapeGherkinDocument_toJ uri d

theorem wellShaped_pickle (p : Pickle) (h : ∀ s ∈ p.steps, s.type ≠ .Conjunction) :
    wellShaped (Envelope.pickle p).toJ = true :=
  shapePickle_toJ p h

theorem wellShaped_parseError (uri : Str) (e : PErr) :
    wellShaped (Envelope.parseError uri e).toJ = true :=
  shapeLoc_toJ e.loc

/-- the model's explicit "an exception escaped" outcome is not a message -/
theorem not_wellShaped_crash (w : String) : wellShaped (Envelope.crash w).toJ = false := rfl

theorem wellShaped_envelope (e : Envelope) (hc : ∀ w, e ≠ .crash w)
    (hp : ∀ p, e = .pickle p → ∀ s ∈ p.steps, s.type ≠ .Conjunction) :
    wellShaped e.toJ = true := by
  cases e with
  | source uri data => exact wellShaped_source uri data
  | gherkinDocument uri d => exact wellShaped_gherkinDocument uri d
  | pickle p => exact wellShaped_pickle p (hp p rfl)
  | parseError uri e => exact wellShaped_parseError uri e
  | crash w => exact absurd rfl (hc w)

/-! What `GherkinEvents.enum` yields for an accepted source, in its order. -/

def okEnvelopes (opts : Opts) (uri data : Str) (d : Doc) (ps : List Pickle) : List Envelope :=
  (if opts.printSource then [Envelope.source uri data] else []) ++
  (if opts.printAst then [Envelope.gherkinDocument uri d] else []) ++
  (if opts.printPickles then ps.map Envelope.pickle else [])

theorem streamEnum_ok_eq (D : List Dialect) (T : Table) (opts : Opts) (ids : Nat) (uri data : Str)
    (μ : MState) (hμ : MState.init D (lit "en") = some μ) (d : Doc)
    (h : (parseWith D T false μ ids data).1 = .ok d) (ps : List Pickle) (n' : Nat)
    (hc : opts.printPickles = true → compile uri d (parseWith D T false μ ids data).2.ids = some (ps, n')) :
    streamEnum D T opts ids uri data =
      (okEnvelopes opts uri data d ps,
       if opts.printPickles then n' else (parseWith D T false μ ids data).2.ids) := by
  unfold streamEnum
  simp only [hμ]
  generalize parseWith D T false μ ids data = r at h hc
  obtain ⟨out, ctx⟩ := r
  simp only at h hc
  subst h
  cases hp : opts.printPickles with
  | false => simp [okEnvelopes, hp]
  | true => simp [okEnvelopes, hp, hc hp]

theorem streamEnum_rejected_eq (D : List Dialect) (T : Table) (opts : Opts) (ids : Nat) (uri data : Str)
    (μ : MState) (hμ : MState.init D (lit "en") = some μ) (es : List PErr) (comp : Bool)
    (h : (parseWith D T false μ ids data).1 = .rejected es comp) :
    streamEnum D T opts ids uri data =
      (es.map (Envelope.parseError uri), (parseWith D T false μ ids data).2.ids) :=
  streamEnumMode_rejected D T false opts ids uri data μ hμ es comp h

theorem pickle_not_mem_pre (a b : Bool) (uri data : Str) (d : Doc) (p : Pickle) :
    Envelope.pickle p ∉ (if a = true then [Envelope.source uri data] else []) ++
      (if b = true then [Envelope.gherkinDocument uri d] else []) := by
  cases a <;> cases b <;> simp

theorem streamEnum_wellShaped (D : List Dialect) (T : Table) (opts : Opts) (ids : Nat) (uri data : Str)
    (e : Envelope) (he : e ∈ (streamEnum D T opts ids uri data).1) (hc : ∀ w, e ≠ .crash w) :
    wellShaped e.toJ = true := by
  refine wellShaped_envelope e hc ?_
  intro p hp
  subst hp
  unfold streamEnum at he
  split at he
  · simp at he
  · rename_i μ hμ
    generalize parseWith D T false μ ids data = r at he
    obtain ⟨out, ctx⟩ := r
    simp only at he
    split at he
    · split at he
      · split at he
        · rename_i ps n' hcomp
          rcases List.mem_append.mp he with he | he
          · exact absurd he (pickle_not_mem_pre _ _ _ _ _ _)
          · simp only [List.mem_map] at he
            obtain ⟨q, hq, hqe⟩ := he
            cases hqe
            exact compile_noConj _ _ _ _ _ hcomp _ hq
        · rcases List.mem_append.mp he with he | he
          · exact absurd he (pickle_not_mem_pre _ _ _ _ _ _)
          · simp at he
      · exact absurd he (pickle_not_mem_pre _ _ _ _ _ _)
    · simp at he
    · simp at he
    · simp at he

theorem streamAll_length (D : List Dialect) (T : Table) (opts : Opts) (srcs : List (Str × Str)) (n : Nat) :
    (streamAll D T opts srcs n).length = srcs.length := by
  induction srcs generalizing n with
  | nil => rfl
  | cons x rest ih => simp [streamAll, ih]

theorem streamAll_append (D : List Dialect) (T : Table) (opts : Opts) (pre post : List (Str × Str)) (n : Nat) :
    streamAll D T opts (pre ++ post) n =
      streamAll D T opts pre n ++ streamAll D T opts post (counterAfter D T opts pre n) := by
  induction pre generalizing n with
  | nil => rfl
  | cons x rest ih =>
    obtain ⟨uri, data⟩ := x
    simp [streamAll, counterAfter, ih]

theorem counterAfter_append (D : List Dialect) (T : Table) (opts : Opts) (pre post : List (Str × Str)) (n : Nat) :
    counterAfter D T opts (pre ++ post) n = counterAfter D T opts post (counterAfter D T opts pre n) := by
  induction pre generalizing n with
  | nil => rfl
  | cons x rest ih =>
    obtain ⟨uri, data⟩ := x
    simp [counterAfter, ih]

theorem streamAll_locality (D : List Dialect) (T : Table) (opts : Opts) (pre post : List (Str × Str))
    (x : Str × Str) (n : Nat) :
    (streamAll D T opts (pre ++ [x] ++ post) n)[pre.length]? =
      some (streamEnum D T opts (counterAfter D T opts pre n) x.1 x.2).1 := by
  obtain ⟨uri, data⟩ := x
  rw [List.append_assoc, streamAll_append]
  rw [List.getElem?_append_right (by simp [streamAll_length])]
  simp [streamAll_length, streamAll]

end Lemmas
end GV
