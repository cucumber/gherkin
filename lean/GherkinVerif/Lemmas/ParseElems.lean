/-
  Lemmas/ParseElems.lean — document-level form of property C03 "with exact text": every element of
  the AST of an accepted document — keyword line, step, tag, table row, doc string — with its
  fields is read off ONE physical line of the source by the matcher, under the matcher state in
  force at that line; and its free text (descriptions, doc-string contents) is that of the lines
  of its `Description` / `DocString` nodes, a description line verbatim.

  Composition of
  * `elems_once_in_order`, `texts_once_in_order` (Lemmas/AstElems.lean) for the tree of the link;
  * `elemsOfTree_sub`: the elements of a tree come from its leaves (`leafElems`), a doc string from
    an OPENING separator (`DocStringsOpened`);
  * `parse_accepted` (`Accepted.leaf_cases`): the leaves are the matcher's outputs on the physical
    lines, under the state `Spec.stateAt` in force;
  * `matched_leafElems`: the per-line theorems of the matcher (properties C04, C05, C12, C13) — what
    the elements of a matched line are in terms of the text of the line (`Spec.ElemFromLine`);
  * for the free text: the `Description` nodes hold only comment lines and free-text lines read
    outside a doc string (`trace_descOps`, `Accepted.descNodes`; as for `DocString` nodes in
    Lemmas/ParseDocTree.lean).
-/
import GherkinVerif.Lemmas.AstElems
import GherkinVerif.Lemmas.ParseLang
import GherkinVerif.Lemmas.Locations
import GherkinVerif.Lemmas.ParseDocNode
import GherkinVerif.Lemmas.Keywords
import GherkinVerif.Lemmas.Cells
namespace GV
namespace Spec

/-- `e` is an element carried by the physical line `l`, the `n`-th line of the document, read
    under the matcher state `μ` (whose `μ.dialect` is the dialect in force):
    * a Feature / Rule / Background / Scenario / Examples line: the keyword `kw` is one of the
      dialect's keywords for that role, the line after its indentation reads `kw` followed by `:`,
      the name is the rest of the line with surrounding whitespace removed; column `indent + 1`;
    * a step: `kw` is the FIRST step keyword of the dialect (in the order given, when, then, and,
      but) that the line after its indentation starts with; the text is the rest of the line with
      surrounding whitespace removed; the keyword type is the dialect's for `kw`; column `indent + 1`;
    * a tag: at its column `c` (at or after `indent + 1`, in a line whose first non-blank code point
      is `@`) the line reads `@` followed by some text `item`, and the name is `@` + `item` stripped;
    * a table row: the line after its indentation starts with `|`; the cells are those of the
      two-phase reading `Spec.cells` of the line (texts unescaped and trimmed, each at its column);
    * a doc string: the matcher is outside a doc string, the line after its indentation starts
      with the delimiter `sep` (`"""` or three backticks), the media type is the rest of the line
      with surrounding whitespace removed, absent when empty; column `indent + 1`. -/
inductive ElemFromLine (μ : MState) (l : Str) (n : Nat) : Elem → Prop
  | keywordLine (K : Kind) (kw : Str) : K.isTitle = true → kw ∈ μ.dialect.roleKeywords K →
      startsWith (kw ++ [58]) (trimmed l) = true →
      ElemFromLine μ l n (.keywordLine K ⟨n, some (lineIndent l + 1)⟩ kw (restTrimmed l (kw.length + 1)))
  | step (pre : List Str) (kw : Str) (post : List Str) : μ.dialect.stepKeywords = pre ++ kw :: post →
      startsWith kw (trimmed l) = true → (∀ k' ∈ pre, startsWith k' (trimmed l) = false) →
      ElemFromLine μ l n
        (.step ⟨n, some (lineIndent l + 1)⟩ kw (stepKType μ.dialect kw) (restTrimmed l kw.length))
  | tag (c : Nat) (item : Str) : lineStartsWith l [64] = true → lineIndent l + 1 ≤ c →
      (64 :: item) <+: l.drop (c - 1) → ElemFromLine μ l n (.tag ⟨n, some c⟩ (64 :: strip item))
  | row : lineStartsWith l [124] = true →
      ElemFromLine μ l n
        (.row ⟨n, some (lineIndent l + 1)⟩ ((Spec.cells l).map fun p => (⟨n, some p.1⟩, p.2)))
  | docString (sep : Str) : sep = dq3 ∨ sep = bt3 → μ.inDocString = false →
      startsWith sep (trimmed l) = true →
      ElemFromLine μ l n (.docString ⟨n, some (lineIndent l + 1)⟩ sep (mediaOf (restTrimmed l 3)))

/-- a doc-string separator token is an opening one (its text, the media type, is set) -/
def OpenSep (tk : Token) : Prop := tk.mtype = some .DocStringSeparator → tk.text.isSome = true

/-- the states entered by a branch that opens a `Description` node -/
def descStates (T : Table) : List Nat :=
  T.rows.flatMap fun r => (r.branches.filter fun b => b.prods.contains (.start .Description)).map (·.target)

/-- every `start Description` in a production list is followed by exactly `build`, which ends the list -/
def startsDescLast : List Prod → Bool
  | [] => true
  | p :: rest => (p != .start .Description || rest == [.build]) && startsDescLast rest

/-- `start_rule(Description)` is always directly followed by the `build` that ends the production
    list; it occurs only in `Other` / `Comment` tests, of states that are not doc-string content
    states, leading to states that are not content states either -/
def descStartFacts (T : Table) : Bool :=
  T.rows.all fun r => r.branches.all fun b =>
    startsDescLast b.prods &&
    (!b.prods.contains (.start .Description) ||
      ((b.kind == .Other || b.kind == .Comment) && !(contentStates T).contains r.id &&
        !(contentStates T).contains b.target))

/-- in a state entered by opening a `Description` node every test either starts with an `end_rule` (of
    the `Description` node) or is an `Other` / `Comment` test that only builds and stays -/
def descBodyFacts (T : Table) : Bool :=
  T.rows.all fun r => !(descStates T).contains r.id ||
    r.branches.all fun b => isEndProd b.prods.head? ||
      (b.prods == [.build] && b.target == r.id && (b.kind == .Other || b.kind == .Comment))

/-- a line of a description: a comment line, or a free-text line whose text is the physical line
    VERBATIM (indentation included) minus its line break -/
def DescTok (x : Token) : Prop :=
  x.mtype = some .Comment ∨ ∃ lx, x.line = some lx ∧ x.mtype = some .Other ∧ x.text = some (rstripCRLF lx)

mutual
/-- every `Description` node of the tree has only leaves as children, and they are description lines -/
def descNodesP : TTree → Prop
  | .leaf _ => True
  | .node r ch => (r = .Description → ∃ bs : List Token, ch = bs.map .leaf ∧ ∀ b ∈ bs, DescTok b) ∧ descNodesListP ch
def descNodesListP : List TTree → Prop
  | [] => True
  | c :: cs => descNodesP c ∧ descNodesListP cs
end

/-- the elements ONE line of the document contributes to the AST, read off its token: those the
    token carries (`leafElems`) — except that a CLOSING doc-string separator (text not set) carries
    none, the doc string being the element of its opening separator -/
def lineElems (tk : Token) : List Elem :=
  if tk.mtype = some .DocStringSeparator ∧ tk.text = none then [] else leafElems tk

end Spec

namespace Lemmas
open Spec

theorem mem_childTokens {k : Kind} {ch : List TTree} {tk : Token} (h : tk ∈ childTokens k ch) :
    tk ∈ leavesList ch ∧ tk.mtype = some k := by
  induction ch with
  | nil => simp [childTokens] at h
  | cons c cs ih =>
    simp only [childTokens, List.filterMap_cons] at h
    cases c with
    | node r ch' =>
      simp only at h
      obtain ⟨h1, h2⟩ := ih h
      exact ⟨by simp only [leavesList, List.mem_append]; exact .inr h1, h2⟩
    | leaf t =>
      simp only at h
      by_cases hm : t.mtype = some k
      · rw [if_pos hm] at h
        simp only [List.mem_cons] at h
        rcases h with rfl | h
        · exact ⟨by simp [leavesList, leaves], hm⟩
        · obtain ⟨h1, h2⟩ := ih h
          exact ⟨by simp only [leavesList, List.mem_append]; exact .inr h1, h2⟩
      · rw [if_neg hm] at h
        obtain ⟨h1, h2⟩ := ih h
        exact ⟨by simp only [leavesList, List.mem_append]; exact .inr h1, h2⟩

theorem nodeOK_child {r : RuleType} {ch : List TTree} (h : nodeOK r ch = true) (c : TTree) (hc : c ∈ ch) :
    (∀ r' ch', c = .node r' ch' → r' ∈ (nodeShape r).allowed) ∧
    (∀ t k, c = .leaf t → t.mtype = some k → k ∈ elemKinds → k ∈ (nodeShape r).lines) := by
  simp only [nodeOK, Bool.and_eq_true, List.all_eq_true] at h
  have := h.1.1 c hc
  refine ⟨?_, ?_⟩
  · rintro r' ch' rfl
    simpa using this
  · rintro t k rfl hm hel
    simp only [hm] at this
    simp only [Bool.or_eq_true, Bool.not_eq_true', List.contains_eq_mem, decide_eq_true_eq, decide_eq_false_iff_not] at this
    rcases this with h1 | h1
    · exact absurd hel h1
    · exact h1

theorem docString_children_elems (ch : List TTree)
    (h : ∀ c ∈ ch, (∀ r' ch', c ≠ .node r' ch') ∧
      (∀ t k, c = .leaf t → t.mtype = some k → k ∈ elemKinds → k = .DocStringSeparator)) :
    elemsOfTreeList ch = (childTokens .DocStringSeparator ch).flatMap leafElems := by
  induction ch with
  | nil => rw [elemsOfTreeList]; rfl
  | cons c cs ih =>
    have ih' := ih fun c' hc' => h c' (List.mem_cons_of_mem _ hc')
    obtain ⟨h1, h2⟩ := h c List.mem_cons_self
    cases c with
    | node r' ch' => exact absurd rfl (h1 r' ch')
    | leaf t =>
      rw [elemsOfTreeList, elemsOfTree, ih']
      simp only [childTokens, List.filterMap_cons]
      by_cases hm : t.mtype = some .DocStringSeparator
      · simp only [hm, if_true, List.flatMap_cons]
      · simp only [hm, if_false]
        cases hk : t.mtype with
        | none => rw [leafElems_none t hk]; rfl
        | some k =>
          by_cases hel : k ∈ elemKinds
          · exact absurd (by rw [hk, h2 t k rfl hk hel]) hm
          · rw [leafElems_nonElem t k hk hel]; rfl

mutual
theorem elemsOfTree_sub : ∀ (t : TTree) (r : RuleType) (ch : List TTree), t = .node r ch →
    shaped t = true → opened t = true → ∀ e ∈ elemsOfTree t,
      ∃ tk ∈ leaves t, e ∈ leafElems tk ∧ OpenSep tk
  | .leaf _, _, _, h, _, _, _, _ => by cases h
  | .node r ch, _, _, _, hs, ho, e, he => by
    simp only [shaped, Bool.and_eq_true] at hs
    simp only [opened, Bool.and_eq_true] at ho
    rw [leaves]
    by_cases hr : r = .DocString
    · subst hr
      rw [elemsOfTree, if_pos rfl] at he
      have hch : ∀ c ∈ ch, (∀ r' ch', c ≠ .node r' ch') ∧
          (∀ t k, c = .leaf t → t.mtype = some k → k ∈ elemKinds → k = .DocStringSeparator) := by
        intro c hc
        obtain ⟨a, b⟩ := nodeOK_child hs.1 c hc
        refine ⟨fun r' ch' e => ?_, fun t k e hm hel => ?_⟩
        · have := a r' ch' e; simp [nodeShape] at this
        · have := b t k e hm hel; simpa [nodeShape] using this
      rw [docString_children_elems ch hch] at he
      have hno := ho.1
      simp only [nodeOpened, bne_self_eq_false, Bool.false_or] at hno
      cases hct : childTokens .DocStringSeparator ch with
      | nil => rw [hct] at he; simp at he
      | cons sep rest =>
        rw [hct] at he hno
        simp only [List.head?_cons] at hno
        obtain ⟨hmem, hmt⟩ := mem_childTokens (k := .DocStringSeparator) (ch := ch) (tk := sep)
          (by rw [hct]; exact List.mem_cons_self)
        -- whatever its fields, a separator carries a single element: the head of the list
        have hle : ∃ x, leafElems sep = [x] := by unfold leafElems; rw [hmt]; exact ⟨_, rfl⟩
        obtain ⟨x, hx⟩ := hle
        rw [List.flatMap_cons, hx] at he
        simp only [List.singleton_append, List.head?_cons, Option.toList_some, List.mem_singleton] at he
        exact ⟨sep, hmem, by rw [hx, he]; exact List.mem_singleton_self _, fun _ => hno⟩
    · rw [elemsOfTree, if_neg hr] at he
      exact elemsOfTreeList_sub ch r hr (fun c hc => (nodeOK_child hs.1 c hc).2) hs.2 ho.2 e he
theorem elemsOfTreeList_sub : ∀ (ts : List TTree) (r : RuleType), r ≠ .DocString →
    (∀ c ∈ ts, ∀ t k, c = .leaf t → t.mtype = some k → k ∈ elemKinds → k ∈ (nodeShape r).lines) →
    shapedList ts = true → openedList ts = true → ∀ e ∈ elemsOfTreeList ts,
      ∃ tk ∈ leavesList ts, e ∈ leafElems tk ∧ OpenSep tk
  | [], _, _, _, _, _, e, he => by simp [elemsOfTreeList] at he
  | c :: cs, r, hr, hl, hs, ho, e, he => by
    simp only [shapedList, Bool.and_eq_true] at hs
    simp only [openedList, Bool.and_eq_true] at ho
    simp only [elemsOfTreeList, List.mem_append] at he
    rcases he with he | he
    · cases c with
      | leaf t =>
        rw [elemsOfTree] at he
        refine ⟨t, by simp [leavesList, leaves], he, fun hm => ?_⟩
        have := hl _ List.mem_cons_self t _ rfl hm (by decide)
        exfalso
        cases r <;> first | exact hr rfl | simp [nodeShape] at this
      | node r' ch' =>
        obtain ⟨tk, h1, h2⟩ := elemsOfTree_sub (.node r' ch') r' ch' rfl hs.1 ho.1 e he
        exact ⟨tk, by simp only [leavesList, List.mem_append]; exact .inl h1, h2⟩
    · obtain ⟨tk, h1, h2⟩ := elemsOfTreeList_sub cs r hr (fun c' hc' => hl c' (List.mem_cons_of_mem _ hc')) hs.2 ho.2 e he
      exact ⟨tk, by simp only [leavesList, List.mem_append]; exact .inr h1, h2⟩
end

theorem titleKws_eq_role (d : Dialect) (K : Kind) : titleKws d K = d.roleKeywords K := by
  cases K <;> rfl

theorem isTitle_cases {K : Kind} (h : K.isTitle = true) :
    K = .FeatureLine ∨ K = .RuleLine ∨ K = .BackgroundLine ∨ K = .ScenarioLine ∨ K = .ExamplesLine := by
  cases K <;> first | exact absurd h (by decide) | simp

theorem tok_loc_eq {tk : Token} {n c : Nat} (hno : tk.lineNo = n) (hcol : tk.col = some c) : tk.loc = ⟨n, some c⟩ := by
  unfold Token.loc; rw [hno, hcol]

theorem matched_leafElems (D : List Dialect) (K : Kind) (μ : MState) (l : Str) (n : Nat)
    (hm : (matchLine D K μ (freshTok l n) l).res = .matched) :
    ∀ e ∈ leafElems (matchLine D K μ (freshTok l n) l).tok, OpenSep (matchLine D K μ (freshTok l n) l).tok →
      ElemFromLine μ l n e := by
  have hmt := (match_well_matched D K μ (freshTok l n) l hm).1
  have hno : (matchLine D K μ (freshTok l n) l).tok.lineNo = n := (matchLine_tok D K μ (freshTok l n) l).2
  have ht : (freshTok l n).line = some l := rfl
  intro e he hopen
  by_cases htitle : K.isTitle = true
  · obtain ⟨kw, hmem, hst, hkw, hcol, hmt', htx⟩ := title_col D K μ (freshTok l n) l ht (isTitle_cases htitle) hm
    rw [leafElems_title _ K kw _ (by rcases isTitle_cases htitle with h | h | h | h | h <;> simp [h]) hmt' hkw htx,
      List.mem_singleton] at he
    subst he
    rw [tok_loc_eq hno hcol, rstripCRLF_strip, ← trimmed_eq_drop]
    rw [titleKws_eq_role] at hmem
    rw [← trimmed_eq_drop] at hst
    exact .keywordLine K kw htitle hmem hst
  · cases K <;> first | exact absurd rfl htitle | skip
    case EOF => rw [leafElems_nonElem _ _ hmt (by decide)] at he; cases he
    case Empty => rw [leafElems_nonElem _ _ hmt (by decide)] at he; cases he
    case Comment => rw [leafElems_nonElem _ _ hmt (by decide)] at he; cases he
    case Language => rw [leafElems_nonElem _ _ hmt (by decide)] at he; cases he
    case Other => rw [leafElems_nonElem _ _ hmt (by decide)] at he; cases he
    case TagLine =>
      obtain ⟨hs, hts, -⟩ := tagline_tok D μ (freshTok l n) l ht hm
      obtain ⟨-, hall⟩ := tag_cols l hs _ hts
      rw [leafElems_tagLine _ hmt, List.mem_map] at he
      obtain ⟨it, hit, rfl⟩ := he
      obtain ⟨h1, -, -, -⟩ := hall it hit
      obtain ⟨item, hpre, hname⟩ := tag_name_stripped l hs _ hts it hit
      rw [getLocation_item _ it.1 (by omega), hno, hname]
      exact .tag it.1 item hs h1 hpre
    case StepLine =>
      rcases matchLine_step_cases D μ (freshTok l n) l with ⟨pre, kw, post, hsplit, hst, hpre, heq⟩ | ⟨-, heq⟩
      · rw [heq] at he
        have hle : leafElems (setMatched μ (freshTok l n) .StepLine (text := some (strip ((trimmed l).drop kw.length)))
            (keyword := some kw) (ktype := some (stepKType μ.dialect kw))) =
            [.step ⟨n, some (lineIndent l + 1)⟩ kw (stepKType μ.dialect kw) (restTrimmed l kw.length)] := by
          rw [leafElems_step _ kw (rstripCRLF (strip ((trimmed l).drop kw.length))) (stepKType μ.dialect kw) rfl rfl rfl rfl,
            rstripCRLF_strip]
          rfl
        rw [hle, List.mem_singleton] at he
        subst he
        exact .step pre kw post hsplit hst hpre
      · rw [heq] at hm; cases hm
    case TableRow =>
      obtain ⟨hcol, hst, hitems⟩ := row_col D μ (freshTok l n) l ht hm
      rw [leafElems_row _ hmt, List.mem_singleton] at he
      subst he
      rw [tok_loc_eq hno hcol]
      have hpairs : itemPairs (matchLine D .TableRow μ (freshTok l n) l).tok =
          (Spec.cells l).map fun p => ((⟨n, some p.1⟩ : Loc), p.2) := by
        rw [itemPairs, hitems, tableCells_eq_spec]
        apply List.map_congr_left
        intro p hp
        obtain ⟨o, len, h1, -, -, h4, -⟩ := cell_cols l p hp
        rw [getLocation_item _ p.1 (by omega), hno]
      rw [hpairs]
      rw [← trimmed_eq_drop] at hst
      exact .row hst
    case DocStringSeparator =>
      have htx := hopen hmt
      by_cases ho : opening μ
      · obtain ⟨sep, hsep, hst, -, htext, hkw, -⟩ := docsep_open D μ (freshTok l n) l ho hm
        obtain ⟨sep', -, -, hkw', hcol⟩ := docsep_col D μ (freshTok l n) l ht hm
        rw [leafElems_docSep _ sep _ hmt hkw htext, List.mem_singleton] at he
        subst he
        rw [tok_loc_eq hno hcol, rstripCRLF_strip]
        have hin : μ.inDocString = false := by
          unfold MState.inDocString
          rcases ho with h | h <;> rw [h] <;> rfl
        exact .docString sep hsep hin hst
      · exfalso
        cases ha : μ.activeSep with
        | none => exact ho (.inl ha)
        | some sep =>
          have hne : sep ≠ [] := fun h => ho (.inr (by rw [ha, h]))
          obtain ⟨-, hnone, -, -⟩ := docsep_close D μ (freshTok l n) l sep ha hne hm
          rw [hnone] at htx
          cases htx

theorem leafElems_eof {e : Token} (h : e.mtype = some .EOF) : leafElems e = [] :=
  leafElems_nonElem e _ h (by decide)

theorem title_keyword_unique {kw kw' s : Str} (h : 58 ∉ kw) (h' : 58 ∉ kw')
    (hs : startsWith (kw ++ [58]) s = true) (hs' : startsWith (kw' ++ [58]) s = true) : kw = kw' := by
  obtain ⟨r', rfl⟩ := (startsWith_iff_prefix _ _).1 hs'
  rw [List.append_assoc] at hs
  exact title_prefix_unique kw kw' r' h h' hs

theorem fields_in_document {D : List Dialect} {T : Table} {G : Grammar} {fuel : Nat} (L : LinkFacts D T G fuel)
    (hB : oneBuildLast T = true)
    (hCR : ((contentStates T).all fun s => (T.row? s).any isContentRow) = true)
    (μ : MState) (ids : Nat) (src : Str) (hμ : (μ.reset D).dialect ∈ D) (d : Doc)
    (h : (parseWith D T false μ ids src).1 = .ok d) :
    ∃ toks e μf, (parseWith D T false μ ids src).2.builds = toks ++ [e] ∧
      LineToks D (μ.reset D) 1 (splitLines src) toks μf ∧
      ∀ el ∈ srcElems d, ∃ (i : Nat) (l : Str), (splitLines src)[i]? = some l ∧
        (stateAt D (μ.reset D) (splitLines src) toks i).dialect ∈ D ∧
        ElemFromLine (stateAt D (μ.reset D) (splitLines src) toks i) l (i + 1) el := by
  obtain ⟨t, toks, e, μf, A⟩ := parse_accepted L hB hCR μ ids src hμ d h
  have hs := A.tree.shaped L.shape
  refine ⟨toks, e, μf, A.builds_eq, A.lineToks, fun el hel => ?_⟩
  rw [elems_once_in_order t hs _ _ _ d A.tree.ast] at hel
  obtain ⟨ch, rfl, -⟩ := (isDocument_iff t).1 A.tree.isDocument
  obtain ⟨tk, htk, hin, hopen⟩ := elemsOfTree_sub _ _ ch rfl hs A.tree.opened el hel
  rcases A.leaf_cases htk with ⟨i, l, K, hi, -, hd, -, hres, rfl, -⟩ | he
  · exact ⟨i, l, hi, hd, matched_leafElems D K _ l (i + 1) hres el hin hopen⟩
  · rw [leafElems_eof he] at hin; cases hin

theorem lineElems_of_ne {tk : Token} (h : tk.mtype ≠ some .DocStringSeparator) : lineElems tk = leafElems tk := by
  unfold lineElems; rw [if_neg (fun hh => h hh.1)]

theorem lineElems_nil_of {tk : Token} (h : leafElems tk = []) : lineElems tk = [] := by
  unfold lineElems; split <;> simp [h]

theorem elemsOfTreeList_leaves (bs : List Token) : elemsOfTreeList (bs.map .leaf) = bs.flatMap leafElems := by
  induction bs with
  | nil => rw [List.map_nil, elemsOfTreeList]; rfl
  | cons b bs ih => rw [List.map_cons, elemsOfTreeList, elemsOfTree, ih, List.flatMap_cons]

/-- the tokens of one doc string: the opening separator carries the doc string, nothing else does -/
theorem docSeq_elems {bs : List Token} (h : DocSeq bs) :
    (bs.flatMap leafElems).head?.toList = bs.flatMap lineElems := by
  obtain ⟨o, xs, c, ys, sep, lo, rfl, ho, hxs, hc, hys⟩ := h
  obtain ⟨-, -, -, hom, hok, hot, -⟩ := ho
  have hxs' : xs.flatMap lineElems = [] := by
    rw [List.flatMap_eq_nil_iff]
    intro x hx
    obtain ⟨lx, -, -, hm, -⟩ := hxs x hx
    exact lineElems_nil_of (leafElems_nonElem x _ hm (by decide))
  have hys' : ys.flatMap lineElems = [] := by
    rw [List.flatMap_eq_nil_iff]
    intro y hy
    rcases (hys y hy).1 with hm | hm <;> exact lineElems_nil_of (leafElems_nonElem y _ hm (by decide))
  have hc' : lineElems c = [] := by
    unfold lineElems; rw [if_pos ⟨hc.2.1, hc.2.2.1⟩]
  have ho' : lineElems o = leafElems o := by
    unfold lineElems; rw [if_neg (fun hh => by rw [hot] at hh; cases hh.2)]
  simp only [List.flatMap_cons, List.flatMap_append]
  rw [hxs', hc', hys', ho',
    leafElems_docSep o sep _ hom hok hot]
  rfl

mutual
theorem elemsOfTree_flat (P : List Token → Prop) (hP : ∀ bs, P bs → DocSeq bs) :
    ∀ (t : TTree) (r : RuleType) (ch : List TTree), t = .node r ch →
    shaped t = true → docNodesP P t → elemsOfTree t = (leaves t).flatMap lineElems
  | .leaf _, _, _, h, _, _ => by cases h
  | .node r ch, _, _, _, hs, hd => by
    simp only [shaped, Bool.and_eq_true] at hs
    rw [docNodesP] at hd
    rw [leaves]
    by_cases hr : r = .DocString
    · subst hr
      obtain ⟨bs, rfl, hbs⟩ := hd.1 rfl
      rw [elemsOfTree, if_pos rfl, elemsOfTreeList_leaves, leavesList_leaves]
      exact docSeq_elems (hP bs hbs)
    · rw [elemsOfTree, if_neg hr]
      exact elemsOfTreeList_flat P hP ch r hr (fun c hc => (nodeOK_child hs.1 c hc).2) hs.2 hd.2
theorem elemsOfTreeList_flat (P : List Token → Prop) (hP : ∀ bs, P bs → DocSeq bs) :
    ∀ (ts : List TTree) (r : RuleType), r ≠ .DocString →
    (∀ c ∈ ts, ∀ t k, c = .leaf t → t.mtype = some k → k ∈ elemKinds → k ∈ (nodeShape r).lines) →
    shapedList ts = true → docNodesListP P ts → elemsOfTreeList ts = (leavesList ts).flatMap lineElems
  | [], _, _, _, _, _ => by rw [elemsOfTreeList, leavesList]; rfl
  | c :: cs, r, hr, hl, hs, hd => by
    simp only [shapedList, Bool.and_eq_true] at hs
    rw [docNodesListP] at hd
    rw [elemsOfTreeList, leavesList, List.flatMap_append,
      elemsOfTreeList_flat P hP cs r hr (fun c' hc' => hl c' (List.mem_cons_of_mem _ hc')) hs.2 hd.2]
    congr 1
    cases c with
    | leaf t =>
      rw [elemsOfTree, leaves, List.flatMap_cons, List.flatMap_nil, List.append_nil]
      refine (lineElems_of_ne fun hm => ?_).symm
      have := hl _ List.mem_cons_self t _ rfl hm (by decide)
      cases r <;> first | exact hr rfl | simp [nodeShape] at this
    | node r' ch' => exact elemsOfTree_flat P hP (.node r' ch') r' ch' rfl hs.1 hd.1
end

theorem matched_lineElems (D : List Dialect) (K : Kind) (μ : MState) (l : Str) (n : Nat)
    (hm : (matchLine D K μ (freshTok l n) l).res = .matched) :
    ∀ e ∈ lineElems (matchLine D K μ (freshTok l n) l).tok, ElemFromLine μ l n e := by
  intro e he
  unfold lineElems at he
  split at he
  · cases he
  · rename_i hno
    refine matched_leafElems D K μ l n hm e he fun hmt => ?_
    cases htx : (matchLine D K μ (freshTok l n) l).tok.text with
    | none => exact absurd ⟨hmt, htx⟩ hno
    | some _ => rfl

theorem fields_line_by_line {D : List Dialect} {T : Table} {G : Grammar} {fuel : Nat} (L : LinkFacts D T G fuel)
    (F : DocFacts D T) (hB : oneBuildLast T = true)
    (μ : MState) (ids : Nat) (src : Str) (hμ : (μ.reset D).dialect ∈ D) (d : Doc)
    (h : (parseWith D T false μ ids src).1 = .ok d) :
    ∃ toks e μf, (parseWith D T false μ ids src).2.builds = toks ++ [e] ∧
      LineToks D (μ.reset D) 1 (splitLines src) toks μf ∧
      srcElems d = toks.flatMap lineElems ∧
      ∀ (i : Nat) (l : Str) (tk : Token), (splitLines src)[i]? = some l → toks[i]? = some tk →
        (stateAt D (μ.reset D) (splitLines src) toks i).dialect ∈ D ∧
        ∃ K, tk.mtype = some K ∧
          tk = (matchLine D K (stateAt D (μ.reset D) (splitLines src) toks i) (freshTok l (i + 1)) l).tok ∧
          ∀ el ∈ lineElems tk, ElemFromLine (stateAt D (μ.reset D) (splitLines src) toks i) l (i + 1) el := by
  obtain ⟨t, toks, e, μf, A⟩ := parse_accepted L hB F.contentRows μ ids src hμ d h
  have hs := A.tree.shaped L.shape
  refine ⟨toks, e, μf, A.builds_eq, A.lineToks, ?_, fun i l tk hi htk => ?_⟩
  · obtain ⟨ch, rfl, -⟩ := (isDocument_iff t).1 A.tree.isDocument
    rw [elems_once_in_order _ hs _ _ _ d A.tree.ast,
      elemsOfTree_flat DocSeqNo (fun _ hb => hb.1) _ _ ch rfl hs (A.docNodes L.start F),
      A.leaves_eq, List.flatMap_append, List.flatMap_cons, List.flatMap_nil, List.append_nil,
      lineElems_nil_of (leafElems_eof A.eof.2.1), List.append_nil]
  · obtain ⟨K, hd, -, hres, htok, -, hmt⟩ := LineToks.atState A.lineToks i l hi
    rw [Nat.add_comm] at hres htok hmt
    rw [htk] at htok
    cases htok
    exact ⟨hd, K, hmt, rfl, matched_lineElems D K _ l (i + 1) hres⟩

/-- outside a doc string no indentation is being removed -/
def indOK (μ : MState) : Prop := μ.activeSep = none → μ.indentToRemove = 0

theorem reset_indOK (D : List Dialect) (μ : MState) : indOK (μ.reset D) := by
  intro _
  unfold MState.reset
  rfl

theorem matchLine_indOK (D : List Dialect) (K : Kind) (μ : MState) (t : Token) (l : Str) (h : indOK μ) :
    indOK (matchLine D K μ t l).μ := by
  by_cases hK : K = .DocStringSeparator
  · subst hK
    by_cases ho : opening μ
    · rw [matchLine_docsep_opening D μ t l ho]
      split
      · intro hh; cases hh
      · split
        · intro hh; cases hh
        · exact h
    · cases ha : μ.activeSep with
      | none => exact absurd (.inl ha) ho
      | some sep =>
        have hne : sep ≠ [] := fun h => ho (.inr (by rw [ha, h]))
        rw [matchLine_docsep_active D μ t l sep ha hne]
        split
        · intro _; rfl
        · exact h
  · obtain ⟨h1, h2⟩ := matchLine_keeps_docstate D K μ t l hK
    intro hh
    rw [h2]
    exact h (h1 ▸ hh)

theorem stateAt_nil (D : List Dialect) (μ : MState) (toks : List Token) (i : Nat) : stateAt D μ [] toks i = μ := by
  unfold stateAt; rfl

theorem LineToks.stateAt_indOK {D : List Dialect} {μ μf : MState} {n : Nat} {ls : List Str} {toks : List Token}
    (h : LineToks D μ n ls toks μf) (h0 : indOK μ) : ∀ i, indOK (stateAt D μ ls toks i) := by
  induction h with
  | nil μ n => intro i; rw [stateAt_nil]; exact h0
  | @cons μ n l0 ls toks μf K hd hs hres hp _ _ ih =>
    intro i
    cases i with
    | zero => exact h0
    | succ i =>
      rw [stateAt_cons_succ hres]
      exact ih (matchLine_indOK D K μ (probe l0) l0 h0) i

theorem other_text_verbatim (D : List Dialect) (μ : MState) (t : Token) (l : Str)
    (hs : sepOK μ = true) (hi : indOK μ) (hin : μ.inDocString = false) :
    (matchLine D .Other μ t l).tok.text = some (rstripCRLF l) := by
  have ha := sepOK_notInDoc hs hin
  rw [other_text, ha, hi ha, unescapeDoc_none, Nat.zero_min, List.drop_zero]

/-! ### the lines of a description are read outside doc strings

  As for `DocString` nodes (Lemmas/ParseDocTree.lean): along a `Trace` the calls after a
  `start_rule(Description)` are `build`s of description lines up to the next `end_rule`
  (`trace_descOps`; table facts `Spec.descStartFacts`, `Spec.descBodyFacts`), so the rebuilt tree has
  the `Description` nodes described. -/

theorem descNodes_lineNodes : LineNodes .Description (fun bs => ∀ b ∈ bs, DescTok b) descNodesP descNodesListP :=
  ⟨fun _ => trivial, fun _ _ => Iff.rfl, trivial, fun _ _ => Iff.rfl⟩

theorem startsDescLast_eq (ps : List Prod) : startsDescLast ps = startsLast .Description ps := by
  induction ps with
  | nil => rfl
  | cons p ps ih => rw [startsDescLast, startsLast, ih]

structure DescFacts (T : Table) : Prop where
  start : descStartFacts T = true
  body : descBodyFacts T = true

theorem muAfter_other_comment (D : List Dialect) (μ : MState) (l : Str) (K : Kind)
    (hK : K = .Other ∨ K = .Comment) : muAfter D μ l K = μ := by
  rcases hK with rfl | rfl
  · rfl
  · unfold muAfter
    simp only [matchLine]
    split <;> rfl

theorem descTok_of_match {D : List Dialect} {μ : MState} {t0 : Token} {l : Str} {K : Kind}
    (hK : K = .Other ∨ K = .Comment) (ht0 : t0.line = some l)
    (hres : (matchTok D K μ t0).1.res = .matched)
    (hs : sepOK μ = true) (hi : indOK μ) (hin : μ.inDocString = false) :
    DescTok (matchTok D K μ t0).1.tok := by
  obtain ⟨hmt, -⟩ := matchTok_well_matched D _ _ _ hres
  rcases hK with rfl | rfl
  · refine .inr ⟨l, ?_, hmt, ?_⟩
    · rw [(matchTok_tok D .Other μ t0).1]; exact ht0
    · rw [matchTok_line ht0]; exact other_text_verbatim D μ t0 l hs hi hin
  · exact .inl hmt

theorem trace_descBody {D : List Dialect} {T : Table} (hBF : descBodyFacts T = true)
    {p : Nat} {μ : MState} {ls : List Str} {sf : Nat} {steps : List (Branch × Token)}
    (h : Trace D T p μ ls sf steps) (hp : (descStates T).contains p = true)
    (hs : sepOK μ = true) (hi : indOK μ) (hin : μ.inDocString = false) :
    ∃ (ys : List Token) (rest' : List BOp), stepsOps steps = ys.map .build ++ .end_ :: rest' ∧ ∀ y ∈ ys, DescTok y :=
  trace_loop hBF (by decide) (by decide) (fun μ => sepOK μ = true ∧ indOK μ ∧ μ.inDocString = false) DescTok
    (fun μ l K t0 hI hk ht0 hres => by
      rw [muAfter_other_comment D μ l K hk]
      exact ⟨hI, descTok_of_match hk ht0 hres hI.1 hI.2.1 hI.2.2⟩) h hp ⟨hs, hi, hin⟩

theorem mem_descStates {T : Table} {row : StateRow} {b : Branch} (hmem : row ∈ T.rows) (hb : b ∈ row.branches)
    (hm : Prod.start .Description ∈ b.prods) : (descStates T).contains b.target = true := by
  rw [List.contains_iff_mem]
  unfold descStates
  exact List.mem_flatMap.2 ⟨row, hmem, List.mem_map.2 ⟨b, List.mem_filter.2 ⟨hb, List.contains_iff_mem.2 hm⟩, rfl⟩⟩

theorem trace_descOps {D : List Dialect} {T : Table} (hf : textDialectFacts D = true) (hCE : contentEntry T = true)
    (F : DescFacts T)
    {s : Nat} {μ : MState} {ls : List Str} {sf : Nat} {steps : List (Branch × Token)}
    (h : Trace D T s μ ls sf steps) (hμ : MuOK D μ) (hi : indOK μ)
    (hinv : μ.inDocString = (contentStates T).contains s) :
    lineOps .Description (fun bs => ∀ b ∈ bs, DescTok b) (stepsOps steps) := by
  have hSF := F.start
  simp only [descStartFacts, List.all_eq_true, Bool.and_eq_true, Bool.or_eq_true, Bool.not_eq_true',
    beq_iff_eq] at hSF
  induction h with
  | @eof s μ row b t0 hrow hpick ht0 hres =>
    obtain ⟨hid, hmem⟩ := row_id_of_row? hrow
    obtain ⟨hbm, hpass, -⟩ := pick_mem hpick
    simp only [stepsOps, List.flatMap_cons, List.flatMap_nil]
    refine lineOps_prodOps _ _ _ (startsDescLast_eq _ ▸ (hSF row hmem b hbm).1) trivial fun hm => ?_
    exfalso
    rcases (hSF row hmem b hbm).2 with hds | hds
    · rw [List.contains_iff_mem.2 hm] at hds; cases hds
    · rw [passes_EOF] at hpass
      rcases hds.1.1 with hk | hk <;> (rw [hk] at hpass; cases hpass)
  | @line s μ l ls row b t0 sf rest hrow hpick ht0 hres htail ih =>
    obtain ⟨hid, hmem⟩ := row_id_of_row? hrow
    obtain ⟨hbm, hpass, -⟩ := pick_mem hpick
    have hμ' := muAfter_ok D μ hμ l b.kind
    have hinv' := inDocString_next hf hCE hrow hbm hμ hpass hinv
    have hi' : indOK (muAfter D μ l b.kind) := matchLine_indOK D b.kind μ (probe l) l hi
    simp only [stepsOps, List.flatMap_cons]
    refine lineOps_prodOps _ _ _ (startsDescLast_eq _ ▸ (hSF row hmem b hbm).1) (ih hμ' hi' hinv') fun hm => ?_
    rcases (hSF row hmem b hbm).2 with hds | hds
    · rw [List.contains_iff_mem.2 hm] at hds; cases hds
    · obtain ⟨⟨hk, hnc⟩, hnt⟩ := hds
      rw [hid] at hnc
      have hin : μ.inDocString = false := by rw [hinv]; exact hnc
      have hin' : (muAfter D μ l b.kind).inDocString = false := by rw [hinv']; exact hnt
      obtain ⟨ys, rest', hops, hys⟩ := trace_descBody F.body htail (mem_descStates hmem hbm hm) hμ'.2 hi' hin'
      refine ⟨ys, rest', hops, fun y hy => ?_⟩
      rcases List.mem_cons.1 hy with rfl | hy
      · exact descTok_of_match hk ht0 hres hμ.2 hi hin
      · exact hys y hy

theorem Accepted.descNodes {D : List Dialect} {T : Table} {G : Grammar} {μ0 : MState} {lines : List Str} {d : Doc}
    {builds : List Token} {ids ids' : Nat} {t : TTree} {toks : List Token} {e : Token} {μf : MState}
    (A : Accepted D T G μ0 lines d builds ids ids' t toks e μf) (hT : T.startRule = .GherkinDocument)
    (hf : textDialectFacts D = true) (hCE : contentEntry T = true) (F' : DescFacts T) (hi : indOK μ0) :
    descNodesP t := by
  obtain ⟨steps, sf, htr, ht⟩ := A.trace
  exact ttreeOf_lineNodes descNodes_lineNodes _ t (lineOps_enclose (r0 := T.startRule) (by rw [hT]; decide)
    (trace_descOps hf hCE F' htr A.start.1 hi A.start.2)) ht

theorem descNodesP_at {t : TTree} (ht : descNodesP t) {ch : List TTree}
    (h : SubT (.node .Description ch) t) : ∃ bs : List Token, ch = bs.map .leaf ∧ ∀ b ∈ bs, DescTok b :=
  descNodes_lineNodes.at ht h

theorem otherTexts_descLines (bs : List Token) (h : ∀ b ∈ bs, DescTok b) :
    otherTexts (bs.map .leaf) =
      (bs.filter fun b => decide (b.mtype = some .Other)).map fun b => rstripCRLF (b.line.getD []) := by
  unfold otherTexts
  rw [childToks_leaves]
  refine List.map_congr_left fun b hb => ?_
  obtain ⟨hb1, hb2⟩ := List.mem_filter.1 hb
  rcases h b hb1 with hc | ⟨lx, hl, -, htx⟩
  · rw [hc] at hb2; simp at hb2
  · rw [htx, hl]; rfl

theorem texts_in_document {D : List Dialect} {T : Table} {G : Grammar} {fuel : Nat} (L : LinkFacts D T G fuel)
    (F : DocFacts D T) (F' : DescFacts T) (hB : oneBuildLast T = true)
    (μ : MState) (ids : Nat) (src : Str) (hμ : (μ.reset D).dialect ∈ D) (d : Doc)
    (h : (parseWith D T false μ ids src).1 = .ok d) :
    ∃ (t : TTree) (toks : List Token) (e : Token) (μf : MState),
      (parseWith D T false μ ids src).2.builds = toks ++ [e] ∧ leaves t = toks ++ [e] ∧
      LineToks D (μ.reset D) 1 (splitLines src) toks μf ∧
      ValidTree G .GherkinDocument t.kinds ∧ docNodesP DocSeqNo t ∧ descNodesP t ∧
      srcTexts d = textsOfTree t ∧ srcElems d = elemsOfTree t ∧
      ∀ (i : Nat) (l : Str) (tk : Token), (splitLines src)[i]? = some l → toks[i]? = some tk →
        tk.mtype = some .Other →
        tk.text = some (rstripCRLF (unescapeDoc (stateAt D (μ.reset D) (splitLines src) toks i).activeSep
          (l.drop (min (stateAt D (μ.reset D) (splitLines src) toks i).indentToRemove (lineIndent l))))) ∧
        ((stateAt D (μ.reset D) (splitLines src) toks i).inDocString = false → tk.text = some (rstripCRLF l)) := by
  obtain ⟨t, toks, e, μf, A⟩ := parse_accepted L hB F.contentRows μ ids src hμ d h
  have hs := A.tree.shaped L.shape
  refine ⟨t, toks, e, μf, A.builds_eq, A.leaves_eq, A.lineToks, A.tree.valid, A.docNodes L.start F,
    A.descNodes L.start L.dialects L.content F' (reset_indOK D μ),
    texts_once_in_order t hs _ _ _ d A.tree.ast, elems_once_in_order t hs _ _ _ d A.tree.ast, fun i l tk hi htk hmt => ?_⟩
  obtain ⟨K, -, hsep, -, htok, -, hK⟩ := LineToks.atState A.lineToks i l hi
  rw [htk] at htok
  cases htok
  rw [hK] at hmt
  cases hmt
  exact ⟨other_text D _ _ l, other_text_verbatim D _ _ l hsep (LineToks.stateAt_indOK A.lineToks (reset_indOK D μ) i)⟩

end Lemmas
end GV
