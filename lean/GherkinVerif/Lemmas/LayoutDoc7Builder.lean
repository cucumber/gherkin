/-
  Lemmas/LayoutDoc7Builder.lean — property C16, a doc string moving as one block: the builder.

  When a doc string is moved as a block its content lines are matched as `Other` in both runs with
  the SAME text and the same column 1 (`match_Other` sets `indent = 0`); so the two `Other` tokens
  are NOT related by `TokMap (indentMap w)` (that would want the column moved).  The builder reads
  of an `Other` token only its text (`Description`, `DocString`), so `ItemsRelO` has one more
  constructor than `Layout3.ItemsRel`: two tokens under the key `.tok .Other` with equal texts.
  This is the relation `Layout3.ItemsRelP` of Lemmas/LayoutDoc3Builder.lean with "same text" for
  the parameter; the statements about `BMapO` are those about `Layout3.BMapP`.
-/
import GherkinVerif.Lemmas.LayoutDoc3Builder
namespace GV
namespace Layout7
open Lemmas Spec Layout3

variable {f : LocMap}

/-- two item lists: same keys in the same order with related values (any values under the keys no
    transform reads; tokens with the same text under the key `.tok .Other`); the second may hold
    extra items under the key `.tok .Empty` -/
inductive ItemsRelO (R : Val → Val → Prop) : List (Key × Val) → List (Key × Val) → Prop
  | nil : ItemsRelO R [] []
  | cons (k : Key) {v w : Val} {xs ys : List (Key × Val)} (h : R v w) (t : ItemsRelO R xs ys) :
      ItemsRelO R ((k, v) :: xs) ((k, w) :: ys)
  | free (k : Key) (hk : freeKey k = true) (v w : Val) {xs ys : List (Key × Val)} (t : ItemsRelO R xs ys) :
      ItemsRelO R ((k, v) :: xs) ((k, w) :: ys)
  | extra (w : Val) {xs ys : List (Key × Val)} (t : ItemsRelO R xs ys) :
      ItemsRelO R xs ((.tok .Empty, w) :: ys)
  | other {a b : Token} (h : b.text = a.text) {xs ys : List (Key × Val)} (t : ItemsRelO R xs ys) :
      ItemsRelO R ((.tok .Other, .tok a) :: xs) ((.tok .Other, .tok b) :: ys)

inductive ValMapO (f : LocMap) : Val → Val → Prop
  | tok {a b : Token} (h : TokMap f a b) : ValMapO f (.tok a) (.tok b)
  | none : ValMapO f .none .none
  | step (s : Step) : ValMapO f (.step s) (.step (mapStep f s))
  | docString (d : DocString) : ValMapO f (.docString d) (.docString (mapDocString f d))
  | dataTable (d : DataTable) : ValMapO f (.dataTable d) (.dataTable (mapTable f d))
  | background (b : Background) : ValMapO f (.background b) (.background (mapBackground f b))
  | scenario (s : Scenario) : ValMapO f (.scenario s) (.scenario (mapScenario f s))
  | examples (e : Examples) : ValMapO f (.examples e) (.examples (mapExamples f e))
  | rows (rs : List Row) : ValMapO f (.rows rs) (.rows (rs.map (mapRow f)))
  | descr (s : Str) : ValMapO f (.descr s) (.descr s)
  | rule (r : Rule) : ValMapO f (.rule r) (.rule (mapRule f r))
  | feature (x : Feature) : ValMapO f (.feature x) (.feature (mapFeature f x))
  | doc (d : Doc) : ValMapO f (.doc d) (.doc (mapDoc f d))
  | raw (rt : RuleType) {xs ys : List (Key × Val)} (h : ItemsRelO (ValMapO f) xs ys) :
      ValMapO f (.raw rt xs) (.raw rt ys)

abbrev ItemsMapO (f : LocMap) := ItemsRelO (ValMapO f)

theorem ValMapO.examples' {f : LocMap} {e e' : Examples} (h : e' = mapExamples f e) :
    ValMapO f (.examples e) (.examples e') := h ▸ .examples e

theorem ItemsRelO.refl_of {R : Val → Val → Prop} (hR : ∀ v, R v v) : ∀ xs : List (Key × Val), ItemsRelO R xs xs
  | [] => .nil
  | (k, v) :: xs => .cons k (hR v) (ItemsRelO.refl_of hR xs)

def NodeMapO (f : LocMap) (a b : Node) : Prop := a.rt = b.rt ∧ ItemsMapO f a.items b.items

def BMapO (f : LocMap) (β1 β2 : BState) : Prop :=
  All2 (NodeMapO f) β1.stack β2.stack ∧ β2.comments = β1.comments.map (mapComment f)

/-- what the builder reads of an `Other` token -/
def SameText (a b : Token) : Prop := b.text = a.text

theorem ItemsRelO.toP {R S : Val → Val → Prop} (hRS : ∀ v w, R v w → S v w) {xs ys : List (Key × Val)}
    (h : ItemsRelO R xs ys) : ItemsRelP SameText S xs ys := by
  induction h with
  | nil => exact .nil
  | cons k hv _ ih => exact .cons k (hRS _ _ hv) ih
  | free k hk v w _ ih => exact .free k hk v w ih
  | extra w _ ih => exact .extra w ih
  | other h _ ih => exact .other h ih

theorem ItemsRelO.ofP {R S : Val → Val → Prop} (hRS : ∀ v w, R v w → S v w) {xs ys : List (Key × Val)}
    (h : ItemsRelP SameText R xs ys) : ItemsRelO S xs ys := by
  induction h with
  | nil => exact .nil
  | cons k hv _ ih => exact .cons k (hRS _ _ hv) ih
  | free k hk v w _ ih => exact .free k hk v w ih
  | extra w _ ih => exact .extra w ih
  | other h _ ih => exact .other h ih

theorem ValMapO.toP {v w : Val} (h : ValMapO f v w) : ValMapP SameText f v w :=
  ValMapO.rec (motive_1 := fun v w _ => ValMapP SameText f v w)
    (motive_2 := fun xs ys _ => ItemsMapP SameText f xs ys)
    (fun h => .tok h) .none .step .docString .dataTable .background .scenario .examples .rows .descr .rule
    .feature .doc (fun rt {_ _} _ ih => .raw rt ih) .nil (fun k {_ _ _ _} _ _ ih1 ih2 => .cons k ih1 ih2)
    (fun k hk v w {_ _} _ ih => .free k hk v w ih) (fun w {_ _} _ ih => .extra w ih)
    (fun {_ _} h {_ _} _ ih => .other h ih) h

theorem ValMapO.ofP {v w : Val} (h : ValMapP SameText f v w) : ValMapO f v w :=
  ValMapP.rec (motive_1 := fun v w _ => ValMapO f v w) (motive_2 := fun xs ys _ => ItemsMapO f xs ys)
    (fun h => .tok h) .none .step .docString .dataTable .background .scenario .examples .rows .descr .rule
    .feature .doc (fun rt {_ _} _ ih => .raw rt ih) .nil (fun k {_ _ _ _} _ _ ih1 ih2 => .cons k ih1 ih2)
    (fun k hk v w {_ _} _ ih => .free k hk v w ih) (fun w {_ _} _ ih => .extra w ih)
    (fun {_ _} h {_ _} _ ih => .other h ih) h

theorem BMapO.toP {β1 β2 : BState} (h : BMapO f β1 β2) : BMapP SameText f β1 β2 :=
  ⟨h.1.mono fun _ _ hn => ⟨hn.1, hn.2.toP fun _ _ h => h.toP⟩, h.2⟩

theorem BMapO.ofP {β1 β2 : BState} (h : BMapP SameText f β1 β2) : BMapO f β1 β2 :=
  ⟨h.1.mono fun _ _ hn => ⟨hn.1, ItemsRelO.ofP (fun _ _ h => ValMapO.ofP h) hn.2⟩, h.2⟩

theorem BMapO.reset : BMapO f BState.reset BState.reset := .ofP BMapP.reset

theorem BMapO.startRule {β1 β2 : BState} (h : BMapO f β1 β2) (r : RuleType) :
    BMapO f (β1.startRule r) (β2.startRule r) :=
  .ofP (h.toP.startRule r)

theorem BMapO.build {β1 β2 : BState} (h : BMapO f β1 β2) {t1 t2 : Token} (ht : TokMap f t1 t2) :
    (∃ w, β1.build t1 = .error (.crash w) ∧ β2.build t2 = .error (.crash w)) ∨
    (∃ β1' β2', β1.build t1 = .ok β1' ∧ β2.build t2 = .ok β2' ∧ BMapO f β1' β2') :=
  (h.toP.build ht).imp id fun ⟨β1', β2', e1, e2, h'⟩ => ⟨β1', β2', e1, e2, .ofP h'⟩

theorem BMapO.build_extra {β1 β2 : BState} (h : BMapO f β1 β2) {t : Token} (hm : t.mtype = some .Empty) :
    (β1.stack = [] ∧ β2.build t = .error (.crash "IndexError: current_node of empty stack")) ∨
    (∃ β2', β2.build t = .ok β2' ∧ BMapO f β1 β2') :=
  (h.toP.build_extra hm).imp id fun ⟨β2', e2, h'⟩ => ⟨β2', e2, .ofP h'⟩

theorem BMapO.endRule {β1 β2 : BState} (h : BMapO f β1 β2) (n : Nat) :
    (β2.endRule n).1 = (β1.endRule n).1.mapError (mapBErr f) ∧ BMapO f (β1.endRule n).2.1 (β2.endRule n).2.1 ∧
    (β2.endRule n).2.2 = (β1.endRule n).2.2 ∧ (∀ e, (β1.endRule n).1 = .error e → BErrOk e) :=
  let ⟨h1, h2, h3⟩ := h.toP.endRule (fun _ _ h => h) n
  ⟨h1, .ofP h2, h3⟩

theorem BMapO.build_free {β1 β2 : BState} (h : BMapO f β1 β2) {t1 t2 : Token} {k : Kind}
    (hk : freeKey (.tok k) = true) (h1 : t1.mtype = some k) (h2 : t2.mtype = some k) :
    (∃ w, β1.build t1 = .error (.crash w) ∧ β2.build t2 = .error (.crash w)) ∨
    (∃ β1' β2', β1.build t1 = .ok β1' ∧ β2.build t2 = .ok β2' ∧ BMapO f β1' β2') :=
  (h.toP.build_free hk h1 h2).imp id fun ⟨β1', β2', e1, e2, h'⟩ => ⟨β1', β2', e1, e2, .ofP h'⟩

theorem BMapO.build_other {β1 β2 : BState} (h : BMapO f β1 β2) {t1 t2 : Token}
    (h1 : t1.mtype = some .Other) (h2 : t2.mtype = some .Other) (ht : t2.text = t1.text) :
    (∃ w, β1.build t1 = .error (.crash w) ∧ β2.build t2 = .error (.crash w)) ∨
    (∃ β1' β2', β1.build t1 = .ok β1' ∧ β2.build t2 = .ok β2' ∧ BMapO f β1' β2') :=
  (h.toP.build_other h1 h2 ht).imp id fun ⟨β1', β2', e1, e2, h'⟩ => ⟨β1', β2', e1, e2, .ofP h'⟩

theorem BMapO.result {β1 β2 : BState} (h : BMapO f β1 β2) :
    β2.result = (β1.result.map (Option.map (mapDoc f))) :=
  h.toP.result

end Layout7
end GV
