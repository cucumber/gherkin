/-
  The Boolean table facts of Spec/QueueFacts.lean in the form the queue argument uses them (`QF`).
-/
import GherkinVerif.Lemmas.QueueOrder
namespace GV
namespace Lemmas
open Spec

/-- number of guarded tests in a list of tests -/
def nG (bs : List Branch) : Nat := (bs.filter fun b => b.guard.isSome).length

theorem nG_cons_none {b : Branch} {bs : List Branch} (h : b.guard = none) : nG (b :: bs) = nG bs := by
  unfold nG; rw [List.filter_cons_of_neg (by simp [h])]

theorem nG_cons_some {b : Branch} {bs : List Branch} {i : Nat} (h : b.guard = some i) : nG (b :: bs) = nG bs + 1 := by
  unfold nG; rw [List.filter_cons_of_pos (by simp [h])]; rfl

theorem nG_cons_le (b : Branch) (bs : List Branch) : nG bs ≤ nG (b :: bs) := by
  cases h : b.guard with
  | none => rw [nG_cons_none h]; exact Nat.le_refl _
  | some i => rw [nG_cons_some h]; exact Nat.le_succ _

theorem le_foldl_max (l : List Nat) : ∀ (init : Nat), init ≤ l.foldl max init ∧ ∀ x ∈ l, x ≤ l.foldl max init := by
  induction l with
  | nil => intro init; exact ⟨Nat.le_refl _, fun x hx => by cases hx⟩
  | cons a l ih =>
    intro init
    rw [List.foldl_cons]
    obtain ⟨h1, h2⟩ := ih (max init a)
    refine ⟨Nat.le_trans (Nat.le_max_left _ _) h1, fun x hx => ?_⟩
    rcases List.mem_cons.1 hx with rfl | hx
    · exact Nat.le_trans (Nat.le_max_right _ _) h1
    · exact h2 x hx

structure QF (D : List Dialect) (T : Table) : Prop where
  plain : keywordsPlainStart D = true
  skAll : (skipList T).all isSkipKind = true
  la : ∀ (i : Nat) (la : LookAhead), T.lookaheads[i]? = some la →
    la.skip = skipList T ∧ la.expected.all Kind.isTitle = true ∧ laCost la ≤ maxLookaheadTests T
  tagRow : ∀ s row, isTag T s = true → T.row? s = some row →
    (∀ b ∈ row.branches, b.guard = none ∧ stableKind b.kind = true ∧
      (isSkipKind b.kind = true → isTag T b.target = true)) ∧ isTag T row.errTarget = true
  rows : ∀ s row, T.row? s = some row →
    guardTail T row.branches = true ∧ row.branches.length ≤ maxTests T ∧ nG row.branches ≤ maxGuards T

theorem QF.of_facts {D : List Dialect} {T : Table} (hD : queueDialectFacts D = true) (hT : queueFacts T = true) :
    QF D T := by
  simp only [queueFacts, Bool.and_eq_true] at hT
  obtain ⟨⟨hU, hC⟩, hG⟩ := hT
  simp only [lookaheadsUniform, List.all_eq_true, Bool.and_eq_true, beq_iff_eq] at hU
  simp only [tagClosed, List.all_eq_true, Bool.or_eq_true, Bool.not_eq_true', Bool.and_eq_true] at hC
  simp only [guardsFollowed, List.all_eq_true] at hG
  refine ⟨hD, ?_, ?_, ?_, ?_⟩
  · cases hl : T.lookaheads with
    | nil => simp [skipList, hl]
    | cons la rest =>
      have := hU la (by rw [hl]; exact List.mem_cons_self ..)
      simp only [skipList, hl]
      rw [List.all_eq_true]
      exact this.1.2
  · intro i la hla
    have hmem : la ∈ T.lookaheads := List.mem_of_getElem? hla
    obtain ⟨⟨h1, -⟩, h3⟩ := hU la hmem
    refine ⟨h1, by rw [List.all_eq_true]; exact h3, ?_⟩
    exact (le_foldl_max _ 0).2 _ (List.mem_map.2 ⟨la, hmem, rfl⟩)
  · intro s row hs hrow
    have hmem : row ∈ T.rows := List.mem_of_find?_eq_some hrow
    have htr : isTagRow row = true := by
      unfold isTag at hs; rw [hrow] at hs; exact hs
    rcases hC row hmem with h | ⟨h1, h2⟩
    · rw [htr] at h; cases h
    · refine ⟨fun b hb => ?_, h2⟩
      simp only [isTagRow, List.all_eq_true, Bool.and_eq_true, Option.isNone_iff_eq_none] at htr
      refine ⟨(htr b hb).1, (htr b hb).2, fun hk => ?_⟩
      rcases h1 b hb with h | h
      · rw [hk] at h; cases h
      · exact h
  · intro s row hrow
    have hmem : row ∈ T.rows := List.mem_of_find?_eq_some hrow
    refine ⟨hG row hmem, ?_, ?_⟩
    · exact (le_foldl_max _ 0).2 _ (List.mem_map.2 ⟨row, hmem, rfl⟩)
    · exact (le_foldl_max _ 0).2 _ (List.mem_map.2 ⟨row, hmem, rfl⟩)

theorem mm_tagLine_none (D : List Dialect) (μ : MState) : mm D .TagLine μ none = false := rfl

end Lemmas
end GV
