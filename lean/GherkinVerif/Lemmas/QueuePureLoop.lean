/-
  The main loop and the whole parse with the token queue simulate their queue-free versions of
  Spec/PureParse.lean (C18_queue_refines_peek); `match_token` is `mt` of Lemmas/QueueLoop.lean,
  with the fresh token of the line on the pure side.
-/
import GherkinVerif.Lemmas.QueueLoop
import GherkinVerif.Lemmas.PureInv
import GherkinVerif.Spec.PureFacts
namespace GV
namespace Lemmas
open Spec

section
variable {D : List Dialect} {T : Table} {stop : Bool} {L : List Str}

theorem tr_initial (hCB : commentBlankTested T = true) {s : Nat} {row : StateRow} (hrow : T.row? s = some row)
    {t t' : Token} (hk : sameKey t t') (hinv : TokInv t) (hcol' : colOK t') : TR row.branches t t' := by
  refine ⟨hk, ?_⟩
  rcases hinv with h | ⟨l, hl, hcb⟩
  · exact .inl fun row => unexpectedErr_colOK row hk h hcol'
  · right
    have hmem : row ∈ T.rows := List.mem_of_find?_eq_some hrow
    simp only [commentBlankTested, List.all_eq_true, Bool.and_eq_true, List.any_eq_true, Bool.or_eq_true,
      beq_iff_eq] at hCB
    obtain ⟨⟨b1, hb1, hk1⟩, ⟨b2, hb2, hk2⟩⟩ := hCB row hmem
    rcases hcb with hc | he
    · refine ⟨b1, hb1, l, hl, ?_⟩
      rcases hk1 with h | h
      · exact .inr (.inl ⟨h, hc⟩)
      · exact .inl h
    · refine ⟨b2, hb2, l, hl, ?_⟩
      rcases hk2 with h | h
      · exact .inr (.inr ⟨h, he⟩)
      · exact .inl h

theorem loopr (F : QF D T) (hCB : commentBlankTested T = true) : ∀ (fuel j s : Nat) (c : Ctx),
    Head D T L j s c → ∀ r c', run (parseLoop D T stop fuel s) c = (r, c') →
      ∃ j', run (parseLinesPure D T stop fuel s) (pureOf L j c) = (r, pureOf L j' c') := by
  intro fuel
  induction fuel with
  | zero =>
    intro j s c _ r c' h
    rw [parseLoop, prun_throw] at h
    cases h
    exact ⟨j, rfl⟩
  | succ fuel ih =>
    intro j s c hhead r c' h
    rw [parseLoop, prun_bind] at h
    obtain ⟨t, c1, hr0, hcase⟩ := readToken_cases c
    obtain ⟨⟨hkey, htinv⟩, hmid⟩ := (read_step (D := D) (T := T) (L := L) j s c hhead).1 t c1 hr0
    rw [hr0] at h
    dsimp only at h
    rw [prun_bind, run_modify] at h
    dsimp only at h
    have hn : t.lineNo = j + 1 := congrArg Prod.snd hkey
    have hl : t.line = L[j]? := congrArg Prod.fst hkey
    -- the pure context after the pure loop has taken its line
    have hpure : pureOf L (j + 1) { c1 with reads := c1.reads ++ [t.lineNo] } =
          { pureOf L j c with lines := (pureOf L j c).lines.tail, lineNo := (pureOf L j c).lineNo + 1,
                              reads := (pureOf L j c).reads ++ [(pureOf L j c).lineNo + 1] } := by
      show _ = ({ c with queue := [], lines := (L.drop j).tail, lineNo := j + 1, reads := c.reads ++ [j + 1] } : Ctx)
      rw [List.tail_drop, ← hn]
      rcases hcase with ⟨q, hcq, rfl⟩ | ⟨hcq, rfl, rfl⟩ <;> rfl
    rw [pure_step, ← hpure]
    have hhead? : (pureOf L j c).lines.head? = L[j]? := by
      show (L.drop j).head? = _
      rw [List.head?_drop]
    have hno : (pureOf L j c).lineNo + 1 = j + 1 := rfl
    rw [hhead?, hno]
    have hk : sameKey t { line := L[j]?, lineNo := j + 1 } := ⟨hl, hn⟩
    rw [prun_bind] at h ⊢
    rcases hr1 : run (matchToken D T stop s t) { c1 with reads := c1.reads ++ [t.lineNo] } with ⟨r1, c3⟩
    rw [hr1] at h
    have := mt (stop := stop) F j s t _ hkey (fun row hrow => tr_initial hCB hrow hk htinv (colOK_fresh _ _))
      _ hmid r1 c3 hr1
    cases r1 with
    | error e =>
      dsimp only at this h
      rw [this.1]
      cases h
      exact ⟨j + 1, rfl⟩
    | ok s' =>
      obtain ⟨a', hrun, ha, hpost⟩ := this
      subst ha
      rw [hrun]
      dsimp only at h ⊢
      have heof : ({ line := L[j]?, lineNo := j + 1 } : Token).eof = t.eof := by
        unfold Token.eof; rw [hl]
      rw [heof]
      have hnext := hpost.next hkey
      split at h
      · rename_i he
        rw [if_pos he]
        rw [prun_pure] at h ⊢
        cases h
        exact ⟨j + 1, rfl⟩
      · rename_i he
        rw [if_neg he] at hnext ⊢
        exact ih (j + 1) s' c3 hnext r c' h

theorem bodyr (F : QF D T) (hCB : commentBlankTested T = true) (n : Nat) (c : Ctx)
    (hhead : Head D T L 0 0 c) {r : Except Abort Doc} {c' : Ctx}
    (h : run (parseBody D T stop n) c = (r, c')) :
    ∃ j', run (parseBodyPure D T stop n) (pureOf L 0 c) = (r, pureOf L j' c') := by
  rw [parseBody, prun_bind, run_modify] at h
  rw [parseBodyPure, prun_bind, run_modify]
  dsimp only at h ⊢
  rw [prun_bind] at h ⊢
  rcases hr1 : run (parseLoop D T stop (n + 2) 0) { c with β := c.β.startRule T.startRule } with ⟨r1, c1⟩
  rw [hr1] at h
  obtain ⟨j', hp⟩ := loopr (stop := stop) F hCB (n + 2) 0 0 _ (hhead.beta _) r1 c1 hr1
  have hp' : run (parseLinesPure D T stop (n + 2) 0)
      { pureOf L 0 c with β := (pureOf L 0 c).β.startRule T.startRule } = (r1, pureOf L j' c1) := hp
  rw [hp']
  cases r1 with
  | error e => cases h; exact ⟨j', rfl⟩
  | ok s1 =>
    -- what follows the loop neither reads nor writes the scanner fields
    refine ⟨j', ?_⟩
    dsimp only at h ⊢
    refine QFrame.bind (QFrame.runProd _ _ _ _) (fun _ => QFrame.get_bind (fun c0 => ?_) fun _ _ _ _ => rfl)
      c1 [] (L.drop j') j' r c' h
    split
    · refine QFrame.bind (QFrame.throw _) fun _ => ?_
      split <;> first | exact QFrame.pure _ | exact QFrame.throw _
    · split <;> first | exact QFrame.pure _ | exact QFrame.throw _

end

theorem queue_refines_peek (D : List Dialect) (T : Table) (hD : queueDialectFacts D = true)
    (hT : queueFacts T = true) (hCB : commentBlankTested T = true)
    (stop : Bool) (μ : MState) (ids : Nat) (src : Str) (hμ : (μ.reset D).dialect ∈ D) :
    observe (parseWith D T stop μ ids src) = observe (parseWithPure D T stop μ ids src) := by
  have F := QF.of_facts hD hT
  rcases hr : run (parseBody D T stop (splitLines src).length) (ctx0 D μ ids src) with ⟨r, c⟩
  obtain ⟨j', hp⟩ := bodyr (stop := stop) F hCB (splitLines src).length (ctx0 D μ ids src)
    (head_ctx0 D T μ ids src hμ) hr
  have hp' : (parseBodyPure D T stop (splitLines src).length).run.run (ctx0 D μ ids src) =
      (r, pureOf (splitLines src) j' c) := hp
  have hr' : (parseBody D T stop (splitLines src).length).run.run (ctx0 D μ ids src) = (r, c) := hr
  unfold parseWith parseWithPure
  dsimp only
  have e0 : ({ lines := splitLines src, μ := μ.reset D, β := BState.reset, ids := ids } : Ctx) = ctx0 D μ ids src := rfl
  rw [e0, hr', hp']
  cases r with
  | ok d => rfl
  | error e => cases e <;> rfl

end Lemmas
end GV
