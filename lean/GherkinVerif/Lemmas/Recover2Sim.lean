/-
  Lemmas/Recover2Sim.lean — property C14, recovery at document level: the lock-step simulation of the
  two runs through `match_token`: `Layout3.SimX` for the relation `CtxU` (Lemmas/RecoverSim.lean); what
  is particular to it are the look-aheads and the productions.  While the inserted line `u`
  is still ahead, the invariant on the unread lines is: "if no barrier line lies between the current
  line and `u`, the current `match_token` starts no look-ahead" (`NT`: the current line is no tag
  line, or the state has no guarded test).  A look-ahead that is started stops at the barrier line
  at the latest, so it never comes across `u`.  (`Recover` holds the vocabulary and the one-run
  facts, `Recover2` the simulation and the theorems on whole parses; the `2` is that of
  Spec/RecoverChecks2 and Props/C14Recover2.)
-/
import GherkinVerif.Lemmas.RecoverSim
import GherkinVerif.Spec.RecoverChecks2
namespace GV
namespace Recover2
open Lemmas Spec Layout3 Recover

theorem tag_head (D : List Dialect) (μ : MState) (l : Str) (h : mm D .TagLine μ (some l) = true) :
    tagStart l = true := by
  change MRes.isMatched (matchLine D .TagLine μ { line := some l, lineNo := 0 } l).res = true at h
  rw [matchLine_eq] at h
  dsimp only [lineDec] at h
  split at h
  · rename_i he
    obtain ⟨r, hr⟩ := (startsWith_iff _ _).1 he
    have hr' : trimmed l = 64 :: r := hr
    unfold tagStart
    rw [hr']
    rfl
  · cases h

theorem not_tag (D : List Dialect) {l : Str} (h : tagStart l = false) (μ : MState) : mm D .TagLine μ (some l) = false := by
  cases hm : mm D .TagLine μ (some l) with
  | false => rfl
  | true => rw [tag_head D μ l hm] at h; cases h

theorem barrier_not_tagStart {l : Str} (h : barrierLine l = true) : tagStart l = false := by
  unfold barrierLine at h
  unfold tagStart
  cases ht : trimmed l with
  | nil => rfl
  | cons c r =>
    rw [ht] at h
    simp only [Bool.and_eq_true, bne_iff_ne, ne_eq] at h
    simp only [beq_eq_false_iff_ne, ne_eq]
    exact h.2

/-- where `pre` ends in a barrier line, a line of `pre` with no barrier line behind it is that last
    line, so it is no tag line -/
theorem barrierBefore_tagStart {pre : List Str} (h : barrierBefore pre = true) {i : Nat} {l : Str}
    (hi : pre[i]? = some l) (hb : (pre.drop (i + 1)).any barrierLine = false) : tagStart l = false := by
  unfold barrierBefore at h
  cases hlast : pre.getLast? with
  | none => rw [List.getLast?_eq_none_iff.1 hlast] at hi; cases hi
  | some a =>
    rw [hlast] at h
    obtain ⟨ys, rfl⟩ := List.getLast?_eq_some_iff.1 hlast
    obtain ⟨hlt, hget⟩ := List.getElem?_eq_some_iff.1 hi
    simp only [List.length_append, List.length_cons, List.length_nil] at hlt
    by_cases hy : i < ys.length
    · rw [List.drop_append_of_le_length (by omega), List.any_append] at hb
      simp [h] at hb
    · have hi' : i = ys.length := by omega
      subst hi'
      simp only [List.getElem_append_right (Nat.le_refl _), Nat.sub_self, List.getElem_cons_zero] at hget
      subst hget
      exact barrier_not_tagStart h

/-- unread lines of the two runs: the line `u` is still ahead (as line `k + 1` of the second text;
    if none of the lines `p` before it is a barrier line, the current `match_token` starts no
    look-ahead: `NT`), or has been read by the second run.  `NT` speaks of the token and the state
    of the `match_token` in progress, which the lines do not know, so it is a parameter: the loop
    before `u` puts `tagStart l = false ∨ hasGuard T s = false`, the loop behind `u` puts `False`. -/
def LinesV (u : Str) (k : Nat) (NT : Prop) (ls1 : List Str) (n1 : Nat) (ls2 : List Str) (n2 : Nat) : Prop :=
  (n2 = n1 ∧ ∃ p q, ls1 = p ++ q ∧ ls2 = p ++ u :: q ∧ n1 + p.length = k ∧ (p.any barrierLine = false → NT)) ∨
  (n2 = n1 + 1 ∧ k ≤ n1 ∧ ls2 = ls1)

/-- `m1` in the first run and `m2` in the second go in lock step: from related contexts and unread
    lines they end as `PostU` says, with results related by `R` (`Layout3.SimX` for `CtxU`) -/
abbrev SimV (D : List Dialect) (u : Str) (k : Nat) (x : Option Extra) (cap : Nat) (NT : Prop) {α}
    (R : α → α → Prop) (m1 m2 : PM α) : Prop :=
  SimX (CtxU D k x) (mapAbortU k x) (fun c => cap < c.errors.length) (LinesV u k NT) R m1 m2

section sim
variable {D : List Dialect} {u : Str} {k : Nat} {x : Option Extra} {cap : Nat} {NT : Prop}

/-- a look-ahead before the inserted line stops at the barrier line at the latest: a line that is
    skipped is matched by a skip kind, so it is no barrier line -/
theorem simV_peek_before (stop : Bool) {la : LookAhead} (hsk : la.skip.all isSkipKind = true) (q : List Str) :
    ∀ (p : List Str) (n : Nat), n + p.length = k + 1 → p.any barrierLine = true →
      SimV D u k x cap NT Eq (peekLoop D cap stop la (p ++ q) n) (peekLoop D cap stop la (p ++ u :: q) n) := by
  intro p
  induction p with
  | nil => intro n _ h; cases h
  | cons l p ih =>
    intro n hn hbar
    simp only [List.cons_append]
    refine simX_peek_cons CtxU.scanRel cap stop la ?_ fun ⟨K, hK, μ, hμ⟩ => ih (n + 1) (by simp at hn ⊢; omega) ?_
    · unfold TokIns reNo; simp only [insertMap_ln_le k (show n ≤ k by simp at hn; omega)]
    · have hnb : barrierLine l = false := by
        cases hb : barrierLine l with
        | false => rfl
        | true =>
          have := barrier_not_skip (D := D) hb K (List.all_eq_true.1 hsk K hK) μ
          rw [this] at hμ; cases hμ
      rw [List.any_cons, hnb, Bool.false_or] at hbar
      exact hbar

theorem simV_lookaheadPure (stop : Bool) {la : LookAhead} (hsk : la.skip.all isSkipKind = true) (hnt : ¬ NT) :
    SimV D u k x cap NT Eq (lookaheadPure D cap stop la) (lookaheadPure D cap stop la) := by
  intro c1 c2 hc hl
  unfold lookaheadPure
  rw [prun_bind, prun_bind, run_get, run_get]
  simp only []
  rcases hl with ⟨hn, p, q, h1, h2, hk, hp⟩ | ⟨hn, hk, hls⟩
  · rw [h1, h2, hn]
    have hbar : p.any barrierLine = true := by
      cases hb : p.any barrierLine with
      | true => rfl
      | false => exact absurd (hp hb) hnt
    exact simV_peek_before stop hsk q p _ (by omega) hbar c1 c2 hc
      (.inl ⟨hn, p, q, h1, h2, hk, hp⟩)
  · rw [hls, hn]
    exact simX_peek_after (L := LinesV u k NT) CtxU.scanRel cap stop la _ _ (by omega) c1 c2 hc (.inr ⟨hn, hk, hls⟩)

theorem simV_runProd (stop : Bool) {t1 t2 : Token} (p : Prod)
    (ht : p = .build → TokIns k t1 t2 ∧ t1.col ≠ some 0) {c1 c2 : Ctx} (hc : CtxU D k x c1 c2) :
    PostU D k x cap (fun _ _ => True) c1 c2 (run (runProd cap stop t1 p) c1) (run (runProd cap stop t2 p) c2) := by
  rw [run_runProd, run_runProd]
  cases p with
  | start r => exact .ok ⟨trivial, { hc with β := hc.β.startRule r }, ⟨rfl, rfl⟩, ⟨rfl, rfl⟩⟩
  | end_ r =>
    simp only []
    rw [hc.ids]
    obtain ⟨h1, h2, h3, -⟩ := hc.β.endRule c1.ids
    rw [h1, h3]
    have hc' : CtxU D k x { c1 with β := (c1.β.endRule c1.ids).2.1, ids := (c1.β.endRule c1.ids).2.2 }
        { c2 with β := (c2.β.endRule c1.ids).2.1, ids := (c1.β.endRule c1.ids).2.2 } :=
      { hc with β := h2, ids := rfl }
    exact (postX_liftB CtxU.scanRel cap stop _ hc').frames ⟨rfl, rfl⟩ ⟨rfl, rfl⟩
  | build =>
    simp only []
    obtain ⟨hti, hcol⟩ := ht rfl
    rcases hc.β.build (hti.tokMap hcol) with ⟨w, e1, e2⟩ | ⟨β1, β2, e1, e2, hβ⟩
    · rw [e1, e2]
      exact postX_liftB CtxU.scanRel cap stop (.error (.crash w)) hc
    · rw [e1, e2]
      refine .ok ⟨trivial, { hc with β := hβ, builds := ?_ }, ⟨rfl, rfl⟩, ⟨rfl, rfl⟩⟩
      show c2.builds ++ [t2] = (c1.builds ++ [t1]).map (renumber k)
      rw [hc.builds, List.map_append, hti]
      rfl

theorem simV_runProds (stop : Bool) {t1 t2 : Token} (ht : TokIns k t1 t2) (hcol : t1.col ≠ some 0) (ps : List Prod) :
    SimV D u k x cap NT (fun _ _ => True) (runProds cap stop t1 ps) (runProds cap stop t2 ps) := by
  induction ps with
  | nil => exact SimX.pure trivial
  | cons p ps ih =>
    unfold runProds
    exact SimX.bind (fun _ _ hc _ => simV_runProd stop p (fun _ => ⟨ht, hcol⟩) hc) fun _ _ _ => ih

/-- a guarded test sits on `TagLine`; if it has matched, the line starts with `@`, and by `hNT` a
    barrier line lies before `u`: the look-ahead does not reach `u` -/
theorem simV_matchTokenPure {T : Table} (hcap : T.errorCap = cap) (hT : TableOkU T) (stop : Bool) (state : Nat)
    {t1 t2 : Token} (ht : TokIns k t1 t2)
    (hNT : NT → (∀ μ, mm D .TagLine μ t1.line = false) ∨ hasGuard T state = false) :
    SimV D u k x cap NT Eq (matchTokenPure D T stop state t1) (matchTokenPure D T stop state t2) := by
  subst hcap
  intro c1 c2 hc hl
  refine simX_matchTokenPure CtxU.scanRel state ht c1 c2 hc hl (fun row hrow br hbr i la hg hla ⟨μ, hμ⟩ => ?_)
    fun _ _ br _ u1 u2 hu hcol _ d1 d2 hd hdl _ => simV_runProds stop hu hcol br.prods d1 d2 hd hdl
  refine simV_lookaheadPure stop (hT.skips i la hla) fun h => ?_
  rcases hNT h with h' | h'
  · rcases hT.guards state row hrow br hbr with hn | hk
    · rw [hg] at hn; cases hn
    · rw [hk, h' μ] at hμ; cases hμ
  · unfold hasGuard at h'
    rw [hrow] at h'
    simp only [List.any_eq_false, Option.isSome_iff_ne_none, ne_eq, Decidable.not_not] at h'
    rw [h' br hbr] at hg; cases hg

end sim
end Recover2
end GV
