/-
  Lemmas/LayoutDoc7IndentSim.lean — property C16, indenting lines, a doc string moving as one block:
  the two runs of the queue-free parse side by side (`PostR`, Lemmas/Rel.lean).

  Error list and builder state of the second run are the `indentMap w`-images of those of the
  first (`CtxW`; builder relation `BMapO` of Lemmas/LayoutDoc7Builder.lean: `Other` tokens need only
  agree in their text).  The matcher states are not equal: that of the second run has
  `indentToRemove` larger by the SHIFT OF THE OPEN DOC STRING (`shiftMu d`), and that shift is a
  function of the ghost list `builds` of the first run (`Spec.openShift`).  `CtxM w M b` relates the
  two contexts as wholes — unread lines and the first run's `builds` included — so that a step is
  stated from `CtxM` to `CtxM` and nothing is said of what a step leaves alone.  The tests and the
  look-aheads cannot escape; the productions can (`EscB`: the scan `Spec.blockScan` of the first
  run's `builds` fails), and the escape survives what follows because the glue only appends to
  `builds` (`EscB.sticky`).  Per-test lemma: `matchTok_blk` (Lemmas/LayoutDoc7Indent.lean).
  `indent_parseWith7` carries the result over to the parser with its token queue;
  `blockScan_of_indentable` gives the hypotheses of `C16_indent_document` and
  `C16_indent_closing_delimiter_document` as special cases.
-/
import GherkinVerif.Lemmas.LayoutDoc7Indent
import GherkinVerif.Lemmas.RelLoop
import GherkinVerif.Lemmas.RelPeek
import GherkinVerif.Lemmas.PureInv
namespace GV
namespace Layout7
open Lemmas Spec Layout3 Layout4

theorem openShift_snoc (w : Nat → Nat) (ts : List Token) (t : Token) :
    openShift w (ts ++ [t]) = nextShift w (openShift w ts) t := by
  unfold openShift
  rw [List.foldl_append]
  rfl

theorem nextShift_idem (w : Nat → Nat) (d : Nat) (t : Token) :
    nextShift w (nextShift w d t) t = nextShift w d t := by
  unfold nextShift
  split
  · rfl
  · rename_i h
    split
    · rename_i h'; exact absurd h' h
    · rfl

/-- the scan of the first run's built tokens has failed: some line was moved in a way it may not -/
def BadB (w : Nat → Nat) (c : Ctx) : Prop := blockScan w 0 c.builds = false

theorem blockScan_append (w : Nat → Nat) : ∀ (d : Nat) (a b : List Token),
    blockScan w d (a ++ b) = (blockScan w d a && blockScan w (a.foldl (nextShift w) d) b)
  | _, [], _ => rfl
  | d, t :: a, b => by
    simp only [List.cons_append, blockScan, List.foldl_cons, blockScan_append w _ a b, Bool.and_assoc]

theorem badB_append (w : Nat → Nat) (a suf : List Token) (h : blockScan w 0 a = false) :
    blockScan w 0 (a ++ suf) = false := by
  rw [blockScan_append, h]
  rfl

/-- what the two contexts have in common apart from the matcher state: renamed error list (no error
    has column 0), related builder states (`BMapO`), same id counter, same reported lines -/
structure CtxW (w : Nat → Nat) (c1 c2 : Ctx) : Prop where
  errors : c2.errors = c1.errors.map (mapErr (indentMap w))
  errs0 : ∀ e ∈ c1.errors, e.loc.col ≠ some 0
  β : BMapO (indentMap w) c1.β c2.β
  ids : c2.ids = c1.ids
  unexpected : c2.unexpected = c1.unexpected

structure CtxS (w : Nat → Nat) (d : Nat) (c1 c2 : Ctx) : Prop extends CtxW w c1 c2 where
  μ : c2.μ = shiftMu d c1.μ

/-- the two runs side by side: `CtxW`, the unread lines related, `b` the tokens the first run has
    handed to the builder, the matcher states related by `M` -/
structure CtxM (w : Nat → Nat) (M : MState → MState → Prop) (b : List Token) (c1 c2 : Ctx) : Prop extends CtxW w c1 c2 where
  lines : LinesRel w c1 c2
  builds : c1.builds = b
  μ : M c1.μ c2.μ

abbrev Sh (d : Nat) (μ1 μ2 : MState) : Prop := μ2 = shiftMu d μ1

/-- two aborts side by side: the second is the first with the columns moved by `w` -/
def EW (w : Nat → Nat) (e1 e2 : Abort) (c1 c2 : Ctx) : Prop := e2 = mapAbort (indentMap w) e1 ∧ CtxW w c1 c2

section simB
variable {w : Nat → Nat} {d : Nat} {b : List Token} {M : MState → MState → Prop}

abbrev PostS (w : Nat → Nat) (M : MState → MState → Prop) (b : List Token) {α β} (R : α → β → Prop) :=
  PostR (fun a1 a2 d1 d2 => R a1 a2 ∧ CtxM w M b d1 d2) (EW w) (fun _ _ => False)

theorem blk_addError (cap : Nat) (e : PErr) (he : e.loc.col ≠ some 0) {c1 c2 : Ctx} (hc : CtxM w M b c1 c2) :
    PostS w M b (fun _ _ => True) (run (addError cap e) c1) (run (addError cap (mapErr (indentMap w) e)) c2) := by
  rw [run_addError, run_addError, hc.errors, any_msg_ind w e he c1.errors hc.errs0]
  have hlen : (c1.errors.map (mapErr (indentMap w)) ++ [mapErr (indentMap w) e]).length =
      (c1.errors ++ [e]).length := by simp
  have hc' : CtxM w M b { c1 with errors := c1.errors ++ [e] }
      { c2 with errors := c1.errors.map (mapErr (indentMap w)) ++ [mapErr (indentMap w) e] } :=
    { hc with
      errors := by simp
      errs0 := fun x hx => by
        rcases List.mem_append.1 hx with hx | hx
        · exact hc.errs0 x hx
        · rw [List.mem_singleton.1 hx]; exact he }
  rw [hlen]
  split
  · exact .ok ⟨trivial, hc⟩
  · split
    · exact .err ⟨by simp [mapAbort], hc'.toCtxW⟩
    · exact .ok ⟨trivial, hc'⟩

theorem blk_liftB (cap : Nat) (stop : Bool) (r : Except BErr Unit) (hr : ∀ e, r = .error e → BErrOk e) {c1 c2 : Ctx}
    (hc : CtxM w M b c1 c2) :
    PostS w M b (fun _ _ => True) (run (liftB cap stop r) c1)
      (run (liftB cap stop (r.mapError (mapBErr (indentMap w)))) c2) := by
  rw [run_liftB, run_liftB]
  rcases r with (x | e) | u
  · exact .err ⟨rfl, hc.toCtxW⟩
  · simp only [Except.mapError, mapBErr]
    cases stop with
    | true => exact .err ⟨rfl, hc.toCtxW⟩
    | false => exact blk_addError cap e (hr _ rfl) hc
  · exact .ok ⟨trivial, hc⟩

/-- the tokens built once the production `p` has been carried out on the token `t` -/
def built (t : Token) (b : List Token) : Prod → List Token
  | .build => b ++ [t]
  | _ => b

theorem blk_runProd (cap : Nat) (stop : Bool) {t1 t2 : Token} (p : Prod) (ht : p = .build → BuildOK7 w t1 t2)
    {c1 c2 : Ctx} (hc : CtxM w M b c1 c2) :
    PostS w M (built t1 b p) (fun _ _ => True) (run (runProd cap stop t1 p) c1) (run (runProd cap stop t2 p) c2) := by
  rw [run_runProd, run_runProd]
  cases p with
  | start r => exact .ok ⟨trivial, { hc with β := hc.β.startRule r }⟩
  | end_ r =>
    simp only []
    rw [hc.ids]
    obtain ⟨h1, h2, h3, h4⟩ := hc.β.endRule c1.ids
    rw [h1, h3]
    exact blk_liftB cap stop _ h4 { hc with β := h2, ids := rfl }
  | build =>
    simp only []
    have hb : (∃ x, c1.β.build t1 = .error (.crash x) ∧ c2.β.build t2 = .error (.crash x)) ∨
        (∃ β1' β2', c1.β.build t1 = .ok β1' ∧ c2.β.build t2 = .ok β2' ∧ BMapO (indentMap w) β1' β2') := by
      rcases ht rfl with (ht | ⟨k, hk, m1, m2⟩) | ⟨m1, m2, htx⟩
      · exact hc.β.build ht
      · exact hc.β.build_free hk m1 m2
      · exact hc.β.build_other m1 m2 htx
    rcases hb with ⟨x, e1, e2⟩ | ⟨β1, β2, e1, e2, hβ⟩
    · rw [e1, e2]
      exact .err ⟨rfl, hc.toCtxW⟩
    · rw [e1, e2]
      exact .ok ⟨trivial, { hc with β := hβ, builds := by rw [hc.builds]; rfl }⟩

theorem blk_runProds (cap : Nat) (stop : Bool) {t1 t2 : Token} (ht : BuildOK7 w t1 t2) :
    ∀ (ps : List Prod) {b : List Token} {c1 c2 : Ctx}, CtxM w M b c1 c2 →
      PostS w M (ps.foldl (built t1) b) (fun _ _ => True) (run (runProds cap stop t1 ps) c1)
        (run (runProds cap stop t2 ps) c2)
  | [], _, c1, c2, hc => .ok ⟨trivial, hc⟩
  | p :: ps, _, _, _, hc => by
    unfold runProds
    exact (blk_runProd cap stop p (fun _ => ht) hc).bind (fun _ _ _ _ _ _ h => blk_runProds cap stop ht ps h.2)
      (Sticky.none _ _)

theorem built_of_ne (t : Token) (b : List Token) : ∀ {p : Prod}, p ≠ .build → built t b p = b
  | .start _, _ => rfl
  | .end_ _, _ => rfl
  | .build, h => absurd rfl h

theorem foldl_built_of_not_mem (t : Token) : ∀ (ps : List Prod) (b : List Token), .build ∉ ps → ps.foldl (built t) b = b
  | [], _, _ => rfl
  | p :: ps, b, h => by
    rw [List.foldl_cons, built_of_ne t b fun e => h (e ▸ List.mem_cons_self),
      foldl_built_of_not_mem t ps b fun h' => h (List.mem_cons_of_mem _ h')]

theorem openShift_built (w : Nat → Nat) (t : Token) : ∀ (ps : List Prod) (b : List Token), .build ∈ ps →
    openShift w (ps.foldl (built t) b) = nextShift w (openShift w b) t
  | p :: ps, b, h => by
    rw [List.foldl_cons]
    by_cases hp : p = .build
    · subst hp
      by_cases hmem : Prod.build ∈ ps
      · rw [openShift_built w t ps _ hmem]
        show nextShift w (openShift w (b ++ [t])) t = _
        rw [openShift_snoc, nextShift_idem]
      · rw [foldl_built_of_not_mem t ps _ hmem]
        exact openShift_snoc w b t
    · rw [built_of_ne t b hp]
      exact openShift_built w t ps b ((List.mem_cons.1 h).resolve_left fun e => hp e.symm)

/-- the escape as `PostR` takes it: the scan of the first run's built tokens fails -/
abbrev EscB (w : Nat → Nat) (x1 _ : Option Abort × Ctx) : Prop := BadB w x1.2

theorem EscB.sticky {α β γ δ} {k1 : α → PM γ} (k2 : β → PM δ) (hg : ∀ a, GrowsB (k1 a)) : Sticky (EscB w) k1 k2 := by
  intro m1 m2 c1 c2 h
  exact GrowsB.esc_bind (badB_append w) hg h

theorem blk_build_bad (cap : Nat) (stop : Bool) {t1 t2 : Token} (ht : BadPair7 w d t1 t2) {c1 c2 : Ctx}
    (hc : CtxM w M b c1 c2) (hd : openShift w b = d) :
    PostR (fun (_ _ : Unit) _ _ => False) (EW w) (EscB w) (run (runProd cap stop t1 .build) c1)
      (run (runProd cap stop t2 .build) c2) := by
  rw [run_runProd, run_runProd]
  simp only []
  obtain ⟨K, m1, m2, hK, htext⟩ := ht
  have bad : ∀ β', c1.β.build t1 = .ok β' →
      BadB w (match c1.β.build t1 with
        | .ok β' => ((.ok () : Except Abort Unit), { c1 with β := β', builds := c1.builds ++ [t1] })
        | .error e => run (liftB cap stop (.error e)) c1).2 := by
    intro β' hb
    rw [hb]
    show blockScan w 0 (c1.builds ++ [t1]) = false
    unfold openShift at hd
    rw [blockScan_append, hc.builds, hd]
    simp [blockScan, hK]
  by_cases hKc : K = .Comment
  · subst hKc
    obtain ⟨x1, x2⟩ := htext rfl
    cases h1 : t1.text with
    | none => rw [h1] at x1; cases x1
    | some tx => exact .esc (bad _ (by rw [layBuild_comment _ _ m1, h1]))
  · rw [layBuild_other _ _ K hKc m1, layBuild_other _ _ K hKc m2] at *
    have hst := hc.β.1
    revert hst bad
    generalize c1.β.stack = s1
    generalize c2.β.stack = s2
    intro bad hst
    cases hst with
    | nil =>
      simp only [addToTop, run_liftB]
      exact .err ⟨rfl, hc.toCtxW⟩
    | cons _ _ => exact .esc (bad _ rfl)

theorem blk_runProds_bad (cap : Nat) (stop : Bool) {t1 t2 : Token} (ht : BadPair7 w d t1 t2) :
    ∀ (ps : List Prod), .build ∈ ps → ∀ {c1 c2 : Ctx}, CtxM w M b c1 c2 → openShift w b = d →
      PostR (fun (_ _ : Unit) _ _ => False) (EW w) (EscB w) (run (runProds cap stop t1 ps) c1)
        (run (runProds cap stop t2 ps) c2)
  | p :: ps, hmem, c1, c2, hc, hd => by
    unfold runProds
    by_cases hp : p = .build
    · subst hp
      exact (blk_build_bad cap stop ht hc hd).bind (fun _ _ _ _ _ _ h => h.elim)
        (EscB.sticky _ fun _ => growsB_runProds cap stop t1 ps)
    · refine (blk_runProd cap stop p (fun h => absurd h hp) hc).bindS fun _ _ d1 d2 _ _ h => ?_
      rw [built_of_ne t1 b hp] at h
      exact blk_runProds_bad cap stop ht ps ((List.mem_cons.1 hmem).resolve_left fun e => hp e.symm) h.2 hd

/-- what two related `match_<k>` calls return: the same verdict, and either everything stays
    related (the shift of the open doc string becomes that after the matched token), or both
    succeeded on a line that may not be moved the way it is -/
def MatchQ (w : Nat → Nat) (d : Nat) (b : List Token) (K : Kind) (r1 r2 : Bool × Token) (c1 c2 : Ctx) : Prop :=
  r2.1 = r1.1 ∧
  ((CtxM w (Sh (bif r1.1 then nextShift w d r1.2 else d)) b c1 c2 ∧ (r1.1 = false → TokInd w r1.2 r2.2) ∧
      (r1.1 = true → BuildOK7 w r1.2 r2.2 ∧ r1.2.mtype = some K ∧ (K ∈ Spec.structural → TokInd w r1.2 r2.2))) ∨
    (r1.1 = true ∧ BadPair7 w d r1.2 r2.2 ∧ indentable K = false ∧
      CtxM w (fun μ1 μ2 => K ≠ .Language → μ2 = shiftMu d μ1) b c1 c2))

theorem blk_matchP {D : List Dialect} (cap : Nat) (stop : Bool) (K : Kind) {t1 t2 : Token} (ht : TokInd w t1 t2)
    {c1 c2 : Ctx} (hc : CtxM w (Sh d) b c1 c2) :
    PostR (MatchQ w d b K) (EW w) (fun _ _ => False) (run (matchP D cap stop K t1) c1)
      (run (matchP D cap stop K t2) c2) := by
  rw [run_matchP, run_matchP, hc.μ]
  obtain ⟨hinv, hgb⟩ := matchTok_blk w D K c1.μ d ht
  simp only []
  have hcJ : ∀ {M : MState → MState → Prop} {μ1 μ2 : MState} (n1 n2 : Nat), M μ1 μ2 →
      CtxM w M b { c1 with μ := μ1, calls := n1 } { c2 with μ := μ2, calls := n2 } := fun _ _ hm => { hc with μ := hm }
  rcases hgb with hg | ⟨m1, m2, hbp, hK, hμ⟩
  · cases hr : (matchTok D K c1.μ t1).1.res with
    | matched =>
      have hr2 := hg.res; rw [hr] at hr2
      have hμ := hg.μ; rw [hr] at hμ
      rw [hr2]
      exact .ok ⟨rfl, .inl ⟨hcJ _ _ hμ, nofun,
        fun _ => ⟨hg.build (by rw [hr]; rfl), hg.mtype (by rw [hr]; rfl), hg.tokS (by rw [hr]; rfl)⟩⟩⟩
    | no =>
      have hr2 := hg.res; rw [hr] at hr2
      have hμ := hg.μ; rw [hr] at hμ
      rw [hr2]
      exact .ok ⟨rfl, .inl ⟨hcJ _ _ hμ, fun _ => hg.tok (by rw [hr]; rfl), nofun⟩⟩
    | raised e =>
      have hr2 := hg.res; rw [hr] at hr2
      have hμ := hg.μ; rw [hr] at hμ
      rw [hr2]
      simp only [mapRes]
      cases stop with
      | true => exact .err ⟨rfl, (hcJ (M := fun _ _ => True) _ _ trivial).toCtxW⟩
      | false =>
        simp only [Bool.false_eq_true, ↓reduceIte]
        rcases blk_addError cap e (matchTok_raised_col0 D K c1.μ t1 e hr) (hcJ (M := Sh d)
            (c1.calls + if (matchTok D K c1.μ t1).2 = true then 1 else 0)
            (c2.calls + if (matchTok D K (shiftMu d c1.μ) t2).2 = true then 1 else 0) hμ) with
          ⟨_, _, c1', c2', e1, e2, -, hc'⟩ | ⟨e1', e2', c1', c2', e1, e2, he⟩ | h
        · rw [e1, e2]
          exact .ok ⟨rfl, .inl ⟨hc', fun _ => hg.tok (by rw [hr]; rfl), nofun⟩⟩
        · rw [e1, e2]
          exact .err he
        · exact h.elim
  · rw [m1, m2]
    exact .ok ⟨rfl, .inr ⟨rfl, hbp, hK, hcJ _ _ hμ⟩⟩

/-- a test of a look-ahead: neither `DocStringSeparator` nor `Language`, so the shift stays `d` -/
theorem blk_test {D : List Dialect} (cap : Nat) (stop : Bool) {K : Kind} (hK : K ≠ .DocStringSeparator ∧ K ≠ .Language)
    {t1 t2 : Token} (ht : TokInd w t1 t2) {c1 c2 : Ctx} (hc : CtxM w (Sh d) b c1 c2) :
    PostR (fun r1 r2 d1 d2 => r2.1 = r1.1 ∧ (bif r1.1 then True else TokInd w r1.2 r2.2) ∧ CtxM w (Sh d) b d1 d2)
      (EW w) (fun _ _ => False) (run (matchP D cap stop K t1) c1) (run (matchP D cap stop K t2) c2) := by
  refine (blk_matchP cap stop K ht hc).mono fun r1 r2 d1 d2 _ _ h => ?_
  obtain ⟨m, t1'⟩ := r1
  obtain ⟨hm, ⟨hj, hno, hyes⟩ | ⟨rfl, -, -, hj⟩⟩ := h
  · cases m with
    | false => exact ⟨hm, hno rfl, hj⟩
    | true => exact ⟨hm, trivial, { hj with μ := hj.μ.trans (congrArg (shiftMu · d1.μ) (nextShift_of_ne (hyes rfl).2.1 hK.1)) }⟩
  · exact ⟨hm, trivial, { hj with μ := hj.μ hK.2 }⟩

theorem blk_lookaheadPure {D : List Dialect} (cap : Nat) (stop : Bool) {la : LookAhead} (hla : LaOkI la) {c1 c2 : Ctx}
    (hc : CtxM w (Sh d) b c1 c2) :
    PostS w (Sh d) b Eq (run (lookaheadPure D cap stop la) c1) (run (lookaheadPure D cap stop la) c2) := by
  have tests : ∀ ks, (∀ K ∈ ks, K ≠ .DocStringSeparator ∧ K ≠ .Language) →
      AnyTests D D cap cap stop stop (TokInd w) (fun _ _ => True) (CtxM w (Sh d) b) (EW w) (fun _ _ => False) ks :=
    fun ks hks => matchAny_tests ks (fun K hK _ _ _ _ ht hc => blk_test cap stop (hks K hK) ht hc) Sticky.none
  refine lookaheadPure_rel ?_
  rw [hc.lines.1]
  exact peekLoop_rel (tests _ hla.1) (tests _ hla.2) (fun _ _ _ h => ⟨rfl, h⟩) Sticky.none _ _ _ _
    hc.lines.2.length_eq (fun i _ => hc.lines.2.tok i) c1 c2 hc

/-- how a step ends: the same state, and the loop invariant — the matcher states differ by the shift
    of the open doc string, read off what the first run has built -/
abbrev StepQ (w : Nat → Nat) (s1 s2 : Nat) (c1 c2 : Ctx) : Prop :=
  s2 = s1 ∧ CtxM w (Sh (openShift w c1.builds)) c1.builds c1 c2

theorem blk_unexpected {D : List Dialect} {T : Table} (stop : Bool) (row : StateRow) {t1 t2 : Token} (ht : TokInd w t1 t2)
    {c1 c2 : Ctx} (hc : CtxM w M b c1 c2) :
    PostS w M b Eq (run (tryBranchesPure D T stop row [] t1) c1) (run (tryBranchesPure D T stop row [] t2) c2) := by
  unfold tryBranchesPure
  obtain ⟨he, hcol, hno⟩ := unexpectedErr_ind (w := w) row ht
  rw [he, hno, prun_bind, prun_bind, run_modify, run_modify]
  have hc' : CtxM w M b { c1 with unexpected := c1.unexpected ++ [t1.lineNo] }
      { c2 with unexpected := c2.unexpected ++ [t1.lineNo] } := { hc with unexpected := by simp [hc.unexpected] }
  cases stop with
  | true => exact .err ⟨rfl, hc'.toCtxW⟩
  | false =>
    simp only [Bool.false_eq_true, ↓reduceIte]
    exact (blk_addError _ _ hcol hc').bind (fun _ _ d1 d2 _ _ h => .ok ⟨rfl, h.2⟩)
      (Sticky.none _ _)

/-- what holds once the tests of a branch have matched: related tokens under the shift after them
    (the shift before them if the branch is guarded), or a bad pair, which no guard stands before -/
def Matched7 (w : Nat → Nat) (b : List Token) (b1 b2 : Branch) (t1 t2 : Token) (c1 c2 : Ctx) : Prop :=
  b1 = b2 ∧ .build ∈ b1.prods ∧
  ((CtxM w (Sh (nextShift w (openShift w b) t1)) b c1 c2 ∧ BuildOK7 w t1 t2 ∧
      (b1.guard ≠ none → nextShift w (openShift w b) t1 = openShift w b)) ∨
    (b1.guard = none ∧ BadPair7 w (openShift w b) t1 t2 ∧ CtxM w (fun _ _ => True) b c1 c2))

theorem blk_tryBranchesPure {D : List Dialect} {T : Table}
    (hL : ∀ (i : Nat) (la : LookAhead), T.lookaheads[i]? = some la → LaOkI la) (stop : Bool) (row : StateRow)
    (bs : List Branch) (hbs : BranchesOk bs) {t1 t2 : Token} (ht : TokInd w t1 t2) {c1 c2 : Ctx}
    (hc : CtxM w (Sh (openShift w b)) b c1 c2) :
    PostR (StepQ w) (EW w) (EscB w) (run (tryBranchesPure D T stop row bs t1) c1)
      (run (tryBranchesPure D T stop row bs t2) c2) := by
  refine branches_rel (P := CtxM w (Sh (openShift w b)) b) (Pm := Matched7 w b)
    (Tk := fun bs1 bs2 t1 t2 => bs1 = bs2 ∧ BranchesOk bs1 ∧ TokInd w t1 t2) (X0 := fun _ _ => False) row row
    (fun b1 bs1 bs2 _ _ h => ⟨b1, bs1, h.1.symm, rfl⟩) (fun b1 bs1 b2 bs2 t1 t2 c1 c2 hk hp => ?test)
    (fun b1 b2 t1' t2' i la c1 c2 hg hla hm => ?look) (fun _ _ _ _ _ _ _ hm => ⟨rfl, ?nola⟩)
    (fun b1 b2 t1' t2' c1 c2 hm => ?prods) (fun bs2 t1 t2 c1 c2 hk hp => ?tail) (StickyTo.none _) bs bs t1 t2 c1 c2
    ⟨rfl, hbs, ht⟩ hc
  case test =>
    obtain ⟨hbb, hok, ht⟩ := hk
    obtain ⟨rfl, rfl⟩ := List.cons.inj hbb
    obtain ⟨hguard, hbuild⟩ := hok b1 List.mem_cons_self
    have hok' : BranchesOk bs1 := fun x hx => hok x (List.mem_cons_of_mem _ hx)
    refine (blk_matchP T.errorCap stop b1.kind ht hp).mono fun r1 r2 d1 d2 _ _ h => ?_
    obtain ⟨m, t1'⟩ := r1
    obtain ⟨hm, ⟨hj, hno, hyes⟩ | ⟨rfl, hbp, hK, hj⟩⟩ := h
    · refine ⟨hm, fun hm' => ?_, fun hm' => ⟨by rw [hm'] at hj; exact hj, rfl, hok', hno hm'⟩⟩
      obtain ⟨hbuildOK, hmt, htokS⟩ := hyes hm'
      rw [hm'] at hj
      exact ⟨⟨rfl, hbuild, .inl ⟨hj, hbuildOK, fun hg => nextShift_of_ne hmt fun h => by
        have := (hguard hg).2; rw [h] at this; cases this⟩⟩, fun hg => ⟨rfl, hok', htokS (hguard hg).1⟩⟩
    · have hg : b1.guard = none := by
        cases hg : b1.guard with
        | none => rfl
        | some i => have := (hguard (by rw [hg]; nofun)).2; rw [hK] at this; cases this
      exact ⟨hm, fun _ => ⟨⟨rfl, hbuild, .inr ⟨hg, hbp, { hj with μ := trivial }⟩⟩, fun h => absurd hg h⟩, nofun⟩
  case look =>
    -- the branch is guarded, so the shift has stayed what it was
    obtain ⟨rfl, hbuild, ⟨hj, hbuildOK, hd⟩ | ⟨hg', -⟩⟩ := hm
    · have hd' := hd (by rw [hg]; nofun)
      rw [hd'] at hj
      refine (blk_lookaheadPure T.errorCap stop (hL i la hla) hj).mono fun o1 o2 d1 d2 _ _ h => ?_
      exact ⟨h.1.symm, fun _ => ⟨rfl, hbuild, .inl ⟨by rw [hd']; exact h.2, hbuildOK, fun _ => hd'⟩⟩, fun _ => h.2⟩
    · rw [hg] at hg'; cases hg'
  case nola => rcases hm.2.2 with ⟨hj, -⟩ | ⟨-, -, hj⟩ <;> exact hj.toCtxW
  case prods =>
    obtain ⟨rfl, hbuild, ⟨hj, hbuildOK, -⟩ | ⟨-, hbp, hj⟩⟩ := hm
    · refine (blk_runProds T.errorCap stop hbuildOK b1.prods hj).strict.mono fun _ _ d1 d2 _ _ h => ⟨rfl, ?_⟩
      have hb := h.2.builds
      rw [hb, openShift_built w t1' b1.prods b hbuild]
      exact h.2
    · exact (blk_runProds_bad T.errorCap stop hbp b1.prods hbuild hj rfl).mono fun _ _ _ _ _ _ h => h.elim
  case tail =>
    obtain ⟨rfl, -, ht⟩ := hk
    refine (blk_unexpected stop row ht hp).strict.mono fun s1 s2 d1 d2 _ _ h => ⟨h.1.symm, ?_⟩
    have hb := h.2.builds
    rw [hb]
    exact h.2

theorem blk_matchTokenPure {D : List Dialect} {T : Table} (hT : TableOkInd T) (stop : Bool) (state : Nat)
    {t1 t2 : Token} (ht : TokInd w t1 t2) {c1 c2 : Ctx} (hc : CtxM w (Sh (openShift w b)) b c1 c2) :
    PostR (StepQ w) (EW w) (EscB w) (run (matchTokenPure D T stop state t1) c1)
      (run (matchTokenPure D T stop state t2) c2) := by
  unfold matchTokenPure
  cases hrow : T.row? state with
  | none => exact .err ⟨rfl, hc.toCtxW⟩
  | some row => exact blk_tryBranchesPure hT.la stop row _ (hT.rows row (List.mem_of_find?_eq_some hrow)) ht hc

theorem blk_lines {D : List Dialect} {T : Table} (hT : TableOkInd T) (stop : Bool) (fuel s : Nat) {c1 c2 : Ctx}
    (hc : StepQ w s s c1 c2) :
    PostR (StepQ w) (EW w) (EscB w) (run (parseLinesPure D T stop fuel s) c1) (run (parseLinesPure D T stop fuel s) c2) := by
  refine parseLinesPure_rel (J := StepQ w) (fun _ _ _ _ h => h) (fun s1 s2 c1 c2 h => ?_) (fun s1 s2 c1 c2 h => ?_)
    (fun _ _ _ _ h => ⟨rfl, h.2.toCtxW⟩)
    (fun fuel b => EscB.sticky _ fun s => by
      unfold loopRest; split
      · exact GrowsB.pure _
      · exact growsB_parseLinesPure D T stop fuel s) fuel s s c1 c2 hc
  · have hls := h.2.lines.2
    cases h1 : c1.lines with
    | nil => rw [h1] at hls; rw [hls.nil_left]
    | cons l ls => rw [h1] at hls; obtain ⟨ws, ls2, h2, -⟩ := hls.cons_left; rw [h2]; rfl
  · obtain ⟨rfl, hj⟩ := h
    have ht : TokInd w (nextTok c1) (nextTok c2) := by
      unfold nextTok
      rw [hj.lines.1, List.head?_eq_getElem?, List.head?_eq_getElem?]
      exact hj.lines.2.tok 0
    exact blk_matchTokenPure hT stop _ ht (c1 := taken c1) (c2 := taken c2)
      { hj with lines := ⟨by simp only [hj.lines.1], hj.lines.2.tail⟩ }

theorem growsB_bodyTail (T : Table) (stop : Bool) : GrowsB (bodyTail T stop) := by
  unfold bodyTail finishX astResult
  refine GrowsB.bind (growsB_runProd _ _ _ _) fun _ => GrowsB.bind GrowsB.get fun ctx => ?_
  dsimp only
  split
  · exact GrowsB.bind (GrowsB.throw _) fun _ => by split <;> first | exact GrowsB.pure _ | exact GrowsB.throw _
  · split <;> first | exact GrowsB.pure _ | exact GrowsB.throw _

theorem blk_tail {T : Table} (stop : Bool) {c1' c2' : Ctx} (hc' : CtxM w M b c1' c2') :
    PostR (fun a1 a2 d1 d2 => a2 = mapDoc (indentMap w) a1 ∧ CtxW w d1 d2) (EW w) (fun _ _ => False)
      (run (bodyTail T stop) c1') (run (bodyTail T stop) c2') :=
  bodyTail_rel
    (blk_runProd (w := w) T.errorCap stop (t1 := default) (t2 := default) (.end_ T.startRule) nofun hc')
    (fun _ _ ⟨_, hj⟩ => bodyResult_map hj.errors hj.β.result hj.toCtxW) fun _ _ => Sticky.none _ _

theorem parseWithPure_block {D : List Dialect} {T : Table} (hT : TableOkInd T) (stop : Bool) (μ : MState)
    (ids : Nat) {src src' : Str} (hl : LinesInd w 0 (splitLines src) (splitLines src')) :
    ((parseWithPure D T stop μ ids src').1 = mapOutcome (indentMap w) (parseWithPure D T stop μ ids src).1 ∧
      CtxW w (parseWithPure D T stop μ ids src).2 (parseWithPure D T stop μ ids src').2) ∨
    BadB w (parseWithPure D T stop μ ids src).2 := by
  rw [parseWithPure_lines, parseWithPure_lines, ← hl.length_eq]
  have hc0 : StepQ w 0 0 (startCtx D T μ ids src) (startCtx D T μ ids src') :=
    ⟨rfl, ⟨rfl, fun e he => (by cases he), BMapO.reset.startRule _, rfl, rfl⟩, ⟨rfl, hl⟩, rfl, (shiftMu_zero _).symm⟩
  refine (mapOutcome_of_post <| (blk_lines hT stop _ 0 hc0).bind (fun _ _ _ _ _ _ h => (blk_tail stop h.2).strict)
    (EscB.sticky _ fun _ => growsB_bodyTail T stop)).imp id fun hbad => ?_
  unfold BadB
  rwa [toOutcome_snd]

end simB

theorem indent_parseWith7 {D : List Dialect} {T : Table}
    (hQD : Spec.queueDialectFacts D = true) (hQT : Spec.queueFacts T = true)
    (hCB : Spec.commentBlankTested T = true) (hI : indentFacts T = true) (w : Nat → Nat) (stop : Bool) (μ : MState)
    (ids : Nat) {src src' : Str} (hlen : (splitLines src').length = (splitLines src).length)
    (hlines : ∀ (i : Nat) (l l' : Str), (splitLines src)[i]? = some l → (splitLines src')[i]? = some l' →
      ∃ ws, l' = ws ++ l ∧ AllSpace ws ∧ ws.length = w i)
    (hμ : (μ.reset D).dialect ∈ D)
    (hok : blockScan w 0 (parseWith D T stop μ ids src).2.builds = true) :
    (parseWith D T stop μ ids src').1 = mapOutcome (indentMap w) (parseWith D T stop μ ids src).1 ∧
    (parseWith D T stop μ ids src').2.errors = (parseWith D T stop μ ids src).2.errors.map (mapErr (indentMap w)) ∧
    (parseWith D T stop μ ids src').2.ids = (parseWith D T stop μ ids src).2.ids ∧
    (parseWith D T stop μ ids src').2.unexpected = (parseWith D T stop μ ids src).2.unexpected := by
  have hl : LinesInd w 0 (splitLines src) (splitLines src') :=
    linesInd_of_index 0 _ _ hlen.symm fun i l1 l2 h1 h2 => by rw [Nat.zero_add]; exact hlines i l1 l2 h1 h2
  obtain ⟨o1, b1, u1, -, e1, -, i1, -⟩ := observe_fields (queue_refines_peek D T hQD hQT hCB stop μ ids src hμ)
  obtain ⟨o2, -, u2, -, e2, -, i2, -⟩ := observe_fields (queue_refines_peek D T hQD hQT hCB stop μ ids src' hμ)
  rcases parseWithPure_block (w := w) (tableOkInd_of_facts hI) stop μ ids hl with ⟨ho, hc⟩ | hbad
  · exact ⟨by rw [o1, o2]; exact ho, by rw [e1, e2]; exact hc.errors, by rw [i1, i2]; exact hc.ids,
      by rw [u1, u2]; exact hc.unexpected⟩
  · rw [b1] at hok
    exact absurd (hok.symm.trans hbad) (by decide)


/-! ### the same judgment with the footprint of a step said apart

    `PostW`, `PostI`: what the two runs leave alone — unread lines and line counter (`Frame`), in
    `PostW` the matcher states too — is said of each run by itself, the contexts being related by
    `CtxW`, `CtxS` only. -/

section frames
variable {w : Nat → Nat} {d : Nat}

def PostW (w : Nat → Nat) {α} (R : α → α → Prop) (c1 c2 : Ctx) (x1 x2 : Except Abort α × Ctx) : Prop :=
  (∃ a1 a2 c1' c2', x1 = (.ok a1, c1') ∧ x2 = (.ok a2, c2') ∧ R a1 a2 ∧ CtxW w c1' c2' ∧
    Frame c1 c1' ∧ Frame c2 c2' ∧ c1'.μ = c1.μ ∧ c2'.μ = c2.μ) ∨
  (∃ e c1' c2', x1 = (.error e, c1') ∧ x2 = (.error (mapAbort (indentMap w) e), c2') ∧ CtxW w c1' c2')

def SimW (w : Nat → Nat) {α} (R : α → α → Prop) (m1 m2 : PM α) : Prop :=
  ∀ c1 c2, CtxW w c1 c2 → PostW w R c1 c2 (run m1 c1) (run m2 c2)


def ErrW (w : Nat → Nat) {α} (x1 x2 : Except Abort α × Ctx) : Prop :=
  ∃ e c1' c2', x1 = (.error e, c1') ∧ x2 = (.error (mapAbort (indentMap w) e), c2') ∧ CtxW w c1' c2'


def PostI (w : Nat → Nat) (d : Nat) {α} (R : α → α → Prop) (c1 c2 : Ctx) (x1 x2 : Except Abort α × Ctx) : Prop :=
  (∃ a1 a2 c1' c2', x1 = (.ok a1, c1') ∧ x2 = (.ok a2, c2') ∧ R a1 a2 ∧ CtxS w d c1' c2' ∧
    Frame c1 c1' ∧ Frame c2 c2') ∨
  ErrW w x1 x2

def SimI (w : Nat → Nat) (d : Nat) {α} (R : α → α → Prop) (m1 m2 : PM α) : Prop :=
  ∀ c1 c2, CtxS w d c1 c2 → LinesRel w c1 c2 → PostI w d R c1 c2 (run m1 c1) (run m2 c2)


theorem SimW.toI {α} {R : α → α → Prop} {m1 m2 : PM α} (h : SimW w R m1 m2) : SimI w d R m1 m2 := by
  intro c1 c2 hc _
  rcases h c1 c2 hc.toCtxW with ⟨a1, a2, c1', c2', e1, e2, hr, hc', fr1, fr2, hm1, hm2⟩ | h
  · exact .inl ⟨a1, a2, c1', c2', e1, e2, hr, ⟨hc', by rw [hm2, hm1, hc.μ]⟩, fr1, fr2⟩
  · exact .inr h

theorem SimI.throw {α} {R : α → α → Prop} (e : Abort) :
    SimI w d R (throw e : PM α) (throw (mapAbort (indentMap w) e)) :=
  fun c1 c2 hc _ => .inr ⟨e, c1, c2, rfl, rfl, hc.toCtxW⟩


end frames

/-- no doc string is ever moved: the shift stays 0 all the way -/
theorem blockScan_of_indentable (w : Nat → Nat) : ∀ (ts : List Token),
    (∀ t ∈ ts, w (t.lineNo - 1) = 0 ∨ indentableTokB t = true) → blockScan w 0 ts = true
  | [], _ => rfl
  | t :: ts, h => by
    have hrest := blockScan_of_indentable w ts fun t' ht' => h t' (List.mem_cons_of_mem _ ht')
    have h1 : blockTokOk w 0 t = true ∧ nextShift w 0 t = 0 := by
      rcases h t List.mem_cons_self with h0 | hi
      · refine ⟨?_, nextShift_zero h0⟩
        unfold blockTokOk
        rw [h0]
        split <;> rfl
      · unfold indentableTokB at hi
        cases hm : t.mtype with
        | none => rw [hm] at hi; cases hi
        | some K =>
          rw [hm] at hi
          dsimp only at hi
          by_cases hK : K = .DocStringSeparator
          · subst hK
            refine ⟨by unfold blockTokOk; rw [hm], ?_⟩
            rw [nextShift_docsep 0 hm]
            cases htx : t.text with
            | none => rfl
            | some x => rw [htx] at hi; cases hi
          · have hiB : indentableB K = true := by
              rw [beq_eq_false_iff_ne.2 hK, Bool.false_and, Bool.or_false] at hi
              exact hi
            refine ⟨?_, nextShift_of_ne hm hK⟩
            unfold blockTokOk
            rw [hm]
            cases K <;> first | exact absurd rfl hK | exact Bool.or_true _ | cases hiB
    simp only [blockScan, h1.1, h1.2, hrest, Bool.and_self]

theorem blockScan_of_forall (w : Nat → Nat) : ∀ (ts : List Token) (d : Nat),
    (∀ pre t post, ts = pre ++ t :: post → blockTokOk w (pre.foldl (nextShift w) d) t = true) →
    blockScan w d ts = true
  | [], _, _ => rfl
  | t :: ts, d, h => by
    simp only [blockScan, Bool.and_eq_true]
    refine ⟨h [] t ts rfl, blockScan_of_forall w ts _ fun pre t' post e => ?_⟩
    have := h (t :: pre) t' post (by rw [e]; rfl)
    simpa using this

end Layout7
end GV

