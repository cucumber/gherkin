/-
  The compound operations of the glue with their parts as parameters: the tests of a state around
  any test, look-ahead and production (`tryBranchesX`), the main loop around any `match_token`
  (`loopX`), the body of `parse` around any loop and builder (`bodyX`).  The tests of the parse with
  the token queue (Model/Parser.lean) and of the queue-free parse (Spec/PureParse.lean) are instances
  (`tryBranches_eq_X`, `tryBranchesPure_eq_X`), so are the main loop and the body of the first
  (`parseLoop_eq_X`, `parseBody_eq_X`); the body of the second is `bodyX` of its own main loop by
  `rfl`, and that loop reads the lines itself (its rule: Lemmas/PureInv.lean).  So a rule about the
  general form serves both, and two runs that differ in a part can be walked together.
  Around the body both parses do the same: they start from `ctx0` and make `toOutcome` of the way
  the body ends.
-/
import GherkinVerif.Spec.PureParse
namespace GV
namespace Lemmas
open Spec

section
variable {T : Table}

def runProdsX (rp : Prod → PM Unit) : List Prod → PM Unit
  | [] => pure ()
  | p :: ps => do rp p; runProdsX rp ps

theorem runProds_eq_X (cap : Nat) (stop : Bool) (t : Token) (ps : List Prod) :
    runProds cap stop t ps = runProdsX (runProd cap stop t) ps := by
  induction ps with
  | nil => rfl
  | cons p ps ih => rw [runProds, runProdsX, ih]

def guardX (look : LookAhead → PM Bool) (T : Table) (b : Branch) : PM Bool :=
  match b.guard with
  | none => pure true
  | some i =>
    match T.lookaheads[i]? with
    | some la => look la
    | none => throw (.crash "unknown look-ahead")

/-- the body of `match_token_at_N`: the test of a kind, the look-ahead, the builder's operation, the error tail -/
def tryBranchesX (mp : Kind → Token → PM (Bool × Token)) (look : LookAhead → PM Bool)
    (rp : Token → Prod → PM Unit) (T : Table) (tail : Token → PM Nat) : List Branch → Token → PM Nat
  | [], t => tail t
  | b :: bs, t => do
    let (m, t') ← mp b.kind t
    if m then
      let ok ← guardX look T b
      if ok then do
        runProdsX (rp t') b.prods
        pure b.target
      else tryBranchesX mp look rp T tail bs t'
    else tryBranchesX mp look rp T tail bs t'

theorem tryBranches_eq_X {D : List Dialect} {stop : Bool} (row : StateRow) (bs : List Branch) (t : Token) :
    tryBranches D T stop row bs t =
      tryBranchesX (matchP D T.errorCap stop) (lookahead D T.errorCap stop) (runProd T.errorCap stop) T
        (tryBranches D T stop row []) bs t := by
  induction bs generalizing t with
  | nil => rfl
  | cons b bs ih =>
    rw [tryBranches, tryBranchesX]
    refine bind_congr fun x => ?_
    obtain ⟨m, t'⟩ := x
    dsimp only
    rw [ih, runProds_eq_X]
    cases m
    · rfl
    · unfold guardX
      cases b.guard with
      | none => rfl
      | some i => dsimp only; cases T.lookaheads[i]? <;> rfl

theorem tryBranchesPure_eq_X {D : List Dialect} {stop : Bool} (row : StateRow) (bs : List Branch) (t : Token) :
    tryBranchesPure D T stop row bs t =
      tryBranchesX (matchP D T.errorCap stop) (lookaheadPure D T.errorCap stop) (runProd T.errorCap stop) T
        (tryBranches D T stop row []) bs t := by
  induction bs generalizing t with
  | nil => rfl
  | cons b bs ih =>
    rw [tryBranchesPure, tryBranchesX]
    refine bind_congr fun x => ?_
    obtain ⟨m, t'⟩ := x
    dsimp only
    rw [ih, runProds_eq_X]
    cases m
    · rfl
    · unfold guardX
      cases b.guard with
      | none => rfl
      | some i => dsimp only; cases T.lookaheads[i]? <;> rfl

/-- the `while True` loop of `parse` around any `match_token` -/
def loopX (mt : Nat → Token → PM Nat) : Nat → Nat → PM Nat
  | 0, _ => throw .fuel
  | fuel + 1, state => do
    let t ← readToken
    modify fun c => { c with reads := c.reads ++ [t.lineNo] }
    let state' ← mt state t
    if t.eof then pure state' else loopX mt fuel state'

theorem parseLoop_eq_X {D : List Dialect} {stop : Bool} (fuel s : Nat) :
    parseLoop D T stop fuel s = loopX (matchToken D T stop) fuel s := by
  induction fuel generalizing s with
  | zero => rfl
  | succ n ih => simp only [parseLoop, loopX, ih]

def finishX {ρ} (result : Ctx → PM ρ) : PM ρ := do
  let ctx ← get
  if !ctx.errors.isEmpty then throw (.composite ctx.errors)
  result ctx

/-- the body of `parse` around its main loop, with the builder's operations as parameters -/
def bodyX {ρ} (start : PM Unit) (loop : PM Nat) (fin : PM Unit) (result : Ctx → PM ρ) : PM ρ := do
  start
  let _ ← loop
  fin
  finishX result

/-- `get_result` of the AST builder -/
def astResult (ctx : Ctx) : PM Doc :=
  match ctx.β.result with
  | .ok (some d) => pure d
  | .ok none => throw (.crash "get_result returned None")
  | .error (.crash w) => throw (.crash w)
  | .error (.ast e) => throw (.single e)

theorem parseBody_eq_X {D : List Dialect} {stop : Bool} (n : Nat) :
    parseBody D T stop n = bodyX (modify fun c => { c with β := c.β.startRule T.startRule })
      (parseLoop D T stop (n + 2) 0) (runProd T.errorCap stop default (.end_ T.startRule)) astResult := rfl

end

/-- the context `parseWith` starts from -/
def ctx0 (D : List Dialect) (μ : MState) (ids : Nat) (src : Str) : Ctx :=
  { lines := splitLines src, μ := μ.reset D, β := BState.reset, ids := ids }

/-- what `parse` makes of the way its body ends -/
def toOutcome : Except Abort Doc × Ctx → Outcome × Ctx
  | (.ok d, c) => (.ok d, c)
  | (.error (.single e), c) => (.rejected [e] false, c)
  | (.error (.composite es), c) => (.rejected es true, c)
  | (.error (.crash w), c) => (.crash w, c)
  | (.error .fuel, c) => (.fuel, c)

theorem toOutcome_snd (x : Except Abort Doc × Ctx) : (toOutcome x).2 = x.2 := by
  rcases x with ⟨(_ | _ | _ | _) | _, _⟩ <;> rfl

theorem toOutcome_ok {x : Except Abort Doc × Ctx} {d : Doc} : (toOutcome x).1 = .ok d ↔ x.1 = .ok d := by
  rcases x with ⟨(_ | _ | _ | _) | _, _⟩ <;> simp [toOutcome]

theorem toOutcome_composite {x : Except Abort Doc × Ctx} {es : List PErr} :
    (toOutcome x).1 = .rejected es true ↔ x.1 = .error (.composite es) := by
  rcases x with ⟨(_ | _ | _ | _) | _, _⟩ <;> simp [toOutcome]

end Lemmas
end GV
