/-
  The ghost bookkeeping of the parse loop: every token read is handed to the builder or reported as
  unexpected (C18), and the look-ahead re-queues what it reads.
-/
import GherkinVerif.Lemmas.GlueOutcome
namespace GV
namespace Lemmas

def bl (c : Ctx) : List Nat := c.builds.map (·.lineNo)

/-- every token read has been built or reported -/
def Full (c : Ctx) : Prop :=
  (bl c ++ c.unexpected).Perm c.reads ∧ (bl c).Sublist c.reads ∧ c.unexpected.Sublist c.reads

/-- every token read but the last (line `n`) has been built or reported -/
def Pending (n : Nat) (c : Ctx) : Prop :=
  ∃ r, c.reads = r ++ [n] ∧ (bl c ++ c.unexpected).Perm r ∧ (bl c).Sublist r ∧ c.unexpected.Sublist r

def Part (c : Ctx) : Prop := Full c ∨ ∃ n, Pending n c

def GhostEq (c c' : Ctx) : Prop :=
  c'.builds = c.builds ∧ c'.reads = c.reads ∧ c'.unexpected = c.unexpected

def GhostOnly (P : Ctx → Prop) : Prop := ∀ c c', GhostEq c c' → P c → P c'

theorem observe_ghost {r p : Outcome × Ctx} (h : Spec.observe r = Spec.observe p) : r.1 = p.1 ∧ GhostEq p.2 r.2 :=
  have ⟨ho, hb, hu, hr, _⟩ := Spec.Observed.mk.inj h
  ⟨ho, hb, hr, hu⟩

theorem Full.ghostOnly : GhostOnly Full := by
  intro c c' ⟨h1, h2, h3⟩ h
  unfold Full bl at *
  rw [h1, h2, h3]; exact h

theorem Pending.ghostOnly (n : Nat) : GhostOnly (Pending n) := by
  intro c c' ⟨h1, h2, h3⟩ h
  unfold Pending bl at *
  rw [h1, h2, h3]; exact h

theorem FootL.ghost {c c' : Ctx} (h : FootL c c') : GhostEq c c' := by
  obtain ⟨_, _, _, _, _, _, rfl⟩ := h; exact ⟨rfl, rfl, rfl⟩
theorem FootM.ghost {c c' : Ctx} (h : FootM c c') : GhostEq c c' := h.toL.ghost
theorem FootB.ghost {c c' : Ctx} (h : FootB c c') : GhostEq c c' := by
  obtain ⟨_, _, _, rfl⟩ := h; exact ⟨rfl, rfl, rfl⟩
theorem FootE.ghost {c c' : Ctx} (h : FootE c c') : GhostEq c c' := h.toB.ghost

theorem Triple.of_ghost {α} {m : PM α} {P : Ctx → Prop} {E : Ctx → Prop}
    (hfoot : ∀ c r c', run m c = (r, c') → GhostEq c c') (hP : GhostOnly P) (hE : ∀ c, P c → E c) :
    Triple P m (fun _ => P) (fun _ => E) := by
  refine Triple.intro fun c r c' hc hr => ?_
  cases r with
  | ok a => exact hP _ _ (hfoot _ _ _ hr) hc
  | error e => exact hE _ (hP _ _ (hfoot _ _ _ hr) hc)

theorem Pending.part {n : Nat} {c : Ctx} (h : Pending n c) : Part c := .inr ⟨n, h⟩
theorem Full.part {c : Ctx} (h : Full c) : Part c := .inl h

theorem Pending.build {n : Nat} {c : Ctx} (h : Pending n c) (t : Token) (ht : t.lineNo = n) (β : BState) :
    Full { c with β := β, builds := c.builds ++ [t] } := by
  obtain ⟨r, hr, hp, hs1, hs2⟩ := h
  unfold Full bl at *
  dsimp only
  rw [hr, List.map_append, List.map_cons, List.map_nil, ht]
  refine ⟨?_, List.Sublist.append hs1 (List.Sublist.refl _), hs2.trans (List.sublist_append_left r [n])⟩
  rw [List.append_assoc]
  refine (List.Perm.append_left _ List.perm_append_comm).trans ?_
  rw [← List.append_assoc]
  exact List.Perm.append_right _ hp

theorem Pending.report {n : Nat} {c : Ctx} (h : Pending n c) :
    Full { c with unexpected := c.unexpected ++ [n] } := by
  obtain ⟨r, hr, hp, hs1, hs2⟩ := h
  unfold Full bl at *
  dsimp only
  rw [hr, ← List.append_assoc]
  exact ⟨List.Perm.append_right _ hp, hs1.trans (List.sublist_append_left r [n]),
    List.Sublist.append hs2 (List.Sublist.refl _)⟩

theorem Full.read {c : Ctx} (h : Full c) (n : Nat) : Pending n { c with reads := c.reads ++ [n] } :=
  ⟨c.reads, rfl, h⟩

/-- an abort inside the loop is no composite error within the cap -/
def CapAbort (cap : Nat) (a : Abort) (_ : Ctx) : Prop := ∀ es, a = .composite es → cap < es.length

theorem cap_prims (D : List Dialect) (T : Table) (stop : Bool) :
    Prims D T stop (fun _ => True) (CapAbort T.errorCap) := by
  have hadd : ∀ e, Inv (fun _ => True) (CapAbort T.errorCap) (addError T.errorCap e) := fun e =>
    addError_rule e (fun _ _ _ => trivial) (fun _ _ => trivial) fun c _ hlen es he => by
      cases he; rw [List.length_append]; exact hlen
  refine Prims.of_errOnly (fun _ _ _ _ _ => trivial) (fun _ => hadd) (fun _ _ _ _ => nofun) (fun _ _ _ => nofun)
    (fun _ _ => nofun) fun row t => ?_
  exact tail_rule (Q := fun _ _ => True) ⟨fun _ _ _ _ => nofun, fun _ => hadd⟩ t fun _ _ => trivial

section
variable (D : List Dialect) (T : Table) (cap : Nat) (stop : Bool)

theorem part_runProd_build (t : Token) :
    Triple (Pending t.lineNo) (runProd cap stop t .build) (fun _ => Full) (fun _ => Part) := by
  refine Triple.intro fun c r c' hc hr => ?_
  rw [run_runProd] at hr
  dsimp only at hr
  split at hr
  · cases hr; exact hc.build t rfl _
  · rename_i e he
    obtain ⟨w, rfl⟩ := build_error _ _ _ he
    rw [run_liftB] at hr
    cases hr
    exact hc.part

theorem part_runProds_nobuild {P : Ctx → Prop} (hP : GhostOnly P) (hE : ∀ c, P c → Part c) (t : Token)
    (ps : List Prod) (hps : ∀ p ∈ ps, p ≠ .build) :
    Triple P (runProds cap stop t ps) (fun _ => P) (fun _ => Part) :=
  Triple.of_ghost (fun c r c' h => (runProds_foot cap stop t ps hps c r c' h).ghost) hP hE

theorem part_runProds (t : Token) (ps : List Prod) (hps : (ps.filter (· == .build)).length = 1) :
    Triple (Pending t.lineNo) (runProds cap stop t ps) (fun _ => Full) (fun _ => Part) := by
  induction ps with
  | nil => simp at hps
  | cons p ps ih =>
    unfold runProds
    by_cases hp : p = .build
    · subst hp
      have hno : ∀ p ∈ ps, p ≠ Prod.build := by
        intro p hp hpb
        subst hpb
        have hmem : Prod.build ∈ ps.filter (· == .build) := List.mem_filter.2 ⟨hp, by simp⟩
        rw [List.filter_cons_of_pos (by simp), List.length_cons] at hps
        have h0 : ps.filter (· == .build) = [] := List.eq_nil_of_length_eq_zero (by omega)
        rw [h0] at hmem
        cases hmem
      exact Triple.bind (part_runProd_build cap stop t) fun _ =>
        part_runProds_nobuild cap stop Full.ghostOnly (fun _ => Full.part) t ps hno
    · have hps' : (ps.filter (· == .build)).length = 1 := by
        rw [List.filter_cons_of_neg (by simpa using hp)] at hps
        exact hps
      exact Triple.bind
        (Triple.of_ghost (fun c r c' h => (runProd_foot cap stop t p hp c r c' h).ghost)
          (Pending.ghostOnly _) (fun _ => Pending.part)) fun _ => ih hps'

theorem part_matchP (k : Kind) (t : Token) :
    Triple (Pending t.lineNo) (matchP D cap stop k t) (fun r => Pending r.2.lineNo) (fun _ => Part) :=
  Triple.intro fun c r c' hc hr => by
    have hp := Pending.ghostOnly _ _ _ (matchP_foot D cap stop k t c r c' hr).ghost hc
    cases r with
    | ok a => show Pending a.2.lineNo c'; rw [(matchP_tok D cap stop k t c a c' hr).2]; exact hp
    | error e => exact hp.part

theorem part_tryBranches (row : StateRow) (bs : List Branch)
    (hbs : ∀ b ∈ bs, (b.prods.filter (· == .build)).length = 1) (t : Token) :
    Triple (Pending t.lineNo) (tryBranches D T stop row bs t) (fun _ => Full) (fun _ => Part) := by
  rw [tryBranches_eq_X]
  refine Triple.tryBranches (I := fun t => Pending t.lineNo) (part_matchP D T.errorCap stop)
    (fun i la t _ => Triple.of_ghost (fun c r c' h => (lookahead_foot D T.errorCap stop la c r c' h).ghost)
      (Pending.ghostOnly _) fun _ => Pending.part)
    (fun _ _ _ h => h.part) row (fun t => ?_) bs (fun b hb t => part_runProds T.errorCap stop t b.prods (hbs b hb)) t
  unfold tryBranches
  refine Triple.bind (Q := fun _ => Full) (Triple.modify _ fun c hc => hc.report) fun _ => ?_
  have hadd := Triple.of_ghost (fun c r c' h => (addError_foot T.errorCap (unexpectedErr row t) c r c' h).ghost)
    Full.ghostOnly fun _ => Full.part
  split
  · exact Triple.throw _ fun _ h => h.part
  · exact Triple.bind hadd fun _ => Triple.pure _ fun _ h => h

theorem part_matchToken (hT : Spec.oneBuildLast T = true) (state : Nat) (t : Token) :
    Triple (Pending t.lineNo) (matchToken D T stop state t) (fun _ => Full) (fun _ => Part) := by
  unfold matchToken
  split
  · rename_i row hrow
    refine part_tryBranches D T stop row row.branches ?_ t
    intro b hb
    have hmem : row ∈ T.rows := List.mem_of_find?_eq_some hrow
    simp only [Spec.oneBuildLast, List.all_eq_true, Bool.and_eq_true, beq_iff_eq] at hT
    exact (hT row hmem b hb).2
  · exact Triple.throw _ fun _ h => h.part

/-- the whole parse keeps the partition; an abort with a composite error of at most `errorCap`
    entries is the one at the very end, where every token has been dealt with -/
theorem part_parseBody (hT : Spec.oneBuildLast T = true) (n : Nat) :
    Triple Full (parseBody D T stop n) (fun _ => Full)
      (fun a c => Part c ∧ ∀ es, a = .composite es → es.length ≤ T.errorCap → Full c) := by
  -- inside the loop and the final `end_rule` a composite abort is `add_error`'s, beyond the cap
  have hin : ∀ {α} {m : PM α} {P Q : Ctx → Prop}, Triple P m (fun _ => Q) (fun _ => Part) →
      Inv (fun _ => True) (CapAbort T.errorCap) m →
      Triple P m (fun _ => Q) (fun a c => Part c ∧ ∀ es, a = .composite es → es.length ≤ T.errorCap → Full c) :=
    fun h1 h2 => Triple.conseq (Triple.and h1 h2) (fun _ h => ⟨h, trivial⟩) (fun _ _ h => h.1)
      fun a c h => ⟨h.1, fun es he hle => absurd hle (Nat.not_le.2 (h.2 es he))⟩
  refine Triple.conseq (Triple.parseBody (L := Full) (Done := Full) (Fin := Full) (fun _ h => h)
    (hin ?_ ((cap_prims D T stop).parseLoop _ _))
    (hin (Triple.of_ghost (fun c r c' h => (runProd_foot _ _ _ _ (by simp) c r c' h).ghost) Full.ghostOnly
      fun _ => Full.part) ((cap_prims D T stop).runProd _ _)) (fun _ h _ => ⟨h.part, fun _ _ _ => h⟩)
      fun _ _ h => ⟨h.part, nofun⟩)
    (fun _ h => h) (fun _ _ h => h.1) fun _ _ h => h
  refine Triple.parseLoop (H := fun _ _ => Full) (M := fun _ _ t => Pending t.lineNo) (fun _ _ h => h.part)
    (fun _ _ => ?_) (fun _ s t => ?_) _ _
  · exact Triple.conseq
      (Triple.of_ghost (fun c r c' h => (readToken_foot c r c' h).ghost) Full.ghostOnly fun _ => Full.part)
      (fun _ h => h) (fun t _ h => h.read t.lineNo) fun _ _ h => h
  · exact Triple.conseq (part_matchToken D T stop hT s t) (fun _ h => h) (fun _ _ h => by split <;> exact h)
      fun _ _ h => h
end

theorem full_ctx0 (D : List Dialect) (μ : MState) (ids : Nat) (src : Str) : Full (ctx0 D μ ids src) :=
  ⟨List.Perm.nil, List.Sublist.slnil, List.Sublist.slnil⟩

theorem partition (D : List Dialect) (T : Table) (hT : Spec.oneBuildLast T = true)
    (stop : Bool) (μ : MState) (ids : Nat) (src : Str) :
    let ctx := (parseWith D T stop μ ids src).2
    ((ctx.builds.map (·.lineNo) ++ ctx.unexpected).Perm ctx.reads ∨
     (ctx.builds.map (·.lineNo) ++ ctx.unexpected).Perm ctx.reads.dropLast) ∧
    (ctx.builds.map (·.lineNo)).Sublist ctx.reads ∧ ctx.unexpected.Sublist ctx.reads := by
  intro ctx
  have hpart : Part ctx :=
    Triple.parseWith_snd (part_parseBody D T stop hT _) (full_ctx0 D μ ids src) (fun _ _ h => h.part) fun _ _ h => h.1
  rcases hpart with h | ⟨n, r, hr, hp, hs1, hs2⟩
  · exact ⟨.inl h.1, h.2.1, h.2.2⟩
  · refine ⟨.inr ?_, ?_, ?_⟩
    · rw [hr, List.dropLast_concat]; exact hp
    · rw [hr]; exact hs1.trans (List.sublist_append_left r [n])
    · rw [hr]; exact hs2.trans (List.sublist_append_left r [n])

/-- once a token has been reported there is an error in the list -/
def UE (c : Ctx) : Prop := c.unexpected = [] ∨ c.errors ≠ []

theorem addError_nonempty (cap : Nat) (e : PErr) :
    Triple (fun _ => True) (addError cap e) (fun _ c => c.errors ≠ []) (fun _ _ => True) := by
  refine Triple.intro fun c r c' _ hr => ?_
  rw [run_addError] at hr
  split at hr
  · rename_i hany
    cases hr
    intro h0; rw [h0] at hany; simp at hany
  · split at hr
    · cases hr; trivial
    · cases hr; simp

theorem ue_prims (D : List Dialect) (T : Table) (stop : Bool) : Prims D T stop UE (fun _ _ => True) := by
  refine Prims.of_errOnly (fun c c' h1 h2 h => ?_) (fun hs e => ?_) (fun _ _ _ _ => trivial)
    (fun _ _ _ => trivial) (fun _ _ => trivial) (fun row t => ?_)
  · unfold UE at *; rw [h1, h2]; exact h
  · refine Triple.intro fun c r c' hc hr => ?_
    have hn := addError_nonempty T.errorCap e c trivial
    obtain ⟨es, rfl⟩ := addError_foot _ _ _ _ _ hr
    cases r with
    | ok a => exact .inr (hn.1 _ _ hr)
    | error e => trivial
  · unfold GV.tryBranches
    refine Triple.bind (Q := fun _ _ => True) (Triple.modify _ fun _ _ => trivial) fun _ => ?_
    split
    · exact Triple.throw _ fun _ _ => trivial
    · exact Triple.bind (addError_nonempty _ _) fun _ => Triple.pure _ fun _ h => .inr h

theorem accepted_builds_eq_reads (D : List Dialect) (T : Table) (hT : Spec.oneBuildLast T = true)
    (stop : Bool) (μ : MState) (ids : Nat) (src : Str) (d : Doc)
    (h : (parseWith D T stop μ ids src).1 = .ok d) :
    (parseWith D T stop μ ids src).2.builds.map (·.lineNo) = (parseWith D T stop μ ids src).2.reads ∧
    (parseWith D T stop μ ids src).2.unexpected = [] := by
  have hb := Triple.parseWith (Triple.and (part_parseBody D T stop hT _)
    ((ue_prims D T stop).parseBody (fun _ _ h => h) (fun _ _ _ => trivial) _))
    ⟨full_ctx0 D μ ids src, .inl rfl⟩
  rw [h] at hb
  obtain ⟨⟨hp, hs, -⟩, hue, hnil⟩ := hb
  have hun := hue.resolve_right (not_not_intro hnil)
  rw [hun, List.append_nil] at hp
  exact ⟨hs.eq_of_length hp.length_eq, hun⟩

/-- relation between the scanner state before (`c`, tokens `acc` in hand) and after (`c'`, tokens
    `read` in hand) some iterations of the look-ahead loop -/
def Conserve (c : Ctx) (acc : List Token) (c' : Ctx) (read : List Token) : Prop :=
  (c'.queue.map (·.lineNo) ++ read.map (·.lineNo)).Perm
    (c.queue.map (·.lineNo) ++ acc.map (·.lineNo) ++ List.range' (c.lineNo + 1) (c'.lineNo - c.lineNo)) ∧
  c'.lines = c.lines.drop (c'.lineNo - c.lineNo) ∧ c.lineNo ≤ c'.lineNo

theorem Conserve.refl (c : Ctx) (acc : List Token) : Conserve c acc c acc :=
  ⟨by rw [Nat.sub_self, List.range'_zero, List.append_nil], by rw [Nat.sub_self]; rfl, Nat.le_refl _⟩

theorem Conserve.step {c0 : Ctx} {acc0 : List Token} {c : Ctx} {acc : List Token} (h : Conserve c0 acc0 c acc)
    {c1 c3 : Ctx} {t t' : Token}
    (hread : (∃ q, c.queue = t :: q ∧ c1 = { c with queue := q }) ∨
     (c.queue = [] ∧ t = { line := c.lines.head?, lineNo := c.lineNo + 1 } ∧
      c1 = { c with lines := c.lines.tail, lineNo := c.lineNo + 1 }))
    (hs : ScanEq c1 c3) (ht : t'.lineNo = t.lineNo) : Conserve c0 acc0 c3 (acc ++ [t']) := by
  obtain ⟨hq, hl, hn⟩ := hs
  obtain ⟨hp, hlines, hle⟩ := h
  unfold Conserve
  rw [hq, hl, hn]
  rw [List.perm_iff_count] at hp
  rcases hread with ⟨q, hcq, rfl⟩ | ⟨hcq, rfl, rfl⟩
  · refine ⟨?_, hlines, hle⟩
    rw [List.perm_iff_count]
    intro a
    have := hp a
    simp only [hcq, List.map_append, List.map_cons, List.map_nil, List.count_append, List.count_cons,
      List.count_nil, ht] at this ⊢
    omega
  · dsimp only at ht ⊢
    have hk : c.lineNo + 1 - c0.lineNo = (c.lineNo - c0.lineNo) + 1 := by omega
    have hlast : c0.lineNo + 1 + (c.lineNo - c0.lineNo) = c.lineNo + 1 := by omega
    refine ⟨?_, by rw [hlines, hk, List.tail_drop], by omega⟩
    rw [List.perm_iff_count]
    intro a
    have := hp a
    simp only [hcq, hk, List.range'_1_concat, hlast, List.map_append, List.map_cons, List.map_nil, List.count_append,
      List.count_cons, List.count_nil, ht, List.nil_append] at this ⊢
    omega

theorem lookaheadLoop_conserve (D : List Dialect) (cap : Nat) (stop : Bool) (la : LookAhead) (c0 : Ctx)
    (acc0 : List Token) :
    ∀ (fuel : Nat) (acc : List Token) (c : Ctx) (m : Bool) (read : List Token) (c' : Ctx),
      Conserve c0 acc0 c acc → run (lookaheadLoop D cap stop la fuel acc) c = (.ok (m, read), c') →
      Conserve c0 acc0 c' read := by
  intro fuel
  induction fuel with
  | zero => intro acc c m read c' _ h; rw [lookaheadLoop, prun_throw] at h; cases h
  | succ n ih =>
    intro acc c m read c' hc h
    obtain ⟨t, c1, r1, c2, hr0, hr1, hcase⟩ := lookaheadLoop_step h
    have hread := readToken_eq hr0
    have hs1 := (matchAny_foot D cap stop _ _ _ _ _ hr1).scan
    rcases hcase with ⟨e, -, he, -⟩ | ⟨t1, rfl, he, rfl⟩ | ⟨t1, r2, c3, rfl, hr2, hcase⟩
    · cases he
    · cases he
      exact hc.step hread hs1 (matchAny_tok D cap stop _ _ _ _ _ hr1).2
    · have hs2 := hs1.trans (matchAny_foot D cap stop _ _ _ _ _ hr2).scan
      have ht1 := (matchAny_tok D cap stop _ _ _ _ _ hr1).2
      rcases hcase with ⟨e, -, he, -⟩ | ⟨t2, rfl, he, rfl⟩ | ⟨t2, rfl, hrec⟩
      · cases he
      · cases he
        exact hc.step hread hs2 ((matchAny_tok D cap stop _ _ _ _ _ hr2).2.trans ht1)
      · exact ih _ _ _ _ _ (hc.step hread hs2 ((matchAny_tok D cap stop _ _ _ _ _ hr2).2.trans ht1)) hrec

theorem lookahead_conserves (D : List Dialect) (cap : Nat) (stop : Bool) (la : LookAhead) (ctx : Ctx) (b : Bool) (ctx' : Ctx)
    (h : (lookahead D cap stop la).run.run ctx = (.ok b, ctx')) :
    (ctx'.queue.map (·.lineNo)).Perm (ctx.queue.map (·.lineNo) ++
      (List.range' (ctx.lineNo + 1) (ctx'.lineNo - ctx.lineNo))) ∧
    ctx'.lines = ctx.lines.drop (ctx'.lineNo - ctx.lineNo) ∧ ctx.lineNo ≤ ctx'.lineNo ∧
    ctx'.builds = ctx.builds ∧ ctx'.reads = ctx.reads := by
  have h : run (lookahead D cap stop la) ctx = (.ok b, ctx') := h
  have hg := (lookahead_foot D cap stop la _ _ _ h).ghost
  rw [run_lookahead] at h
  rcases hr : run (lookaheadLoop D cap stop la (ctx.queue.length + ctx.lines.length + 2) []) ctx with ⟨r, c1⟩
  rw [hr] at h
  cases r with
  | error e => cases h
  | ok r =>
    obtain ⟨m, read⟩ := r
    cases h
    obtain ⟨hp, hl, hle⟩ := lookaheadLoop_conserve D cap stop la ctx [] _ _ _ _ _ _ (Conserve.refl ctx []) hr
    refine ⟨?_, hl, hle, hg.1, hg.2.1⟩
    dsimp only
    rw [List.map_append]
    simpa using hp

end Lemmas
end GV
