/-
  Lemmas/ParseDocString.lean — property C13 at document level, line form (`docstring_lines`): in an
  accepted document every OPENING doc-string separator line is followed by content lines — read as
  `Other`, none of which starts (after blanks) with the delimiter, each with the text
  `C13_content_line` gives under the opening's delimiter and indentation — up to the first line that
  starts with the delimiter, which is read as the CLOSING separator.

  Read off `LineToks` (Lemmas/ParseDoc.lean: inside a doc string a line is read as a separator, or as
  `Other` after the separator test failed; the last state is outside a doc string) with `docsep_open`,
  `docsep_close`, `docsep_active_iff`, `other_text` of Lemmas/DocString.lean.
-/
import GherkinVerif.Lemmas.ParseDoc
import GherkinVerif.Lemmas.DocString
namespace GV
namespace Spec

/-- the lines `ls` / tokens `toks` that follow an opening separator with delimiter `sep` on a line
    indented by `ind`: `k` content lines, then the closing separator -/
def DocBody (sep : Str) (ind : Nat) (ls : List Str) (toks : List Token) (k : Nat) : Prop :=
  (∀ j, j < k → ∃ lj tj, ls[j]? = some lj ∧ toks[j]? = some tj ∧
    startsWith sep (trimmed lj) = false ∧ tj.mtype = some .Other ∧
    tj.text = some (rstripCRLF (unescapeDoc (some sep) (lj.drop (min ind (lineIndent lj)))))) ∧
  ∃ lc tc, ls[k]? = some lc ∧ toks[k]? = some tc ∧ startsWith sep (trimmed lc) = true ∧
    tc.mtype = some .DocStringSeparator ∧ tc.text = none ∧ tc.keyword = some sep

end Spec

namespace Lemmas
open Spec

theorem inDoc_of_sep {μ : MState} {sep : Str} (h : μ.activeSep = some sep) (hne : sep ≠ []) :
    μ.inDocString = true := by
  unfold MState.inDocString
  rw [h]
  cases sep with
  | nil => exact absurd rfl hne
  | cons a s => rfl

theorem not_startsWith_sep {D : List Dialect} {μ : MState} {l sep : Str} (hsep : μ.activeSep = some sep)
    (hne : sep ≠ []) (hv : verdict D μ l .DocStringSeparator = false) : startsWith sep (trimmed l) = false := by
  cases hst : startsWith sep (trimmed l) with
  | false => rfl
  | true =>
    have := (docsep_active_iff D μ (probe l) l sep hsep hne).2 hst
    unfold verdict at hv
    rw [this] at hv
    cases hv

theorem LineToks.drop {D : List Dialect} {μ μf : MState} {n : Nat} {ls : List Str} {toks : List Token}
    (h : LineToks D μ n ls toks μf) : ∀ i, ∃ μi, LineToks D μi (n + i) (ls.drop i) (toks.drop i) μf := by
  induction h with
  | nil μ n => intro i; exact ⟨μ, by simpa using LineToks.nil μ (n + i)⟩
  | @cons μ n l ls toks μf K hd hs hres hp hdoc htail ih =>
    intro i
    cases i with
    | zero => exact ⟨μ, .cons K hd hs hres hp hdoc htail⟩
    | succ i =>
      obtain ⟨μi, hi⟩ := ih i
      have : n + 1 + i = n + (i + 1) := by omega
      rw [this] at hi
      exact ⟨μi, by simpa using hi⟩

theorem LineToks.inside {D : List Dialect} {μ μf : MState} {n : Nat} {ls : List Str} {toks : List Token}
    (h : LineToks D μ n ls toks μf) (sep : Str) (hsep : μ.activeSep = some sep) (hne : sep ≠ [])
    (hf : μf.inDocString = false) : ∃ k, DocBody sep μ.indentToRemove ls toks k := by
  induction h with
  | nil μ n => rw [inDoc_of_sep hsep hne] at hf; cases hf
  | @cons μ n l ls toks μf K hd hs hres hp hdoc htail ih =>
    rcases hdoc (inDoc_of_sep hsep hne) with rfl | ⟨rfl, hv⟩
    · obtain ⟨-, h2, h3, h4⟩ := docsep_close D μ (freshTok l n) l sep hsep hne hres
      exact ⟨0, fun j hj => absurd hj (Nat.not_lt_zero j), l, _, rfl, rfl,
        (docsep_active_iff D μ (freshTok l n) l sep hsep hne).1 hres, h4, h2, h3⟩
    · have hμ' : muAfter D μ l .Other = μ := rfl
      rw [hμ'] at htail ih
      obtain ⟨k, hcont, lc, tc, h1, h2, h3⟩ := ih hsep hf
      have hns := not_startsWith_sep hsep hne hv
      refine ⟨k + 1, fun j hj => ?_, lc, tc, by simpa using h1, by simpa using h2, h3⟩
      cases j with
      | zero =>
        refine ⟨l, _, rfl, rfl, hns, rfl, ?_⟩
        rw [other_text, hsep]
      | succ j =>
        obtain ⟨lj, tj, a1, a2, a3⟩ := hcont j (by omega)
        exact ⟨lj, tj, by simpa using a1, by simpa using a2, a3⟩

theorem sepOK_notInDoc {μ : MState} (hs : sepOK μ = true) (h : μ.inDocString = false) : μ.activeSep = none := by
  simp only [sepOK, Bool.or_eq_true, beq_iff_eq] at hs
  rcases hs with (h0 | h0) | h0
  · exact h0
  · rw [inDoc_of_sep h0 (by decide)] at h; cases h
  · rw [inDoc_of_sep h0 (by decide)] at h; cases h

theorem LineToks.docstring {D : List Dialect} {μ μf : MState} {n : Nat} {l : Str} {ls : List Str} {tk : Token}
    {toks : List Token} (h : LineToks D μ n (l :: ls) (tk :: toks) μf)
    (hk : tk.mtype = some .DocStringSeparator) (hopen : tk.text.isSome = true) (hf : μf.inDocString = false) :
    ∃ sep k, (sep = dq3 ∨ sep = bt3) ∧ startsWith sep (trimmed l) = true ∧ tk.keyword = some sep ∧
      tk.text = some (rstripCRLF (strip ((trimmed l).drop 3))) ∧ DocBody sep (lineIndent l) ls toks k := by
  cases h with
  | cons K hd hs hres hp hdoc htail =>
    have hK : K = .DocStringSeparator := by
      have := (match_well_matched D K μ (freshTok l n) l hres).1
      rw [hk] at this
      exact (Option.some.inj this).symm
    subst hK
    obtain ⟨-, -, h3, -⟩ := docsep_match D μ (freshTok l n) l hres
    have hin : μ.inDocString = false := by
      rw [hopen] at h3
      cases hh : μ.inDocString with
      | false => rfl
      | true => rw [hh] at h3; cases h3
    have hnone := sepOK_notInDoc hs hin
    obtain ⟨sep, hsepc, hst, hμ', htext, hkw, -⟩ := docsep_open D μ (freshTok l n) l (.inl hnone) hres
    have hmu : muAfter D μ l .DocStringSeparator = { μ with activeSep := some sep, indentToRemove := lineIndent l } := by
      rw [← hμ']
      exact ((matchLine_indep D .DocStringSeparator μ (freshTok l n) (probe l) l).1).symm
    rw [hmu] at htail
    obtain ⟨k, hbody⟩ := LineToks.inside htail sep rfl (by rcases hsepc with rfl | rfl <;> decide) hf
    exact ⟨sep, k, hsepc, hst, hkw, htext, hbody⟩

theorem docstring_lines {D : List Dialect} {μ μf : MState} {lines : List Str} {toks : List Token}
    (h : LineToks D μ 1 lines toks μf) (hf : μf.inDocString = false) (i : Nat) (tk : Token)
    (hi : toks[i]? = some tk) (hk : tk.mtype = some .DocStringSeparator) (hopen : tk.text.isSome = true) :
    ∃ l sep k, lines[i]? = some l ∧ (sep = dq3 ∨ sep = bt3) ∧ startsWith sep (trimmed l) = true ∧
      tk.keyword = some sep ∧ tk.text = some (rstripCRLF (strip ((trimmed l).drop 3))) ∧
      DocBody sep (lineIndent l) (lines.drop (i + 1)) (toks.drop (i + 1)) k := by
  obtain ⟨μi, hdrop⟩ := LineToks.drop h i
  have hlen := LineToks.length h
  have hit : i < toks.length := (List.getElem?_eq_some_iff.1 hi).1
  have hil : i < lines.length := hlen ▸ hit
  have h1 : toks.drop i = tk :: toks.drop (i + 1) := by
    rw [List.drop_eq_getElem_cons hit]
    congr 1
    exact (List.getElem?_eq_some_iff.1 hi).2
  have h2 : lines.drop i = lines[i] :: lines.drop (i + 1) := List.drop_eq_getElem_cons hil
  rw [h1, h2] at hdrop
  obtain ⟨sep, k, a1, a2, a3, a4, a5⟩ := LineToks.docstring hdrop hk hopen hf
  exact ⟨lines[i], sep, k, List.getElem?_eq_getElem hil, a1, a2, a3, a4, a5⟩

end Lemmas
end GV
