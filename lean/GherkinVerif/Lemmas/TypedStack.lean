/-
  Lemmas/TypedStack.lean — the typed-stack argument of property C02 (generic; no reference to
  the generated table or grammar).

  An *abstract stack* is a list of frames `(rule, residual)`: the open nodes, innermost first,
  each with the regular expression its remaining children must spell.  `execEv` executes one
  start / end / build event symbolically.  A *typing* `σ` gives an abstract stack to each state it
  lists; `typingOK` checks that every branch of every typed state maps `σ state` to `σ target`
  (and that the end-of-file branches close everything down to the root with a nullable residual).
  `typedCheck` computes `σ` by exploration from the start state and checks it; nothing is proved
  about the exploration, a state it misses makes the check fail at the branch that leads there.

  Soundness (`events_valid_tree_gen`): if the check succeeds then for every accepted sequence of
  kinds the events rebuild (`Spec.treeOf`) into a `Spec.ValidTree` whose leaves are the lines in
  order, each read as a kind of its fallback chain.  The proof relates the concrete stack of open
  nodes of `Spec.treeOfAux` to `σ state` frame by frame (`Typed`): a frame's residual is the
  derivative (`RE.derivs`) of its rule's right-hand side by the children the node has so far,
  ignorable lines dropped (`FrameOK`); `exec_step` keeps this over one event, `run_tree` over a run.
-/
import GherkinVerif.Lemmas.NodeRhs
import GherkinVerif.Lemmas.Kinds
namespace GV.Lemmas

open GV.Spec
open GV.Spec.RE (Lang nullable deriv)

namespace RE
variable {α : Type} [DecidableEq α]

def derivs : Spec.RE α → List α → Spec.RE α
  | r, [] => r
  | r, a :: w => derivs (deriv a r) w

theorem derivs_append (r : Spec.RE α) (u v : List α) : derivs r (u ++ v) = derivs (derivs r u) v := by
  induction u generalizing r with
  | nil => rfl
  | cons a u ih => exact ih _

theorem derivs_snoc (r : Spec.RE α) (u : List α) (a : α) : derivs r (u ++ [a]) = deriv a (derivs r u) := by
  rw [derivs_append]; rfl

theorem derivs_correct (r : Spec.RE α) (u w : List α) : Lang (derivs r u) w ↔ Lang r (u ++ w) := by
  induction u generalizing r with
  | nil => exact Iff.rfl
  | cons a u ih => exact (ih _).trans (deriv_correct a r _)

theorem lang_of_derivs_nullable {r : Spec.RE α} {u : List α} (h : nullable (derivs r u) = true) :
    Lang r u := by
  have := (derivs_correct r u []).1 ((nullable_iff _).1 h)
  simpa using this

end RE

open RE (derivs)

abbrev Frame := RuleType × Spec.RE Sym
abbrev AStack := List Frame
/-- the stack of open nodes of `Spec.treeOfAux` -/
abbrev CStack := List (RuleType × List Tree)

/-- one event on an abstract stack.  `end_` never pops the root, and its name is ignored, as the
    real builder ignores it; a `build k` by which the residual cannot step is allowed for an
    ignorable kind and leaves the stack as it is. -/
def execEv (G : Grammar) : AStack → Ev → Option AStack
  | (p, r) :: rest, .start x =>
    if deriv (Sym.rule x) r = .emp then none
    else some ((x, rhsOf G x) :: (p, deriv (Sym.rule x) r) :: rest)
  | (_, r) :: f :: rest, .end_ _ => if nullable r = true then some (f :: rest) else none
  | (p, r) :: rest, .build k =>
    if deriv (Sym.tok k) r = .emp then
      (if G.ignored.contains k = true then some ((p, r) :: rest) else none)
    else some ((p, deriv (Sym.tok k) r) :: rest)
  | _, _ => none

def execEvs (G : Grammar) : AStack → List Ev → Option AStack
  | a, [] => some a
  | a, e :: es =>
    match execEv G a e with
    | none => none
    | some a' => execEvs G a' es

/-- the concrete counterpart: one non-final step of `Spec.treeOfAux` -/
def stackStep : CStack → Ev → Option CStack
  | stack, .start r => some ((r, []) :: stack)
  | (r, cs) :: stack, .build k => some ((r, cs ++ [.leaf k]) :: stack)
  | (r, cs) :: (p, ps) :: stack, .end_ _ => some ((p, ps ++ [.node r cs]) :: stack)
  | _, _ => none

theorem treeOfAux_step {c c' : CStack} {e : Ev} (h : stackStep c e = some c') (es : List Ev) :
    treeOfAux (e :: es) c = treeOfAux es c' := by
  cases e with
  | start r => simp only [stackStep, Option.some.injEq] at h; subst h; rfl
  | build k =>
    cases c with
    | nil => simp [stackStep] at h
    | cons f stack =>
      obtain ⟨r, cs⟩ := f
      simp only [stackStep, Option.some.injEq] at h; subst h; rfl
  | end_ x =>
    cases c with
    | nil => simp [stackStep] at h
    | cons f stack =>
      obtain ⟨r, cs⟩ := f
      cases stack with
      | nil => simp [stackStep] at h
      | cons g stack =>
        obtain ⟨p, ps⟩ := g
        simp only [stackStep, Option.some.injEq] at h; subst h; rfl

def builds : List Ev → List Kind
  | [] => []
  | .build k :: es => k :: builds es
  | _ :: es => builds es

/-- the leaves already under the open nodes, in document order -/
def stackLeaves : CStack → List Kind
  | [] => []
  | (_, cs) :: rest => stackLeaves rest ++ Tree.leaves.leavesList cs

theorem leavesList_append (xs ys : List Tree) :
    Tree.leaves.leavesList (xs ++ ys) = Tree.leaves.leavesList xs ++ Tree.leaves.leavesList ys := by
  induction xs with
  | nil => simp [Tree.leaves.leavesList]
  | cons t ts ih => simp [Tree.leaves.leavesList, ih]

/-- frame `f` types the open node `g`; `pend` is the symbol of the open child above it (already
    accounted for in the residual, not yet among the children) -/
def FrameOK (G : Grammar) (pend : List Sym) (f : Frame) (g : RuleType × List Tree) : Prop :=
  f.1 = g.1 ∧ ValidList G g.2 ∧
    ∃ kept, DropIgnored G g.2 kept ∧ f.2 = derivs (rhsOf G g.1) (kept.map Tree.sym ++ pend)

def TypedAux (G : Grammar) : List Sym → AStack → CStack → Prop
  | _, [], [] => True
  | pend, f :: a, g :: c => FrameOK G pend f g ∧ TypedAux G [.rule g.1] a c
  | _, _, _ => False

def Typed (G : Grammar) (a : AStack) (c : CStack) : Prop := TypedAux G [] a c

theorem exec_step {G : Grammar} {a a' : AStack} {c : CStack} {e : Ev}
    (h : execEv G a e = some a') (ht : Typed G a c) :
    ∃ c', stackStep c e = some c' ∧ Typed G a' c' ∧ stackLeaves c' = stackLeaves c ++ builds [e] := by
  cases a with
  | nil => cases e <;> simp [execEv] at h
  | cons f rest =>
    obtain ⟨p, r⟩ := f
    cases c with
    | nil => exact absurd ht (by simp [Typed, TypedAux])
    | cons g crest =>
      obtain ⟨p', cs⟩ := g
      obtain ⟨⟨hp, hv, kept, hd, hr⟩, hrest⟩ := ht
      simp only at hp hv hd hr
      subst hp
      cases e with
      | start x =>
        simp only [execEv] at h
        split at h
        · cases h
        · simp only [Option.some.injEq] at h; subst h
          refine ⟨(x, []) :: (p, cs) :: crest, rfl, ⟨⟨rfl, ValidList.nil, [], DropIgnored.nil, rfl⟩,
            ⟨rfl, hv, kept, hd, ?_⟩, hrest⟩, ?_⟩
          · simp only [hr, List.append_nil]; exact (RE.derivs_snoc _ _ _).symm
          · simp [stackLeaves, builds, Tree.leaves.leavesList]
      | build k =>
        simp only [execEv] at h
        refine ⟨(p, cs ++ [.leaf k]) :: crest, rfl, ?_, ?_⟩
        · split at h
          · split at h
            · next hig =>
              simp only [Option.some.injEq] at h; subst h
              refine ⟨⟨rfl, validList_snoc hv (ValidNode.leaf k), kept, ?_, hr⟩, hrest⟩
              have := dropIgnored_append hd (DropIgnored.drop k hig DropIgnored.nil)
              simpa using this
            · cases h
          · simp only [Option.some.injEq] at h; subst h
            refine ⟨⟨rfl, validList_snoc hv (ValidNode.leaf k), kept ++ [.leaf k],
              dropIgnored_append hd (DropIgnored.keep _ DropIgnored.nil), ?_⟩, hrest⟩
            simp only [hr, List.append_nil, List.map_append, List.map_cons, List.map_nil, Tree.sym]
            exact (RE.derivs_snoc _ _ _).symm
        · simp [stackLeaves, builds, leavesList_append, Tree.leaves.leavesList, Tree.leaves]
      | end_ x =>
        cases rest with
        | nil => simp [execEv] at h
        | cons f2 rest2 =>
          cases crest with
          | nil => exact absurd hrest (by simp [TypedAux])
          | cons g2 crest2 =>
            obtain ⟨q, ps⟩ := g2
            obtain ⟨⟨hq, hv2, kept2, hd2, hr2⟩, hrest2⟩ := hrest
            simp only at hq hv2 hd2 hr2
            simp only [execEv] at h
            split at h
            · next hn =>
              simp only [Option.some.injEq] at h; subst h
              have hnode : ValidNode G (.node p cs) := by
                refine ValidNode.node p cs kept hv hd ?_
                rw [hr, List.append_nil] at hn
                rw [← rhsOf_eq]
                exact RE.lang_of_derivs_nullable hn
              refine ⟨(q, ps ++ [.node p cs]) :: crest2, rfl,
                ⟨⟨hq, validList_snoc hv2 hnode, kept2 ++ [.node p cs],
                  dropIgnored_append hd2 (DropIgnored.keep _ DropIgnored.nil), ?_⟩, hrest2⟩, ?_⟩
              · simp only [hr2, List.append_nil, List.map_append, List.map_cons, List.map_nil, Tree.sym]
              · simp [stackLeaves, builds, leavesList_append, Tree.leaves.leavesList, Tree.leaves]
            · cases h

theorem builds_append (es fs : List Ev) : builds (es ++ fs) = builds es ++ builds fs := by
  induction es with
  | nil => rfl
  | cons e es ih => cases e <;> simp [builds, ih]

theorem exec_steps {G : Grammar} {es : List Ev} : ∀ {a a' : AStack} {c : CStack},
    execEvs G a es = some a' → Typed G a c →
    ∃ c', (∀ rest, treeOfAux (es ++ rest) c = treeOfAux rest c') ∧ Typed G a' c' ∧
      stackLeaves c' = stackLeaves c ++ builds es := by
  induction es with
  | nil =>
    intro a a' c h ht
    simp only [execEvs, Option.some.injEq] at h; subst h
    exact ⟨c, fun _ => rfl, ht, by simp [builds]⟩
  | cons e es ih =>
    intro a a' c h ht
    simp only [execEvs] at h
    split at h
    · cases h
    · next a1 h1 =>
      obtain ⟨c1, hs1, ht1, hl1⟩ := exec_step h1 ht
      obtain ⟨c', hs', ht', hl'⟩ := ih h ht1
      refine ⟨c', ?_, ht', ?_⟩
      · intro rest
        rw [List.cons_append, treeOfAux_step hs1]; exact hs' rest
      · rw [hl', hl1, List.append_assoc, ← builds_append]; rfl

def buildCount : List Prod → Nat
  | [] => 0
  | .build :: ps => buildCount ps + 1
  | _ :: ps => buildCount ps

theorem builds_prodEvents (k : Kind) (ps : List Prod) :
    builds (prodEvents k ps) = List.replicate (buildCount ps) k := by
  induction ps with
  | nil => rfl
  | cons p ps ih => cases p <;> simp [prodEvents, builds, buildCount, ih, List.replicate_succ]

theorem prodEvents_append (k : Kind) (ps qs : List Prod) :
    prodEvents k (ps ++ qs) = prodEvents k ps ++ prodEvents k qs := by
  induction ps with
  | nil => rfl
  | cons p ps ih => cases p <;> simp [prodEvents, ih]

abbrev Typing := List (Nat × AStack)

def lookupS : Typing → Nat → Option AStack
  | [], _ => none
  | (s', a) :: rest, s => if s' = s then some a else lookupS rest s

theorem lookupS_mem {σ : Typing} {s : Nat} {a : AStack} (h : lookupS σ s = some a) : (s, a) ∈ σ := by
  induction σ with
  | nil => cases h
  | cons p σ ih =>
    obtain ⟨s', a'⟩ := p
    simp only [lookupS] at h
    split at h
    · next e => simp only [Option.some.injEq] at h; subst h; subst e; exact List.mem_cons_self
    · exact List.mem_cons_of_mem _ (ih h)

/-- one branch maps the typing of its state to the typing of its target and builds exactly one
    line.  A branch taken on end of file instead closes everything down to the root, whose
    residual must then be nullable, and builds the `EOF` line last. -/
def branchOK (G : Grammar) (T : Table) (σ : Typing) (a : AStack) (b : Branch) : Bool :=
  if b.kind = .EOF then
    decide (b.prods.getLast? = some .build) && decide (buildCount b.prods.dropLast = 0) &&
    match execEvs G a (prodEvents b.kind b.prods.dropLast) with
    | some [(x, r)] => decide (x = T.startRule) && nullable r
    | _ => false
  else
    decide (buildCount b.prods = 1) &&
    match execEvs G a (prodEvents b.kind b.prods) with
    | some a' => decide (lookupS σ b.target = some a')
    | none => false

def typingOK (G : Grammar) (T : Table) (σ : Typing) : Bool :=
  decide (lookupS σ 0 = some [(T.startRule, rhsOf G T.startRule)]) &&
  σ.all fun p =>
    match T.row? p.1 with
    | none => true
    | some row => row.branches.all (branchOK G T σ p.2)

/-- end-of-file branches lead nowhere -/
def succTyped (G : Grammar) (T : Table) (s : Nat) (a : AStack) : Typing :=
  match T.row? s with
  | none => []
  | some row => row.branches.filterMap fun b =>
      if b.kind = .EOF then none
      else match execEvs G a (prodEvents b.kind b.prods) with
        | some a' => some (b.target, a')
        | none => none

def exploreTyping (G : Grammar) (T : Table) : Nat → Typing → Typing → Typing
  | 0, _, σ => σ
  | _ + 1, [], σ => σ
  | n + 1, (s, a) :: todo, σ =>
    match lookupS σ s with
    | some _ => exploreTyping G T n todo σ
    | none => exploreTyping G T n (succTyped G T s a ++ todo) ((s, a) :: σ)

def computeTyping (G : Grammar) (T : Table) (fuel : Nat) : Typing :=
  exploreTyping G T fuel [(0, [(T.startRule, rhsOf G T.startRule)])] []

def typedCheck (G : Grammar) (T : Table) (fuel : Nat) : Bool := typingOK G T (computeTyping G T fuel)

theorem pickBranch_some {T : Table} {k : Kind} {fut : List Kind} {bs : List Branch} {b : Branch}
    (h : pickBranch T k fut bs = some b) : b ∈ bs ∧ passes k b.kind = true := by
  induction bs with
  | nil => cases h
  | cons b' bs ih =>
    simp only [pickBranch] at h
    split at h
    · next hc =>
      simp only [Option.some.injEq] at h; subst h
      simp only [Bool.and_eq_true] at hc
      exact ⟨List.mem_cons_self, hc.1⟩
    · exact ⟨List.mem_cons_of_mem _ (ih h).1, (ih h).2⟩

theorem stepAbs_some {T : Table} {s : Nat} {k : Kind} {fut : List Kind} {b : Branch}
    (h : stepAbs T s k fut = some b) :
    ∃ row, T.row? s = some row ∧ b ∈ row.branches ∧ passes k b.kind = true := by
  unfold stepAbs at h
  split at h
  · cases h
  · next row hrow => exact ⟨row, hrow, pickBranch_some h⟩

theorem eq_dropLast_append {α : Type} {l : List α} {a : α} (h : l.getLast? = some a) :
    l = l.dropLast ++ [a] := by
  have hne : l ≠ [] := by intro e; subst e; simp at h
  have h1 := List.dropLast_concat_getLast hne
  rw [List.getLast?_eq_some_getLast hne] at h
  simp only [Option.some.injEq] at h
  rw [h] at h1; exact h1.symm

theorem typed_single {G : Grammar} {x : RuleType} {r : Spec.RE Sym} {c : CStack}
    (h : Typed G [(x, r)] c) : ∃ cs, c = [(x, cs)] ∧ FrameOK G [] (x, r) (x, cs) := by
  cases c with
  | nil => exact absurd h (by simp [Typed, TypedAux])
  | cons g c =>
    cases c with
    | nil =>
      obtain ⟨x', cs⟩ := g
      obtain ⟨hf, _⟩ := h
      have hx : x = x' := hf.1
      subst hx
      exact ⟨cs, rfl, hf⟩
    | cons g' c => exact absurd h.2 (by simp [TypedAux])

theorem run_tree {G : Grammar} {T : Table} {σ : Typing}
    (hσ : ∀ p ∈ σ, ∀ row, T.row? p.1 = some row → ∀ b ∈ row.branches, branchOK G T σ p.2 b = true) :
    ∀ (ks : List Kind) (s : Nat) (a : AStack) (c : CStack) (res : Nat × List Ev), Kind.EOF ∉ ks →
      lookupS σ s = some a → Typed G a c → runAbs T s (ks ++ [.EOF]) = some res →
      ∃ t, treeOfAux (res.2 ++ [.end_ T.startRule]) c = some t ∧ ValidTree G T.startRule t ∧
        ∃ rs, t.leaves = stackLeaves c ++ rs ∧ ReadsAs (ks ++ [.EOF]) rs := by
  intro ks
  induction ks with
  | nil =>
    intro s a c res _ hs ht hrun
    simp only [List.nil_append, runAbs] at hrun
    split at hrun
    · cases hrun
    · next b hb =>
      simp only [Option.some.injEq] at hrun; subst hrun
      obtain ⟨row, hrow, hmem, hpass⟩ := stepAbs_some hb
      have hk : b.kind = .EOF := passes_EOF_left hpass
      have hbr := hσ _ (lookupS_mem hs) row hrow b hmem
      simp only [branchOK, hk, if_true, Bool.and_eq_true, decide_eq_true_eq] at hbr
      obtain ⟨⟨hlast, hcount⟩, hexec⟩ := hbr
      have hprods : b.prods = b.prods.dropLast ++ [.build] := eq_dropLast_append hlast
      split at hexec
      · next x r hex =>
        simp only [Bool.and_eq_true, decide_eq_true_eq] at hexec
        obtain ⟨hx, hnull⟩ := hexec
        obtain ⟨c', hs', ht', hl'⟩ := exec_steps hex ht
        obtain ⟨cs, rfl, hf⟩ := typed_single ht'
        obtain ⟨_, hv, kept, hd, hr⟩ := hf
        simp only at hv hd hr
        have hnode : ValidNode G (.node x cs) := by
          refine ValidNode.node x cs kept hv hd ?_
          rw [hr, List.append_nil] at hnull
          rw [← rhsOf_eq]
          exact RE.lang_of_derivs_nullable hnull
        have hev : (prodEvents b.kind b.prods ++ []) ++ [Ev.end_ T.startRule]
            = prodEvents .EOF b.prods.dropLast ++ [.build .EOF, .end_ T.startRule] := by
          rw [hprods, prodEvents_append, hk]
          simp [prodEvents]
        refine ⟨.node x (cs ++ [.leaf .EOF]), ?_, ⟨cs, by rw [hx], by rw [← hx]; exact hnode⟩, [.EOF], ?_, ?_⟩
        · show treeOfAux ((prodEvents b.kind b.prods ++ []) ++ [Ev.end_ T.startRule]) c = _
          rw [hev, hs']
          simp [treeOfAux]
        · rw [builds_prodEvents, hcount] at hl'
          simp only [stackLeaves, List.nil_append, List.replicate_zero, List.append_nil] at hl'
          simp only [Tree.leaves, leavesList_append, hl', Tree.leaves.leavesList, List.append_nil]
        · simp [ReadsAs]; decide
      · exact absurd hexec (by simp)
  | cons k ks ih =>
    intro s a c res hks hs ht hrun
    have hk : k ≠ .EOF := fun e => hks (by simp [e])
    have hks' : Kind.EOF ∉ ks := fun e => hks (List.mem_cons_of_mem _ e)
    simp only [List.cons_append, runAbs] at hrun
    split at hrun
    · cases hrun
    · next b hb =>
      split at hrun
      · cases hrun
      · next s' evs hrec =>
        simp only [Option.some.injEq] at hrun; subst hrun
        obtain ⟨row, hrow, hmem, hpass⟩ := stepAbs_some hb
        have hbk : b.kind ≠ .EOF := fun e => hk (passes_EOF_right (e ▸ hpass))
        have hbr := hσ _ (lookupS_mem hs) row hrow b hmem
        simp only [branchOK, hbk, if_false, Bool.and_eq_true, decide_eq_true_eq] at hbr
        obtain ⟨hcount, hexec⟩ := hbr
        split at hexec
        · next a' hex =>
          simp only [decide_eq_true_eq] at hexec
          obtain ⟨c', hs', ht', hl'⟩ := exec_steps hex ht
          obtain ⟨t, htree, hvalid, rs, hleaves, hreads⟩ := ih b.target a' c' (s', evs) hks' hexec ht' hrec
          refine ⟨t, ?_, hvalid, b.kind :: rs, ?_, ?_⟩
          · show treeOfAux ((prodEvents b.kind b.prods ++ evs) ++ [Ev.end_ T.startRule]) c = _
            rw [List.append_assoc, hs']; exact htree
          · rw [hleaves, hl', builds_prodEvents, hcount]; simp
          · exact ⟨hpass, hreads⟩
        · exact absurd hexec (by simp)

theorem events_valid_tree_gen {G : Grammar} {T : Table} {fuel : Nat} (h : typedCheck G T fuel = true)
    (ks : List Kind) (hks : Kind.EOF ∉ ks) (evs : List Ev) (he : eventsAbs T ks = some evs) :
    ∃ t, treeOf evs = some t ∧ ValidTree G T.startRule t ∧ ReadsAs (ks ++ [.EOF]) t.leaves := by
  simp only [typedCheck, typingOK, Bool.and_eq_true, decide_eq_true_eq, List.all_eq_true] at h
  obtain ⟨h0, hall⟩ := h
  have hσ : ∀ p ∈ computeTyping G T fuel, ∀ row, T.row? p.1 = some row → ∀ b ∈ row.branches,
      branchOK G T (computeTyping G T fuel) p.2 b = true := by
    intro p hp row hrow b hb
    have := hall p hp
    rw [hrow] at this
    exact List.all_eq_true.1 this b hb
  unfold eventsAbs at he
  cases hrun : runAbs T 0 (ks ++ [.EOF]) with
  | none => rw [hrun] at he; cases he
  | some res =>
    rw [hrun] at he
    simp only [Option.map_some, Option.some.injEq] at he
    subst he
    have ht0 : Typed G [(T.startRule, rhsOf G T.startRule)] [(T.startRule, [])] :=
      ⟨⟨rfl, ValidList.nil, [], DropIgnored.nil, rfl⟩, trivial⟩
    obtain ⟨t, htree, hvalid, rs, hleaves, hreads⟩ := run_tree hσ ks 0 _ _ res hks h0 ht0 hrun
    refine ⟨t, ?_, hvalid, ?_⟩
    · show treeOfAux ([Ev.start T.startRule] ++ res.2 ++ [Ev.end_ T.startRule]) [] = some t
      simpa [treeOfAux] using htree
    · rw [hleaves]; simpa [stackLeaves, Tree.leaves.leavesList] using hreads

end GV.Lemmas
