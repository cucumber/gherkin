/-
  Lemmas/Kinds.lean — the fourteen token kinds: a decidable statement about all kinds is decided by
  running through `Kind.all`, so facts about kinds and pairs of kinds are proved by `decide`; the
  fallback chain of the abstract level (which tests a line of a given intrinsic kind passes).
-/
import GherkinVerif.Model.Abstract
namespace GV
namespace Lemmas

instance (P : Kind → Prop) [DecidablePred P] : Decidable (∀ k, P k) :=
  decidable_of_iff (∀ k ∈ Kind.all, P k)
    ⟨fun h k => h k (by cases k <;> decide), fun h k _ => h k⟩

/-- a line passes the test of its own kind; a language header also reads as a comment; every line
    but the end of file also reads as free text -/
theorem passes_iff {k K : Kind} :
    passes k K = true ↔ K = k ∨ (k = .Language ∧ K = .Comment) ∨ (K = .Other ∧ k ≠ .EOF) := by
  revert k K
  decide

theorem passes_EOF (K : Kind) : passes .EOF K = (K == .EOF) := by
  revert K
  decide

theorem passes_EOF_right {k : Kind} (h : passes k .EOF = true) : k = .EOF := by
  revert k
  decide

theorem passes_EOF_left {K : Kind} (h : passes .EOF K = true) : K = .EOF := by
  revert K
  decide

theorem passes_tagLine {k : Kind} (h : passes k .TagLine = true) : k = .TagLine := by
  revert k
  decide

theorem passes_docsep_false (k : Kind) (h : k ≠ .DocStringSeparator) :
    passes k .DocStringSeparator = false := by
  revert k
  decide

theorem passes_other_true (k : Kind) (h : k ≠ .EOF) : passes k .Other = true :=
  passes_iff.mpr (.inr (.inr ⟨rfl, h⟩))

end Lemmas
end GV
