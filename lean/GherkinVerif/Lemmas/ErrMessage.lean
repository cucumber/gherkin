/-
  Lemmas/ErrMessage.lean — the message of a parser error, `(line:column): body`, determines the
  line, the printed column and the body: decimal numerals are injective and contain neither `:`
  nor `)`.
-/
import GherkinVerif.Model.Token
namespace GV
namespace Lemmas

theorem natToStr_eq (n : Nat) : natToStr n = (Nat.toDigits 10 n).map Char.toNat := by
  rw [natToStr, Nat.toString_eq_repr, Nat.toList_repr]

theorem natToStr_digit (n : Nat) : ∀ c ∈ natToStr n, 48 ≤ c ∧ c ≤ 57 := by
  intro c hc
  rw [natToStr_eq] at hc
  obtain ⟨ch, hd, rfl⟩ := List.mem_map.1 hc
  have := Nat.isDigit_of_mem_toDigits (by decide) (by decide) hd
  simp only [Char.isDigit, Bool.and_eq_true, decide_eq_true_eq] at this
  exact this

theorem natToStr_inj {a b : Nat} (h : natToStr a = natToStr b) : a = b := by
  rw [natToStr_eq, natToStr_eq] at h
  have minj : ∀ (l1 l2 : List Char), l1.map Char.toNat = l2.map Char.toNat → l1 = l2 := by
    intro l1
    induction l1 with
    | nil => intro l2 h; cases l2 with
      | nil => rfl
      | cons _ _ => simp at h
    | cons x l1 ih =>
      intro l2 h
      cases l2 with
      | nil => simp at h
      | cons y l2 =>
        simp only [List.map_cons, List.cons.injEq] at h
        have hxy : x = y := Char.ext (UInt32.toNat_inj.1 h.1)
        rw [hxy, ih l2 h.2]
  have h' : Nat.toDigits 10 a = Nat.toDigits 10 b := minj _ _ h
  have := congrArg (fun l => Nat.ofDigitChars 10 l 0) h'
  simpa [Nat.ofDigitChars_ten_toDigits] using this

theorem split_at_sep (x : Nat) : ∀ (u u' r r' : Str), (∀ c ∈ u, c ≠ x) → (∀ c ∈ u', c ≠ x) →
    u ++ x :: r = u' ++ x :: r' → u = u' ∧ r = r' := by
  intro u
  induction u with
  | nil =>
    intro u' r r' _ hu' h
    cases u' with
    | nil => simpa using h
    | cons a u' =>
      simp only [List.nil_append, List.cons_append, List.cons.injEq] at h
      exact absurd h.1.symm (hu' a (List.mem_cons_self ..))
  | cons a u ih =>
    intro u' r r' hu hu' h
    cases u' with
    | nil =>
      simp only [List.nil_append, List.cons_append, List.cons.injEq] at h
      exact absurd h.1 (hu a (List.mem_cons_self ..))
    | cons b u' =>
      simp only [List.cons_append, List.cons.injEq] at h
      obtain ⟨e1, e2⟩ := ih u' r r' (fun c hc => hu c (List.mem_cons_of_mem _ hc))
        (fun c hc => hu' c (List.mem_cons_of_mem _ hc)) h.2
      exact ⟨by rw [h.1, e1], e2⟩

theorem message_eq_iff (e e' : PErr) :
    e.message = e'.message ↔
      e.loc.line = e'.loc.line ∧ e.loc.col.getD 0 = e'.loc.col.getD 0 ∧ e.body = e'.body := by
  constructor
  · intro h
    unfold PErr.message at h
    have hl : lit "): " = [41, 58, 32] := by decide
    rw [hl] at h
    simp only [List.append_assoc, List.cons_append, List.nil_append, List.cons.injEq, true_and] at h
    have d58 : ∀ n : Nat, ∀ c ∈ natToStr n, c ≠ 58 := fun n c hc => by have := natToStr_digit n c hc; omega
    have d41 : ∀ n : Nat, ∀ c ∈ natToStr n, c ≠ 41 := fun n c hc => by have := natToStr_digit n c hc; omega
    obtain ⟨h1, h2⟩ := split_at_sep 58 _ _ _ _ (d58 _) (d58 _) h
    obtain ⟨h3, h4⟩ := split_at_sep 41 _ _ _ _ (d41 _) (d41 _) h2
    simp only [List.cons.injEq, true_and] at h4
    exact ⟨natToStr_inj h1, natToStr_inj h3, h4⟩
  · rintro ⟨h1, h2, h3⟩
    unfold PErr.message
    rw [h1, h2, h3]

end Lemmas
end GV
