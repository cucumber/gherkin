/-
  Lemmas/ParseClean.lean — what a `Trace` (Lemmas/CleanStep.lean) of an accepted run of the queue-free
  parse says.  The trace itself is the last clause of `lines_sim` (Lemmas/TextMain.lean;
  `lines_clean`): when the error list is empty at the end, it was empty all the way, no test raised,
  no error tail was reached, no builder call failed, and at each line the branch taken is
  `pickBranch` on the intrinsic kinds.
  From a trace: the kind-level run `runAbs` on `textKinds` (`trace_runAbs`), the tokens are well
  matched (`trace_tokens`), and — with the doc-string facts about the table — every
  `start_rule(DocString)` is followed by the `build` of an OPENING separator (`trace_adj`): along a
  trace the matcher is inside a doc string exactly in the content states (`inDocString_next`), and
  `start_rule(DocString)` stands in separator tests of the other states only.
-/
import GherkinVerif.Lemmas.TextMain
import GherkinVerif.Lemmas.ParseTree
namespace GV
namespace Spec

/-- in a production list every `start DocString` is directly followed by `build` -/
def prodsAdj : List Prod → Bool
  | [] => true
  | .start r :: rest => (r != .DocString || rest.head? == some .build) && prodsAdj rest
  | .end_ _ :: rest => prodsAdj rest
  | .build :: rest => prodsAdj rest

/-- doc strings are opened by their first line: the start state is not a doc-string content state;
    `start_rule(DocString)` occurs only in `DocStringSeparator` tests of NON-content states and is
    directly followed by the `build` of that separator line -/
def docStringOpens (T : Table) : Bool :=
  !(contentStates T).contains 0 &&
  T.rows.all fun r => r.branches.all fun b =>
    prodsAdj b.prods &&
    (!b.prods.contains (.start .DocString) ||
      (b.kind == .DocStringSeparator && !(contentStates T).contains r.id))

end Spec

namespace Lemmas
open Spec

theorem lines_clean {D : List Dialect} {T : Table} (hf : textDialectFacts D = true) (F : QF D T)
    (fuel s : Nat) (p : Ctx) (hμ : MuOK D p.μ) (sf : Nat) (c' : Ctx)
    (h : run (parseLinesPure D T false fuel s) p = (.ok sf, c')) (hc' : c'.errors = []) :
    ∃ steps, Trace D T s p.μ p.lines sf steps ∧
      applyOps (stepsOps steps) p.β p.ids = (.ok (), c'.β, c'.ids) ∧
      c'.builds = p.builds ++ opToks (stepsOps steps) :=
  (lines_sim hf F fuel s p hμ (AR_of_nil (errors_nil_of_grow (EffM.parseLinesPure D T fuel s p _ c' h).1 hc'))
    _ c' h).2.2 sf rfl hc'

theorem row_id_of_row? {T : Table} {s : Nat} {row : StateRow} (h : T.row? s = some row) : row.id = s ∧ row ∈ T.rows := by
  unfold Table.row? at h
  exact ⟨by simpa using List.find?_some h, List.mem_of_find?_eq_some h⟩

theorem trace_runAbs {D' D : List Dialect} {T : Table} (F : QF D' T) {s : Nat} {μ : MState} {ls : List Str} {sf : Nat}
    {steps : List (Branch × Token)} (h : Trace D T s μ ls sf steps) :
    runAbs T s (textKinds D T s μ ls ++ [.EOF]) = some (sf, stepsEvs steps) := by
  induction h with
  | @eof s μ row b t0 hrow hpick _ _ =>
    have hst : stepAbs T s .EOF [] = some b := by unfold stepAbs; rw [hrow]; exact hpick
    simp only [textKinds, List.nil_append, runAbs, hst, stepsEvs, List.flatMap_cons, List.flatMap_nil, List.append_nil]
  | @line s μ l ls row b t0 sf rest hrow hpick _ _ _ ih =>
    have hst : stepAbs T s (intrinsicKind D μ l) (ls.map (intrinsicKind D μ) ++ [.EOF]) = some b := by
      unfold stepAbs; rw [hrow]; exact hpick
    have hst' : stepAbs T s (intrinsicKind D μ l) (textKinds D T b.target (muAfter D μ l b.kind) ls ++ [.EOF]) = some b := by
      unfold stepAbs; rw [hrow]; exact pick_textKinds F D s row hrow μ l ls b hpick
    have htk : textKinds D T s μ (l :: ls) = intrinsicKind D μ l :: textKinds D T b.target (muAfter D μ l b.kind) ls := by
      simp only [textKinds, hst]
    rw [htk, List.cons_append, runAbs, hst']
    dsimp only
    rw [ih]
    simp only [stepsEvs, List.flatMap_cons]

theorem trace_tokens {D : List Dialect} {T : Table} {s : Nat} {μ : MState} {ls : List Str} {sf : Nat}
    {steps : List (Branch × Token)} (h : Trace D T s μ ls sf steps) :
    ∀ p ∈ steps, p.2.mtype = some p.1.kind ∧ WellMatched p.2 := by
  induction h with
  | eof _ _ _ hres =>
    intro p hp
    rw [List.mem_singleton] at hp
    subst hp
    exact matchTok_well_matched D _ _ _ hres
  | line _ _ _ hres _ ih =>
    intro p hp
    rcases List.mem_cons.1 hp with rfl | hp
    · exact matchTok_well_matched D _ _ _ hres
    · exact ih p hp

theorem adjOK_prodOps (t : Token) (ps : List Prod) (h : prodsAdj ps = true)
    (ht : Prod.start .DocString ∈ ps → openingSep t) : adjOK (prodOps t ps) := by
  induction ps with
  | nil => trivial
  | cons p ps ih =>
    have ih' := fun h' => ih h' fun hm => ht (List.mem_cons_of_mem _ hm)
    cases p with
    | end_ r => exact ih' h
    | build => exact ih' h
    | start r =>
      simp only [prodsAdj, Bool.and_eq_true, Bool.or_eq_true, bne_iff_ne, ne_eq, beq_iff_eq] at h
      refine ⟨fun hr => ?_, ih' h.2⟩
      subst hr
      rcases h.1 with h1 | h1
      · exact absurd rfl h1
      · cases ps with
        | nil => cases h1
        | cons q qs =>
          simp only [List.head?_cons, Option.some.injEq] at h1
          subst h1
          exact ⟨t, prodOps t qs, rfl, ht (List.mem_cons_self ..)⟩

/-- the matcher is inside a doc string exactly in the content states: one line further
    (`contentEntry`, branch by branch) -/
theorem inDocString_next {D : List Dialect} {T : Table} (hf : textDialectFacts D = true) (hCE : contentEntry T = true)
    {s : Nat} {row : StateRow} {b : Branch} {μ : MState} {l : Str} (hrow : T.row? s = some row)
    (hbm : b ∈ row.branches) (hμ : MuOK D μ) (hpass : passes (intrinsicKind D μ l) b.kind = true)
    (hinv : μ.inDocString = (contentStates T).contains s) :
    (muAfter D μ l b.kind).inDocString = (contentStates T).contains b.target := by
  simp only [contentEntry, List.all_eq_true] at hCE
  obtain ⟨hid, hmem⟩ := row_id_of_row? hrow
  have hce := hCE row hmem b hbm
  rw [hid] at hce
  have hv : verdict D μ l b.kind = true := by rw [kind_unique hf D μ hμ.1 hμ.2 l]; exact hpass
  by_cases hk : b.kind = .DocStringSeparator
  · have hm := verdict_matched hv
    rw [hk] at hm
    have := (docsep_match D μ (probe l) l hm).2.2.2
    unfold muAfter
    rw [hk, this, hinv]
    cases hc : (contentStates T).contains s with
    | true =>
      rw [hc] at hce
      simp only [if_true, hk, beq_self_eq_true, Bool.true_and, Bool.or_eq_true, Bool.not_eq_true',
        Bool.and_eq_true, beq_iff_eq] at hce
      rcases hce with h1 | h1
      · rw [h1]; rfl
      · exact absurd h1.1 (by decide)
    | false =>
      rw [hc] at hce
      simp only [Bool.false_eq_true, if_false, hk, beq_self_eq_true, beq_iff_eq] at hce
      rw [← hce]; rfl
  · have hsep : (muAfter D μ l b.kind).activeSep = μ.activeSep := keeps_activeSep D b.kind μ (probe l) l hk
    rw [inDocString_congr hsep, hinv]
    have hkb : (b.kind == Kind.DocStringSeparator) = false := by simpa using hk
    cases hc : (contentStates T).contains s with
    | true =>
      rw [hc] at hce
      simp only [if_true, hkb, Bool.false_and, Bool.false_or, Bool.and_eq_true, beq_iff_eq] at hce
      rw [hce.2, hc]
    | false =>
      rw [hc] at hce
      simp only [Bool.false_eq_true, if_false, hkb] at hce
      exact (by simpa using hce.symm : (contentStates T).contains b.target = false).symm

theorem trace_adj {D : List Dialect} {T : Table} (hf : textDialectFacts D = true)
    (hCE : contentEntry T = true) (hDS : docStringOpens T = true)
    {s : Nat} {μ : MState} {ls : List Str} {sf : Nat} {steps : List (Branch × Token)}
    (h : Trace D T s μ ls sf steps) (hμ : MuOK D μ)
    (hinv : μ.inDocString = (contentStates T).contains s) :
    ∀ p ∈ steps, adjOK (prodOps p.2 p.1.prods) := by
  simp only [docStringOpens, Bool.and_eq_true, List.all_eq_true, Bool.or_eq_true, Bool.not_eq_true',
    beq_iff_eq] at hDS
  obtain ⟨-, hDS⟩ := hDS
  induction h with
  | @eof s μ row b t0 hrow hpick _ _ =>
    intro p hp
    rw [List.mem_singleton] at hp
    subst hp
    obtain ⟨hid, hmem⟩ := row_id_of_row? hrow
    obtain ⟨hbm, hpass, -⟩ := pick_mem hpick
    obtain ⟨hadj, hds⟩ := hDS row hmem b hbm
    refine adjOK_prodOps _ _ hadj fun hm => ?_
    exfalso
    rcases hds with hds | hds
    · have : b.prods.contains (Prod.start .DocString) = true := List.contains_iff_mem.2 hm
      rw [this] at hds; cases hds
    · rw [passes_EOF, hds.1] at hpass; cases hpass
  | @line s μ l ls row b t0 sf rest hrow hpick ht0 hres _ ih =>
    obtain ⟨hid, hmem⟩ := row_id_of_row? hrow
    obtain ⟨hbm, hpass, -⟩ := pick_mem hpick
    obtain ⟨hadj, hds⟩ := hDS row hmem b hbm
    rw [hid] at hds
    have hnext := inDocString_next hf hCE hrow hbm hμ hpass hinv
    intro p hp
    rcases List.mem_cons.1 hp with rfl | hp
    · refine adjOK_prodOps _ _ hadj fun hm => ?_
      have hcon : b.prods.contains (Prod.start .DocString) = true := List.contains_iff_mem.2 hm
      rcases hds with hds | hds
      · rw [hcon] at hds; cases hds
      · obtain ⟨hk, hnc⟩ := hds
        have hin : μ.inDocString = false := by rw [hinv]; exact hnc
        rw [matchTok_line ht0] at hres ⊢
        dsimp only at hres ⊢
        rw [hk] at hres ⊢
        obtain ⟨h1, -, h3, -⟩ := docsep_match D μ t0 l hres
        exact ⟨h1, by rw [h3, hin]; rfl⟩
    · exact ih (muAfter_ok D μ hμ l b.kind) hnext p hp

end Lemmas
end GV
