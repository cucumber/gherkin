/-
  Lemmas/LayoutDoc6Doc.lean — property C16, whole parse: a comment line inserted in a
  DESCRIPTION-OPENING state (directly after a keyword line), the next line being anything but a
  blank line (or the end of the text).

  Three runs: the first on the original text, the second on the text with the comment line, and a
  hypothetical MIDDLE run — the second run's context with the builder state the second run would
  have without the `Description` node the inserted comment opens.  First and middle run are related
  by the lock-step simulation of Lemmas/LayoutDoc4.lean (`CtxR`: line numbers renamed, the comment
  in the builder's list); middle and second run execute the same program on the same text and differ
  in the builder only (`RD`: extra empty-description items, Lemmas/LayoutDoc6Sim.lean).  The step for
  the line behind the comment joins them (Lemmas/LayoutDoc6Step.lean).
-/
import GherkinVerif.Lemmas.LayoutDoc6Step
namespace GV
namespace Layout6
open Lemmas Spec Layout3 Layout4 Layout5

theorem obs_trans {f : LocMap} {c1 cm c2 : Ctx} (h : CtxObs f c1 cm) (hE : CtxE cm c2) : CtxObs f c1 c2 :=
  ⟨by rw [hE.errors]; exact h.errors, by rw [hE.μ]; exact h.μ, by rw [hE.ids]; exact h.ids,
    by rw [hE.unexpected]; exact h.unexpected⟩

section doc
variable {D : List Dialect} {b : Str} {k : Nat}

theorem commentOpensDescription_spec {T : Table} {s : Nat} (h : commentOpensDescription T s = true) :
    ∃ row b0 row', T.row? s = some row ∧ commentBranch row = some b0 ∧ T.row? b0.target = some row' ∧
      descTarget T s = b0.target ∧ b0.kind = .Comment ∧ b0.guard = none ∧
      b0.prods = [.start .Description, .build] ∧ b0.target ≠ s := by
  unfold commentOpensDescription at h
  unfold descTarget
  cases hrow : T.row? s with
  | none => rw [hrow] at h; cases h
  | some row =>
    rw [hrow] at h
    simp only [] at h ⊢
    cases hfind : commentBranch row with
    | none => rw [hfind] at h; cases h
    | some b0 =>
      rw [hfind] at h
      simp only [] at h ⊢
      cases hrow2 : T.row? b0.target with
      | none => rw [hrow2] at h; simp at h
      | some row' =>
        rw [hrow2] at h
        simp only [Bool.and_eq_true, beq_iff_eq, Option.isNone_iff_eq_none, bne_iff_ne, ne_eq] at h
        exact ⟨row, b0, row', rfl, hfind, hrow2, rfl, h.1.1.1, h.1.1.2, h.1.2, h.2.2⟩

theorem stepD_matchToken {T : Table} {fl : List (Nat × List ANode)} (hF : descStacksOk T fl = true)
    (hR : descRowsOk T = true) (stop : Bool) {s : Nat} (hs : commentOpensDescription T s = true) (t : Token)
    (hnb : NotBlank t.line) :
    SimG (R2 (absAt fl (descTarget T s))) (fun _ d d' => CtxD d d') (matchTokenPure D T stop s t)
      (matchTokenPure D T stop (descTarget T s) t) := by
  obtain ⟨row1, b0, row2, hrow, hfind, hrow2, htgt, -⟩ := commentOpensDescription_spec hs
  have hmem : row1 ∈ T.rows := List.mem_of_find?_eq_some hrow
  have hid : row1.id = s := by
    have := List.find?_some hrow
    simpa using this
  unfold descRowsOk at hR
  rw [List.all_eq_true] at hR
  have h1 := hR row1 hmem
  rw [hid, hs, hfind] at h1
  simp only [Bool.not_true, Bool.false_or, hrow2, Bool.and_eq_true] at h1
  obtain ⟨hrm, hcatch⟩ := h1
  obtain ⟨-, -, -, h4⟩ := descStacksOk_row hF hrow2
  rw [htgt]
  unfold matchTokenPure
  rw [hrow, hrow2]
  exact stepD D T stop row1 row2 _ row1.branches row2.branches hrm
    (fun b hb => by obtain ⟨d, hd, -⟩ := h4 b hb; exact ⟨d, hd⟩) t hnb (catch_of_rowCatches hcatch _)

/-- `β2x`: the builder state of the middle run — the second run's without the `Description` node the
    comment opens -/
theorem comment_open (hD : Spec.stepKeywordsOk D = true) (hP : Spec.keywordsPlainStart D = true) {T : Table}
    {r : Str} (hb : trimmed b = 35 :: r) (stop : Bool) {s : Nat} (hs : Spec.commentOpensDescription T s = true)
    (hlang : Spec.languageTested T s = true → languageRe (lineText b none) = none)
    {c1 c2 : Ctx} (hc : CtxR D k none c1 c2) (q : List Str) (hk2 : c2.lineNo = k) :
    ∃ c2a β2x, run (matchTokenPure D T stop s { line := some b, lineNo := c2.lineNo + 1 })
        { c2 with lines := q, lineNo := c2.lineNo + 1, reads := c2.reads ++ [c2.lineNo + 1] } =
          (.ok (Spec.descTarget T s), c2a) ∧
      c2a.β = β2x.startRule .Description ∧
      BRel (insertMap k) k (some ⟨⟨k + 1, some 1⟩, rstripCRLF b⟩) c1.β β2x ∧
      c2a.errors = c2.errors ∧ c2a.μ = c2.μ ∧ c2a.ids = c2.ids ∧ c2a.unexpected = c2.unexpected ∧
      c2a.lines = q ∧ c2a.lineNo = c2.lineNo + 1 := by
  obtain ⟨row1, b0, _, hrow, hfind, -, htgt, hk0, hg0, hp0, -⟩ := commentOpensDescription_spec hs
  have hsane : Sane D c2.μ := hc.μ ▸ hc.sane
  obtain ⟨n, hn1⟩ := matchTokenPure_comment (D := D) T stop hrow hfind hk0 hg0
    (t := { line := some b, lineNo := c2.lineNo + 1 }) rfl hb
    { c2 with lines := q, lineNo := c2.lineNo + 1, reads := c2.reads ++ [c2.lineNo + 1] } (kwOk_of hD hP hsane)
    hsane.1 hlang
  obtain ⟨β2x, e2x, hβx⟩ := hc.β.build_extra
    (t := commentTok c2.μ { line := some b, lineNo := c2.lineNo + 1 } b) (tx := rstripCRLF b) rfl rfl
  have hbuild : (c2.β.startRule .Description).build (commentTok c2.μ { line := some b, lineNo := c2.lineNo + 1 } b) =
      .ok (β2x.startRule .Description) := by
    rw [layBuild_comment _ _ rfl] at e2x ⊢
    have ht : (commentTok c2.μ { line := some b, lineNo := c2.lineNo + 1 } b).text = some (rstripCRLF b) := rfl
    rw [ht] at e2x ⊢
    simp only [Except.ok.injEq] at e2x
    rw [← e2x]
    rfl
  refine ⟨{ c2 with lines := q, lineNo := c2.lineNo + 1, reads := c2.reads ++ [c2.lineNo + 1],
                    calls := c2.calls + (n + 1), β := β2x.startRule .Description,
                    builds := c2.builds ++ [commentTok c2.μ { line := some b, lineNo := c2.lineNo + 1 } b] },
    β2x, ?_, rfl, ?_, rfl, rfl, rfl, rfl, rfl, rfl⟩
  · rw [hn1, hp0, htgt]
    simp only [runProds, prun_bind, run_runProd, hbuild, prun_pure]
  · rw [hk2] at hβx; exact hβx

variable {T : Table} {ds : List (Nat × Nat)} {fl : List (Nat × List ANode)}

/-- the two runs from the second token behind the inserted comment `x` on: both in state `s1`; the
    first and a middle run in lock step (`Layout4.JC1`), the middle and the second run on the same text (`RD`) -/
def J3' (D : List Dialect) (ds : List (Nat × Nat)) (fl : List (Nat × List ANode)) (k : Nat) (x : Comment)
    (s1 s2 : Nat) (c1 c2 : Ctx) : Prop :=
  s2 = s1 ∧ ∃ cm, JC1 D ds k x s1 s1 c1 cm ∧ RD (absAt fl s1) cm c2

/-- … or directly behind it: the first run still in the description-opening state `s1`, the second in
    its description state with the `Description` node open that the middle run (builder `β2x`) lacks -/
def J3 (D : List Dialect) (T : Table) (ds : List (Nat × Nat)) (fl : List (Nat × List ANode)) (k : Nat) (x : Comment)
    (s1 s2 : Nat) (c1 c2 : Ctx) : Prop :=
  J3' D ds fl k x s1 s2 c1 c2 ∨
  (commentOpensDescription T s1 = true ∧ s2 = descTarget T s1 ∧ NotBlank c1.lines.head? ∧
    ∃ β2x, JC1 D ds k x s1 s1 c1 (withB c2 β2x) ∧
      c2.β = β2x.startRule .Description ∧ StackA c2.β.stack (absAt fl s2))

theorem PostR.transD {x : Comment} {x1 xm x2 : Except Abort Nat × Ctx}
    (h : PostR (JC1 D ds k x) (ECR D k (some x)) (Escaped fun _ => False) x1 xm)
    (hg : PostG (fun _ d d' => CtxD d d') xm x2)
    (hA : ∀ a d2, x2 = (.ok a, d2) → StackA d2.β.stack (absAt fl a)) :
    PostR (J3' D ds fl k x) (EX k) (Escaped fun _ => False) x1 x2 := by
  rcases h with ⟨a1, a2, d1, dm, rfl, rfl, hj⟩ | ⟨e1, e2, d1, dm, rfl, rfl, rfl, hc⟩ | ⟨_, _, hx⟩
  · obtain ⟨d2, rfl, hcd⟩ := hg.of_ok_left
    obtain rfl : a2 = a1 := hj.1
    exact .ok ⟨rfl, dm, hj, hcd, hA _ _ rfl⟩
  · obtain ⟨d2, rfl, hE⟩ := hg.of_error_left
    exact .err ⟨rfl, obs_trans hc.obs hE⟩
  · exact hx.elim

theorem CtxE.taken {c c' : Ctx} (h : CtxE c c') : CtxE (taken c) (taken c') ∧ nextTok c' = nextTok c :=
  ⟨⟨by simp only [h.lines], by simp only [h.lineNo], h.errors, h.μ, h.ids, h.unexpected⟩,
    by simp only [nextTok, h.lines, h.lineNo]⟩

theorem step3 (hD : Spec.stepKeywordsOk D = true) (hP : Spec.keywordsPlainStart D = true) (hT : TableOkC T ds)
    (hF : descStacksOk T fl = true) (hR : descRowsOk T = true) {r : Str} (hb : trimmed b = 35 :: r) (stop : Bool)
    (x : Comment) {s1 s2 : Nat} {c1 c2 : Ctx} (h : J3 D T ds fl k x s1 s2 c1 c2) :
    PostR (J3' D ds fl k x) (EX k) (Escaped fun _ => False)
      (run (matchTokenPure D T stop s1 (nextTok c1)) (taken c1)) (run (matchTokenPure D T stop s2 (nextTok c2)) (taken c2)) := by
  have h12 := fun {cm : Ctx} (hj : JC1 D ds k x s1 s1 c1 cm) => csim_step1 hD hP hT hb stop hj
  rcases h with ⟨rfl, cm, hj, hrd⟩ | ⟨hs, rfl, hnb, β2x, hj, hβ, hA⟩
  · obtain ⟨hE, htok⟩ := CtxE.taken hrd.1.1
    rw [htok]
    exact PostR.transD (h12 hj)
      ((simD_matchTokenPure D hF stop s2 (nextTok cm) (taken cm) (taken c2) (hrd.keep hE rfl rfl)).mono fun _ _ _ h => h.1)
      fun a d2 hr => stackA_matchTokenPure D hF stop s2 _ (taken c2) a d2 hrd.2 hr
  · have hnb' : NotBlank (nextTok c2).line := by
      have : c2.lines = c1.lines := hj.2.2.1
      simp only [this]; exact hnb
    exact PostR.transD (h12 hj)
      (stepD_matchToken (D := D) hF hR stop hs (nextTok c2) hnb' (taken (withB c2 β2x)) (taken c2)
        ⟨⟨rfl, rfl, rfl, rfl, rfl, rfl⟩, hβ, hA⟩)
      fun a d2 hr => stackA_matchTokenPure D hF stop _ _ (taken c2) a d2 hA hr

theorem csim_lines3 (hD : Spec.stepKeywordsOk D = true) (hP : Spec.keywordsPlainStart D = true) (hT : TableOkC T ds)
    (hF : descStacksOk T fl = true) (hR : descRowsOk T = true) {r : Str} (hb : trimmed b = 35 :: r)
    (stop : Bool) (pre post : List Str) {c1 c2 : Ctx} (hc : CtxR D pre.length none c1 c2)
    (h1 : c1.lines = pre ++ post) (h2 : c2.lines = pre ++ b :: post) (hn1 : c1.lineNo = 0) (hn2 : c2.lineNo = 0)
    (hd : c1.β.stack.length = depthAt ds 0) (hA : StackA c2.β.stack (absAt fl 0))
    (hst : ∀ s flag c, run (parsePrefixPure D T stop pre.length 0) c1 = (.ok (s, flag), c) →
      (Spec.languageTested T s = true → languageRe (lineText b none) = none) ∧
      Spec.commentOpensDescription T s = true ∧ (Sane D c.μ → NotBlank c.lines.head?)) :
    PostR (J3' D ds fl pre.length ⟨⟨pre.length + 1, some 1⟩, rstripCRLF b⟩) (EX pre.length) (Escaped fun _ => False)
      (run (parseLinesPure D T stop ((pre ++ post).length + 2) 0) c1)
      (run (parseLinesPure D T stop ((pre ++ b :: post).length + 2) 0) c2) := by
  refine (insert_lines (J0 := JC0 D ds b pre.length post) (J1 := J3 D T ds fl pre.length _)
    (E0 := ECR D pre.length none) ⟨hc, h1, h2, by rw [hn1, hn2], by rw [hn1]; simp, hd⟩
    (fun l p s c1 c2 h => ⟨by rw [h.2.1]; rfl, by rw [h.2.2.1]; rfl⟩) (fun l p s c1 c2 h => csim_step0 hD hP hT hb stop h)
    (fun s f d1 d2 r1 r2 hj => ?_) (fun _ _ _ _ h => .inl h) (fun s1 s2 c1 c2 h => ?_)
    (fun s1 s2 c1 c2 h => step3 hD hP hT hF hR hb stop _ h) (fun s1 s2 c1 c2 h => ?_)
    (fun k1 k2 => Sticky.abort2 (fun _ _ => False) k1 k2)).monoE fun _ _ _ _ _ h => h.elim id fun h => EC.obs CtxR.obs h.1
  · -- the second run reads the comment and opens the description
    obtain ⟨hc', hl1, hl2, hn, hk', hd'⟩ := hj
    simp only [List.nil_append, List.length_nil, Nat.add_zero] at hl1 hl2 hk'
    obtain ⟨hlang, hs, hnb⟩ := hst s f d1 r1
    have hA' : StackA d2.β.stack (absAt fl s) := stackA_prefix D hF stop pre.length 0 c2 (s, f) d2 hA r2
    obtain ⟨c2a, β2x, hrun, hβ, hβx, he, hμ, hi, hu, hla, hna⟩ :=
      comment_open hD hP hb stop hs hlang hc' post (by rw [hn, hk'])
    have htok : nextTok d2 = { line := some b, lineNo := d2.lineNo + 1 } := by simp only [nextTok, hl2, List.head?_cons]
    have htk : taken d2 = { d2 with lines := post, lineNo := d2.lineNo + 1, reads := d2.reads ++ [d2.lineNo + 1] } := by
      simp only [taken, hl2, List.tail_cons]
    rw [htok, htk]
    refine ⟨by rw [hl2]; rfl, .inl ⟨_, c2a, hrun, .inr ⟨hs, rfl, hnb hc'.sane, β2x,
      ⟨rfl, ⟨by simp only [withB]; rw [he]; exact hc'.errors, by simp only [withB]; rw [hμ]; exact hc'.μ, hβx,
        by simp only [withB]; rw [hi]; exact hc'.ids, by simp only [withB]; rw [hu]; exact hc'.unexpected, hc'.sane⟩,
        by simp only [withB]; rw [hla, hl1], by simp only [withB]; rw [hna, hn], by omega, hd'⟩, hβ, ?_⟩⟩⟩
    exact stackA_matchTokenPure D hF stop s _ _ _ c2a (by exact hA') hrun
  · rcases h with ⟨-, cm, hj, hrd⟩ | ⟨-, -, -, β2x, hj, -⟩
    · rw [hrd.1.1.lines]; exact hj.eof
    · exact hj.eof
  · rcases h with ⟨-, cm, hj, hrd⟩ | ⟨-, -, -, β2x, hj, -⟩
    · exact ⟨rfl, obs_trans (CtxR.obs hj.2.1) hrd.1.1⟩
    · have h := CtxR.obs hj.2.1
      exact ⟨rfl, h.errors, h.μ, h.ids, h.unexpected⟩

theorem PostD.trans {x : Comment} {y1 ym y2 : Except Abort Doc × Ctx} (h : PostD k x y1 ym)
    (hE : PostG (fun _ d d' => CtxE d d') ym y2) : PostD k x y1 y2 := by
  rcases h with ⟨d, _, c1', cm', rfl, rfl, hd, hc⟩ | ⟨e, _, c1', cm', rfl, rfl, he, hc⟩ | ⟨_, _, h⟩
  · obtain ⟨c2', rfl, hE'⟩ := hE.of_ok_left
    exact .ok ⟨hd, obs_trans hc hE'⟩
  · obtain ⟨c2', rfl, hE'⟩ := hE.of_error_left
    exact .err ⟨he, obs_trans hc hE'⟩
  · exact h.elim

end doc

theorem parseWithPure_comment3 {D : List Dialect} (hD : Spec.stepKeywordsOk D = true)
    (hP : Spec.keywordsPlainStart D = true) {T : Table} {ds : List (Nat × Nat)} (hT : TableOkC T ds)
    {fl : List (Nat × List ANode)} (hF : descStacksOk T fl = true) (hR : descRowsOk T = true)
    {b : Str} (hb : lineStartsWith b [35] = true) (stop : Bool) (μ : MState) (ids : Nat) {src src' : Str}
    (pre post : List Str) (h1 : splitLines src = pre ++ post) (h2 : splitLines src' = pre ++ b :: post)
    (hμ : (μ.reset D).dialect ∈ D)
    (hst : ∀ s c, Spec.runAfter D T stop μ ids src pre.length = some (s, c) →
      (Spec.languageTested T s = true → languageRe (lineText b none) = none) ∧
      Spec.commentOpensDescription T s = true ∧ (Sane D c.μ → NotBlank c.lines.head?)) :
    (parseWithPure D T stop μ ids src').1 =
      insertComment pre.length ⟨⟨pre.length + 1, some 1⟩, rstripCRLF b⟩
        (mapOutcome (insertMap pre.length) (parseWithPure D T stop μ ids src).1) ∧
    CtxObs (insertMap pre.length) (parseWithPure D T stop μ ids src).2 (parseWithPure D T stop μ ids src').2 := by
  obtain ⟨r, hbr⟩ := (startsWith_iff _ _).1 (show startsWith [35] (trimmed b) = true from hb)
  rw [parseWithPure_lines, parseWithPure_lines]
  exact PostD.outcome <| insert_parseWithPure h1 h2
    (csim_lines3 hD hP hT hF hR hbr stop pre post (CtxR.start hμ ids src src') h1 h2 rfl rfl
      (by rw [depthsOk_start hT.depths]; rfl) (stackA_start T hF) fun s _ c hrun => hst s c (runAfter_of_prefix hrun))
    (fun _ _ _ c2' ⟨_, cm', hj, hrd⟩ =>
      PostD.trans (tail_csim stop hj.2.1) (simD_bodyTail T stop _ (topOkA_absAt hF _) cm' c2' hrd))
    (Sticky.abort2 (fun _ _ => False) _ _)

theorem notBlank_of_check {D : List Dialect} {T : Table} {stop : Bool} {μ : MState} {ids : Nat} {src : Str} {k s : Nat}
    {c : Ctx} (hra : Spec.runAfter D T stop μ ids src k = some (s, c))
    (h : Spec.nextLineNotBlank D T stop μ ids src k = true) : NotBlank c.lines.head? := by
  unfold Spec.nextLineNotBlank at h
  rw [hra] at h
  simp only at h
  intro l hl
  cases hls : c.lines with
  | nil => rw [hls] at hl; cases hl
  | cons l' ls =>
    rw [hls] at h hl
    simp only [List.head?_cons, Option.some.injEq] at hl
    subst hl
    simpa using h

theorem prefix_succ (D : List Dialect) (T : Table) (stop : Bool) : ∀ (k s0 : Nat) (c0 : Ctx),
    run (parsePrefixPure D T stop (k + 1) s0) c0 =
      match run (parsePrefixPure D T stop k s0) c0 with
      | (.ok (s, false), c) => run (parsePrefixPure D T stop 1 s) c
      | (.ok (s, true), c) => (.ok (s, true), c)
      | (.error e, c) => (.error e, c) := by
  intro k
  induction k with
  | zero => intro s0 c0; rfl
  | succ k ih =>
    intro s0 c0
    rw [prefix_step T stop (k + 1), prefix_step T stop k, prun_bind, prun_bind]
    rcases run (matchTokenPure D T stop s0 (nextTok c0)) (taken c0) with ⟨x, c⟩
    cases x with
    | error e => rfl
    | ok s1 =>
      dsimp only
      cases c0.lines.head?.isNone with
      | true => rfl
      | false => exact ih s1 c

/-- `hst`: that the next line is not blank need only be shown knowing that the matcher state there is
    one the matcher can be in (`Sane`). -/
theorem parseWithPure_comment_all {D : List Dialect} (hD : Spec.stepKeywordsOk D = true)
    (hP : Spec.keywordsPlainStart D = true) {T : Table} {ds : List (Nat × Nat)} (hT : TableOkC T ds)
    {fl : List (Nat × List ANode)} (hF : descStacksOk T fl = true) (hR : descRowsOk T = true)
    {b : Str} (hb : lineStartsWith b [35] = true) (stop : Bool) (μ : MState) (ids : Nat) {src src' : Str}
    (pre post : List Str) (h1 : splitLines src = pre ++ post) (h2 : splitLines src' = pre ++ b :: post)
    (hμ : (μ.reset D).dialect ∈ D)
    (hst : ∀ s c, Spec.runAfter D T stop μ ids src pre.length = some (s, c) →
      (Spec.languageTested T s = true → languageRe (lineText b none) = none) ∧
      (Spec.commentSelfLoop T s = true ∨
        (Spec.commentOpensDescription T s = true ∧ (Sane D c.μ → NotBlank c.lines.head?)))) :
    (parseWithPure D T stop μ ids src').1 =
      insertComment pre.length ⟨⟨pre.length + 1, some 1⟩, rstripCRLF b⟩
        (mapOutcome (insertMap pre.length) (parseWithPure D T stop μ ids src).1) ∧
    CtxObs (insertMap pre.length) (parseWithPure D T stop μ ids src).2 (parseWithPure D T stop μ ids src').2 := by
  cases hra : Spec.runAfter D T stop μ ids src pre.length with
  | none =>
    exact parseWithPure_comment hD hP hT hb stop μ ids pre post h1 h2 hμ fun s c hr => by rw [hra] at hr; cases hr
  | some sc =>
    obtain ⟨s, c⟩ := sc
    obtain ⟨hlang, hpos⟩ := hst s c hra
    rcases hpos with hself | ⟨hs, hnb⟩
    · refine parseWithPure_comment hD hP hT hb stop μ ids pre post h1 h2 hμ fun s' c' hr => ?_
      rw [hra] at hr
      simp only [Option.some.injEq, Prod.mk.injEq] at hr
      obtain ⟨rfl, rfl⟩ := hr
      exact ⟨hself, hlang⟩
    · refine parseWithPure_comment3 hD hP hT hF hR hb stop μ ids pre post h1 h2 hμ fun s' c' hr => ?_
      rw [hra] at hr
      simp only [Option.some.injEq, Prod.mk.injEq] at hr
      obtain ⟨rfl, rfl⟩ := hr
      exact ⟨hlang, hs, hnb⟩

theorem comment_line_parseWith3 {D : List Dialect} {T : Table} (hD : Spec.stepKeywordsOk D = true)
    (hQD : Spec.queueDialectFacts D = true) (hQT : Spec.queueFacts T = true)
    (hCB : Spec.commentBlankTested T = true) {ds : List (Nat × Nat)} (hT : TableOkC T ds)
    {fl : List (Nat × List ANode)} (hF : descStacksOk T fl = true) (hR : descRowsOk T = true)
    {b : Str} (hb : lineStartsWith b [35] = true) (stop : Bool) (μ : MState) (ids : Nat)
    {src src' : Str} (pre post : List Str)
    (h1 : splitLines src = pre ++ post) (h2 : splitLines src' = pre ++ b :: post)
    (hμ : (μ.reset D).dialect ∈ D)
    (hst : ∀ s c, Spec.runAfter D T stop μ ids src pre.length = some (s, c) →
      (Spec.languageTested T s = true → languageRe (lineText b none) = none) ∧
      (Spec.commentSelfLoop T s = true ∨
        (Spec.commentOpensDescription T s = true ∧ (Sane D c.μ → NotBlank c.lines.head?)))) :
    (parseWith D T stop μ ids src').1 =
      insertComment pre.length ⟨⟨pre.length + 1, some 1⟩, rstripCRLF b⟩
        (mapOutcome (insertMap pre.length) (parseWith D T stop μ ids src).1) ∧
    CtxObs (insertMap pre.length) (parseWith D T stop μ ids src).2 (parseWith D T stop μ ids src').2 :=
  parseWith_of_pure hQD hQT hCB stop μ ids src src' hμ
    (g := fun o => insertComment pre.length ⟨⟨pre.length + 1, some 1⟩, rstripCRLF b⟩ (mapOutcome (insertMap pre.length) o))
    (parseWithPure_comment_all hD hQD hT hF hR hb stop μ ids pre post h1 h2 hμ hst)

end Layout6
end GV
