/-
  Lemmas/TextErrors.lean — bookkeeping of the error list for the text-level acceptance theorem:
  ragged-table errors (the only errors of the builder) versus all other errors (matcher errors and
  unexpected-line errors); `add_error` never merges an error of one sort into one of the other
  (their messages differ); errors only accumulate; what an abort carries.
-/
import GherkinVerif.Lemmas.QueuePureLoop
import GherkinVerif.Lemmas.GlueBuilder
import GherkinVerif.Lemmas.Lit
import GherkinVerif.Lemmas.ErrMessage
namespace GV
namespace Lemmas
open Spec

/-- message body of the builder's only error -/
def RB : Str := lit "inconsistent cell count within the table"

/-- a ragged-table error as the builder makes it -/
def good (e : PErr) : Prop := e.kind = .raggedTable ∧ e.body = RB

/-- an error of the matcher or of an error tail: not a ragged-table error, and its message body
    does not start like the builder's (with an `i`) -/
def badE (e : PErr) : Prop := e.kind ≠ .raggedTable ∧ e.body.head? ≠ some 105

/-- all errors so far are ragged-table errors -/
def AR (c : Ctx) : Prop := ∀ e ∈ c.errors, good e

/-- some error so far is not a ragged-table error -/
def NR (c : Ctx) : Prop := ∃ e ∈ c.errors, e.kind ≠ .raggedTable

theorem AR.of_errors_eq {c c' : Ctx} (h : c'.errors = c.errors) (hc : AR c) : AR c' :=
  fun e he => hc e (h ▸ he)

theorem body_of_message {e e' : PErr} (h : e.message = e'.message) : e.body = e'.body :=
  ((message_eq_iff e e').1 h).2.2

theorem RB_head : RB.head? = some 105 := by
  unfold RB
  lit_lists
  rfl

theorem msg_disc {e e' : PErr} (hg : good e') (hb : badE e) : e'.message ≠ e.message := by
  intro h
  have := body_of_message h
  rw [hg.2] at this
  exact hb.2 (by rw [← this]; exact RB_head)

def Grow (c c' : Ctx) : Prop := ∃ es, c'.errors = c.errors ++ es

theorem Grow.refl (c : Ctx) : Grow c c := ⟨[], by simp⟩
theorem Grow.trans {a b c : Ctx} (h1 : Grow a b) (h2 : Grow b c) : Grow a c := by
  obtain ⟨x, hx⟩ := h1; obtain ⟨y, hy⟩ := h2
  exact ⟨x ++ y, by rw [hy, hx, List.append_assoc]⟩
theorem Grow.nr {c c' : Ctx} (h : Grow c c') (hn : NR c) : NR c' := by
  obtain ⟨es, hes⟩ := h
  obtain ⟨e, he, hk⟩ := hn
  exact ⟨e, by rw [hes]; exact List.mem_append_left _ he, hk⟩
theorem Grow.of_eq {c c' : Ctx} (h : c'.errors = c.errors) : Grow c c' := ⟨[], by simp [h]⟩

/-- an abort of the collecting mode: the composite of the errors so far when they exceed the cap,
    or a crash / fuel -/
def AbOK (cap : Nat) (a : Abort) (c' : Ctx) : Prop :=
  (a = .composite c'.errors ∧ cap < c'.errors.length) ∨ (∃ w, a = .crash w) ∨ a = .fuel

/-- growth of the error list and form of the abort -/
def Eff {α} (cap : Nat) (c : Ctx) (r : Except Abort α) (c' : Ctx) : Prop :=
  Grow c c' ∧ ∀ a, r = .error a → AbOK cap a c'

theorem Eff.ok_refl {α} {cap : Nat} (c : Ctx) (a : α) : Eff cap c (.ok a : Except Abort α) c :=
  ⟨Grow.refl c, fun _ h => by cases h⟩

theorem run_bind_cases {α β} {m : PM α} {f : α → PM β} {c : Ctx} {r : Except Abort β} {c' : Ctx}
    (h : run (m >>= f) c = (r, c')) :
    (∃ e, run m c = (.error e, c') ∧ r = .error e) ∨
    ∃ a c1, run m c = (.ok a, c1) ∧ run (f a) c1 = (r, c') := by
  rw [prun_bind] at h
  rcases hm : run m c with ⟨r1, c1⟩
  rw [hm] at h
  cases r1 with
  | error e => cases h; exact .inl ⟨e, rfl, rfl⟩
  | ok a => exact .inr ⟨a, c1, rfl, h⟩

theorem addError_spec {cap : Nat} {e : PErr} {c : Ctx} {r : Except Abort Unit} {c' : Ctx}
    (h : run (addError cap e) c = (r, c')) :
    FootE c c' ∧ Eff cap c r c' ∧
    ((c'.errors = c.errors ∧ ∃ e' ∈ c.errors, e'.message = e.message) ∨ c'.errors = c.errors ++ [e]) := by
  rcases addError_cases h with ⟨rfl, rfl, hdup⟩ | ⟨rfl, -, ⟨rfl, -⟩ | ⟨rfl, hlen⟩⟩
  · exact ⟨FootE.refl _, Eff.ok_refl _ _, .inl ⟨rfl, hdup⟩⟩
  · exact ⟨⟨_, rfl⟩, ⟨⟨[e], rfl⟩, fun a ha => by cases ha⟩, .inr rfl⟩
  · refine ⟨⟨_, rfl⟩, ⟨⟨[e], rfl⟩, fun a ha => ?_⟩, .inr rfl⟩
    cases ha
    exact .inl ⟨rfl, by rw [List.length_append]; exact hlen⟩

theorem addError_good {cap : Nat} {e : PErr} {c : Ctx} {r : Except Abort Unit} {c' : Ctx}
    (h : run (addError cap e) c = (r, c')) (he : good e) (hc : AR c) : AR c' := by
  obtain ⟨-, -, hcase⟩ := addError_spec h
  rcases hcase with ⟨h1, -⟩ | h1
  · intro x hx; rw [h1] at hx; exact hc x hx
  · intro x hx
    rw [h1] at hx
    rcases List.mem_append.1 hx with hx | hx
    · exact hc x hx
    · rw [List.mem_singleton] at hx; subst hx; exact he

/-- an error that is not a ragged-table error is never merged away while all earlier errors are -/
theorem addError_bad {cap : Nat} {e : PErr} {c : Ctx} {r : Except Abort Unit} {c' : Ctx}
    (h : run (addError cap e) c = (r, c')) (he : badE e) (hc : AR c) : NR c' := by
  obtain ⟨-, -, hcase⟩ := addError_spec h
  rcases hcase with ⟨-, e', he', hm⟩ | h1
  · exact absurd hm (msg_disc (hc e' he') he)
  · exact ⟨e, by rw [h1]; simp, he.1⟩

theorem transformNode_good (cm : List Comment) (node : Node) :
    BSpec (transformNode cm node) (fun _ => True) good :=
  (transformNode_walk cm node _ _ (fun _ _ _ _ _ => trivial) fun _ => BInv.getTableRows (fun _ _ => trivial) _).weaken
    (fun _ _ => trivial) fun _ ⟨_, _, he⟩ => by rw [he]; exact ⟨rfl, rfl⟩

theorem endRule_good (β : BState) (n : Nat) (e : PErr) (h : (β.endRule n).1 = .error (.ast e)) : good e := by
  rcases endRule_eq β n with ⟨-, he⟩ | ⟨node, rest, e', n', -, hr, he⟩ | ⟨node, parent, rest, v, n', -, -, he⟩ |
    ⟨node, v, n', -, -, he⟩ <;> rw [he] at h <;> cases h
  have hspec := (transformNode_good β.comments node).run n
  rw [hr] at hspec
  exact hspec

theorem runProd_spec {cap : Nat} {t : Token} {p : Prod} {c : Ctx} {r : Except Abort Unit} {c' : Ctx}
    (h : run (runProd cap false t p) c = (r, c')) :
    FootB' c c' ∧ Eff cap c r c' ∧ (AR c → AR c') := by
  have hfoot := runProd_foot' cap false t p c r c' h
  refine ⟨hfoot, ?_⟩
  have hlift : ∀ (x : Except BErr Unit) (c0 : Ctx) (r0 : Except Abort Unit) (c0' : Ctx),
      (∀ e, x = .error (.ast e) → good e) → run (liftB cap false x) c0 = (r0, c0') →
      Eff cap c0 r0 c0' ∧ (AR c0 → AR c0') := by
    intro x c0 r0 c0' hx hl
    rw [run_liftB] at hl
    split at hl
    · cases hl; exact ⟨Eff.ok_refl _ _, fun h => h⟩
    · cases hl; exact ⟨⟨Grow.refl _, fun a ha => by cases ha; exact .inr (.inl ⟨_, rfl⟩)⟩, fun h => h⟩
    · rename_i e
      simp only [Bool.false_eq_true, if_false] at hl
      exact ⟨(addError_spec hl).2.1, addError_good hl (hx e rfl)⟩
  rw [run_runProd] at h
  cases p with
  | start rr => dsimp only at h; cases h; exact ⟨Eff.ok_refl _ _, fun h => h⟩
  | end_ rr =>
    dsimp only at h
    have := hlift _ _ _ _ (fun e he => endRule_good c.β c.ids e he) h
    exact ⟨⟨this.1.1, this.1.2⟩, fun hc => this.2 hc⟩
  | build =>
    dsimp only at h
    cases hb : c.β.build t with
    | ok β' => rw [hb] at h; dsimp only at h; cases h; exact ⟨Eff.ok_refl _ _, fun h => h⟩
    | error e' =>
      rw [hb] at h
      dsimp only at h
      obtain ⟨w, rfl⟩ := build_error _ _ _ hb
      exact hlift _ _ _ _ (fun e he => by cases he) h

theorem runProds_spec {cap : Nat} {t : Token} (ps : List Prod) {c : Ctx} {r : Except Abort Unit} {c' : Ctx}
    (h : run (runProds cap false t ps) c = (r, c')) :
    FootB' c c' ∧ Eff cap c r c' ∧ (AR c → AR c') := by
  induction ps generalizing c with
  | nil => rw [runProds, prun_pure] at h; cases h; exact ⟨FootB'.refl _, Eff.ok_refl _ _, fun h => h⟩
  | cons p ps ih =>
    rw [runProds] at h
    rcases run_bind_cases h with ⟨e, hr, rfl⟩ | ⟨_, c1, hr, h⟩
    · exact runProd_spec hr
    · obtain ⟨hf1, he1, ha1⟩ := runProd_spec hr
      obtain ⟨hf2, he2, ha2⟩ := ih h
      exact ⟨hf1.trans hf2, ⟨he1.1.trans he2.1, he2.2⟩, fun hc => ha2 (ha1 hc)⟩

end Lemmas
end GV
