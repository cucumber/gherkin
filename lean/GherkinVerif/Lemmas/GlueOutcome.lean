/-
  `parseWith` is `toOutcome` of the run of its body from `ctx0` (`parseWith_eq`), so a triple for
  the body speaks of the outcome (`Triple.parseWith`).  The form of a rejected parse (one error in
  stop mode; between one and cap+1 errors with distinct messages in collecting mode), and the
  envelope facts of the stream.
-/
import GherkinVerif.Lemmas.GlueBase
namespace GV
namespace Lemmas

theorem parseWith_eq (D : List Dialect) (T : Table) (stop : Bool) (μ : MState) (ids : Nat) (src : Str) :
    parseWith D T stop μ ids src =
      toOutcome (run (parseBody D T stop (splitLines src).length) (ctx0 D μ ids src)) := rfl

theorem parseWith_snd (D : List Dialect) (T : Table) (stop : Bool) (μ : MState) (ids : Nat) (src : Str) :
    (parseWith D T stop μ ids src).2 =
      (run (parseBody D T stop (splitLines src).length) (ctx0 D μ ids src)).2 := by
  rw [parseWith_eq, toOutcome_snd]

theorem Triple.parseWith {D : List Dialect} {T : Table} {stop : Bool} {μ : MState} {ids : Nat} {src : Str}
    {P : Ctx → Prop} {Q : Doc → Ctx → Prop} {E : Abort → Ctx → Prop}
    (h : Triple P (GV.parseBody D T stop (splitLines src).length) Q E) (h0 : P (ctx0 D μ ids src)) :
    match (GV.parseWith D T stop μ ids src).1 with
    | .ok d => Q d (GV.parseWith D T stop μ ids src).2
    | .rejected es comp =>
      (comp = true ∧ E (.composite es) (GV.parseWith D T stop μ ids src).2) ∨
      ∃ e, es = [e] ∧ comp = false ∧ E (.single e) (GV.parseWith D T stop μ ids src).2
    | .crash w => E (.crash w) (GV.parseWith D T stop μ ids src).2
    | .fuel => E .fuel (GV.parseWith D T stop μ ids src).2 := by
  rw [parseWith_eq]
  rcases hr : run (GV.parseBody D T stop (splitLines src).length) (ctx0 D μ ids src) with ⟨r, c⟩
  have := h.elim h0 hr
  cases r with
  | ok d => exact this
  | error e =>
    cases e with
    | single e => exact .inr ⟨e, rfl, rfl, this⟩
    | composite es => exact .inl ⟨rfl, this⟩
    | crash w => exact this
    | fuel => exact this

theorem Triple.parseWith_snd {D : List Dialect} {T : Table} {stop : Bool} {μ : MState} {ids : Nat} {src : Str}
    {P : Ctx → Prop} {Q : Doc → Ctx → Prop} {E : Abort → Ctx → Prop}
    (h : Triple P (GV.parseBody D T stop (splitLines src).length) Q E) (h0 : P (ctx0 D μ ids src))
    {R : Ctx → Prop} (hq : ∀ d c, Q d c → R c) (he : ∀ e c, E e c → R c) :
    R (GV.parseWith D T stop μ ids src).2 := by
  rw [Lemmas.parseWith_snd]
  rcases hr : run (GV.parseBody D T stop (splitLines src).length) (ctx0 D μ ids src) with ⟨r, c⟩
  have := h.elim h0 hr
  cases r with
  | ok d => exact hq d c this
  | error e => exact he e c this

def EInv (stop : Bool) (cap : Nat) (c : Ctx) : Prop :=
  (stop = true → c.errors = []) ∧
  (stop = false → (c.errors.map PErr.message).Nodup ∧ c.errors.length ≤ cap)

def EErr (stop : Bool) (cap : Nat) (e : Abort) : Prop :=
  match e with
  | .single _ => stop = true
  | .composite es => stop = false ∧ 1 ≤ es.length ∧ es.length ≤ cap + 1 ∧ (es.map PErr.message).Nodup
  | .crash _ => True
  | .fuel => True

theorem addError_einv (cap : Nat) (e : PErr) :
    Inv (EInv false cap) (fun e _ => EErr false cap e) (addError cap e) := by
  refine Triple.intro fun c r c' hc hr => ?_
  have hc' := hc.2 rfl
  rcases addError_cases hr with ⟨rfl, rfl, -⟩ | ⟨rfl, hne, hcase⟩
  · exact hc
  · have hnd : ((c.errors ++ [e]).map PErr.message).Nodup := by
      rw [List.map_append, List.nodup_append]
      refine ⟨hc'.1, List.pairwise_singleton _ _, ?_⟩
      intro a ha b hb
      rw [List.map_singleton, List.mem_singleton] at hb
      obtain ⟨e', he', rfl⟩ := List.mem_map.1 ha
      rw [hb]
      exact hne e' he'
    have hlen : (c.errors ++ [e]).length = c.errors.length + 1 := List.length_append
    rcases hcase with ⟨rfl, hle⟩ | ⟨rfl, hlt⟩
    · exact ⟨fun h => (by cases h), fun _ => ⟨hnd, hlen ▸ hle⟩⟩
    · exact ⟨rfl, hlen ▸ Nat.le_add_left _ _, hlen ▸ Nat.add_le_add_right hc'.2 1, hnd⟩

theorem liftB_einv (cap : Nat) (stop : Bool) (r : Except BErr Unit) :
    Inv (EInv stop cap) (fun e _ => EErr stop cap e) (liftB cap stop r) := by
  unfold liftB
  split
  · exact Inv.pure _
  · exact Triple.throw _ fun _ _ => trivial
  · cases stop
    · exact addError_einv cap _
    · exact Triple.throw _ fun _ _ => rfl

theorem einv_prims (D : List Dialect) (T : Table) (stop : Bool) :
    Prims D T stop (EInv stop T.errorCap) (fun e _ => EErr stop T.errorCap e) := by
  refine Prims.of_errOnly (fun c c' h1 _ h => ?_) (fun hs e => ?_) (fun hs e c _ => hs)
    (fun _ _ _ => trivial) (fun _ _ => trivial) (fun row t => ?_)
  · unfold EInv at *; rw [h1]; exact h
  · subst hs; exact addError_einv _ _
  · unfold GV.tryBranches
    refine Triple.bind (Q := fun _ => EInv stop T.errorCap) (Triple.modify _ fun c hc => hc) fun _ => ?_
    cases stop
    · exact Inv.bind (addError_einv _ _) fun _ => Inv.pure _
    · exact Triple.throw _ fun _ _ => rfl

theorem parseBody_einv (D : List Dialect) (T : Table) (stop : Bool) (n : Nat) :
    Triple (EInv stop T.errorCap) (parseBody D T stop n) (fun _ c => EInv stop T.errorCap c ∧ c.errors = [])
      (fun e _ => EErr stop T.errorCap e) := by
  refine (einv_prims D T stop).parseBody (fun _ _ h => h) (fun c hc hne => ?_) n
  cases stop
  · exact ⟨rfl, Nat.pos_of_ne_zero fun h0 => hne (List.eq_nil_of_length_eq_zero h0),
      Nat.le_succ_of_le (hc.2 rfl).2, (hc.2 rfl).1⟩
  · exact absurd (hc.1 rfl) hne

theorem einv_ctx0 (D : List Dialect) (μ : MState) (ids : Nat) (src : Str) (stop : Bool) (cap : Nat) :
    EInv stop cap (ctx0 D μ ids src) :=
  ⟨fun _ => rfl, fun _ => ⟨List.nodup_nil, Nat.zero_le _⟩⟩

theorem parse_outcome (D : List Dialect) (T : Table) (stop : Bool) (μ : MState) (ids : Nat) (src : Str)
    (es : List PErr) (comp : Bool) (h : (parseWith D T stop μ ids src).1 = .rejected es comp) :
    (stop = true → es.length = 1 ∧ comp = false) ∧
    (stop = false → comp = true ∧ 1 ≤ es.length ∧ es.length ≤ T.errorCap + 1 ∧ (es.map PErr.message).Nodup) := by
  have hb := Triple.parseWith (parseBody_einv D T stop _) (einv_ctx0 D μ ids src stop _)
  rw [h] at hb
  rcases hb with ⟨rfl, hs, he⟩ | ⟨e, rfl, rfl, hs⟩
  · exact ⟨fun h' => (by rw [hs] at h'; cases h'), fun _ => ⟨rfl, he⟩⟩
  · have hs : stop = true := hs
    exact ⟨fun _ => ⟨rfl, rfl⟩, fun h' => (by rw [hs] at h'; cases h')⟩

theorem unexpectedErr_form (row : StateRow) (t : Token) :
    (∀ l, t.line = some l →
      (unexpectedErr row t).body = lit "expected: " ++ joinWith (lit ", ") (row.expected.map lit) ++
        lit ", got '" ++ strip (trimmed l) ++ lit "'" ∧ (unexpectedErr row t).loc.line = t.lineNo) ∧
    (t.line = none →
      (unexpectedErr row t).body = lit "unexpected end of file, expected: " ++ joinWith (lit ", ") (row.expected.map lit) ∧
      (unexpectedErr row t).loc = t.loc) := by
  constructor
  · intro l hl
    unfold unexpectedErr
    simp only [hl]
    refine ⟨trivial, ?_⟩
    split
    · split <;> rfl
    · rfl
  · intro hl
    unfold unexpectedErr
    simp only [hl]
    exact ⟨trivial, trivial⟩

theorem stream_kinds (D : List Dialect) (T : Table) (opts : Opts) (ids : Nat) (uri data : Str) :
    ∀ e ∈ (streamEnum D T opts ids uri data).1,
      (∃ u d, e = .source u d) ∨ (∃ u d, e = .gherkinDocument u d) ∨ (∃ p, e = .pickle p) ∨
      (∃ u x, e = .parseError u x) ∨ (∃ w, e = .crash w) := by
  intro e he
  unfold streamEnum at he
  split at he
  · simp only [List.mem_singleton] at he
    exact .inr (.inr (.inr (.inr ⟨_, he⟩)))
  · rename_i μ hμ
    rcases hp : parseWith D T false μ ids data with ⟨out, ctx⟩
    rw [hp] at he
    dsimp only at he
    have hpre : ∀ d, e ∈ (if opts.printSource then [Envelope.source uri data] else []) ++
        (if opts.printAst then [Envelope.gherkinDocument uri d] else []) →
        (∃ u d, e = .source u d) ∨ (∃ u d, e = .gherkinDocument u d) ∨ (∃ p, e = .pickle p) ∨
        (∃ u x, e = .parseError u x) ∨ (∃ w, e = .crash w) := by
      intro d hm
      rcases List.mem_append.1 hm with h1 | h1
      · split at h1
        · simp only [List.mem_singleton] at h1; exact .inl ⟨_, _, h1⟩
        · cases h1
      · split at h1
        · simp only [List.mem_singleton] at h1; exact .inr (.inl ⟨_, _, h1⟩)
        · cases h1
    cases out with
    | ok d =>
      dsimp only at he
      split at he
      · split at he
        · rcases List.mem_append.1 he with h1 | h1
          · exact hpre d h1
          · obtain ⟨p, _, rfl⟩ := List.mem_map.1 h1
            exact .inr (.inr (.inl ⟨_, rfl⟩))
        · rcases List.mem_append.1 he with h1 | h1
          · exact hpre d h1
          · simp only [List.mem_singleton] at h1
            exact .inr (.inr (.inr (.inr ⟨_, h1⟩)))
      · exact hpre d he
    | rejected es c =>
      dsimp only at he
      obtain ⟨x, _, rfl⟩ := List.mem_map.1 he
      exact .inr (.inr (.inr (.inl ⟨_, _, rfl⟩)))
    | crash w =>
      simp only [List.mem_singleton] at he
      exact .inr (.inr (.inr (.inr ⟨_, he⟩)))
    | fuel =>
      simp only [List.mem_singleton] at he
      exact .inr (.inr (.inr (.inr ⟨_, he⟩)))

theorem streamEnumMode_rejected (D : List Dialect) (T : Table) (stop : Bool) (opts : Opts) (ids : Nat)
    (uri data : Str) (μ : MState) (hμ : MState.init D (lit "en") = some μ) (es : List PErr) (comp : Bool)
    (h : (parseWith D T stop μ ids data).1 = .rejected es comp) :
    streamEnumMode D T stop opts ids uri data =
      (es.map (Envelope.parseError uri), (parseWith D T stop μ ids data).2.ids) := by
  unfold streamEnumMode
  rw [hμ]
  dsimp only
  rw [h]

theorem stream_rejected (D : List Dialect) (T : Table) (opts : Opts) (ids : Nat) (uri data : Str)
    (μ : MState) (hμ : MState.init D (lit "en") = some μ) (es : List PErr) (comp : Bool)
    (h : (parseWith D T false μ ids data).1 = .rejected es comp) :
    (streamEnum D T opts ids uri data).1 = es.map (Envelope.parseError uri) :=
  congrArg Prod.fst (streamEnumMode_rejected D T false opts ids uri data μ hμ es comp h)

end Lemmas
end GV
