/-
  Lemmas/RaggedDocOut.lean — from the run invariant (`parseWith_r`, Lemmas/RaggedDocLoop.lean) to
  statements about the outcome of `parseWith`: generic in the dialect table and in any transition
  table that passes `Spec.raggedCheck`.
-/
import GherkinVerif.Lemmas.RaggedDocLoop
import GherkinVerif.Lemmas.Cells
import GherkinVerif.Lemmas.ErrMessage
namespace GV
namespace Lemmas
open Spec

theorem runState_mem_aux (bs : List Token) : ∀ (s0 : List (List Token) × List Token) (bs0 : List Token),
    ((∀ run ∈ s0.1, ∀ t ∈ run, t ∈ bs0 ∧ isRowTok t = true) ∧ (∀ t ∈ s0.2, t ∈ bs0 ∧ isRowTok t = true)) →
    ((∀ run ∈ (bs.foldl runStep s0).1, ∀ t ∈ run, t ∈ bs0 ++ bs ∧ isRowTok t = true) ∧
     (∀ t ∈ (bs.foldl runStep s0).2, t ∈ bs0 ++ bs ∧ isRowTok t = true)) := by
  induction bs with
  | nil => intro s0 bs0 h; simpa using h
  | cons b bs ih =>
    intro s0 bs0 h
    have := ih (runStep s0 b) (bs0 ++ [b]) (by
      obtain ⟨h1, h2⟩ := h
      unfold runStep
      split
      · rename_i hb
        refine ⟨fun run hr t ht => ⟨List.mem_append_left _ (h1 run hr t ht).1, (h1 run hr t ht).2⟩, fun t ht => ?_⟩
        rcases List.mem_append.1 ht with ht | ht
        · exact ⟨List.mem_append_left _ (h2 t ht).1, (h2 t ht).2⟩
        · rw [List.mem_singleton] at ht; subst ht
          exact ⟨by simp, hb⟩
      · split
        · exact ⟨fun run hr t ht => ⟨List.mem_append_left _ (h1 run hr t ht).1, (h1 run hr t ht).2⟩,
            fun t ht => ⟨List.mem_append_left _ (h2 t ht).1, (h2 t ht).2⟩⟩
        · refine ⟨fun run hr t ht => ?_, fun t ht => by cases ht⟩
          rcases List.mem_append.1 hr with hr | hr
          · exact ⟨List.mem_append_left _ (h1 run hr t ht).1, (h1 run hr t ht).2⟩
          · obtain ⟨rfl, -⟩ := mem_flushRun.1 hr
            exact ⟨List.mem_append_left _ (h2 t ht).1, (h2 t ht).2⟩)
    simpa [List.foldl_cons, List.append_assoc] using this

theorem mem_tableRuns_tok {bs : List Token} {run : List Token} (hr : run ∈ tableRuns bs) {t : Token} (ht : t ∈ run) :
    t ∈ bs ∧ t.mtype = some .TableRow := by
  have h := runState_mem_aux bs ([], []) [] ⟨fun _ h => (nomatch h), fun _ h => (nomatch h)⟩
  simp only [List.nil_append] at h
  have key : t ∈ bs ∧ isRowTok t = true := by
    rcases mem_tableRuns.1 hr with hr | ⟨rfl, -⟩
    · exact h.1 run hr t ht
    · exact h.2 t ht
  exact ⟨key.1, by simpa [isRowTok] using key.2⟩

theorem closedRuns_sub {bs : List Token} {run : List Token} (h : run ∈ closedRuns bs) : run ∈ tableRuns bs :=
  mem_tableRuns.2 (.inl h)

theorem bad_not_RB {e : PErr} (h : badE e) (hb : e.body = lit "inconsistent cell count within the table") : False :=
  h.2 (by rw [hb]; exact RB_head)

/-- from "an error with that message" (`add_error` drops a message that is on record) to "that
    error": the message determines line, column and body, and the column of a built row is set -/
theorem ragged_mem_of_message {c : Ctx} (hf : RFin c) {run : List Token} (hr : run ∈ tableRuns c.builds)
    {t : Token} (ht : firstDeviating run = some t) {e : PErr} (he : e ∈ c.errors)
    (hm : e.message = (raggedErrAt t).message) : raggedErrAt t ∈ c.errors := by
  have hcol : ∀ {run' : List Token} {t' : Token}, run' ∈ tableRuns c.builds → firstDeviating run' = some t' →
      ∃ col, t'.col = some col := by
    intro run' t' hr' ht'
    obtain ⟨hmem, hty⟩ := mem_tableRuns_tok hr' (firstDeviating_mem ht')
    obtain ⟨l, -, -, h3⟩ := hf.rows t' hmem hty
    exact ⟨_, h3⟩
  rcases hf.err e he with ⟨run', t', hr', ht', rfl⟩ | hbad
  · obtain ⟨h1, h2, -⟩ := (message_eq_iff _ _).1 hm
    obtain ⟨c1, hc1⟩ := hcol hr ht
    obtain ⟨c2, hc2⟩ := hcol hr' ht'
    have hloc : t'.loc = t.loc := by
      simp only [raggedErrAt, Token.loc, hc1, hc2, Option.getD_some] at h1 h2
      simp only [Token.loc, hc1, hc2, h1, h2]
    have : raggedErrAt t' = raggedErrAt t := by simp only [raggedErrAt, hloc]
    rw [← this]; exact he
  · exact (bad_not_RB hbad (body_of_message hm)).elim

section
variable (D : List Dialect) (T : Table) (fuel : Nat) (hT : raggedCheck T fuel = true)
include hT

theorem ragged_sound (stop : Bool) (μ : MState) (ids : Nat) (src : Str) (es : List PErr) (comp : Bool)
    (h : (parseWith D T stop μ ids src).1 = .rejected es comp) (e : PErr) (he : e ∈ es)
    (hb : e.body = lit "inconsistent cell count within the table") :
    ∃ run t l, run ∈ tableRuns (parseWith D T stop μ ids src).2.builds ∧ firstDeviating run = some t ∧
      e = raggedErrAt t ∧ t ∈ (parseWith D T stop μ ids src).2.builds ∧ t.mtype = some .TableRow ∧
      t.line = some l ∧ t.items = Spec.cells l ∧ e.loc = ⟨t.lineNo, some (lineIndent l + 1)⟩ := by
  have hr := parseWith_r D T fuel hT stop μ ids src
  rw [h] at hr
  obtain ⟨a, hab, hcase⟩ := hr
  have key : (∃ run t, run ∈ tableRuns (parseWith D T stop μ ids src).2.builds ∧ firstDeviating run = some t ∧
      e = raggedErrAt t) ∧ RFin (parseWith D T stop μ ids src).2 := by
    rcases hcase with ⟨-, e', rfl, rfl⟩ | ⟨-, rfl⟩
    · rw [List.mem_singleton] at he; subst he
      obtain ⟨-, hf, hx⟩ := hab
      rcases hx with hx | hx
      · exact ⟨hx, hf⟩
      · exact (bad_not_RB hx hb).elim
    · obtain ⟨rfl, hf, -⟩ := hab
      rcases hf.err e he with hx | hx
      · exact ⟨hx, hf⟩
      · exact (bad_not_RB hx hb).elim
  obtain ⟨⟨run, t, hrun, ht, rfl⟩, hf⟩ := key
  obtain ⟨hmem, hty⟩ := mem_tableRuns_tok hrun (firstDeviating_mem ht)
  obtain ⟨l, h1, h2, h3⟩ := hf.rows t hmem hty
  refine ⟨run, t, l, hrun, ht, rfl, hmem, hty, h1, by rw [h2, tableCells_eq_spec], ?_⟩
  simp only [raggedErrAt, Token.loc, h3]

theorem ragged_complete (μ : MState) (ids : Nat) (src : Str) (es : List PErr)
    (h : (parseWith D T false μ ids src).1 = .rejected es true) :
    (∀ run ∈ closedRuns (parseWith D T false μ ids src).2.builds, ∀ t, firstDeviating run = some t →
      raggedErrAt t ∈ es) ∧
    (es.length ≤ T.errorCap → ∀ run ∈ tableRuns (parseWith D T false μ ids src).2.builds, ∀ t,
      firstDeviating run = some t → raggedErrAt t ∈ es) := by
  have hr := parseWith_r D T fuel hT false μ ids src
  rw [h] at hr
  obtain ⟨a, hab, hcase⟩ := hr
  rcases hcase with ⟨hc, -⟩ | ⟨-, rfl⟩
  · cases hc
  · obtain ⟨rfl, hf, hall⟩ := hab
    refine ⟨fun run hrun t ht => ?_, fun hle run hrun t ht => ?_⟩
    · obtain ⟨e, he, hm⟩ := hf.comp run hrun t ht
      exact ragged_mem_of_message hf (closedRuns_sub hrun) ht he hm
    · obtain ⟨e, he, hm⟩ := hall hle run hrun t ht
      exact ragged_mem_of_message hf hrun ht he hm

theorem ragged_stop (μ : MState) (ids : Nat) (src : Str) (d : Option Doc) (e : PErr)
    (h : (parseWith D T true μ ids src).1 = (match d with | some d => .ok d | none => .rejected [e] false)) :
    ∀ run ∈ closedRuns (parseWith D T true μ ids src).2.builds, firstDeviating run = none := by
  have hr := parseWith_r D T fuel hT true μ ids src
  rw [h] at hr
  have key : RFin (parseWith D T true μ ids src).2 ∧ (parseWith D T true μ ids src).2.errors = [] := by
    cases d with
    | some d => exact ⟨hr.1.1, hr.2⟩
    | none =>
      obtain ⟨a, hab, hcase⟩ := hr
      rcases hcase with ⟨-, e', rfl, -⟩ | ⟨hc, -⟩
      · exact ⟨hab.2.1, hab.1⟩
      · cases hc
  intro run hrun
  cases hd : firstDeviating run with
  | none => rfl
  | some t =>
    obtain ⟨e', he', -⟩ := key.1.comp run hrun t hd
    rw [key.2] at he'; cases he'

theorem ragged_accepted (stop : Bool) (μ : MState) (ids : Nat) (src : Str) (d : Doc)
    (h : (parseWith D T stop μ ids src).1 = .ok d) :
    ∀ run ∈ tableRuns (parseWith D T stop μ ids src).2.builds,
      firstDeviating run = none ∧
      ∀ t ∈ run, t ∈ (parseWith D T stop μ ids src).2.builds ∧ t.mtype = some .TableRow ∧
        ∃ l, t.line = some l ∧ t.items = Spec.cells l ∧ t.col = some (lineIndent l + 1) := by
  have hr := parseWith_r D T fuel hT stop μ ids src
  rw [h] at hr
  obtain ⟨⟨hf, hall⟩, herr⟩ := hr
  intro run hrun
  refine ⟨?_, fun t ht => ?_⟩
  · cases hd : firstDeviating run with
    | none => rfl
    | some t =>
      obtain ⟨e', he', -⟩ := hall run hrun t hd
      rw [herr] at he'; cases he'
  · obtain ⟨hmem, hty⟩ := mem_tableRuns_tok hrun ht
    obtain ⟨l, h1, h2, h3⟩ := hf.rows t hmem hty
    exact ⟨hmem, hty, l, h1, by rw [h2, tableCells_eq_spec], h3⟩

end

end Lemmas
end GV
