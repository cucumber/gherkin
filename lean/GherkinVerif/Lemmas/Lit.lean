/-
  Lemmas/Lit.lean — string literals in kernel-evaluated examples.

  The kernel evaluates `lit "…"` by running `String.toList` on the literal, which indexes into the
  UTF-8 byte array once per character: quadratic in the length, and for a source text of a few
  hundred characters far dearer than the parse that follows.  `lit_ofList` gives the code points in
  one step (the kernel reads a string literal as `String.ofList` of its characters).
-/
import GherkinVerif.Model.Py
import GherkinVerif.KDecide
namespace GV

theorem lit_ofList (l : List Char) : lit (String.ofList l) = l.map Char.toNat := by
  simp [lit]

theorem lit_append (a b : String) : lit (a ++ b) = lit a ++ lit b := by
  simp [lit]

theorem lit_join (l : List String) : lit (String.join l) = (l.map lit).flatten := by
  simp only [lit, String.toList_join, List.flatMap, List.map_flatten, List.map_map]; rfl

/-- Replace every `lit "…"` of the goal by the list of its code points.  Each literal is generalised
    to a variable first and rewritten in the equation that defines the variable: rewritten in place,
    below a `match`, the kernel would compare the two goals by evaluating both.  The loop ends when
    `generalize` finds no `lit` (the new variable then does not occur and can be cleared). -/
macro "lit_lists" : tactic =>
  `(tactic| repeat
    (generalize hs : lit _ = s
     (fail_if_success clear hs s)
     revert hs
     rw [lit_ofList]
     intro hs
     subst hs))

end GV
