/-
  Lemmas/RaggedDocLoop.lean — the invariant of Lemmas/RaggedDocInv.lean through the whole parse.

  `Spec.raggedCheck T fuel` is a Boolean fact about a transition table: an assignment `σ` of
  rule-type stacks to the states (computed breadth-first from the start state) such that every
  branch's productions, executed by `Spec.rProd` from the stack of its state with no pending
  group, end in the stack of its target with no pending group; every error tail returns its own
  state; in every state the final `end_rule` can be executed.  For every such table, every dialect
  table, both error modes, every matcher state, counter and source text: `parseWith_r`.
-/
import GherkinVerif.Lemmas.RaggedDocInv
import GherkinVerif.Lemmas.NoCrash
import GherkinVerif.Lemmas.Locations
import GherkinVerif.Lemmas.TextMain
import GherkinVerif.Lemmas.GlueOutcome
namespace GV
namespace Spec

abbrev RTyping := List (Nat × List RuleType)

def rlookup (σ : RTyping) (s : Nat) : Option (List RuleType) := (σ.find? (·.1 == s)).map (·.2)

def rbranchOK (σ : RTyping) (a : List RuleType) (b : Branch) : Bool :=
  match rProds b.kind (a, false) b.prods with
  | some (a', false) => rlookup σ b.target == some a'
  | _ => false

def rstateOK (T : Table) (σ : RTyping) (p : Nat × List RuleType) : Bool :=
  (rProd .EOF (p.2, false) (.end_ .None_)).isSome &&
  match T.row? p.1 with
  | some row => row.errTarget == p.1 && row.branches.all (rbranchOK σ p.2)
  | none => true

def rtypingOK (T : Table) (σ : RTyping) : Bool :=
  rlookup σ 0 == some [T.startRule, .None_] && !isTableRt T.startRule && σ.all (rstateOK T σ)

def rcompute (T : Table) : Nat → RTyping → RTyping → RTyping
  | 0, _, acc => acc
  | _, [], acc => acc
  | fuel + 1, (s, a) :: todo, acc =>
    if acc.any (·.1 == s) then rcompute T fuel todo acc
    else
      let next := match T.row? s with
        | some r => r.branches.filterMap fun b =>
            (rProds b.kind (a, false) b.prods).map fun s' => (b.target, s'.1)
        | none => []
      rcompute T fuel (todo ++ next) (acc ++ [(s, a)])

def raggedCheck (T : Table) (fuel : Nat) : Bool :=
  rtypingOK T (rcompute T fuel [(0, [T.startRule, .None_])] [])

end Spec

namespace Lemmas
open Spec

theorem rlookup_mem {σ : RTyping} {s : Nat} {a : List RuleType} (h : rlookup σ s = some a) : (s, a) ∈ σ := by
  unfold rlookup at h
  cases hf : σ.find? (·.1 == s) with
  | none => rw [hf] at h; cases h
  | some p =>
    rw [hf] at h
    simp only [Option.map_some, Option.some.injEq] at h
    have hm := List.mem_of_find?_eq_some hf
    have hp := List.find?_some hf
    have : p.1 = s := by simpa using hp
    obtain ⟨p1, p2⟩ := p
    dsimp only at h this
    subst h; subst this
    exact hm

structure RChecked (T : Table) (σ : RTyping) : Prop where
  start : rlookup σ 0 = some [T.startRule, .None_]
  startRt : isTableRt T.startRule = false
  fin : ∀ s a, rlookup σ s = some a → ∃ s', rProd .EOF (a, false) (.end_ .None_) = some s'
  rows : ∀ s a, rlookup σ s = some a → ∀ row, T.row? s = some row →
    row.errTarget = s ∧ ∀ b ∈ row.branches, rbranchOK σ a b = true

theorem rchecked_of_ok {T : Table} {σ : RTyping} (h : rtypingOK T σ = true) : RChecked T σ := by
  simp only [rtypingOK, Bool.and_eq_true, beq_iff_eq, Bool.not_eq_true', List.all_eq_true] at h
  obtain ⟨⟨h0, h1⟩, hall⟩ := h
  refine ⟨h0, h1, ?_, ?_⟩
  · intro s a hs
    have := hall _ (rlookup_mem hs)
    simp only [rstateOK, Bool.and_eq_true] at this
    exact Option.isSome_iff_exists.1 this.1
  · intro s a hs row hrow
    have := hall _ (rlookup_mem hs)
    simp only [rstateOK, Bool.and_eq_true, hrow, beq_iff_eq, List.all_eq_true] at this
    exact this.2

theorem matchTok_raised_bad (D : List Dialect) (k : Kind) (μ : MState) (t : Token) (e : PErr)
    (h : (matchTok D k μ t).1.res = .raised e) : badE e := by
  unfold matchTok at h
  split at h
  · split at h <;> cases h
  · exact raised_bad D k μ t _ e h

theorem matchTok_rowTok (D : List Dialect) (k : Kind) (μ : MState) (t : Token)
    (h : (matchTok D k μ t).1.res = .matched) :
    (matchTok D k μ t).1.tok.mtype = some k ∧ RowTok (matchTok D k μ t).1.tok := by
  have hm := (matchTok_well_matched D k μ t h).1
  refine ⟨hm, fun hrow => ?_⟩
  rw [hm] at hrow
  simp only [Option.some.injEq] at hrow
  subst hrow
  unfold matchTok at h ⊢
  cases hl : t.line with
  | none =>
    simp only [hl] at h
    simp at h
  | some l =>
    simp only [hl] at h ⊢
    obtain ⟨h1, -, h3⟩ := row_col D μ t l hl h
    exact ⟨l, (matchLine_tok D .TableRow μ t l).1.trans hl, h3, h1⟩

theorem matchP_inv (D : List Dialect) (cap : Nat) (stop : Bool) (s : RState) (k : Kind) (t : Token) :
    Inv (RInv stop s) (RAb cap) (matchP D cap stop k t) :=
  matchP_inv_rule (report_r cap stop s) k t (fun _ _ hc => hc.congr rfl rfl rfl) fun c _ e hc hres =>
    hc.bad (matchTok_raised_bad D k c.μ t e hres) rfl rfl rfl

theorem readToken_inv (cap : Nat) (stop : Bool) (s : RState) : Inv (RInv stop s) (RAb cap) readToken := by
  refine Triple.intro fun c r c' hc hr => ?_
  rw [run_readToken] at hr
  split at hr
  · cases hr; exact hc.congr rfl rfl rfl
  · split at hr <;> (cases hr; exact hc.congr rfl rfl rfl)

theorem primsL_r (D : List Dialect) (cap : Nat) (stop : Bool) (s : RState) :
    PrimsL D cap stop (RInv stop s) (RAb cap) :=
  { readToken := readToken_inv cap stop s
    matchP := matchP_inv D cap stop s
    modQ := fun _ _ h => h.congr rfl rfl rfl
    fuel := fun _ _ => trivial }

def J (σ : RTyping) (stop : Bool) (s : Nat) (c : Ctx) : Prop :=
  ∃ a, rlookup σ s = some a ∧ RInv stop (a, false) c

/-- A test that matches hands a token of its kind to the builder, a row with the cells of its
    line; the productions of the branch lead to the stack of the target (`rbranchOK`); the error
    tail returns the state itself. -/
theorem tryBranches_r (D : List Dialect) (T : Table) (stop : Bool) (σ : RTyping) {s : Nat} {a : List RuleType}
    (hs : rlookup σ s = some a) (row : StateRow) (herr : row.errTarget = s) (bs : List Branch) (t : Token)
    (hbs : ∀ b ∈ bs, rbranchOK σ a b = true) :
    Triple (RInv stop (a, false)) (tryBranches D T stop row bs t) (fun s' c' => J σ stop s' c') (RAb T.errorCap) := by
  rw [tryBranches_eq_X]
  have htarget : ∀ s', s' = s → ∀ c, RInv stop (a, false) c → J σ stop s' c := fun _ h c hc => ⟨a, h ▸ hs, hc⟩
  refine branches_rule (Tk := fun bs _ => ∀ b ∈ bs, rbranchOK σ a b = true)
    (Pm := fun b t' c => RInv stop (a, false) c ∧ (t'.mtype = some b.kind ∧ RowTok t')) row
    (report_r _ stop (a, false))
    (fun b _ t h c _ hc hres => ⟨⟨hc.congr rfl rfl rfl, matchTok_rowTok D b.kind c.μ t hres⟩,
      fun _ b' hb' => h b' (List.mem_cons_of_mem _ hb')⟩)
    (fun _ _ _ h c _ hc _ => ⟨hc.congr rfl rfl rfl, fun b' hb' => h b' (List.mem_cons_of_mem _ hb')⟩)
    (fun b _ t _ c _ e hc hres => hc.bad (matchTok_raised_bad D b.kind c.μ t e hres) rfl rfl rfl)
    (fun _ _ _ _ _ la _ _ _ => ((primsL_r D _ stop (a, false)).lookahead la).guard _)
    (fun _ _ _ _ _ _ _ _ _ _ _ => trivial)
    (fun b _ _ t' h => Triple.pre_fact (fun _ hc => ⟨hc.2, hc.1⟩) fun hF => ?_)
    (fun t _ => tail_rule (Q := fun s' c' => J σ stop s' c')
      { single := (report_r _ stop (a, false)).single
        add := fun hs' e => ((report_r _ stop (a, false)).add hs' e).post fun _ => htarget _ herr } t
      fun c hc => hc.bad (unexpectedErr_bad row t) rfl rfl rfl) bs t hbs
  have hb := h b List.mem_cons_self
  unfold rbranchOK at hb
  split at hb
  · next a' hx =>
    exact (runProds_r _ stop b.kind t' hF.1 hF.2 b.prods _ _ hx).post fun _ c hc => ⟨a', by simpa using hb, hc⟩
  · cases hb

theorem matchToken_r (D : List Dialect) {T : Table} (stop : Bool) {σ : RTyping} (hC : RChecked T σ)
    (s : Nat) (t : Token) :
    Triple (J σ stop s) (matchToken D T stop s t) (fun s' c' => J σ stop s' c') (RAb T.errorCap) :=
  matchToken_rule s t
    (fun row hr c ⟨a, hs, hinv⟩ =>
      tryBranches_r D T stop σ hs row (hC.rows s a hs row hr).1 row.branches t (hC.rows s a hs row hr).2 c hinv)
    fun _ _ _ _ => trivial

theorem parseLoop_r (D : List Dialect) {T : Table} (stop : Bool) {σ : RTyping} (hC : RChecked T σ) :
    ∀ (fuel s : Nat), Triple (J σ stop s) (parseLoop D T stop fuel s) (fun s' c' => J σ stop s' c') (RAb T.errorCap) :=
  Triple.parseLoop (H := fun _ s => J σ stop s) (M := fun _ s _ => J σ stop s) (fun _ _ _ => trivial)
    (fun _ s c ⟨a, hs, hinv⟩ =>
      (readToken_inv _ stop (a, false)).post (fun _ _ h => ⟨a, hs, h.congr rfl rfl rfl⟩) c hinv)
    fun _ s t => matchToken_r D stop hC s t |>.post fun _ _ h => by split <;> exact h

/-- the end of an accepted or fully collected parse -/
def REnd (c : Ctx) : Prop := RFin c ∧ FinAll c

theorem parseBody_r (D : List Dialect) {T : Table} (stop : Bool) {σ : RTyping} (hC : RChecked T σ) (n : Nat) :
    Triple (fun c => c.β.stack = [⟨.None_, []⟩] ∧ c.builds = [] ∧ c.errors = []) (parseBody D T stop n)
      (fun _ c => REnd c ∧ c.errors = []) (RAb T.errorCap) := by
  refine (body_rule (P1 := J σ stop 0) (P2 := J σ stop) (P3 := fun c => REnd c ∧ (stop = true → c.errors = []))
    (fun c hc => ?_) (parseLoop_r D stop hC _ 0) (fun s c hc => ?_) (fun c hc _ => ⟨rfl, hc.1.1, fun _ => hc.1.2⟩)
    fun _ _ _ _ _ => trivial).post fun _ _ h => ⟨h.1.1, h.2.1⟩
  · obtain ⟨h1, h2, h3⟩ := hc
    refine ⟨_, hC.start, ?_, ?_, ?_, ?_, ?_, ?_, ?_⟩
    · show (c.β.startRule T.startRule).stack.map (·.rt) = _
      simp only [BState.startRule, h1, List.map_cons, List.map_nil]
    · intro h
      have h : isTableRt T.startRule = true := h
      rw [hC.startRt] at h; cases h
    · intro _ _; show openRun c.builds = []; rw [h2]; rfl
    · intro e he
      have he : e ∈ c.errors := he
      rw [h3] at he; cases he
    · intro run hr
      have hr : Live false c.builds run := hr
      rw [h2] at hr
      rcases hr with hr | ⟨hr, -⟩
      · cases hr
      · cases hr
    · intro _; exact h3
    · intro t ht
      have ht : t ∈ c.builds := ht
      rw [h2] at ht; cases ht
  · obtain ⟨a, hs, hinv⟩ := hc
    obtain ⟨s', hs'⟩ := hC.fin s a hs
    have hs'' : rProd .EOF (a, false) (.end_ T.startRule) = some s' := hs'
    have htop : topTable s'.1 = false := by
      simp only [rProd] at hs'
      split at hs'
      · split at hs'
        · cases hs'
        · rename_i h
          cases hs'
          simpa [topTable] using h
      · cases hs'
    have hrow : RowTok (default : Token) := fun h => by cases h
    exact Triple.conseq (runProd_r (p := .end_ T.startRule) T.errorCap stop .EOF default (fun h => by cases h) hrow
      (a, false) s' hs'') (fun _ h => h) (fun _ c' h => ⟨⟨h.fin, h.finAll htop⟩, h.stopE⟩) (fun _ _ h => h) c hinv

def ROut (cap : Nat) (o : Outcome) (c : Ctx) : Prop :=
  match o with
  | .ok _ => REnd c ∧ c.errors = []
  | .rejected es comp => ∃ a, RAb cap a c ∧
      ((comp = false ∧ ∃ e, a = .single e ∧ es = [e]) ∨ (comp = true ∧ a = .composite es))
  | .crash _ => True
  | .fuel => True

theorem parseWith_r (D : List Dialect) (T : Table) (fuel : Nat) (hT : raggedCheck T fuel = true)
    (stop : Bool) (μ : MState) (ids : Nat) (src : Str) :
    ROut T.errorCap (parseWith D T stop μ ids src).1 (parseWith D T stop μ ids src).2 := by
  have h := Triple.parseWith (parseBody_r D stop (rchecked_of_ok hT) _) (μ := μ) (ids := ids) (src := src) ⟨rfl, rfl, rfl⟩
  unfold ROut
  split <;> rename_i ho <;> rw [ho] at h
  · exact h
  · rcases h with ⟨rfl, h⟩ | ⟨e, rfl, rfl, h⟩
    · exact ⟨_, h, .inr ⟨rfl, rfl⟩⟩
    · exact ⟨_, h, .inl ⟨rfl, e, rfl, rfl⟩⟩
  · trivial
  · trivial

end Lemmas
end GV
