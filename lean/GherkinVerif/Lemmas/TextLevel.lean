/-
  Lemmas/TextLevel.lean — the text-level acceptor `Spec.textAccepts` and the kind-level machine:
  a document is accepted at text level iff the sequence of its intrinsic line kinds
  (`Spec.textKinds`) is accepted by the kind-level machine and no tested line raises.

  The look-ahead futures differ: `textAccepts` peeks at the kinds the following lines have under
  the *current* matcher state, the kind-level run at the kinds they have when they are reached.
  They agree as far as a peek looks (`peek_future`): a peek only steps over blank, comment and tag
  lines, which are then handled in tag states, where the matcher state does not change.  So the
  branch picked is the same under both futures (`pick_stable`, `pick_none_all`; `pick_textKinds`),
  and `textAccepts_eq` is an induction over the lines.
-/
import GherkinVerif.Lemmas.TextKinds
import GherkinVerif.Lemmas.QueueFacts
namespace GV
namespace Lemmas
open Spec

theorem muAfter_stable (D : List Dialect) (μ : MState) (l : Str) (K : Kind) (hK : stableKind K = true) :
    muAfter D μ l K = μ := by
  have := matchTok_mu_stable D K hK μ (probe l)
  exact this

theorem passes_skip {k K : Kind} (hK : isSkipKind K = true) (h : passes k K = true) :
    k = K ∨ (k = .Language ∧ K = .Comment) := by
  revert k K
  decide

theorem passes_title {k K : Kind} (hK : K.isTitle = true) (h : passes k K = true) : k = K := by
  revert k K
  decide

theorem pick_mem {T : Table} {k : Kind} {fut : List Kind} : ∀ {bs : List Branch} {b : Branch},
    pickBranch T k fut bs = some b → b ∈ bs ∧ passes k b.kind = true ∧ guardOkAbs T b fut = true := by
  intro bs
  induction bs with
  | nil => intro b h; cases h
  | cons b0 bs ih =>
    intro b h
    unfold pickBranch at h
    split at h
    · rename_i hc
      cases h
      simp only [Bool.and_eq_true] at hc
      exact ⟨List.mem_cons_self .., hc.1, hc.2⟩
    · obtain ⟨h1, h2⟩ := ih h
      exact ⟨List.mem_cons_of_mem _ h1, h2⟩

theorem tag_pick_skip {D' : List Dialect} {T : Table} (F : QF D' T) {s : Nat} {row : StateRow}
    (hs : isTag T s = true) (hrow : T.row? s = some row) {k : Kind} {fut : List Kind} {b : Branch}
    (hp : pickBranch T k fut row.branches = some b) {K0 : Kind} (hK0 : isSkipKind K0 = true) (hp0 : passes k K0 = true) :
    isTag T b.target = true ∧ stableKind b.kind = true := by
  obtain ⟨hmem, hpass, -⟩ := pick_mem hp
  obtain ⟨hbr, -⟩ := F.tagRow s row hs hrow
  obtain ⟨-, hstab, htgt⟩ := hbr b hmem
  have hbs : isSkipKind b.kind = true := by
    cases hb : isSkipKind b.kind with
    | true => rfl
    | false =>
      exfalso
      have htitle : b.kind.isTitle = true := by simpa [stableKind, hb] using hstab
      have hk := passes_title htitle hpass
      rcases passes_skip hK0 hp0 with h | ⟨h, -⟩
      · rw [hk] at h; rw [h] at htitle
        cases K0 <;> first | exact absurd hK0 (by decide) | exact absurd htitle (by decide)
      · rw [hk] at h; rw [h] at htitle; exact absurd htitle (by decide)
  exact ⟨htgt hbs, hstab⟩

theorem peek_future {D' : List Dialect} {T : Table} (F : QF D' T) (D : List Dialect) {i : Nat} {la : LookAhead}
    (hla : T.lookaheads[i]? = some la) :
    ∀ (ls : List Str) (s : Nat) (μ : MState), isTag T s = true →
      peekAbs la (ls.map (intrinsicKind D μ) ++ [.EOF]) = peekAbs la (textKinds D T s μ ls ++ [.EOF]) := by
  obtain ⟨hskipla, hexpla, -⟩ := F.la i la hla
  have hsk : la.skip.all isSkipKind = true := by rw [hskipla]; exact F.skAll
  intro ls
  induction ls with
  | nil => intro s μ _; rfl
  | cons l ls ih =>
    intro s μ hs
    -- both lists start with the kind of `l` under `μ`
    have hhead : ∃ s2 μ2, textKinds D T s μ (l :: ls) = intrinsicKind D μ l :: textKinds D T s2 μ2 ls ∧
        ((la.skip.any (passes (intrinsicKind D μ l)) = true ∧ la.expected.any (passes (intrinsicKind D μ l)) = false) →
          isTag T s2 = true ∧ μ2 = μ) := by
      simp only [textKinds]
      cases hst : stepAbs T s (intrinsicKind D μ l) (ls.map (intrinsicKind D μ) ++ [.EOF]) with
      | none => exact ⟨s, μ, rfl, fun _ => ⟨hs, rfl⟩⟩
      | some b =>
        refine ⟨b.target, muAfter D μ l b.kind, rfl, fun hcond => ?_⟩
        unfold stepAbs at hst
        cases hrow : T.row? s with
        | none => rw [hrow] at hst; cases hst
        | some row =>
          rw [hrow] at hst
          dsimp only at hst
          obtain ⟨K0, hK0, hp0⟩ := List.any_eq_true.1 hcond.1
          obtain ⟨htag, hstab⟩ := tag_pick_skip F hs hrow hst (List.all_eq_true.1 hsk K0 hK0) hp0
          exact ⟨htag, muAfter_stable D μ l b.kind hstab⟩
    obtain ⟨s2, μ2, hk, hnext⟩ := hhead
    rw [hk, List.map_cons, List.cons_append, List.cons_append, peekAbs, peekAbs]
    cases hexp : la.expected.any (passes (intrinsicKind D μ l)) with
    | true => rfl
    | false =>
      cases hskp : la.skip.any (passes (intrinsicKind D μ l)) with
      | false => rfl
      | true =>
        obtain ⟨hs2, hμ2⟩ := hnext ⟨hskp, hexp⟩
        subst hμ2
        simp only [Bool.false_eq_true, if_false, if_true]
        exact ih s2 μ2 hs2

theorem guardOk_unguarded {T : Table} {b : Branch} (h : b.guard = none) (fut : List Kind) :
    guardOkAbs T b fut = true := by
  unfold guardOkAbs; rw [h]

/-- `bs` begins with `TagLine` tests up to an unguarded one, as the branches after a guarded
    `TagLine` test do: a tag line is taken by one of them, into a tag state again, and the tests
    tried on the way are tag-line tests -/
theorem pick_tagNext_spec {T : Table} {fut : List Kind} : ∀ {bs : List Branch},
    tagNext T bs = true → guardTail T bs = true →
      ∃ b, pickBranch T .TagLine fut bs = some b ∧ (b.kind = .TagLine ∧ isTag T b.target = true) ∧
        ∀ D μ l, raises D μ l .TagLine = false → raisesBefore D μ l b bs = false := by
  intro bs
  induction bs with
  | nil => intro h; cases h
  | cons b0 bs ih =>
    intro hn hgt
    simp only [tagNext, Bool.and_eq_true, beq_iff_eq] at hn
    simp only [guardTail, Bool.and_eq_true, Bool.or_eq_true, beq_iff_eq] at hgt
    unfold pickBranch
    split
    · exact ⟨_, rfl, hn, fun D μ l hz => by rw [raisesBefore, hn.1, hz]; simp⟩
    · rename_i hc
      have hpass : passes .TagLine b0.kind = true := by rw [hn.1]; rfl
      have hgo : guardOkAbs T b0 fut = false := by simpa [hpass] using hc
      rcases hgt.1 with hg | hg
      · rw [guardOk_unguarded (by simpa using hg)] at hgo; cases hgo
      · obtain ⟨b, hb, hk, hr⟩ := ih hg.2 hgt.2
        exact ⟨b, hb, hk, fun D μ l hz => by
          rw [raisesBefore, hn.1, hz, Bool.false_or, hr D μ l hz, Bool.and_false]⟩

theorem pick_tagNext {T : Table} {fut : List Kind} {bs : List Branch} {b : Branch}
    (hn : tagNext T bs = true) (hgt : guardTail T bs = true)
    (h : pickBranch T .TagLine fut bs = some b) : b.kind = .TagLine ∧ isTag T b.target = true := by
  obtain ⟨b', hb', hk, -⟩ := pick_tagNext_spec (fut := fut) hn hgt
  rw [hb'] at h
  cases h
  exact hk

theorem pick_total_tag {T : Table} {fut : List Kind} {bs : List Branch} (hn : tagNext T bs = true)
    (hgt : guardTail T bs = true) : ∃ b, pickBranch T .TagLine fut bs = some b :=
  (pick_tagNext_spec hn hgt).imp fun _ h => h.1

theorem pick_stable {T : Table} {k : Kind} {fut fut' : List Kind} {b : Branch} : ∀ {bs : List Branch},
    guardTail T bs = true → pickBranch T k fut bs = some b →
    (k = .TagLine → b.kind = .TagLine → isTag T b.target = true →
      ∀ b0 ∈ bs, b0.guard ≠ none → guardOkAbs T b0 fut = guardOkAbs T b0 fut') →
    pickBranch T k fut' bs = some b := by
  intro bs
  induction bs with
  | nil => intro _ h; cases h
  | cons b0 bs ih =>
    intro hgt h hpeek
    simp only [guardTail, Bool.and_eq_true, Bool.or_eq_true, beq_iff_eq] at hgt
    have ih' := fun h' => ih hgt.2 h' fun h1 h2 h3 b1 hb1 => hpeek h1 h2 h3 b1 (List.mem_cons_of_mem _ hb1)
    unfold pickBranch at h ⊢
    cases hp : passes k b0.kind with
    | false =>
      simp only [hp, Bool.false_and, Bool.false_eq_true, if_false] at h ⊢
      exact ih' h
    | true =>
      simp only [hp, Bool.true_and] at h ⊢
      cases hg : b0.guard with
      | none =>
        rw [guardOk_unguarded hg] at h ⊢
        exact h
      | some i =>
        have hg' : b0.guard ≠ none := by rw [hg]; simp
        rcases hgt.1 with hn | hn
        · rw [hg] at hn; cases hn
        · obtain ⟨⟨hkind, htag⟩, hnext⟩ := hn
          have hk : k = .TagLine := passes_tagLine (by rw [← hkind]; exact hp)
          cases hgo : guardOkAbs T b0 fut with
          | true =>
            rw [hgo] at h
            simp only [if_true] at h
            cases h
            rw [← hpeek hk hkind htag _ (List.mem_cons_self ..) hg', hgo]
            rfl
          | false =>
            rw [hgo] at h
            simp only [Bool.false_eq_true, if_false] at h
            subst hk
            obtain ⟨hbk, hbt⟩ := pick_tagNext hnext hgt.2 h
            rw [← hpeek rfl hbk hbt b0 (List.mem_cons_self ..) hg', hgo]
            simp only [Bool.false_eq_true, if_false]
            exact ih' h

theorem pick_none_all {T : Table} {k : Kind} {fut fut' : List Kind} : ∀ {bs : List Branch},
    guardTail T bs = true → pickBranch T k fut bs = none → pickBranch T k fut' bs = none := by
  intro bs
  induction bs with
  | nil => intro _ _; rfl
  | cons b0 bs ih =>
    intro hgt h
    simp only [guardTail, Bool.and_eq_true, Bool.or_eq_true, beq_iff_eq] at hgt
    unfold pickBranch at h ⊢
    cases hp : passes k b0.kind with
    | false =>
      simp only [hp, Bool.false_and, Bool.false_eq_true, if_false] at h ⊢
      exact ih hgt.2 h
    | true =>
      simp only [hp, Bool.true_and] at h ⊢
      cases hgo : guardOkAbs T b0 fut with
      | true => rw [hgo] at h; simp at h
      | false =>
        rw [hgo] at h
        simp only [Bool.false_eq_true, if_false] at h
        exfalso
        rcases hgt.1 with hn | hn
        · rw [guardOk_unguarded (by simpa using hn)] at hgo; cases hgo
        · obtain ⟨⟨hkind, -⟩, hnext⟩ := hn
          have hk : k = .TagLine := passes_tagLine (by rw [← hkind]; exact hp)
          subst hk
          obtain ⟨b, hb⟩ := pick_total_tag (fut := fut) hnext hgt.2
          rw [hb] at h; cases h

theorem pick_textKinds {D' : List Dialect} {T : Table} (F : QF D' T) (D : List Dialect) (s : Nat) (row : StateRow)
    (hrow : T.row? s = some row) (μ : MState) (l : Str) (ls : List Str) (b : Branch)
    (h : pickBranch T (intrinsicKind D μ l) (ls.map (intrinsicKind D μ) ++ [.EOF]) row.branches = some b) :
    pickBranch T (intrinsicKind D μ l) (textKinds D T b.target (muAfter D μ l b.kind) ls ++ [.EOF]) row.branches =
      some b := by
  refine pick_stable (F.rows s row hrow).1 h fun _ hbk htag b0 _ hg0 => ?_
  rw [hbk, muAfter_stable D μ l .TagLine rfl]
  unfold guardOkAbs
  cases hg : b0.guard with
  | none => rfl
  | some i =>
    dsimp only
    cases hla : T.lookaheads[i]? with
    | none => rfl
    | some la => exact peek_future F D hla ls b.target μ htag

theorem runAbs_cons_some {T : Table} {s : Nat} {k : Kind} {ks : List Kind} {b : Branch}
    (h : stepAbs T s k ks = some b) : (runAbs T s (k :: ks)).isSome = (runAbs T b.target ks).isSome := by
  rw [runAbs, h]
  dsimp only
  cases runAbs T b.target ks with
  | none => rfl
  | some x => rfl

theorem runAbs_cons_none {T : Table} {s : Nat} {k : Kind} {ks : List Kind}
    (h : stepAbs T s k ks = none) : (runAbs T s (k :: ks)).isSome = false := by
  rw [runAbs, h]
  rfl

theorem textAccepts_eq {D' : List Dialect} {T : Table} (F : QF D' T) (D : List Dialect) :
    ∀ (ls : List Str) (s : Nat) (μ : MState),
      textAccepts D T s μ ls =
        ((runAbs T s (textKinds D T s μ ls ++ [.EOF])).isSome && !textRaises D T s μ ls) := by
  intro ls
  induction ls with
  | nil =>
    intro s μ
    simp only [textAccepts, textKinds, textRaises, List.nil_append, Bool.not_false, Bool.and_true]
    cases h : stepAbs T s .EOF [] with
    | none => rw [runAbs_cons_none h]; rfl
    | some b => rw [runAbs_cons_some h]; rfl
  | cons l ls ih =>
    intro s μ
    simp only [textAccepts, textKinds, textRaises]
    cases hrow : T.row? s with
    | none =>
      have hst : ∀ ks, stepAbs T s (intrinsicKind D μ l) ks = none := by
        intro ks; unfold stepAbs; rw [hrow]
      simp only [hst, List.cons_append]
      rw [runAbs_cons_none (hst _)]
      rfl
    | some row =>
      have hst : ∀ ks, stepAbs T s (intrinsicKind D μ l) ks = pickBranch T (intrinsicKind D μ l) ks row.branches := by
        intro ks; unfold stepAbs; rw [hrow]
      simp only [hst]
      cases hp : pickBranch T (intrinsicKind D μ l) (ls.map (intrinsicKind D μ) ++ [.EOF]) row.branches with
      | none =>
        simp only [List.cons_append]
        rw [runAbs_cons_none (by rw [hst]; exact pick_none_all (F.rows s row hrow).1 hp)]
        rfl
      | some b =>
        simp only [List.cons_append]
        rw [runAbs_cons_some (by rw [hst]; exact pick_textKinds F D s row hrow μ l ls b hp), ih]
        cases raisesBefore D μ l b row.branches <;> simp

theorem textKinds_no_EOF (D : List Dialect) (T : Table) : ∀ (ls : List Str) (s : Nat) (μ : MState),
    Kind.EOF ∉ textKinds D T s μ ls := by
  intro ls
  induction ls with
  | nil => intro s μ h; cases h
  | cons l ls ih =>
    intro s μ h
    simp only [textKinds] at h
    cases hst : stepAbs T s (intrinsicKind D μ l) (ls.map (intrinsicKind D μ) ++ [.EOF]) with
    | none =>
      rw [hst] at h
      rcases List.mem_cons.1 h with h | h
      · exact intrinsicKind_ne_EOF D μ l h.symm
      · exact ih _ _ h
    | some b =>
      rw [hst] at h
      rcases List.mem_cons.1 h with h | h
      · exact intrinsicKind_ne_EOF D μ l h.symm
      · exact ih _ _ h

theorem textAccepts_kinds {D' : List Dialect} {T : Table} (F : QF D' T) (D : List Dialect) (μ : MState) (ls : List Str)
    (h : textAccepts D T 0 μ ls = true) : acceptsAbs T (textKinds D T 0 μ ls) = true := by
  rw [textAccepts_eq F D ls 0 μ, Bool.and_eq_true] at h
  exact h.1

theorem kinds_textAccepts {D' : List Dialect} {T : Table} (F : QF D' T) (D : List Dialect) (μ : MState) (ls : List Str)
    (hr : textRaises D T 0 μ ls = false) (h : acceptsAbs T (textKinds D T 0 μ ls) = true) :
    textAccepts D T 0 μ ls = true := by
  rw [textAccepts_eq F D ls 0 μ, hr]
  simpa [acceptsAbs] using h

end Lemmas
end GV
