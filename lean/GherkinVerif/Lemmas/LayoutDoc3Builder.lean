/-
  Lemmas/LayoutDoc3Builder.lean — the AST builder only ever COPIES source positions.

  For a renaming `f : Spec.LocMap` of source positions, `TokMap f` relates two tokens that agree on
  everything the builder reads except that line number, column and item columns of the second are
  the `f`-images of those of the first.  `ValMap f` / `ItemsRel` / `BMap f` lift this to builder
  values, node contents and builder states; the second node content may in addition hold extra
  items under the key `.tok .Empty` (blank lines read as `Empty`), which no transform reads.
  Every builder operation (`start_rule`, `build`, `end_rule` with all of `transform_node`,
  `get_result`) takes related states to related states, draws the same ids, and produces the
  `f`-image of the document / of the ragged-table error; for `transform_node` this is
  `transformNode_nat` of Lemmas/BuilderNat.lean without shift of ids (`reads_map`).  Generic in `f`;
  used for blank-line insertion (`insertMap`) and indentation (`indentMap`).

  All of this is proved for the relations `ItemsRelP P` / `ValMapP P f` / `BMapP P f`, which allow
  one more kind of pair: two tokens under the key `.tok .Other` related by `P`, of which the
  transforms (`Description`, `DocString`) read only the text.  `ItemsRel`, `ValMap`, `BMap` are the
  case `P = fun _ _ => False`; Lemmas/LayoutDoc7Builder.lean has the case "same text".
-/
import GherkinVerif.Lemmas.LayoutBuilder
import GherkinVerif.Spec.LocMap
namespace GV
namespace Layout3
open Lemmas Spec

/-- the second token is the first with its positions renamed by `f` (fields the builder never
    reads — physical line, indent — are left unconstrained); renaming an item column keeps the
    test `column == 0` of `get_location` -/
structure TokMap (f : LocMap) (a b : Token) : Prop where
  lineNo : b.lineNo = f.ln a.lineNo
  col : b.col = a.col.map (f.cl a.lineNo)
  mtype : b.mtype = a.mtype
  text : b.text = a.text
  keyword : b.keyword = a.keyword
  ktype : b.ktype = a.ktype
  dialect : b.dialect = a.dialect
  items : b.items = a.items.map fun it => (f.cl a.lineNo it.1, it.2)
  zero : ∀ it ∈ a.items, (f.cl a.lineNo it.1 == 0) = (it.1 == 0)
  col0 : a.col ≠ some 0

variable {f : LocMap}

theorem TokMap.loc {a b : Token} (h : TokMap f a b) : b.loc = f.loc a.loc := by
  unfold Token.loc LocMap.loc
  rw [h.lineNo, h.col]

theorem TokMap.getLocation_none {a b : Token} (h : TokMap f a b) :
    getLocation b = f.loc (getLocation a) := by
  unfold getLocation; exact h.loc

theorem TokMap.getLocation_some {a b : Token} (h : TokMap f a b) {it : Nat × Str} (hit : it ∈ a.items) :
    getLocation b (some (f.cl a.lineNo it.1)) = f.loc (getLocation a (some it.1)) := by
  unfold getLocation
  simp only [h.zero it hit]
  split
  · exact h.loc
  · simp only [LocMap.loc, h.lineNo, Option.map_some]

/-- the keys no transform reads: blank-line tokens and the end-of-file token -/
def freeKey (k : Key) : Bool := (Key.tok .Empty == k) || (Key.tok .EOF == k)

/-- two item lists: same keys in the same order with related values (any values under the keys no
    transform reads); the second may hold extra items under the key `.tok .Empty` -/
inductive ItemsRel (R : Val → Val → Prop) : List (Key × Val) → List (Key × Val) → Prop
  | nil : ItemsRel R [] []
  | cons (k : Key) {v w : Val} {xs ys : List (Key × Val)} (h : R v w) (t : ItemsRel R xs ys) :
      ItemsRel R ((k, v) :: xs) ((k, w) :: ys)
  | free (k : Key) (hk : freeKey k = true) (v w : Val) {xs ys : List (Key × Val)} (t : ItemsRel R xs ys) :
      ItemsRel R ((k, v) :: xs) ((k, w) :: ys)
  | extra (w : Val) {xs ys : List (Key × Val)} (t : ItemsRel R xs ys) :
      ItemsRel R xs ((.tok .Empty, w) :: ys)

/-- the second value is the first with every source position renamed by `f` -/
inductive ValMap (f : LocMap) : Val → Val → Prop
  | tok {a b : Token} (h : TokMap f a b) : ValMap f (.tok a) (.tok b)
  | none : ValMap f .none .none
  | step (s : Step) : ValMap f (.step s) (.step (mapStep f s))
  | docString (d : DocString) : ValMap f (.docString d) (.docString (mapDocString f d))
  | dataTable (d : DataTable) : ValMap f (.dataTable d) (.dataTable (mapTable f d))
  | background (b : Background) : ValMap f (.background b) (.background (mapBackground f b))
  | scenario (s : Scenario) : ValMap f (.scenario s) (.scenario (mapScenario f s))
  | examples (e : Examples) : ValMap f (.examples e) (.examples (mapExamples f e))
  | rows (rs : List Row) : ValMap f (.rows rs) (.rows (rs.map (mapRow f)))
  | descr (s : Str) : ValMap f (.descr s) (.descr s)
  | rule (r : Rule) : ValMap f (.rule r) (.rule (mapRule f r))
  | feature (x : Feature) : ValMap f (.feature x) (.feature (mapFeature f x))
  | doc (d : Doc) : ValMap f (.doc d) (.doc (mapDoc f d))
  | raw (rt : RuleType) {xs ys : List (Key × Val)} (h : ItemsRel (ValMap f) xs ys) :
      ValMap f (.raw rt xs) (.raw rt ys)

abbrev ItemsMap (f : LocMap) := ItemsRel (ValMap f)

theorem ValMap.examples' {f : LocMap} {e e' : Examples} (h : e' = mapExamples f e) :
    ValMap f (.examples e) (.examples e') := h ▸ .examples e

theorem ItemsRel.refl_of {R : Val → Val → Prop} (hR : ∀ v, R v v) : ∀ xs : List (Key × Val), ItemsRel R xs xs
  | [] => .nil
  | (k, v) :: xs => .cons k (hR v) (ItemsRel.refl_of hR xs)

/-- `ItemsRel` with one more kind of pair: two tokens under the key `.tok .Other` related by `P` -/
inductive ItemsRelP (P : Token → Token → Prop) (R : Val → Val → Prop) :
    List (Key × Val) → List (Key × Val) → Prop
  | nil : ItemsRelP P R [] []
  | cons (k : Key) {v w : Val} {xs ys : List (Key × Val)} (h : R v w) (t : ItemsRelP P R xs ys) :
      ItemsRelP P R ((k, v) :: xs) ((k, w) :: ys)
  | free (k : Key) (hk : freeKey k = true) (v w : Val) {xs ys : List (Key × Val)} (t : ItemsRelP P R xs ys) :
      ItemsRelP P R ((k, v) :: xs) ((k, w) :: ys)
  | extra (w : Val) {xs ys : List (Key × Val)} (t : ItemsRelP P R xs ys) :
      ItemsRelP P R xs ((.tok .Empty, w) :: ys)
  | other {a b : Token} (h : P a b) {xs ys : List (Key × Val)} (t : ItemsRelP P R xs ys) :
      ItemsRelP P R ((.tok .Other, .tok a) :: xs) ((.tok .Other, .tok b) :: ys)

inductive ValMapP (P : Token → Token → Prop) (f : LocMap) : Val → Val → Prop
  | tok {a b : Token} (h : TokMap f a b) : ValMapP P f (.tok a) (.tok b)
  | none : ValMapP P f .none .none
  | step (s : Step) : ValMapP P f (.step s) (.step (mapStep f s))
  | docString (d : DocString) : ValMapP P f (.docString d) (.docString (mapDocString f d))
  | dataTable (d : DataTable) : ValMapP P f (.dataTable d) (.dataTable (mapTable f d))
  | background (b : Background) : ValMapP P f (.background b) (.background (mapBackground f b))
  | scenario (s : Scenario) : ValMapP P f (.scenario s) (.scenario (mapScenario f s))
  | examples (e : Examples) : ValMapP P f (.examples e) (.examples (mapExamples f e))
  | rows (rs : List Row) : ValMapP P f (.rows rs) (.rows (rs.map (mapRow f)))
  | descr (s : Str) : ValMapP P f (.descr s) (.descr s)
  | rule (r : Rule) : ValMapP P f (.rule r) (.rule (mapRule f r))
  | feature (x : Feature) : ValMapP P f (.feature x) (.feature (mapFeature f x))
  | doc (d : Doc) : ValMapP P f (.doc d) (.doc (mapDoc f d))
  | raw (rt : RuleType) {xs ys : List (Key × Val)} (h : ItemsRelP P (ValMapP P f) xs ys) :
      ValMapP P f (.raw rt xs) (.raw rt ys)

abbrev ItemsMapP (P : Token → Token → Prop) (f : LocMap) := ItemsRelP P (ValMapP P f)

variable {P : Token → Token → Prop}

theorem ItemsRel.toP {R S : Val → Val → Prop} (hRS : ∀ v w, R v w → S v w) {xs ys : List (Key × Val)}
    (h : ItemsRel R xs ys) : ItemsRelP P S xs ys := by
  induction h with
  | nil => exact .nil
  | cons k hv _ ih => exact .cons k (hRS _ _ hv) ih
  | free k hk v w _ ih => exact .free k hk v w ih
  | extra w _ ih => exact .extra w ih

theorem ItemsRelP.toRel {R S : Val → Val → Prop} (hRS : ∀ v w, R v w → S v w) {xs ys : List (Key × Val)}
    (h : ItemsRelP (fun _ _ => False) R xs ys) : ItemsRel S xs ys := by
  induction h with
  | nil => exact .nil
  | cons k hv _ ih => exact .cons k (hRS _ _ hv) ih
  | free k hk v w _ ih => exact .free k hk v w ih
  | extra w _ ih => exact .extra w ih
  | other h _ _ => exact h.elim

theorem ValMap.toP {v w : Val} (h : ValMap f v w) : ValMapP P f v w :=
  ValMap.rec (motive_1 := fun v w _ => ValMapP P f v w) (motive_2 := fun xs ys _ => ItemsMapP P f xs ys)
    (fun h => .tok h) .none .step .docString .dataTable .background .scenario .examples .rows .descr .rule
    .feature .doc (fun rt {_ _} _ ih => .raw rt ih) .nil (fun k {_ _ _ _} _ _ ih1 ih2 => .cons k ih1 ih2)
    (fun k hk v w {_ _} _ ih => .free k hk v w ih) (fun w {_ _} _ ih => .extra w ih) h

theorem ValMapP.toMap {v w : Val} (h : ValMapP (fun _ _ => False) f v w) : ValMap f v w :=
  ValMapP.rec (motive_1 := fun v w _ => ValMap f v w) (motive_2 := fun xs ys _ => ItemsMap f xs ys)
    (fun h => .tok h) .none .step .docString .dataTable .background .scenario .examples .rows .descr .rule
    .feature .doc (fun rt {_ _} _ ih => .raw rt ih) .nil (fun k {_ _ _ _} _ _ ih1 ih2 => .cons k ih1 ih2)
    (fun k hk v w {_ _} _ ih => .free k hk v w ih) (fun w {_ _} _ ih => .extra w ih)
    (fun {_ _} h {_ _} _ _ => h.elim) h

theorem ItemsRelP.append {R : Val → Val → Prop} {xs ys xs' ys' : List (Key × Val)}
    (h : ItemsRelP P R xs ys) (h' : ItemsRelP P R xs' ys') : ItemsRelP P R (xs ++ xs') (ys ++ ys') := by
  induction h with
  | nil => exact h'
  | cons k hv _ ih => exact .cons k hv ih
  | free k hk v w _ ih => exact .free k hk v w ih
  | extra w _ ih => exact .extra w ih
  | other h _ ih => exact .other h ih

theorem getItems_mapP {R : Val → Val → Prop} {xs ys : List (Key × Val)} (h : ItemsRelP P R xs ys) (k : Key)
    (hk : freeKey k = false) (hO : (Key.tok .Other == k) = false ∨ ∀ a b, ¬ P a b) :
    All2 R (getItems xs k) (getItems ys k) := by
  have hk0 : (Key.tok .Empty == k) = false := by
    unfold freeKey at hk
    simp only [Bool.or_eq_false_iff] at hk
    exact hk.1
  induction h with
  | nil => exact .nil
  | free k' hk' v w _ ih =>
    have hne : (k' == k) = false := by
      cases hkk : k' == k with
      | false => rfl
      | true =>
        have : k' = k := by simpa using hkk
        rw [this, hk] at hk'
        cases hk'
    unfold getItems at ih ⊢
    simp only [List.filter_cons, hne, Bool.false_eq_true, ↓reduceIte]
    exact ih
  | cons k' hv _ ih =>
    unfold getItems at ih ⊢
    simp only [List.filter_cons]
    by_cases hk' : (k' == k) = true
    · simp only [hk', ↓reduceIte, List.map_cons]
      exact .cons hv ih
    · simp only [hk', Bool.false_eq_true, ↓reduceIte]
      exact ih
  | extra w _ ih =>
    unfold getItems at ih ⊢
    simp only [List.filter_cons, hk0, Bool.false_eq_true, ↓reduceIte]
    exact ih
  | other h _ ih =>
    rcases hO with hO | hO
    · unfold getItems at ih ⊢
      simp only [List.filter_cons, hO, Bool.false_eq_true, ↓reduceIte]
      exact ih
    · exact absurd h (hO _ _)

/-- the keys whose items are not related by `R`: those no transform reads, and `.tok .Other` -/
def freeKeyO (k : Key) : Bool := freeKey k || (Key.tok .Other == k)

theorem getItems_mapO {R : Val → Val → Prop} {xs ys : List (Key × Val)} (h : ItemsRelP P R xs ys) (k : Key)
    (hk : freeKeyO k = false) : All2 R (getItems xs k) (getItems ys k) := by
  unfold freeKeyO at hk
  simp only [Bool.or_eq_false_iff] at hk
  exact getItems_mapP h k hk.1 (.inl hk.2)

def mapBErr (f : LocMap) : BErr → BErr
  | .crash w => .crash w
  | .ast e => .ast (mapErr f e)

/-- an error of the builder whose column, if any, is not 0 (columns start at 1) -/
def BErrOk : BErr → Prop
  | .crash _ => True
  | .ast e => e.loc.col ≠ some 0

/-- the two computations draw the same ids and either both succeed, with related values, or both
    fail, the second with the `f`-image of the first's error -/
def BSimM (f : LocMap) {α β} (R : α → β → Prop) (m1 : BM α) (m2 : BM β) : Prop :=
  ∀ n, (∃ a b n', m1.run.run n = (.ok a, n') ∧ m2.run.run n = (.ok b, n') ∧ R a b) ∨
       (∃ e n', m1.run.run n = (.error e, n') ∧ m2.run.run n = (.error (mapBErr f e), n') ∧ BErrOk e)

theorem BSimM.mono {α β} {R S : α → β → Prop} {m1 : BM α} {m2 : BM β} (h : BSimM f R m1 m2)
    (hRS : ∀ a b, R a b → S a b) : BSimM f S m1 m2 := by
  intro n
  rcases h n with ⟨a, b, n', e1, e2, hab⟩ | h
  · exact .inl ⟨a, b, n', e1, e2, hRS _ _ hab⟩
  · exact .inr h

theorem all2_of_map {α β} (g : α → β) (as : List α) : All2 (fun a b => b = g a) as (as.map g) := by
  induction as with
  | nil => exact .nil
  | cons a as ih => exact .cons rfl ih

theorem getTokens_other (hP : ∀ a b, P a b → b.text = a.text) {xs ys : List (Key × Val)} (h : ItemsMapP P f xs ys) :
    All2 (fun a b : Token => b.text = a.text) (getTokens xs .Other) (getTokens ys .Other) := by
  unfold getTokens getItems
  induction h with
  | nil => exact .nil
  | free k' hk' v w _ ih =>
    have hne : (k' == Key.tok .Other) = false := by
      cases hkk : k' == Key.tok .Other with
      | false => rfl
      | true =>
        have : k' = Key.tok .Other := by simpa using hkk
        rw [this] at hk'
        cases hk'
    simp only [List.filter_cons, hne, Bool.false_eq_true, ↓reduceIte]
    exact ih
  | cons k' hv _ ih =>
    simp only [List.filter_cons]
    by_cases hk' : (k' == Key.tok .Other) = true
    · simp only [hk', ↓reduceIte, List.map_cons]
      cases hv <;> simp only [List.filterMap_cons] <;> first | exact ih | exact .cons (TokMap.text ‹_›) ih
    · simp only [hk', Bool.false_eq_true, ↓reduceIte]
      exact ih
  | extra w _ ih =>
    have hne : (Key.tok .Empty == Key.tok .Other) = false := rfl
    simp only [List.filter_cons, hne, Bool.false_eq_true, ↓reduceIte]
    exact ih
  | other h _ ih =>
    have he : (Key.tok .Other == Key.tok .Other) = true := rfl
    simp only [List.filter_cons, he, ↓reduceIte, List.map_cons, List.filterMap_cons]
    exact .cons (hP _ _ h) ih

theorem getSingle_mapP {xs ys : List (Key × Val)} (h : ItemsMapP P f xs ys) (k : Key)
    (hk : freeKey k = false) (hO : (Key.tok .Other == k) = false ∨ ∀ a b, ¬ P a b) :
    ValMapP P f (getSingle xs k) (getSingle ys k) := by
  unfold getSingle
  have := getItems_mapP h k hk hO
  revert this
  generalize getItems xs k = vs
  generalize getItems ys k = ws
  intro hvw
  cases hvw with
  | nil => exact .none
  | cons hv _ => exact hv

theorem valN_map {v w : Val} : ValN 0 f (TokMap f) (ItemsMapP P f) v w ↔ ValMapP P f v w := by
  constructor
  · intro h
    cases v <;>
      simp only [ValN, shiftStep_zero, shiftDataTable_zero, shiftBackground_zero, shiftScenario_zero,
        shiftExamples_zero, funext shiftRow_zero, List.map_id', shiftRule_zero, shiftFeature_zero, shiftDoc_zero] at h
    case tok a => obtain ⟨b, rfl, hab⟩ := h; exact .tok hab
    case raw rt xs => obtain ⟨ys, rfl, hxy⟩ := h; exact .raw rt hxy
    all_goals (subst h; constructor)
  · intro h
    cases h <;>
      simp only [ValN, shiftStep_zero, shiftDataTable_zero, shiftBackground_zero, shiftScenario_zero,
        shiftExamples_zero, funext shiftRow_zero, List.map_id', shiftRule_zero, shiftFeature_zero, shiftDoc_zero]
    case tok hab => exact ⟨_, rfl, hab⟩
    case raw hxy => exact ⟨_, rfl, hxy⟩

theorem freeKeyO_of_readOne {k : Key} (hk : readOne k = true) : freeKeyO k = false := by
  cases k with
  | tok kd => cases kd <;> first | rfl | cases hk
  | rule r => cases r <;> first | rfl | cases hk

theorem readsTok_map : ReadsTok f (fun e e' => e' = mapBErr f e ∧ BErrOk e) (TokMap f) where
  crash _ := ⟨rfl, trivial⟩
  ragged ht _ := ⟨by rw [ht.getLocation_none]; rfl, ht.col0⟩
  tok ht := ⟨ht.text, ht.keyword, ht.ktype, ht.dialect, ht.getLocation_none⟩
  items ht := by
    rw [ht.items]
    exact All2.map_right _ _ fun it hit => ⟨rfl, ht.getLocation_some hit⟩

theorem reads_map (hP : ∀ a b, P a b → b.text = a.text) :
    Reads 0 f (fun e e' => e' = mapBErr f e ∧ BErrOk e) (TokMap f) (ItemsMapP P f) where
  toReadsTok := readsTok_map
  read h hk := (getItems_mapO h _ (freeKeyO_of_readOne hk)).mono fun _ _ => valN_map.2
  other h := (getTokens_other hP h).map_eq fun _ _ e => e
  descr h := by
    unfold Spec.descOf
    have := getItems_mapO h (.rule .Description) rfl
    revert this
    generalize getItems _ (.rule .Description) = vs
    generalize getItems _ (.rule .Description) = ws
    intro hvw
    cases hvw with
    | nil => rfl
    | cons hv _ => cases hv <;> rfl

theorem transformNode_mapP (hP : ∀ a b, P a b → b.text = a.text) (cs : List Comment) (rt : RuleType)
    {xs ys : List (Key × Val)} (h : ItemsMapP P f xs ys) :
    BSimM f (ValMapP P f) (transformNode cs ⟨rt, xs⟩) (transformNode (cs.map (mapComment f)) ⟨rt, ys⟩) := by
  intro k
  rcases transformNode_nat (reads_map hP) cs rt h k with ⟨a, b, k', e1, e2, hab⟩ | ⟨e, e', k', e1, e2, rfl, hok⟩
  · exact .inl ⟨a, b, k', e1, e2, valN_map.1 hab⟩
  · exact .inr ⟨e, k', e1, e2, hok⟩

def NodeMapP (P : Token → Token → Prop) (f : LocMap) (a b : Node) : Prop := a.rt = b.rt ∧ ItemsMapP P f a.items b.items

def BMapP (P : Token → Token → Prop) (f : LocMap) (β1 β2 : BState) : Prop :=
  All2 (NodeMapP P f) β1.stack β2.stack ∧ β2.comments = β1.comments.map (mapComment f)

theorem BMapP.reset : BMapP P f BState.reset BState.reset :=
  ⟨.cons ⟨rfl, .nil⟩ .nil, rfl⟩

theorem BMapP.startRule {β1 β2 : BState} (h : BMapP P f β1 β2) (r : RuleType) :
    BMapP P f (β1.startRule r) (β2.startRule r) :=
  ⟨.cons ⟨rfl, .nil⟩ h.1, h.2⟩

theorem addToTop_map {s1 s2 : List Node} (h : All2 (NodeMapP P f) s1 s2) (k : Key) {v w : Val} (hv : ValMapP P f v w) :
    (addToTop s1 k v = none ∧ addToTop s2 k w = none) ∨
    ∃ s1' s2', addToTop s1 k v = some s1' ∧ addToTop s2 k w = some s2' ∧ All2 (NodeMapP P f) s1' s2' := by
  cases h with
  | nil => exact .inl ⟨rfl, rfl⟩
  | cons hab ht =>
    exact .inr ⟨_, _, rfl, rfl, .cons ⟨hab.1, hab.2.append (.cons k hv .nil)⟩ ht⟩

theorem addToTop_extra {s1 s2 : List Node} (h : All2 (NodeMapP P f) s1 s2) (w : Val) :
    (s1 = [] ∧ addToTop s2 (.tok .Empty) w = none) ∨
    ∃ s2', addToTop s2 (.tok .Empty) w = some s2' ∧ All2 (NodeMapP P f) s1 s2' := by
  cases h with
  | nil => exact .inl ⟨rfl, rfl⟩
  | cons hab ht =>
    refine .inr ⟨_, rfl, .cons ⟨hab.1, ?_⟩ ht⟩
    have := hab.2.append (ItemsRelP.extra w .nil)
    simpa using this

theorem BMapP.build {β1 β2 : BState} (h : BMapP P f β1 β2) {t1 t2 : Token} (ht : TokMap f t1 t2) :
    (∃ w, β1.build t1 = .error (.crash w) ∧ β2.build t2 = .error (.crash w)) ∨
    (∃ β1' β2', β1.build t1 = .ok β1' ∧ β2.build t2 = .ok β2' ∧ BMapP P f β1' β2') := by
  cases hm : t1.mtype with
  | none =>
    rw [layBuild_unmatched _ _ hm, layBuild_unmatched _ _ (ht.mtype ▸ hm)]
    exact .inl ⟨_, rfl, rfl⟩
  | some k =>
    have hm2 : t2.mtype = some k := ht.mtype ▸ hm
    by_cases hk : k = .Comment
    · subst hk
      rw [layBuild_comment _ _ hm, layBuild_comment _ _ hm2, ht.text, ht.getLocation_none]
      cases t1.text with
      | none => exact .inl ⟨_, rfl, rfl⟩
      | some tx =>
        refine .inr ⟨_, _, rfl, rfl, h.1, ?_⟩
        simp only [h.2, List.map_append, List.map_cons, List.map_nil, mapComment]
    · rw [layBuild_other _ _ k hk hm, layBuild_other _ _ k hk hm2]
      rcases addToTop_map h.1 (.tok k) (.tok ht) with ⟨e1, e2⟩ | ⟨s1, s2, e1, e2, hs⟩
      · rw [e1, e2]; exact .inl ⟨_, rfl, rfl⟩
      · rw [e1, e2]; exact .inr ⟨_, _, rfl, rfl, hs, h.2⟩

theorem BMapP.build_extra {β1 β2 : BState} (h : BMapP P f β1 β2) {t : Token} (hm : t.mtype = some .Empty) :
    (β1.stack = [] ∧ β2.build t = .error (.crash "IndexError: current_node of empty stack")) ∨
    (∃ β2', β2.build t = .ok β2' ∧ BMapP P f β1 β2') := by
  rw [layBuild_other _ _ .Empty (by decide) hm]
  rcases addToTop_extra h.1 (.tok t) with ⟨e1, e2⟩ | ⟨s2, e2, hs⟩
  · rw [e2]; exact .inl ⟨e1, rfl⟩
  · rw [e2]; exact .inr ⟨_, rfl, hs, h.2⟩

theorem BMapP.endRule (hP : ∀ a b, P a b → b.text = a.text) {β1 β2 : BState} (h : BMapP P f β1 β2) (n : Nat) :
    (β2.endRule n).1 = (β1.endRule n).1.mapError (mapBErr f) ∧ BMapP P f (β1.endRule n).2.1 (β2.endRule n).2.1 ∧
    (β2.endRule n).2.2 = (β1.endRule n).2.2 ∧ (∀ e, (β1.endRule n).1 = .error e → BErrOk e) := by
  obtain ⟨s1, c1⟩ := β1
  obtain ⟨s2, c2⟩ := β2
  obtain ⟨hs, hc⟩ := h
  simp only at hs hc
  subst hc
  cases hs with
  | nil => exact ⟨rfl, ⟨.nil, rfl⟩, rfl, fun e he => by cases he; trivial⟩
  | cons hab ht =>
    rename_i a b as bs
    obtain ⟨rt, xs⟩ := a
    obtain ⟨rt', ys⟩ := b
    obtain ⟨hrt, hxy⟩ := hab
    simp only at hrt hxy
    subst hrt
    simp only [BState.endRule]
    rcases transformNode_mapP hP c1 rt hxy n with ⟨v, w, n', e1, e2, hvw⟩ | ⟨e, n', e1, e2, hok⟩
    · rw [e1, e2]
      simp only []
      rcases addToTop_map ht (.rule rt) hvw with ⟨e1, e2⟩ | ⟨s1, s2, e1, e2, hs⟩
      · rw [e1, e2]; exact ⟨rfl, ⟨ht, rfl⟩, rfl, fun e he => by cases he; trivial⟩
      · rw [e1, e2]; exact ⟨rfl, ⟨hs, rfl⟩, rfl, fun e he => by cases he⟩
    · rw [e1, e2]
      exact ⟨rfl, ⟨ht, rfl⟩, rfl, fun e' he => by cases he; exact hok⟩

theorem BMapP.build_free {β1 β2 : BState} (h : BMapP P f β1 β2) {t1 t2 : Token} {k : Kind}
    (hk : freeKey (.tok k) = true) (h1 : t1.mtype = some k) (h2 : t2.mtype = some k) :
    (∃ w, β1.build t1 = .error (.crash w) ∧ β2.build t2 = .error (.crash w)) ∨
    (∃ β1' β2', β1.build t1 = .ok β1' ∧ β2.build t2 = .ok β2' ∧ BMapP P f β1' β2') := by
  have hkc : k ≠ .Comment := by intro e; subst e; cases hk
  rw [layBuild_other _ _ k hkc h1, layBuild_other _ _ k hkc h2]
  obtain ⟨hs, hc⟩ := h
  revert hs
  generalize β1.stack = s1
  generalize β2.stack = s2
  intro hs
  cases hs with
  | nil => exact .inl ⟨_, rfl, rfl⟩
  | cons hab ht =>
    refine .inr ⟨_, _, rfl, rfl, .cons ⟨hab.1, ?_⟩ ht, hc⟩
    exact hab.2.append (.free _ hk _ _ .nil)

theorem BMapP.build_other {β1 β2 : BState} (h : BMapP P f β1 β2) {t1 t2 : Token}
    (h1 : t1.mtype = some .Other) (h2 : t2.mtype = some .Other) (ht : P t1 t2) :
    (∃ w, β1.build t1 = .error (.crash w) ∧ β2.build t2 = .error (.crash w)) ∨
    (∃ β1' β2', β1.build t1 = .ok β1' ∧ β2.build t2 = .ok β2' ∧ BMapP P f β1' β2') := by
  rw [layBuild_other _ _ .Other (by decide) h1, layBuild_other _ _ .Other (by decide) h2]
  obtain ⟨hs, hc⟩ := h
  revert hs
  generalize β1.stack = s1
  generalize β2.stack = s2
  intro hs
  cases hs with
  | nil => exact .inl ⟨_, rfl, rfl⟩
  | cons hab hrest =>
    refine .inr ⟨_, _, rfl, rfl, .cons ⟨hab.1, ?_⟩ hrest, hc⟩
    exact hab.2.append (.other ht .nil)

theorem BMapP.result {β1 β2 : BState} (h : BMapP P f β1 β2) :
    β2.result = (β1.result.map (Option.map (mapDoc f))) := by
  unfold BState.result
  obtain ⟨hs, hc⟩ := h
  revert hs
  generalize β1.stack = s1
  generalize β2.stack = s2
  intro hs
  cases hs with
  | nil => rfl
  | cons hab ht =>
    simp only []
    have := getSingle_mapP hab.2 (.rule .GherkinDocument) rfl (.inl rfl)
    revert this
    generalize getSingle _ (.rule .GherkinDocument) = v
    generalize getSingle _ (.rule .GherkinDocument) = w
    intro hvw
    cases hvw <;> rfl

theorem ItemsRel.append {R : Val → Val → Prop} {xs ys xs' ys' : List (Key × Val)}
    (h : ItemsRel R xs ys) (h' : ItemsRel R xs' ys') : ItemsRel R (xs ++ xs') (ys ++ ys') :=
  ((h.toP fun _ _ h => h).append (h'.toP fun _ _ h => h)).toRel fun _ _ h => h

theorem getItems_map {R : Val → Val → Prop} {xs ys : List (Key × Val)} (h : ItemsRel R xs ys) (k : Key)
    (hk : freeKey k = false) : All2 R (getItems xs k) (getItems ys k) :=
  getItems_mapP (P := fun _ _ => False) (h.toP fun _ _ h => h) k hk (.inr fun _ _ h => h)

theorem getSingle_map {xs ys : List (Key × Val)} (h : ItemsMap f xs ys) (k : Key)
    (hk : freeKey k = false) : ValMap f (getSingle xs k) (getSingle ys k) :=
  (getSingle_mapP (P := fun _ _ => False) (h.toP fun _ _ h => h.toP) k hk (.inr fun _ _ h => h)).toMap

theorem transformNode_map (cs : List Comment) (rt : RuleType) {xs ys : List (Key × Val)} (h : ItemsMap f xs ys) :
    BSimM f (ValMap f) (transformNode cs ⟨rt, xs⟩) (transformNode (cs.map (mapComment f)) ⟨rt, ys⟩) :=
  (transformNode_mapP (P := fun _ _ => False) (fun _ _ h => h.elim) cs rt (h.toP fun _ _ h => h.toP)).mono
    fun _ _ h => h.toMap

def NodeMap (f : LocMap) (a b : Node) : Prop := a.rt = b.rt ∧ ItemsMap f a.items b.items

/-- the second builder state is the first with every source position renamed (and possibly extra
    blank-line tokens in its nodes) -/
def BMap (f : LocMap) (β1 β2 : BState) : Prop :=
  All2 (NodeMap f) β1.stack β2.stack ∧ β2.comments = β1.comments.map (mapComment f)

theorem BMap.toP {β1 β2 : BState} (h : BMap f β1 β2) : BMapP (fun _ _ => False) f β1 β2 :=
  ⟨h.1.mono fun _ _ hn => ⟨hn.1, hn.2.toP fun _ _ h => h.toP⟩, h.2⟩

theorem BMapP.toMap {β1 β2 : BState} (h : BMapP (fun _ _ => False) f β1 β2) : BMap f β1 β2 :=
  ⟨h.1.mono fun _ _ hn => ⟨hn.1, hn.2.toRel fun _ _ h => h.toMap⟩, h.2⟩

theorem BMap.reset : BMap f BState.reset BState.reset := BMapP.reset.toMap

theorem BMap.startRule {β1 β2 : BState} (h : BMap f β1 β2) (r : RuleType) :
    BMap f (β1.startRule r) (β2.startRule r) :=
  (h.toP.startRule r).toMap

theorem BMap.build {β1 β2 : BState} (h : BMap f β1 β2) {t1 t2 : Token} (ht : TokMap f t1 t2) :
    (∃ w, β1.build t1 = .error (.crash w) ∧ β2.build t2 = .error (.crash w)) ∨
    (∃ β1' β2', β1.build t1 = .ok β1' ∧ β2.build t2 = .ok β2' ∧ BMap f β1' β2') :=
  (h.toP.build ht).imp id fun ⟨β1', β2', e1, e2, h'⟩ => ⟨β1', β2', e1, e2, h'.toMap⟩

theorem BMap.build_extra {β1 β2 : BState} (h : BMap f β1 β2) {t : Token} (hm : t.mtype = some .Empty) :
    (β1.stack = [] ∧ β2.build t = .error (.crash "IndexError: current_node of empty stack")) ∨
    (∃ β2', β2.build t = .ok β2' ∧ BMap f β1 β2') :=
  (h.toP.build_extra hm).imp id fun ⟨β2', e2, h'⟩ => ⟨β2', e2, h'.toMap⟩

theorem BMap.endRule {β1 β2 : BState} (h : BMap f β1 β2) (n : Nat) :
    (β2.endRule n).1 = (β1.endRule n).1.mapError (mapBErr f) ∧ BMap f (β1.endRule n).2.1 (β2.endRule n).2.1 ∧
    (β2.endRule n).2.2 = (β1.endRule n).2.2 ∧ (∀ e, (β1.endRule n).1 = .error e → BErrOk e) :=
  let ⟨h1, h2, h3⟩ := h.toP.endRule (fun _ _ h => h.elim) n
  ⟨h1, h2.toMap, h3⟩

theorem BMap.result {β1 β2 : BState} (h : BMap f β1 β2) :
    β2.result = (β1.result.map (Option.map (mapDoc f))) :=
  h.toP.result

end Layout3
end GV
