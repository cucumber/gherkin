/-
  Lemmas/LayoutDoc6Step.lean — property C16, a comment line inserted where it opens a description:
  the step for the line BEHIND the inserted comment.  Two runs on the same token `t` (not a blank
  line): the first in a description-opening state `s` (row `row1`), the second in its description
  state `s'` (row `row2`) with one open node more — the `Description` the inserted comment has
  opened.  By the table fact `Spec.rowsMatchD` the second run does what the first does, except that
   * it has no `Empty` test (the first run's fails: the line is not blank),
   * for a `Comment`/`Other` line it only builds, where the first opens the description and builds —
     afterwards the builder states are EQUAL;
   * for any other line it first closes the (empty) `Description`, which leaves an extra
     `(Description, "")` item in the node below — afterwards the builder states are related by `BD`.
  The error tail is not reached (`Spec.rowCatches`): `Other` catches every line, `EOF` the end.
-/
import GherkinVerif.Lemmas.LayoutDoc6Sim
namespace GV
namespace Layout6
open Lemmas Spec Layout3 Layout4 Layout5

def R2 (fs2 : List ANode) (c c' : Ctx) : Prop :=
  CtxE c c' ∧ c'.β = c.β.startRule .Description ∧ StackA c'.β.stack fs2

theorem R2.keep {fs2 : List ANode} {c c' d d' : Ctx} (h : R2 fs2 c c') (hE : CtxE d d') (h1 : d.β = c.β)
    (h2 : d'.β = c'.β) : R2 fs2 d d' := ⟨hE, by rw [h1, h2]; exact h.2.1, by rw [h2]; exact h.2.2⟩

theorem Indep.simR2 {α} {m : PM α} (h : Indep m) (fs2 : List ANode) : SimG (R2 fs2) (fun _ d d' => R2 fs2 d d') m m :=
  h.simG (fun _ _ hr => hr.1) fun _ _ _ _ hr hE h1 h2 => hr.keep hE h1 h2

theorem SimG.assume {α} {R : Ctx → Ctx → Prop} {Q : α → Ctx → Ctx → Prop} {m1 m2 : PM α} {P : Prop}
    (h : ∀ c c', R c c' → P) (hs : P → SimG R Q m1 m2) : SimG R Q m1 m2 := fun c c' hr => hs (h c c' hr) c c' hr

def NotBlank (ln : Option Str) : Prop := ∀ l, ln = some l → lineIsEmpty l = false

/-- an unguarded test that every line (`Other`) resp. the end of the text (`EOF`) passes -/
def Catches (b : Branch) (ln : Option Str) : Prop :=
  b.guard = none ∧ ((b.kind = .Other ∧ ln ≠ none) ∨ (b.kind = .EOF ∧ ln = none))

def Catch (ln : Option Str) (bs : List Branch) : Prop := ∃ b ∈ bs, Catches b ln

theorem catch_of_rowCatches {bs : List Branch} (h : rowCatches bs = true) (ln : Option Str) : Catch ln bs := by
  unfold rowCatches at h
  simp only [Bool.and_eq_true, List.any_eq_true, beq_iff_eq, Option.isNone_iff_eq_none] at h
  obtain ⟨⟨b1, hb1, hk1, hg1⟩, ⟨b2, hb2, hk2, hg2⟩⟩ := h
  cases ln with
  | none => exact ⟨b1, hb1, hg1, .inr ⟨hk1, rfl⟩⟩
  | some l => exact ⟨b2, hb2, hg2, .inl ⟨hk2, by simp⟩⟩

section step
variable {D : List Dialect}

theorem matchP_catch (cap : Nat) (stop : Bool) (K : Kind) (t : Token) (c : Ctx) (r : Bool × Token) (c' : Ctx)
    (hc : (K = .Other ∧ t.line ≠ none) ∨ (K = .EOF ∧ t.line = none))
    (h : run (matchP D cap stop K t) c = (.ok r, c')) : r.1 = true := by
  rw [run_matchP] at h
  have hm : (matchTok D K c.μ t).1.res = .matched := by
    unfold matchTok
    rcases hc with ⟨rfl, hl⟩ | ⟨rfl, hl⟩
    · cases hl' : t.line with
      | none => exact absurd hl' hl
      | some l => rfl
    · rw [hl]; rfl
  simp only [hm] at h
  cases h
  rfl

theorem matchP_empty_no (cap : Nat) (stop : Bool) (t : Token) (hn : NotBlank t.line) (c : Ctx) :
    ∃ j, run (matchP D cap stop .Empty t) c = (.ok (false, t), { c with calls := j }) := by
  rw [run_matchP]
  unfold matchTok
  cases hl : t.line with
  | none => exact ⟨_, rfl⟩
  | some l =>
    have he : lineIsEmpty l = false := hn l hl
    simp only [matchLine, he, Bool.false_eq_true, ↓reduceIte]
    exact ⟨_, rfl⟩

end step

theorem itemsD_snoc : ∀ xs : List (Key × Val), ItemsD ValD xs (xs ++ [(.rule .Description, .descr [])])
  | [] => .extraD .nil rfl
  | (k, v) :: xs => .cons k (.refl v) (itemsD_snoc xs)

theorem endRule_emptyDesc (β : BState) (b : Node) (bs : List Node) (hs : β.stack = b :: bs) (n : Nat) :
    (β.startRule .Description).endRule n =
      (.ok (), { β with stack := { b with items := b.items ++ [(.rule .Description, .descr [])] } :: bs }, n) := by
  obtain ⟨st, cm⟩ := β
  simp only at hs
  subst hs
  rfl

theorem endDesc_step (cap : Nat) (stop : Bool) (t : Token) {fs2 fs' : List ANode}
    (h1 : applyProdA (.end_ .Description) fs2 = some fs') :
    ∀ c c', R2 fs2 c c' → ∃ d', run (runProd cap stop t (.end_ .Description)) c' = (.ok (), d') ∧ RD fs' c d' := by
  intro c c' hr
  obtain ⟨hE, hβ, hA⟩ := hr
  obtain ⟨f, r', g, rest, hfs, -⟩ := applyProdA_end h1
  have hA' : StackA (⟨.Description, []⟩ :: c.β.stack) fs2 := by rw [hβ] at hA; exact hA
  rw [hfs] at hA'
  cases hA' with
  | cons _ ht =>
    cases hs : c.β.stack with
    | nil => rw [hs] at ht; cases ht
    | cons b bs =>
      have hrun : run (runProd cap stop t (.end_ .Description)) c' =
          (.ok (), { c' with β := { c.β with stack := { b with items := b.items ++ [(.rule .Description, .descr [])] } :: bs },
                             ids := c'.ids }) := by
        rw [run_runProd]
        simp only []
        rw [hβ, endRule_emptyDesc c.β b bs hs c'.ids]
        rfl
      refine ⟨_, hrun, ⟨⟨hE.lines, hE.lineNo, hE.errors, hE.μ, hE.ids, hE.unexpected⟩, ?_, rfl⟩, ?_⟩
      · show All2 NodeD c.β.stack _
        rw [hs]
        exact .cons ⟨rfl, itemsD_snoc b.items⟩ (All2.refl (fun a => ⟨rfl, ItemsD.refl _⟩) bs)
      · exact stackA_runProd cap stop t (.end_ .Description) hA h1 hrun

def RE (c c' : Ctx) : Prop := CtxE c c' ∧ c'.β = c.β

theorem build_RE (cap : Nat) (stop : Bool) (t : Token) :
    SimG RE (fun _ d d' => RE d d') (runProds cap stop t [.build]) (runProds cap stop t [.build]) := by
  unfold runProds
  refine SimG.bind (Q := fun _ d d' => RE d d') ?_ fun _ => by unfold runProds; exact SimG.pure _ fun _ _ h => h
  intro c c' ⟨hE, hβ⟩
  rw [run_runProd, run_runProd]
  simp only []
  rw [hβ]
  cases c.β.build t with
  | ok β' => exact ⟨rfl, ⟨hE.lines, hE.lineNo, hE.errors, hE.μ, hE.ids, hE.unexpected⟩, rfl⟩
  | error e =>
    exact (indep_liftB cap stop _).simG (R := RE) (fun _ _ h => h.1)
      (fun _ _ _ _ h hE' h1 h2 => ⟨hE', by rw [h1, h2]; exact h.2⟩) _ _ ⟨hE, hβ⟩

theorem simE_build (cap : Nat) (stop : Bool) (t : Token) :
    SimG (fun d d' => CtxE d d' ∧ d'.β = d.β) (fun _ d d' => CtxD d d') (runProds cap stop t [.build])
      (runProds cap stop t [.build]) :=
  (build_RE cap stop t).weaken (fun _ _ h => h) fun _ _ _ h => ⟨h.1, by rw [h.2]; exact BD.refl _⟩

theorem stepD (D : List Dialect) (T : Table) (stop : Bool) (row1 row2 : StateRow) (fs2 : List ANode) :
    ∀ (bs1 bs2 : List Branch), rowsMatchD bs1 bs2 = true → (∀ b ∈ bs2, ∃ d, applyProdsA b.prods fs2 = some d) →
      ∀ (t : Token), NotBlank t.line → Catch t.line bs1 →
      SimG (R2 fs2) (fun _ d d' => CtxD d d') (tryBranchesPure D T stop row1 bs1 t)
        (tryBranchesPure D T stop row2 bs2 t) := by
  intro bs1
  induction bs1 with
  | nil =>
    intro bs2 _ _ t _ hc
    obtain ⟨b, hb, -⟩ := hc
    cases hb
  | cons b1 r1 ih =>
    intro bs2 hm hbs t hnb hcatch
    unfold rowsMatchD at hm
    by_cases hE : (b1.kind == .Empty) = true
    · rw [if_pos hE] at hm
      have hk : b1.kind = .Empty := eq_of_beq hE
      have hcatch' : Catch t.line r1 := by
        obtain ⟨b, hb, hc⟩ := hcatch
        cases hb with
        | head =>
          exfalso
          rcases hc.2 with ⟨h, -⟩ | ⟨h, -⟩ <;> rw [hk] at h <;> cases h
        | tail _ hb' => exact ⟨b, hb', hc⟩
      rw [tryBranchesPure, hk]
      refine SimG.skip_left (R' := R2 fs2) (false, t) ?_ ?_
      · intro c c' hr
        obtain ⟨j, hj⟩ := matchP_empty_no (D := D) T.errorCap stop t hnb c
        exact ⟨_, hj, ⟨hr.1.lines, hr.1.lineNo, hr.1.errors, hr.1.μ, hr.1.ids, hr.1.unexpected⟩, hr.2.1, hr.2.2⟩
      · simp only [Bool.false_eq_true, ↓reduceIte]
        exact ih bs2 hm hbs t hnb hcatch'
    · rw [if_neg hE] at hm
      cases bs2 with
      | nil => cases hm
      | cons b2 r2 =>
        simp only [Bool.and_eq_true, beq_iff_eq] at hm
        obtain ⟨⟨⟨⟨hk, hg⟩, htg⟩, hprods⟩, hrec⟩ := hm
        have hbs' : ∀ b ∈ r2, ∃ d, applyProdsA b.prods fs2 = some d := fun b h => hbs b (List.mem_cons_of_mem _ h)
        obtain ⟨d2, hd2⟩ := hbs b2 List.mem_cons_self
        unfold tryBranchesPure
        rw [← hk, ← hg, ← htg]
        refine SimG.bind ((((indep_matchP D T.errorCap stop b1.kind t).simR2 fs2)).and_right
          (P := fun mt _ => mt.2.line = t.line ∧ (Catches b1 t.line → mt.1 = true))
          fun c c' a d' _ hrun => ⟨(matchP_tok _ _ _ _ _ _ _ _ hrun).1,
            fun hc => matchP_catch _ _ _ _ _ _ _ hc.2 hrun⟩) fun mt => ?_
        obtain ⟨m, t'⟩ := mt
        dsimp only
        refine SimG.assume (fun _ _ h => h.2) fun hfacts => ?_
        obtain ⟨hline, hm1⟩ := hfacts
        refine SimG.weaken ?_ (fun _ _ h => h.1) (fun _ _ _ h => h)
        have recur : ¬ Catches b1 t.line → SimG (R2 fs2) (fun _ d d' => CtxD d d')
            (tryBranchesPure D T stop row1 r1 t') (tryBranchesPure D T stop row2 r2 t') := by
          intro hnc
          refine ih r2 hrec hbs' t' (by rw [hline]; exact hnb) ?_
          rw [hline]
          obtain ⟨b, hb, hc⟩ := hcatch
          cases hb with
          | head => exact absurd hc hnc
          | tail _ hb' => exact ⟨b, hb', hc⟩
        have take : SimG (R2 fs2) (fun _ d d' => CtxD d d')
            (do runProds T.errorCap stop t' b1.prods; Pure.pure b1.target : PM Nat)
            (do runProds T.errorCap stop t' b2.prods; Pure.pure b1.target : PM Nat) := by
          by_cases hCO : (b1.kind == .Comment || b1.kind == .Other) = true
          · rw [if_pos hCO] at hprods
            simp only [Bool.and_eq_true, beq_iff_eq] at hprods
            obtain ⟨hp1, hp2⟩ := hprods
            rw [hp1, hp2]
            refine SimG.bind (Q := fun _ d d' => CtxD d d') ?_ fun _ => SimG.pure _ fun _ _ h => h
            rw [show runProds T.errorCap stop t' [.start .Description, .build] =
              (runProd T.errorCap stop t' (.start .Description) >>= fun _ => runProds T.errorCap stop t' [.build]) from rfl]
            refine SimG.skip_left (R' := fun d d' => CtxE d d' ∧ d'.β = d.β) () ?_ (simE_build _ _ _)
            intro c c' hr
            refine ⟨{ c with β := c.β.startRule .Description }, by rw [run_runProd], ?_, hr.2.1⟩
            exact ⟨hr.1.lines, hr.1.lineNo, hr.1.errors, hr.1.μ, hr.1.ids, hr.1.unexpected⟩
          · rw [if_neg hCO] at hprods
            simp only [beq_iff_eq] at hprods
            rw [hprods] at hd2 ⊢
            simp only [applyProdsA] at hd2
            cases h1 : applyProdA (.end_ .Description) fs2 with
            | none => rw [h1] at hd2; cases hd2
            | some fs' =>
              rw [h1] at hd2
              simp only [Option.bind_some] at hd2
              refine SimG.bind (Q := fun _ d d' => RD d2 d d') ?_ fun _ => SimG.pure _ fun _ _ h => h.1
              rw [show runProds T.errorCap stop t' (.end_ .Description :: b1.prods) =
                (runProd T.errorCap stop t' (.end_ .Description) >>= fun _ => runProds T.errorCap stop t' b1.prods) from rfl]
              exact SimG.skip_right (R' := RD fs') () (endDesc_step T.errorCap stop t' h1)
                (simD_runProds T.errorCap stop t' b1.prods hd2)
        have cont : ∀ ok : Bool, (ok = false → ¬ Catches b1 t.line) → SimG (R2 fs2) (fun _ d d' => CtxD d d')
            (if ok = true then (do runProds T.errorCap stop t' b1.prods; Pure.pure b1.target : PM Nat)
              else tryBranchesPure D T stop row1 r1 t')
            (if ok = true then (do runProds T.errorCap stop t' b2.prods; Pure.pure b1.target : PM Nat)
              else tryBranchesPure D T stop row2 r2 t') := by
          intro ok hok
          cases ok with
          | false =>
            simp only [Bool.false_eq_true, ↓reduceIte]
            exact recur (hok rfl)
          | true =>
            simp only [↓reduceIte]
            exact take
        cases m with
        | false =>
          simp only [Bool.false_eq_true, ↓reduceIte]
          exact recur fun hc => by cases hm1 hc
        | true =>
          simp only [↓reduceIte]
          cases hgd : b1.guard with
          | none =>
            refine SimG.bind (Q := fun ok d d' => R2 fs2 d d' ∧ ok = true) (SimG.pure true fun _ _ h => ⟨h, rfl⟩) fun ok => ?_
            refine SimG.assume (fun _ _ h => h.2) fun hok => ?_
            exact (cont ok fun hf => by rw [hok] at hf; cases hf).weaken (fun _ _ h => h.1) (fun _ _ _ h => h)
          | some i =>
            have hnc : ¬ Catches b1 t.line := fun hc => by have := hc.1; rw [hgd] at this; cases this
            simp only []
            cases T.lookaheads[i]? with
            | none => exact SimG.bind (SimG.throw _ fun _ _ h => h.1) fun ok => cont ok fun _ => hnc
            | some la =>
              exact SimG.bind ((indep_lookaheadPure D T.errorCap stop la).simR2 fs2) fun ok => cont ok fun _ => hnc

end Layout6
end GV
