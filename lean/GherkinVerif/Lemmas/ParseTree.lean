/-
  Lemmas/ParseTree.lean — from the builder calls of a parse to the token tree: `Spec.ttreeOf`
  rebuilds a `TTree` from a call sequence with a stack of open nodes (the token-level analogue of
  `Spec.treeOf`).  The rebuilt tree has exactly the given calls and the built tokens as leaves
  (`ttreeOf_flat`); it exists and projects to the kind tree whenever the kind-level events rebuild
  (`ttreeOf_kinds`); what the calls say after each `start_rule(r)` (`afterStart`) holds of the `r`
  nodes of the tree (`ttreeOf_nodes`: the calls are those of the tree, so by induction over the tree;
  `ttreeOf_opened` for the opening separator of a doc string, `ttreeOf_lineNodes` for nodes that hold
  only lines).  Table-independent.
-/
import GherkinVerif.Lemmas.NoCrash
import GherkinVerif.Lemmas.AstShape
namespace GV
namespace Spec

/-- the builder calls one branch makes for its token `t`: its productions in order -/
def prodOps (t : Token) : List Prod → List BOp
  | [] => []
  | .start r :: ps => .start r :: prodOps t ps
  | .end_ _ :: ps => .end_ :: prodOps t ps
  | .build :: ps => .build t :: prodOps t ps

def opToks : List BOp → List Token
  | [] => []
  | .build t :: ops => t :: opToks ops
  | .start _ :: ops => opToks ops
  | .end_ :: ops => opToks ops

/-- rebuild the token tree from a call sequence with a stack of open nodes (children in order);
    the token-level analogue of `treeOfAux` -/
def ttreeOfAux : List BOp → List (RuleType × List TTree) → Option TTree
  | [], _ => none
  | .start r :: es, stack => ttreeOfAux es ((r, []) :: stack)
  | .build t :: es, (r, cs) :: stack => ttreeOfAux es ((r, cs ++ [.leaf t]) :: stack)
  | .build _ :: _, [] => none
  | .end_ :: es, (r, cs) :: (p, ps) :: stack => ttreeOfAux es ((p, ps ++ [.node r cs]) :: stack)
  | .end_ :: es, [(r, cs)] => if es.isEmpty then some (.node r cs) else none
  | .end_ :: _, [] => none

/-- the token tree of a call sequence (`none` if not well bracketed into one root) -/
def ttreeOf (ops : List BOp) : Option TTree := ttreeOfAux ops []

/-- a builder call and the kind-level event it is seen as -/
inductive OpEv : BOp → Ev → Prop
  | start (r : RuleType) : OpEv (.start r) (.start r)
  | end_ (r : RuleType) : OpEv .end_ (.end_ r)
  | build (t : Token) (k : Kind) : t.mtype = some k → OpEv (.build t) (.build k)

inductive OpsEvs : List BOp → List Ev → Prop
  | nil : OpsEvs [] []
  | cons {o e os es} : OpEv o e → OpsEvs os es → OpsEvs (o :: os) (e :: es)

/-- a separator token as an OPENING `match_DocStringSeparator` leaves it -/
def openingSep (t : Token) : Prop := t.mtype = some .DocStringSeparator ∧ t.text.isSome = true

/-- after every `start_rule(r)` the remaining calls satisfy `Q` -/
def afterStart (r : RuleType) (Q : List BOp → Prop) : List BOp → Prop
  | [] => True
  | .start r' :: rest => (r' = r → Q rest) ∧ afterStart r Q rest
  | .build _ :: rest => afterStart r Q rest
  | .end_ :: rest => afterStart r Q rest

/-- every `start_rule(DocString)` is directly followed by the `build` of an opening separator -/
def adjOK : List BOp → Prop :=
  afterStart .DocString fun rest => ∃ t rest', rest = .build t :: rest' ∧ openingSep t

/-- in a call sequence every `start_rule(r)` is followed by the `build`s of tokens `bs` with `P bs`
    and then an `end_rule` -/
def lineOps (r : RuleType) (P : List Token → Prop) : List BOp → Prop :=
  afterStart r fun rest => ∃ (bs : List Token) (rest' : List BOp), rest = bs.map .build ++ .end_ :: rest' ∧ P bs

mutual
/-- the children of every node of rule type `r` satisfy `C` -/
def nodesP (r : RuleType) (C : List TTree → Prop) : TTree → Prop
  | .leaf _ => True
  | .node r' ch => (r' = r → C ch) ∧ nodesListP r C ch
def nodesListP (r : RuleType) (C : List TTree → Prop) : List TTree → Prop
  | [] => True
  | c :: cs => nodesP r C c ∧ nodesListP r C cs
end

/-- every `start r` in a production list is followed by exactly `build`, which ends the list -/
def startsLast (r : RuleType) : List Prod → Bool
  | [] => true
  | p :: rest => (p != .start r || rest == [.build]) && startsLast r rest

end Spec

namespace Lemmas
open Spec

theorem opsOfList_append (a b : List TTree) : opsOfList (a ++ b) = opsOfList a ++ opsOfList b := by
  induction a with
  | nil => rfl
  | cons c a ih => simp only [List.cons_append, opsOfList, ih, List.append_assoc]

theorem ttLeavesList_append (a b : List TTree) : leavesList (a ++ b) = leavesList a ++ leavesList b := by
  induction a with
  | nil => rfl
  | cons c a ih => simp only [List.cons_append, leavesList, ih, List.append_assoc]

theorem openedList_append (a b : List TTree) : openedList (a ++ b) = (openedList a && openedList b) := by
  induction a with
  | nil => simp [openedList]
  | cons c a ih => simp only [List.cons_append, openedList, ih, Bool.and_assoc]

theorem opToks_append (a b : List BOp) : opToks (a ++ b) = opToks a ++ opToks b := by
  induction a with
  | nil => rfl
  | cons o a ih => cases o <;> simp [opToks, ih]

theorem opToks_prodOps_mem (t : Token) (ps : List Prod) : ∀ x ∈ opToks (prodOps t ps), x = t := by
  induction ps with
  | nil => intro x hx; cases hx
  | cons p ps ih =>
    intro x hx
    cases p with
    | start r => exact ih x hx
    | end_ r => exact ih x hx
    | build =>
      simp only [prodOps, opToks, List.mem_cons] at hx
      rcases hx with rfl | hx
      · rfl
      · exact ih x hx

theorem OpsEvs.append {a b : List BOp} {x y : List Ev} (h1 : OpsEvs a x) (h2 : OpsEvs b y) :
    OpsEvs (a ++ b) (x ++ y) := by
  induction h1 with
  | nil => exact h2
  | cons h _ ih => exact .cons h ih

theorem opsEvs_prod (t : Token) (k : Kind) (hk : t.mtype = some k) (ps : List Prod) :
    OpsEvs (prodOps t ps) (prodEvents k ps) := by
  induction ps with
  | nil => exact .nil
  | cons p ps ih =>
    cases p with
    | start r => exact .cons (.start r) ih
    | end_ r => exact .cons (.end_ r) ih
    | build => exact .cons (.build t k hk) ih

theorem afterStart_append {r : RuleType} {Q : List BOp → Prop} (hQ : ∀ x y, Q x → Q (x ++ y)) {a b : List BOp}
    (ha : afterStart r Q a) (hb : afterStart r Q b) : afterStart r Q (a ++ b) := by
  induction a with
  | nil => exact hb
  | cons o a ih =>
    cases o with
    | start r' => exact ⟨fun hr => hQ _ _ (ha.1 hr), ih ha.2⟩
    | end_ => exact ih ha
    | build t => exact ih ha

theorem adjOK_append {a b : List BOp} (ha : adjOK a) (hb : adjOK b) : adjOK (a ++ b) :=
  afterStart_append (fun _ y ⟨t, rest', e, ht⟩ => ⟨t, rest' ++ y, by rw [e]; rfl, ht⟩) ha hb

/-- the calls that led to a stack of open nodes (outermost node last in the list) -/
def stackOps : List (RuleType × List TTree) → List BOp
  | [] => []
  | (r, cs) :: rest => stackOps rest ++ (.start r :: opsOfList cs)

def stackToks : List (RuleType × List TTree) → List Token
  | [] => []
  | (_, cs) :: rest => stackToks rest ++ leavesList cs

theorem ttreeOfAux_flat : ∀ (ops : List BOp) (stack : List (RuleType × List TTree)) (t : TTree),
    ttreeOfAux ops stack = some t →
      opsOf t = stackOps stack ++ ops ∧ leaves t = stackToks stack ++ opToks ops := by
  intro ops
  induction ops with
  | nil => intro stack t h; cases h
  | cons o ops ih =>
    intro stack t h
    cases o with
    | start r =>
      simp only [ttreeOfAux] at h
      obtain ⟨h1, h2⟩ := ih _ t h
      refine ⟨?_, ?_⟩
      · rw [h1]; simp [stackOps, opsOfList]
      · rw [h2]; simp [stackToks, leavesList, opToks]
    | build tk =>
      cases stack with
      | nil => simp [ttreeOfAux] at h
      | cons top rest =>
        obtain ⟨r, cs⟩ := top
        simp only [ttreeOfAux] at h
        obtain ⟨h1, h2⟩ := ih _ t h
        refine ⟨?_, ?_⟩
        · rw [h1]; simp [stackOps, opsOfList_append, opsOfList, opsOf]
        · rw [h2]; simp [stackToks, ttLeavesList_append, leavesList, leaves, opToks]
    | end_ =>
      cases stack with
      | nil => simp [ttreeOfAux] at h
      | cons top rest =>
        obtain ⟨r, cs⟩ := top
        cases rest with
        | nil =>
          simp only [ttreeOfAux] at h
          split at h
          · rename_i he
            cases h
            have : ops = [] := by simpa using he
            subst this
            exact ⟨by simp [stackOps, opsOf], by simp [stackToks, leaves, opToks]⟩
          · cases h
        | cons top2 rest2 =>
          obtain ⟨p, ps⟩ := top2
          simp only [ttreeOfAux] at h
          obtain ⟨h1, h2⟩ := ih _ t h
          refine ⟨?_, ?_⟩
          · rw [h1]; simp [stackOps, opsOfList_append, opsOfList, opsOf]
          · rw [h2]; simp [stackToks, ttLeavesList_append, leavesList, leaves, opToks]

theorem ttreeOf_flat (ops : List BOp) (t : TTree) (h : ttreeOf ops = some t) :
    opsOf t = ops ∧ leaves t = opToks ops := by
  have := ttreeOfAux_flat ops [] t h
  simpa [stackOps, stackToks] using this

def kstack (stack : List (RuleType × List TTree)) : List (RuleType × List Tree) :=
  stack.map fun p => (p.1, kindsList p.2)

theorem kindsList_append (a b : List TTree) : kindsList (a ++ b) = kindsList a ++ kindsList b := by
  rw [kindsList_eq_map, kindsList_eq_map, kindsList_eq_map, List.map_append]

theorem ttreeOfAux_kinds : ∀ (ops : List BOp) (evs : List Ev), OpsEvs ops evs →
    ∀ (stack : List (RuleType × List TTree)) (tk : Tree), treeOfAux evs (kstack stack) = some tk →
      ∃ t, ttreeOfAux ops stack = some t ∧ t.kinds = tk := by
  intro ops evs hoe
  induction hoe with
  | nil => intro stack tk h; cases h
  | @cons o e os es hoe _ ih =>
    intro stack tk h
    cases hoe with
    | start r =>
      simp only [treeOfAux] at h
      exact ih ((r, []) :: stack) tk h
    | end_ r' =>
      cases stack with
      | nil => simp [kstack, treeOfAux] at h
      | cons top rest =>
        obtain ⟨r, cs⟩ := top
        cases rest with
        | nil =>
          simp only [kstack, List.map_cons, List.map_nil, treeOfAux] at h
          split at h
          · rename_i he
            cases h
            have hes : es = [] := by simpa using he
            subst hes
            cases ‹OpsEvs os []›
            exact ⟨.node r cs, by simp [ttreeOfAux], by simp [TTree.kinds]⟩
          · cases h
        | cons top2 rest2 =>
          obtain ⟨p, ps⟩ := top2
          simp only [kstack, List.map_cons, treeOfAux] at h
          refine ih ((p, ps ++ [.node r cs]) :: rest2) tk ?_
          simpa [kstack, kindsList_append, kindsList, TTree.kinds] using h
    | build t k hk =>
      cases stack with
      | nil => simp [kstack, treeOfAux] at h
      | cons top rest =>
        obtain ⟨r, cs⟩ := top
        simp only [kstack, List.map_cons, treeOfAux] at h
        refine ih ((r, cs ++ [.leaf t]) :: rest) tk ?_
        simpa [kstack, kindsList_append, kindsList, TTree.kinds, hk] using h

theorem ttreeOf_kinds (ops : List BOp) (evs : List Ev) (h : OpsEvs ops evs) (tk : Tree)
    (ht : treeOf evs = some tk) : ∃ t, ttreeOf ops = some t ∧ t.kinds = tk :=
  ttreeOfAux_kinds ops evs h [] tk ht

mutual
/-- what follows each `start_rule(r)` in the calls of a tree are the calls of that node's children, its
    `end_rule`, and whatever comes after the node: so by induction over the TREE what the calls say
    after `start_rule(r)` holds of the children of every `r` node -/
theorem afterStart_nodes {r : RuleType} {Q : List BOp → Prop} : ∀ (t : TTree) (K : List BOp),
    afterStart r Q (opsOf t ++ K) →
      nodesP r (fun ch => ∃ K', Q (opsOfList ch ++ .end_ :: K')) t ∧ afterStart r Q K
  | .leaf _, _, h => ⟨trivial, h⟩
  | .node r' ch, K, h => by
    rw [opsOf, List.cons_append, List.append_assoc] at h
    obtain ⟨h1, h2⟩ := afterStart_nodesList ch _ h.2
    exact ⟨⟨fun hr => ⟨K, h.1 hr⟩, h1⟩, h2⟩
theorem afterStart_nodesList {r : RuleType} {Q : List BOp → Prop} : ∀ (ts : List TTree) (K : List BOp),
    afterStart r Q (opsOfList ts ++ K) →
      nodesListP r (fun ch => ∃ K', Q (opsOfList ch ++ .end_ :: K')) ts ∧ afterStart r Q K
  | [], _, h => ⟨trivial, h⟩
  | c :: cs, K, h => by
    rw [opsOfList, List.append_assoc] at h
    obtain ⟨h1, h2⟩ := afterStart_nodes c _ h
    obtain ⟨h3, h4⟩ := afterStart_nodesList cs K h2
    exact ⟨⟨h1, h3⟩, h4⟩
end

theorem ttreeOf_nodes {r : RuleType} {Q : List BOp → Prop} (ops : List BOp) (t : TTree)
    (h : afterStart r Q ops) (ht : ttreeOf ops = some t) :
    nodesP r (fun ch => ∃ K', Q (opsOfList ch ++ .end_ :: K')) t :=
  (afterStart_nodes t [] (by rw [List.append_nil, (ttreeOf_flat ops t ht).1]; exact h)).1

mutual
theorem opened_of_nodes : ∀ t : TTree,
    nodesP .DocString (fun ch => ∃ K', ∃ t rest', opsOfList ch ++ .end_ :: K' = .build t :: rest' ∧ openingSep t) t →
      opened t = true
  | .leaf _, _ => rfl
  | .node r ch, h => by
    rw [opened, openedList_of_nodes ch h.2, Bool.and_true]
    unfold nodeOpened
    by_cases hr : r = .DocString
    · obtain ⟨K', t, rest', he, hm, htx⟩ := h.1 hr
      match ch, he with
      | .leaf t' :: ch', he =>
        simp only [opsOfList, opsOf, List.cons_append, List.nil_append, List.cons.injEq, BOp.build.injEq] at he
        simp [childTokens, he.1, hm, htx]
    · cases r <;> first | exact absurd rfl hr | rfl
theorem openedList_of_nodes : ∀ ts : List TTree,
    nodesListP .DocString (fun ch => ∃ K', ∃ t rest', opsOfList ch ++ .end_ :: K' = .build t :: rest' ∧ openingSep t) ts →
      openedList ts = true
  | [], _ => rfl
  | c :: cs, h => by rw [openedList, opened_of_nodes c h.1, openedList_of_nodes cs h.2]; rfl
end

theorem ttreeOf_opened (ops : List BOp) (t : TTree) (hadj : adjOK ops) (h : ttreeOf ops = some t) :
    DocStringsOpened t :=
  opened_of_nodes t (ttreeOf_nodes ops t hadj h)

/-- `NP t` / `NLP ts` say: every node of rule type `r` in `t` / in `ts` has only lines as children, and
    their tokens satisfy `P`.  The two uses: `docNodesP P` / `docNodesListP P` for `DocString` nodes
    (`docNodes_lineNodes`, Lemmas/ParseDocTree.lean) and `descNodesP` / `descNodesListP` for
    `Description` nodes (`descNodes_lineNodes`, Lemmas/ParseElems.lean), each a pair of recursive
    definitions that unfolds to these four equations. -/
structure LineNodes (r : RuleType) (P : List Token → Prop) (NP : TTree → Prop) (NLP : List TTree → Prop) :
    Prop where
  leaf : ∀ t, NP (.leaf t)
  node : ∀ r' ch, NP (.node r' ch) ↔ (r' = r → ∃ bs : List Token, ch = bs.map .leaf ∧ P bs) ∧ NLP ch
  nil : NLP []
  cons : ∀ c cs, NLP (c :: cs) ↔ NP c ∧ NLP cs

theorem opsOfList_builds : ∀ (ch : List TTree) (bs : List Token) (K rest' : List BOp),
    opsOfList ch ++ .end_ :: K = bs.map .build ++ .end_ :: rest' → ch = bs.map .leaf
  | [], [], _, _, _ => rfl
  | [], b :: bs, _, _, h => by simp [opsOfList] at h
  | .leaf t :: ch, [], _, _, h => by simp [opsOfList, opsOf] at h
  | .node _ _ :: _, bs, _, _, h => by cases bs <;> simp [opsOfList, opsOf] at h
  | .leaf t :: ch, b :: bs, K, rest', h => by
    simp only [opsOfList, opsOf, List.cons_append, List.nil_append, List.map_cons, List.cons.injEq, BOp.build.injEq] at h
    rw [h.1, opsOfList_builds ch bs K rest' h.2]; rfl

section lineNodes
variable {r : RuleType} {P : List Token → Prop} {NP : TTree → Prop} {NLP : List TTree → Prop}
  (H : LineNodes r P NP NLP)
include H

theorem LineNodes.mem {cs : List TTree} (h : NLP cs) : ∀ c ∈ cs, NP c := by
  induction cs with
  | nil => intro c hc; cases hc
  | cons a cs ih =>
    intro c hc
    rcases List.mem_cons.1 hc with rfl | hc
    · exact ((H.cons _ _).1 h).1
    · exact ih ((H.cons _ _).1 h).2 c hc

mutual
theorem LineNodes.of_nodes : ∀ t : TTree,
    nodesP r (fun ch => ∃ K', ∃ (bs : List Token) (rest' : List BOp),
      opsOfList ch ++ .end_ :: K' = bs.map .build ++ .end_ :: rest' ∧ P bs) t → NP t
  | .leaf t, _ => H.leaf t
  | .node r' ch, h =>
    (H.node r' ch).2 ⟨fun hr => let ⟨_, bs, _, he, hp⟩ := h.1 hr; ⟨bs, opsOfList_builds ch bs _ _ he, hp⟩,
      LineNodes.of_nodesList ch h.2⟩
theorem LineNodes.of_nodesList : ∀ ts : List TTree,
    nodesListP r (fun ch => ∃ K', ∃ (bs : List Token) (rest' : List BOp),
      opsOfList ch ++ .end_ :: K' = bs.map .build ++ .end_ :: rest' ∧ P bs) ts → NLP ts
  | [], _ => H.nil
  | c :: cs, h => (H.cons c cs).2 ⟨LineNodes.of_nodes c h.1, LineNodes.of_nodesList cs h.2⟩
end

theorem ttreeOf_lineNodes (ops : List BOp) (t : TTree) (hdo : lineOps r P ops) (h : ttreeOf ops = some t) : NP t :=
  H.of_nodes t (ttreeOf_nodes ops t hdo h)

end lineNodes

theorem lineOps_append {r : RuleType} {P : List Token → Prop} {a b : List BOp} (ha : lineOps r P a)
    (hb : lineOps r P b) : lineOps r P (a ++ b) :=
  afterStart_append (fun _ y ⟨bs, rest', e, hp⟩ => ⟨bs, rest' ++ y, by rw [e]; simp, hp⟩) ha hb

theorem afterStart_prodOps {r : RuleType} {Q : List BOp → Prop} (tok : Token) (ps : List Prod) (X : List BOp)
    (hX : afterStart r Q X) (h : ∀ pre post, ps = pre ++ .start r :: post → Q (prodOps tok post ++ X)) :
    afterStart r Q (prodOps tok ps ++ X) := by
  induction ps with
  | nil => exact hX
  | cons p ps ih =>
    have ih' := ih fun pre post e => h (p :: pre) post (by rw [e]; rfl)
    cases p with
    | end_ r' => exact ih'
    | build => exact ih'
    | start r' => exact ⟨fun hr => h [] ps (by rw [hr]; rfl), ih'⟩

theorem startsLast_suffix {r : RuleType} : ∀ (pre post : List Prod),
    startsLast r (pre ++ .start r :: post) = true → post = [.build]
  | [], post, h => by
    simp only [List.nil_append, startsLast, Bool.and_eq_true, Bool.or_eq_true, bne_iff_ne, ne_eq, not_true_eq_false,
      false_or, beq_iff_eq] at h
    exact h.1
  | p :: pre, post, h => by
    simp only [List.cons_append, startsLast, Bool.and_eq_true] at h
    exact startsLast_suffix pre post h.2

theorem lineOps_prodOps {r : RuleType} {P : List Token → Prop} (tok : Token) (ps : List Prod) (X : List BOp)
    (hsl : startsLast r ps = true) (hX : lineOps r P X)
    (hdoc : Prod.start r ∈ ps →
      ∃ (bs : List Token) (rest' : List BOp), X = bs.map .build ++ .end_ :: rest' ∧ P (tok :: bs)) :
    lineOps r P (prodOps tok ps ++ X) :=
  afterStart_prodOps tok ps X hX fun pre post e => by
    obtain ⟨bs, rest', hXe, hseq⟩ := hdoc (by rw [e]; simp)
    rw [startsLast_suffix pre post (e ▸ hsl)]
    exact ⟨tok :: bs, rest', by simp [prodOps, hXe], hseq⟩

theorem lineOps_enclose {r : RuleType} {P : List Token → Prop} {r0 : RuleType} (h0 : r0 ≠ r) {ops : List BOp}
    (h : lineOps r P ops) : lineOps r P (.start r0 :: (ops ++ [.end_])) :=
  ⟨fun hr => absurd hr h0, lineOps_append h trivial⟩

end Lemmas
end GV
