/-
  Lemmas/RecoverDoc.lean — property C14, recovery at document level, facts about ONE run of the
  queue-free parse: the one-step lemma (a line that every test of the current state refuses
  records one error and changes nothing else), the main loop after a run of the prefix
  (`run_lines_of_prefix`), and what of a run the parser with the token queue shares with the
  queue-free parse.
-/
import GherkinVerif.Lemmas.LayoutDoc3
import GherkinVerif.Spec.RecoverChecks
namespace GV
namespace Recover
open Lemmas Spec Layout3

theorem matchLine_no (D : List Dialect) (k : Kind) (μ : MState) (t : Token) (l : Str)
    (h : (matchLine D k μ t l).res = .no) : matchLine D k μ t l = ⟨t, μ, .no⟩ := by
  cases k <;> simp only [matchLine] at h ⊢
  all_goals (repeat' split at h) <;> (try cases h) <;> first | rfl | exact if_neg ‹_›

/-- `lineNo := 0` is the token with which `Spec.noTestMatches` asks; the answer holds whatever the
    line number -/
theorem matchTok_no (D : List Dialect) (K : Kind) (μ : MState) (u : Str) (n : Nat)
    (h : resIsNo (matchTok D K μ { line := some u, lineNo := 0 }).1.res = true) :
    matchTok D K μ { line := some u, lineNo := n } = (⟨{ line := some u, lineNo := n }, μ, .no⟩, true) := by
  have h0 : (matchLine D K μ { line := some u, lineNo := 0 } u).res = .no := by
    change resIsNo (matchLine D K μ { line := some u, lineNo := 0 } u).res = true at h
    cases hr : (matchLine D K μ { line := some u, lineNo := 0 } u).res <;> rw [hr] at h <;> first | rfl | cases h
  show (matchLine D K μ (reNo n { line := some u, lineNo := 0 }) u, true) = _
  rw [matchLine_reNo, matchLine_no D K μ _ u h0]
  rfl

theorem tryBranchesPure_no {D : List Dialect} (T : Table) (stop : Bool) (row : StateRow) (u : Str) (n : Nat) :
    ∀ (bs : List Branch) (c : Ctx),
      (bs.all fun b => resIsNo (matchTok D b.kind c.μ { line := some u, lineNo := 0 }).1.res) = true →
      run (tryBranchesPure D T stop row bs { line := some u, lineNo := n }) c =
        run (tryBranchesPure D T stop row [] { line := some u, lineNo := n }) { c with calls := c.calls + bs.length } := by
  intro bs
  induction bs with
  | nil => intro c _; rfl
  | cons b bs ih =>
    intro c h
    rw [List.all_cons, Bool.and_eq_true] at h
    conv => lhs; unfold tryBranchesPure
    rw [prun_bind, run_matchP]
    simp only [matchTok_no D b.kind c.μ u n h.1, ↓reduceIte, Bool.false_eq_true]
    have ec : ({ c with μ := c.μ, calls := c.calls + 1 } : Ctx) = { c with calls := c.calls + 1 } := rfl
    rw [ec, ih { c with calls := c.calls + 1 } h.2]
    simp only [List.length_cons]
    have : c.calls + 1 + bs.length = c.calls + (bs.length + 1) := by omega
    rw [this]

theorem matchTokenPure_unexpected {D : List Dialect} (T : Table) (stop : Bool) (s : Nat) (u : Str) (n : Nat) (c : Ctx)
    (h : lineUnexpectedAt D T s c.μ u = true) :
    ∃ row, T.row? s = some row ∧ row.errTarget = s ∧
      run (matchTokenPure D T stop s { line := some u, lineNo := n }) c =
        run (tryBranchesPure D T stop row [] { line := some u, lineNo := n })
          { c with calls := c.calls + row.branches.length } := by
  unfold lineUnexpectedAt at h
  cases hrow : T.row? s with
  | none => rw [hrow] at h; cases h
  | some row =>
    rw [hrow] at h
    simp only [Bool.and_eq_true, beq_iff_eq] at h
    refine ⟨row, rfl, h.2, ?_⟩
    unfold matchTokenPure
    rw [hrow]
    exact tryBranchesPure_no T stop row u n row.branches c h.1

theorem unexpected_line_step {D : List Dialect} (T : Table) (s : Nat) (u : Str) (n : Nat) (c : Ctx)
    (h : lineUnexpectedAt D T s c.μ u = true) :
    ∃ row j, T.row? s = some row ∧
      run (matchTokenPure D T false s { line := some u, lineNo := n }) c =
        match run (addError T.errorCap (unexpectedErr row { line := some u, lineNo := n }))
            { c with calls := c.calls + j, unexpected := c.unexpected ++ [n] } with
        | (.ok _, c') => (.ok s, c')
        | (.error e, c') => (.error e, c') := by
  obtain ⟨row, hrow, herr, hrun⟩ := matchTokenPure_unexpected T false s u n c h
  refine ⟨row, row.branches.length, hrow, ?_⟩
  rw [hrun]
  unfold tryBranchesPure
  rw [prun_bind, run_modify]
  simp only [Bool.false_eq_true, ↓reduceIte]
  rw [prun_bind]
  rcases run (addError T.errorCap (unexpectedErr row { line := some u, lineNo := n })) _ with ⟨r, c'⟩
  cases r with
  | ok a => simp only [prun_pure, herr]
  | error e => rfl

theorem unexpected_line_step_stop {D : List Dialect} (T : Table) (s : Nat) (u : Str) (n : Nat) (c : Ctx)
    (h : lineUnexpectedAt D T s c.μ u = true) :
    ∃ row j, T.row? s = some row ∧
      run (matchTokenPure D T true s { line := some u, lineNo := n }) c =
        (.error (.single (unexpectedErr row { line := some u, lineNo := n })),
          { c with calls := c.calls + j, unexpected := c.unexpected ++ [n] }) := by
  obtain ⟨row, hrow, -, hrun⟩ := matchTokenPure_unexpected T true s u n c h
  refine ⟨row, row.branches.length, hrow, ?_⟩
  rw [hrun]
  unfold tryBranchesPure
  rw [prun_bind, run_modify]
  simp only [↓reduceIte, prun_throw]

theorem skippedError_eq {T : Table} {s : Nat} {row : StateRow} (h : T.row? s = some row) (k : Nat) (u : Str) :
    skippedError T s k u = unexpectedErr row { line := some u, lineNo := k + 1 } := by
  unfold skippedError
  rw [h]

theorem unexpectedErr_line (row : StateRow) (u : Str) (n : Nat) :
    (unexpectedErr row { line := some u, lineNo := n }).loc.line = n :=
  ((unexpectedErr_form row { line := some u, lineNo := n }).1 u rfl).2

theorem run_lines_of_prefix {D : List Dialect} {T : Table} {stop : Bool} {k s0 s : Nat} {c c' : Ctx}
    (hx : run (parsePrefixPure D T stop k s0) c = (.ok (s, false), c')) (n : Nat) :
    run (parseLinesPure D T stop (k + n) s0) c = run (parseLinesPure D T stop n s) c' := by
  rw [parseLinesPure_split, prun_bind, hx]
  rfl

/-- the final contexts of the parse without and with the unexpected line `k + 1`: the second has the
    error `e` at place `j` of the error list and the line at place `ju` of `unexpected` -/
structure CtxObsU (k j ju : Nat) (e : PErr) (c1 c2 : Ctx) : Prop where
  errors : c2.errors = insertErr k j e c1.errors
  μ : c2.μ = c1.μ
  ids : c2.ids = c1.ids
  unexpected : c2.unexpected = insertLine k ju c1.unexpected
  builds : c2.builds = c1.builds.map (renumber k)

/-- the fields of the final context that the statements of C14 speak of -/
def SameObs (c c' : Ctx) : Prop :=
  c'.errors = c.errors ∧ c'.μ = c.μ ∧ c'.ids = c.ids ∧ c'.unexpected = c.unexpected ∧ c'.builds = c.builds

theorem CtxObsU.of_sameObs {k j ju : Nat} {e : PErr} {c1 c2 c1' c2' : Ctx} (h : CtxObsU k j ju e c1 c2)
    (h1 : SameObs c1 c1') (h2 : SameObs c2 c2') : CtxObsU k j ju e c1' c2' := by
  obtain ⟨a1, a2, a3, a4, a5⟩ := h1
  obtain ⟨b1, b2, b3, b4, b5⟩ := h2
  exact ⟨by rw [a1, b1]; exact h.errors, by rw [a2, b2]; exact h.μ, by rw [a3, b3]; exact h.ids,
    by rw [a4, b4]; exact h.unexpected, by rw [a5, b5]; exact h.builds⟩

theorem parseWith_sameObs {D : List Dialect} {T : Table} (hQD : queueDialectFacts D = true)
    (hQT : queueFacts T = true) (hCB : commentBlankTested T = true) (stop : Bool) (μ : MState) (ids : Nat)
    (src : Str) (hμ : (μ.reset D).dialect ∈ D) :
    (parseWith D T stop μ ids src).1 = (parseWithPure D T stop μ ids src).1 ∧
    SameObs (parseWithPure D T stop μ ids src).2 (parseWith D T stop μ ids src).2 := by
  obtain ⟨o, b, u, -, e, m, i, -⟩ := observe_fields (queue_refines_peek D T hQD hQT hCB stop μ ids src hμ)
  exact ⟨o, e, m, i, u, b⟩

end Recover
end GV
