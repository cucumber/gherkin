/-
  Running the parser glue (Model/Parser.lean): `run` equations for the monad stack, Hoare triples
  with a normal and an abort postcondition, and for each primitive operation its run equation and
  the lemma that lists what a run of it can be (`addError_cases`, `matchP_cases`, `readToken_cases`,
  `lookaheadLoop_step`).
-/
import GherkinVerif.Model.Stream
import GherkinVerif.Spec.TableFacts
import GherkinVerif.Lemmas.MatchLine
namespace GV
namespace Lemmas

def run {α} (m : PM α) (c : Ctx) : Except Abort α × Ctx := m.run.run c

-- `prun_`: the names `run_pure`, `run_bind`, `run_throw` belong to the builder monad (Lemmas/Builder.lean)
theorem prun_pure {α} (a : α) (c : Ctx) : run (pure a : PM α) c = (.ok a, c) := rfl
theorem prun_bind {α β} (m : PM α) (f : α → PM β) (c : Ctx) :
    run (m >>= f) c = match run m c with
      | (.ok a, c') => run (f a) c'
      | (.error e, c') => (.error e, c') := by
  simp only [run, bind, ExceptT.bind, ExceptT.mk, ExceptT.run, ExceptT.bindCont, StateT.bind, StateT.run]
  rcases h : m c with ⟨r, c'⟩
  cases r <;> rfl
theorem run_get (c : Ctx) : run (get : PM Ctx) c = (.ok c, c) := rfl
theorem run_set (c' c : Ctx) : run (set c' : PM PUnit) c = (.ok ⟨⟩, c') := rfl
theorem run_modify (f : Ctx → Ctx) (c : Ctx) : run (modify f : PM PUnit) c = (.ok ⟨⟩, f c) := rfl
theorem prun_throw {α} (e : Abort) (c : Ctx) : run (throw e : PM α) c = (.error e, c) := rfl

/-- Hoare triple with a normal and an abort postcondition -/
def Triple {α} (P : Ctx → Prop) (m : PM α) (Q : α → Ctx → Prop) (E : Abort → Ctx → Prop) : Prop :=
  ∀ c, P c → (∀ a c', run m c = (.ok a, c') → Q a c') ∧ (∀ e c', run m c = (.error e, c') → E e c')

theorem Triple.pure {α} {P : Ctx → Prop} {Q : α → Ctx → Prop} {E} (a : α) (h : ∀ c, P c → Q a c) :
    Triple P (pure a : PM α) Q E := by
  intro c hc
  refine ⟨fun a' c' hr => ?_, fun e c' hr => ?_⟩
  · rw [prun_pure] at hr; cases hr; exact h _ hc
  · rw [prun_pure] at hr; cases hr

theorem Triple.throw {α} {P : Ctx → Prop} {Q : α → Ctx → Prop} {E} (e : Abort) (h : ∀ c, P c → E e c) :
    Triple P (throw e : PM α) Q E := by
  intro c hc
  refine ⟨fun a' c' hr => ?_, fun e c' hr => ?_⟩
  · rw [prun_throw] at hr; cases hr
  · rw [prun_throw] at hr; cases hr; exact h _ hc

theorem Triple.bind {α β} {P : Ctx → Prop} {m : PM α} {Q : α → Ctx → Prop} {E} {f : α → PM β}
    {R : β → Ctx → Prop} (h1 : Triple P m Q E) (h2 : ∀ a, Triple (Q a) (f a) R E) :
    Triple P (m >>= f) R E := by
  intro c hc
  have h1' := h1 c hc
  rw [prun_bind]
  rcases hr : run m c with ⟨r, c1⟩
  cases r with
  | error e =>
    refine ⟨fun a' c' hr' => ?_, fun e' c' hr' => ?_⟩
    · cases hr'
    · cases hr'; exact h1'.2 _ _ hr
  | ok a => exact h2 a c1 (h1'.1 _ _ hr)

theorem Triple.get {P : Ctx → Prop} {E} : Triple P (get : PM Ctx) (fun a c => a = c ∧ P c) E := by
  intro c hc
  refine ⟨fun a' c' hr => ?_, fun e c' hr => ?_⟩
  · rw [run_get] at hr; cases hr; exact ⟨rfl, hc⟩
  · rw [run_get] at hr; cases hr

theorem Triple.modify {P : Ctx → Prop} {Q : PUnit → Ctx → Prop} {E} (f : Ctx → Ctx) (h : ∀ c, P c → Q ⟨⟩ (f c)) :
    Triple P (modify f : PM PUnit) Q E := by
  intro c hc
  refine ⟨fun a' c' hr => ?_, fun e c' hr => ?_⟩
  · rw [run_modify] at hr; cases hr; exact h _ hc
  · rw [run_modify] at hr; cases hr

theorem Triple.conseq {α} {P P' : Ctx → Prop} {m : PM α} {Q Q' : α → Ctx → Prop} {E E'}
    (h : Triple P m Q E) (hp : ∀ c, P' c → P c) (hq : ∀ a c, Q a c → Q' a c) (he : ∀ e c, E e c → E' e c) :
    Triple P' m Q' E' := fun c hc =>
  ⟨fun a c' hr => hq _ _ ((h c (hp c hc)).1 a c' hr), fun e c' hr => he _ _ ((h c (hp c hc)).2 e c' hr)⟩

theorem Triple.and {α} {P P' : Ctx → Prop} {m : PM α} {Q Q' : α → Ctx → Prop} {E E'}
    (h : Triple P m Q E) (h' : Triple P' m Q' E') :
    Triple (fun c => P c ∧ P' c) m (fun a c => Q a c ∧ Q' a c) (fun e c => E e c ∧ E' e c) := fun c hc =>
  ⟨fun a c' hr => ⟨(h c hc.1).1 a c' hr, (h' c hc.2).1 a c' hr⟩,
   fun e c' hr => ⟨(h c hc.1).2 e c' hr, (h' c hc.2).2 e c' hr⟩⟩

theorem Triple.ite {α} {P : Ctx → Prop} {Q : α → Ctx → Prop} {E} {b : Prop} [Decidable b] {m1 m2 : PM α}
    (h1 : b → Triple P m1 Q E) (h2 : ¬ b → Triple P m2 Q E) : Triple P (if b then m1 else m2) Q E := by
  split
  · exact h1 ‹_›
  · exact h2 ‹_›

theorem Triple.assume {α} {φ : Prop} {P : Ctx → Prop} {m : PM α} {Q : α → Ctx → Prop} {E}
    (h : φ → Triple P m Q E) : Triple (fun c => φ ∧ P c) m Q E := fun c hc => h hc.1 c hc.2

theorem Triple.frame {α} {φ : Prop} {P : Ctx → Prop} {m : PM α} {Q : α → Ctx → Prop} {E}
    (h : Triple P m Q E) : Triple (fun c => φ ∧ P c) m (fun a c => φ ∧ Q a c) E :=
  Triple.assume fun hφ => Triple.conseq h (fun _ hc => hc) (fun _ _ hq => ⟨hφ, hq⟩) fun _ _ he => he

theorem Triple.intro {α} {P : Ctx → Prop} {m : PM α} {Q : α → Ctx → Prop} {E}
    (h : ∀ c r c', P c → run m c = (r, c') → match r with | .ok a => Q a c' | .error e => E e c') :
    Triple P m Q E := fun c hc =>
  ⟨fun a c' hr => h c (.ok a) c' hc hr, fun e c' hr => h c (.error e) c' hc hr⟩

/-- In a declaration named `Triple.…` the bare names `throw`, `pure`, `parseLoop`, … mean
    `Triple.throw` etc.; hence the qualified spellings here and below. -/
theorem Triple.elim {α} {P : Ctx → Prop} {m : PM α} {Q : α → Ctx → Prop} {E} (h : Triple P m Q E)
    {c : Ctx} {r : Except Abort α} {c' : Ctx} (hc : P c) (hr : Lemmas.run m c = (r, c')) :
    match r with | .ok a => Q a c' | .error e => E e c' := by
  cases r with
  | ok a => exact (h c hc).1 a c' hr
  | error e => exact (h c hc).2 e c' hr

theorem Triple.throw_bind {α β} {P : Ctx → Prop} {Q : β → Ctx → Prop} {E} (e : Abort) (f : α → PM β)
    (h : ∀ c, P c → E e c) : Triple P ((MonadExcept.throw e : PM α) >>= f) Q E :=
  Triple.bind (Q := fun _ _ => False) (Triple.throw e h) fun _ _ hf => hf.elim

theorem Triple.pre_fact {α} {P P' : Ctx → Prop} {m : PM α} {Q : α → Ctx → Prop} {E} {φ : Prop}
    (hφ : ∀ c, P c → φ ∧ P' c) (h : φ → Triple P' m Q E) : Triple P m Q E :=
  fun c hc => Triple.assume h c (hφ c hc)

theorem Triple.pre {α} {P P' : Ctx → Prop} {m : PM α} {Q : α → Ctx → Prop} {E}
    (h : Triple P m Q E) (hp : ∀ c, P' c → P c) : Triple P' m Q E := fun c hc => h c (hp c hc)

theorem Triple.post {α} {P : Ctx → Prop} {m : PM α} {Q Q' : α → Ctx → Prop} {E}
    (h : Triple P m Q E) (hq : ∀ a c, Q a c → Q' a c) : Triple P m Q' E :=
  Triple.conseq h (fun _ hc => hc) hq fun _ _ he => he

theorem Triple.with_fact {α} {P : Ctx → Prop} {m : PM α} {Q : α → Ctx → Prop} {E} {F : α → Prop}
    (h : Triple P m Q E) (hf : ∀ c a c', run m c = (.ok a, c') → F a) :
    Triple P m (fun a c => Q a c ∧ F a) E :=
  fun c hc => ⟨fun a c' hr => ⟨(h c hc).1 a c' hr, hf c a c' hr⟩, (h c hc).2⟩

theorem Triple.pure_bind {α β} {P : Ctx → Prop} {a : α} {f : α → PM β} {Q : β → Ctx → Prop} {E}
    (h : Triple P (f a) Q E) : Triple P (Pure.pure a >>= f) Q E := fun c hc => by
  rw [prun_bind, prun_pure]; exact h c hc

theorem run_readToken (c : Ctx) : run readToken c =
    match c.queue with
    | t :: q => (.ok t, { c with queue := q })
    | [] => match c.lines with
      | l :: ls => (.ok { line := some l, lineNo := c.lineNo + 1 }, { c with lines := ls, lineNo := c.lineNo + 1 })
      | [] => (.ok { line := none, lineNo := c.lineNo + 1 }, { c with lineNo := c.lineNo + 1 }) := by
  unfold readToken
  simp only [prun_bind, run_get]
  cases c.queue with
  | cons t q => simp only [prun_bind, run_set, prun_pure]
  | nil => cases c.lines <;> simp only [prun_bind, run_set, prun_pure]

theorem run_addError (cap : Nat) (e : PErr) (c : Ctx) : run (addError cap e) c =
    if c.errors.any (fun e' => e'.message == e.message) then (.ok (), c)
    else if (c.errors ++ [e]).length > cap then
      (.error (.composite (c.errors ++ [e])), { c with errors := c.errors ++ [e] })
    else (.ok (), { c with errors := c.errors ++ [e] }) := by
  unfold addError
  simp only [prun_bind, run_get]
  split
  · rfl
  · simp only [prun_bind, run_set]
    split <;> rfl

theorem run_matchP (D : List Dialect) (cap : Nat) (stop : Bool) (k : Kind) (t : Token) (c : Ctx) :
    run (matchP D cap stop k t) c =
      let out := (matchTok D k c.μ t).1
      let c1 : Ctx := { c with μ := out.μ, calls := c.calls + (if (matchTok D k c.μ t).2 then 1 else 0) }
      match out.res with
      | .matched => (.ok (true, out.tok), c1)
      | .no => (.ok (false, out.tok), c1)
      | .raised e =>
        if stop then (.error (.single e), c1)
        else match run (addError cap e) c1 with
          | (.ok _, c2) => (.ok (false, out.tok), c2)
          | (.error e, c2) => (.error e, c2) := by
  unfold matchP
  simp only [prun_bind, run_get, run_set]
  cases h : (matchTok D k c.μ t).1.res with
  | matched => simp only [prun_pure]
  | no => simp only [prun_pure]
  | raised e =>
    cases stop
    · simp only [prun_bind, Bool.false_eq_true, if_false]
      rcases run (addError cap e) _ with ⟨r, c2⟩
      cases r <;> simp [prun_pure]
    · simp [prun_throw]

theorem run_liftB (cap : Nat) (stop : Bool) (r : Except BErr Unit) (c : Ctx) :
    run (liftB cap stop r) c = match r with
      | .ok () => (.ok (), c)
      | .error (.crash w) => (.error (.crash w), c)
      | .error (.ast e) => if stop then (.error (.single e), c) else run (addError cap e) c := by
  unfold liftB
  split
  · rfl
  · rfl
  · cases stop <;> simp [prun_throw]

theorem run_runProd (cap : Nat) (stop : Bool) (t : Token) (p : Prod) (c : Ctx) :
    run (runProd cap stop t p) c = match p with
      | .start r => (.ok (), { c with β := c.β.startRule r })
      | .end_ _ => run (liftB cap stop (c.β.endRule c.ids).1)
          { c with β := (c.β.endRule c.ids).2.1, ids := (c.β.endRule c.ids).2.2 }
      | .build => match c.β.build t with
        | .ok β' => (.ok (), { c with β := β', builds := c.builds ++ [t] })
        | .error e => run (liftB cap stop (.error e)) c := by
  unfold runProd
  simp only [prun_bind, run_get]
  cases p with
  | start r => simp only [run_set]
  | end_ r => simp only [prun_bind, run_set]
  | build =>
    simp only []
    cases c.β.build t <;> simp only [run_set]

theorem addError_cases {cap : Nat} {e : PErr} {c : Ctx} {r : Except Abort Unit} {c' : Ctx}
    (h : run (addError cap e) c = (r, c')) :
    (c' = c ∧ r = .ok () ∧ ∃ e' ∈ c.errors, e'.message = e.message) ∨
    (c' = { c with errors := c.errors ++ [e] } ∧ (∀ e' ∈ c.errors, e'.message ≠ e.message) ∧
      (r = .ok () ∧ c.errors.length + 1 ≤ cap ∨
       r = .error (.composite (c.errors ++ [e])) ∧ cap < c.errors.length + 1)) := by
  rw [run_addError] at h
  split at h
  · rename_i hany
    cases h
    obtain ⟨e', he', hm⟩ := List.any_eq_true.1 hany
    exact .inl ⟨rfl, rfl, e', he', by simpa using hm⟩
  · rename_i hany
    have hne : ∀ e' ∈ c.errors, e'.message ≠ e.message := fun e' he' hm =>
      hany (List.any_eq_true.2 ⟨e', he', by simp [hm]⟩)
    rw [List.length_append, List.length_singleton] at h
    split at h
    · rename_i hlen
      cases h; exact .inr ⟨rfl, hne, .inr ⟨rfl, hlen⟩⟩
    · rename_i hlen
      cases h; exact .inr ⟨rfl, hne, .inl ⟨rfl, Nat.le_of_not_gt hlen⟩⟩

theorem matchP_cases {D : List Dialect} {cap : Nat} {stop : Bool} {k : Kind} {t : Token} {c : Ctx}
    {r : Except Abort (Bool × Token)} {c' : Ctx} (h : run (matchP D cap stop k t) c = (r, c')) :
    ∃ c1 : Ctx, c1 = { c with μ := (matchTok D k c.μ t).1.μ,
                              calls := c.calls + if (matchTok D k c.μ t).2 then 1 else 0 } ∧
    ((∃ m, ((matchTok D k c.μ t).1.res = .matched ∧ m = true ∨ (matchTok D k c.μ t).1.res = .no ∧ m = false) ∧
        r = .ok (m, (matchTok D k c.μ t).1.tok) ∧ c' = c1) ∨
     ∃ e, (matchTok D k c.μ t).1.res = .raised e ∧
      (stop = true ∧ r = .error (.single e) ∧ c' = c1 ∨
       stop = false ∧ ∃ r2, run (addError cap e) c1 = (r2, c') ∧
        r = r2.map fun _ => (false, (matchTok D k c.μ t).1.tok))) := by
  refine ⟨_, rfl, ?_⟩
  rw [run_matchP] at h
  dsimp only at h
  split at h
  · rename_i hres
    cases h; exact .inl ⟨true, .inl ⟨hres, rfl⟩, rfl, rfl⟩
  · rename_i hres
    cases h; exact .inl ⟨false, .inr ⟨hres, rfl⟩, rfl, rfl⟩
  · rename_i e hres
    refine .inr ⟨e, hres, ?_⟩
    cases stop
    · rw [if_neg Bool.false_ne_true] at h
      rcases hr : run (addError cap e) _ with ⟨r2, c2⟩
      rw [hr] at h
      cases r2 <;> (cases h; exact .inr ⟨rfl, _, rfl, rfl⟩)
    · rw [if_pos rfl] at h
      cases h; exact .inl ⟨rfl, rfl, rfl⟩

theorem matchP_state {D : List Dialect} {cap : Nat} {stop : Bool} {k : Kind} {t : Token} {c : Ctx}
    {r : Except Abort (Bool × Token)} {c' : Ctx} (h : run (matchP D cap stop k t) c = (r, c')) :
    ∃ es, c' = { c with μ := (matchTok D k c.μ t).1.μ,
                        calls := c.calls + (if (matchTok D k c.μ t).2 then 1 else 0), errors := es } := by
  obtain ⟨c1, rfl, ⟨m, -, -, rfl⟩ | ⟨e, -, ⟨-, -, rfl⟩ | ⟨-, r2, h2, -⟩⟩⟩ := matchP_cases h
  · exact ⟨_, rfl⟩
  · exact ⟨_, rfl⟩
  · rcases addError_cases h2 with ⟨rfl, -⟩ | ⟨rfl, -⟩ <;> exact ⟨_, rfl⟩

theorem readToken_cases (c : Ctx) : ∃ t c', run readToken c = (.ok t, c') ∧
    ((∃ q, c.queue = t :: q ∧ c' = { c with queue := q }) ∨
     (c.queue = [] ∧ t = { line := c.lines.head?, lineNo := c.lineNo + 1 } ∧
      c' = { c with lines := c.lines.tail, lineNo := c.lineNo + 1 })) := by
  rw [run_readToken]
  split
  · rename_i t q hq
    exact ⟨_, _, rfl, .inl ⟨q, hq, rfl⟩⟩
  · rename_i hq
    split
    · rename_i l ls hl
      refine ⟨_, _, rfl, .inr ⟨hq, ?_, ?_⟩⟩
      · rw [hl]; rfl
      · rw [hl]; rfl
    · rename_i hl
      refine ⟨_, _, rfl, .inr ⟨hq, ?_, ?_⟩⟩
      · rw [hl]; rfl
      · rw [hl]; rfl

theorem readToken_eq {c : Ctx} {t : Token} {c1 : Ctx} (h : run readToken c = (.ok t, c1)) :
    (∃ q, c.queue = t :: q ∧ c1 = { c with queue := q }) ∨
    (c.queue = [] ∧ t = { line := c.lines.head?, lineNo := c.lineNo + 1 } ∧
      c1 = { c with lines := c.lines.tail, lineNo := c.lineNo + 1 }) := by
  obtain ⟨t', c1', h', hc⟩ := readToken_cases c
  rw [h] at h'
  cases h'
  exact hc

theorem readToken_ok (c : Ctx) : ∃ t c', run readToken c = (.ok t, c') := by
  rw [run_readToken]
  split
  · exact ⟨_, _, rfl⟩
  · split <;> exact ⟨_, _, rfl⟩

theorem build_error (β : BState) (t : Token) (e : BErr) (h : β.build t = .error e) : ∃ w, e = .crash w := by
  unfold BState.build at h
  split at h
  · split at h <;> cases h; exact ⟨_, rfl⟩
  · split at h <;> cases h; exact ⟨_, rfl⟩
  · cases h; exact ⟨_, rfl⟩

theorem result_not_ast (β : BState) (e : PErr) : β.result ≠ .error (.ast e) := by
  unfold BState.result
  intro h
  split at h
  · split at h <;> cases h
  · cases h

theorem run_lookahead (D : List Dialect) (cap : Nat) (stop : Bool) (la : LookAhead) (c : Ctx) :
    run (lookahead D cap stop la) c =
      match run (lookaheadLoop D cap stop la (c.queue.length + c.lines.length + 2) []) c with
      | (.ok (m, read), c1) => (.ok m, { c1 with queue := c1.queue ++ read })
      | (.error e, c1) => (.error e, c1) := by
  rw [lookahead, prun_bind, run_get]
  dsimp only
  rw [prun_bind]
  rcases run (lookaheadLoop D cap stop la (c.queue.length + c.lines.length + 2) []) c with ⟨r, c1⟩
  cases r <;> rfl

theorem lookaheadLoop_step {D : List Dialect} {cap : Nat} {stop : Bool} {la : LookAhead} {fuel : Nat}
    {acc : List Token} {c : Ctx} {r : Except Abort (Bool × List Token)} {c' : Ctx}
    (h : run (lookaheadLoop D cap stop la (fuel + 1) acc) c = (r, c')) :
    ∃ t c1 r1 c2, run readToken c = (.ok t, c1) ∧ run (matchAny D cap stop la.expected t) c1 = (r1, c2) ∧
      ((∃ e, r1 = .error e ∧ r = .error e ∧ c' = c2) ∨
       (∃ t1, r1 = .ok (true, t1) ∧ r = .ok (true, acc ++ [t1]) ∧ c' = c2) ∨
       ∃ t1 r2 c3, r1 = .ok (false, t1) ∧ run (matchAny D cap stop la.skip t1) c2 = (r2, c3) ∧
        ((∃ e, r2 = .error e ∧ r = .error e ∧ c' = c3) ∨
         (∃ t2, r2 = .ok (false, t2) ∧ r = .ok (false, acc ++ [t2]) ∧ c' = c3) ∨
         ∃ t2, r2 = .ok (true, t2) ∧ run (lookaheadLoop D cap stop la fuel (acc ++ [t2])) c3 = (r, c'))) := by
  rw [lookaheadLoop, prun_bind] at h
  obtain ⟨t, c1, hr0, -⟩ := readToken_cases c
  rw [hr0] at h
  dsimp only at h
  rw [prun_bind] at h
  rcases hr1 : run (matchAny D cap stop la.expected t) c1 with ⟨r1, c2⟩
  rw [hr1] at h
  refine ⟨t, c1, r1, c2, hr0, hr1, ?_⟩
  cases r1 with
  | error e => cases h; exact .inl ⟨e, rfl, rfl, rfl⟩
  | ok a =>
    obtain ⟨m1, t1⟩ := a
    cases m1 with
    | true => cases h; exact .inr (.inl ⟨t1, rfl, rfl, rfl⟩)
    | false =>
      dsimp only at h
      rw [if_neg Bool.false_ne_true, prun_bind] at h
      rcases hr2 : run (matchAny D cap stop la.skip t1) c2 with ⟨r2, c3⟩
      rw [hr2] at h
      refine .inr (.inr ⟨t1, r2, c3, rfl, hr2, ?_⟩)
      cases r2 with
      | error e => cases h; exact .inl ⟨e, rfl, rfl, rfl⟩
      | ok a =>
        obtain ⟨s, t2⟩ := a
        cases s with
        | true => exact .inr (.inr ⟨t2, rfl, h⟩)
        | false => cases h; exact .inr (.inl ⟨t2, rfl, rfl, rfl⟩)

def Inv {α} (P : Ctx → Prop) (E : Abort → Ctx → Prop) (m : PM α) : Prop := Triple P m (fun _ => P) E

theorem Inv.bind {α β} {P : Ctx → Prop} {E} {m : PM α} {f : α → PM β}
    (h1 : Inv P E m) (h2 : ∀ a, Inv P E (f a)) : Inv P E (m >>= f) := Triple.bind h1 h2

theorem Inv.pure {α} {P : Ctx → Prop} {E} (a : α) : Inv P E (pure a : PM α) := Triple.pure a fun _ h => h

theorem Inv.of_run {α} {P : Ctx → Prop} {m : PM α} (h : ∀ c r c', run m c = (r, c') → P c → P c') :
    Inv P (fun _ => P) m :=
  Triple.intro fun c r c' hc hr => by cases r <;> exact h c _ c' hr hc

/-- an invariant of a guard, with a fact `F` that is only needed when the guard holds -/
theorem Inv.guard {P : Ctx → Prop} {E} {m : PM Bool} (h : Inv P E m) (F : Prop) :
    Triple (fun c => P c ∧ F) m (fun ok c => bif ok then P c ∧ F else P c) E :=
  Triple.pre_fact (fun c hc => ⟨hc.2, hc.1⟩) fun hF => h.post fun ok c hc => by
    cases ok
    · exact hc
    · exact ⟨hc, hF⟩

theorem Inv.either {P : Ctx → Prop} {E} {m : PM Bool} (h : Inv P E m) :
    Triple P m (fun ok c => bif ok then P c else P c) E := h.post fun ok c hc => by cases ok <;> exact hc

end Lemmas
end GV
