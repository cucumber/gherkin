/-
  Lemmas/ParseLocs.lean — property C04 at document level: every location in the AST of an accepted
  document is the location of the physical line — resp. of the tag in that line — it was built
  from; every comment sits at column 1 of its line with the whole line as text.

  The element locations are those of the elements (`srcLocs_eq_map`), which are read off the
  physical lines (`fields_in_document` of Lemmas/ParseElems.lean).  The comments:
  `d.comments = commentsOf t` (`LinkTree.ast_facts`); the comments of a tree come from its leaves
  (`commentsOf_eq`); the leaves are the built tokens, each the matcher's output on its own line
  (`Accepted.leaf_cases`); `comment_col` of Lemmas/Locations.lean (property C04).
-/
import GherkinVerif.Lemmas.ParseElems
namespace GV
namespace Spec

/-- `loc` is the location of an element carried by the physical line `l`, the `n`-th line of the
    document, read under the dialect `dl`:
    * a Feature / Rule / Background / Scenario / Examples line: column `indent + 1`, where the line
      reads one of the dialect's keywords for that role followed by `:`;
    * a step line: column `indent + 1`, where the line reads a step keyword of the dialect;
    * a table row: column `indent + 1`, where the leading `|` is;
    * a doc-string separator: column `indent + 1`, where the delimiter (`"""` or three backticks) is;
    * a tag: some column at or after `indent + 1` of a line whose first non-blank code point is `@`,
      holding an `@`. -/
inductive ElemAt (dl : Dialect) (l : Str) (n : Nat) : Loc → Prop
  | title (K : Kind) (kw : Str) : K.isTitle = true → kw ∈ dl.roleKeywords K →
      startsWith (kw ++ [58]) (l.drop (lineIndent l)) = true → ElemAt dl l n ⟨n, some (lineIndent l + 1)⟩
  | step (kw : Str) : kw ∈ dl.stepKeywords → startsWith kw (l.drop (lineIndent l)) = true →
      ElemAt dl l n ⟨n, some (lineIndent l + 1)⟩
  | row : startsWith [124] (l.drop (lineIndent l)) = true → ElemAt dl l n ⟨n, some (lineIndent l + 1)⟩
  | docsep (sep : Str) : sep = dq3 ∨ sep = bt3 → startsWith sep (l.drop (lineIndent l)) = true →
      ElemAt dl l n ⟨n, some (lineIndent l + 1)⟩
  | tag (c : Nat) : lineStartsWith l [64] = true → lineIndent l + 1 ≤ c → l[c - 1]? = some 64 →
      ElemAt dl l n ⟨n, some c⟩

/-- `loc` is a position inside the document: line `i + 1` for a physical line `i`, and a column
    after that line's indentation and within the line -/
def LocOK (lines : List Str) (loc : Loc) : Prop :=
  ∃ (i : Nat) (l : Str) (c : Nat), lines[i]? = some l ∧ loc = ⟨i + 1, some c⟩ ∧ lineIndent l + 1 ≤ c ∧ c ≤ l.length

end Spec

namespace Lemmas
open Spec

theorem startsWith_drop_lt {p l : Str} {k : Nat} (h : startsWith p (l.drop k) = true) (hp : p ≠ []) :
    k < l.length := by
  cases p with
  | nil => exact absurd rfl hp
  | cons a p =>
    cases hd : l.drop k with
    | nil => rw [hd] at h; simp [startsWith] at h
    | cons b x =>
      have : ¬ l.length ≤ k := fun hle => by rw [List.drop_eq_nil_iff.2 hle] at hd; cases hd
      omega

theorem ElemAt.bounds {dl : Dialect} {l : Str} {n : Nat} {loc : Loc} (h : ElemAt dl l n loc)
    (hne : ∀ kw ∈ dl.stepKeywords, kw ≠ []) :
    ∃ c, loc = ⟨n, some c⟩ ∧ lineIndent l + 1 ≤ c ∧ c ≤ l.length := by
  cases h with
  | title K kw _ _ hst => exact ⟨_, rfl, Nat.le_refl _, startsWith_drop_lt hst (by simp)⟩
  | step kw hkw hst => exact ⟨_, rfl, Nat.le_refl _, startsWith_drop_lt hst (hne kw hkw)⟩
  | row hst => exact ⟨_, rfl, Nat.le_refl _, startsWith_drop_lt hst (by simp)⟩
  | docsep sep hs hst =>
    refine ⟨_, rfl, Nat.le_refl _, startsWith_drop_lt hst ?_⟩
    rcases hs with rfl | rfl <;> decide
  | tag c _ h1 h2 =>
    refine ⟨c, rfl, h1, ?_⟩
    have : c - 1 < l.length := by
      cases hl : l[c - 1]? with
      | none => rw [hl] at h2; cases h2
      | some x => exact (List.getElem?_eq_some_iff.1 hl).1
    omega

mutual
theorem elemLocs_sub : ∀ (t : TTree) (loc : Loc), loc ∈ elemLocs t → ∃ tk ∈ leaves t, loc ∈ leafLocs tk
  | .leaf tk, loc, h => ⟨tk, by simp [leaves], by simpa [elemLocs] using h⟩
  | .node r ch, loc, h => by
    have h' : loc ∈ elemLocsList ch := by
      simp only [elemLocs] at h
      split at h
      · cases hh : elemLocsList ch with
        | nil => rw [hh] at h; simp at h
        | cons a as =>
          rw [hh] at h
          simp only [List.head?_cons, Option.toList_some, List.mem_singleton] at h
          rw [h]; exact List.mem_cons_self ..
      · exact h
    exact elemLocsList_sub ch loc h'
theorem elemLocsList_sub : ∀ (ts : List TTree) (loc : Loc), loc ∈ elemLocsList ts →
    ∃ tk ∈ leavesList ts, loc ∈ leafLocs tk
  | [], loc, h => by simp [elemLocsList] at h
  | c :: cs, loc, h => by
    simp only [elemLocsList, List.mem_append] at h
    rcases h with h | h
    · obtain ⟨tk, h1, h2⟩ := elemLocs_sub c loc h
      exact ⟨tk, by simp only [leavesList, List.mem_append]; exact .inl h1, h2⟩
    · obtain ⟨tk, h1, h2⟩ := elemLocsList_sub cs loc h
      exact ⟨tk, by simp only [leavesList, List.mem_append]; exact .inr h1, h2⟩
end

mutual
theorem commentsOf_eq : ∀ (t : TTree), commentsOf t = (leaves t).flatMap leafComments
  | .leaf tk => by simp [commentsOf, leaves]
  | .node r ch => by
    simp only [commentsOf, leaves]
    exact commentsOfList_eq ch
theorem commentsOfList_eq : ∀ (ts : List TTree), commentsOfList ts = (leavesList ts).flatMap leafComments
  | [] => rfl
  | c :: cs => by
    simp only [commentsOfList, leavesList, List.flatMap_append]
    rw [commentsOf_eq c, commentsOfList_eq cs]
end

theorem roleKeywords_of_mem {dl : Dialect} {k : Kind} {kws : List Str}
    (hk : (k, kws) ∈ [(Kind.FeatureLine, dl.feature), (.RuleLine, dl.rule), (.BackgroundLine, dl.background),
                      (.ScenarioLine, dl.scenario ++ dl.scenarioOutline), (.ExamplesLine, dl.examples)]) :
    k.isTitle = true ∧ kws = dl.roleKeywords k := by
  simp only [List.mem_cons, Prod.mk.injEq, List.not_mem_nil, or_false] at hk
  rcases hk with ⟨rfl, rfl⟩ | ⟨rfl, rfl⟩ | ⟨rfl, rfl⟩ | ⟨rfl, rfl⟩ | ⟨rfl, rfl⟩ <;> exact ⟨rfl, rfl⟩

theorem elemAt_of_fromLine {μ : MState} {l : Str} {n : Nat} {e : Elem} (h : ElemFromLine μ l n e) :
    ElemAt μ.dialect l n e.loc := by
  cases h with
  | keywordLine K kw hK hmem hst => exact .title K kw hK hmem (trimmed_eq_drop l ▸ hst)
  | step pre kw post hsplit hst _ => exact .step kw (by rw [hsplit]; simp) (trimmed_eq_drop l ▸ hst)
  | tag c item hs h1 hpre =>
    refine .tag c hs h1 ?_
    obtain ⟨rest, hr⟩ := hpre
    have := congrArg (·[0]?) hr
    simpa using this.symm
  | row hst => exact .row (trimmed_eq_drop l ▸ hst)
  | docString sep hsep _ hst => exact .docsep sep hsep (trimmed_eq_drop l ▸ hst)

theorem matched_leafComments (D : List Dialect) (K : Kind) (μ : MState) (l : Str) (n : Nat)
    (hm : (matchLine D K μ (freshTok l n) l).res = .matched) :
    ∀ cm ∈ leafComments (matchLine D K μ (freshTok l n) l).tok,
      cm.loc = ⟨n, some 1⟩ ∧ cm.text = rstripCRLF l ∧ startsWith [35] (l.drop (lineIndent l)) = true := by
  have hmt := (match_well_matched D K μ (freshTok l n) l hm).1
  have hno : (matchLine D K μ (freshTok l n) l).tok.lineNo = n := (matchLine_tok D K μ (freshTok l n) l).2
  intro cm hcm
  unfold leafComments at hcm
  rw [hmt] at hcm
  by_cases hK : K = .Comment
  · subst hK
    obtain ⟨hcol, htx, hst⟩ := comment_col D μ (freshTok l n) l hm
    rw [htx] at hcm
    simp only [List.mem_singleton] at hcm
    subst hcm
    refine ⟨?_, rfl, hst⟩
    show getLocation _ = _
    unfold getLocation Token.loc
    rw [hno, hcol]
  · exfalso
    split at hcm
    · rename_i h1 _
      exact hK (Option.some.inj h1)
    · cases hcm

theorem leafComments_eof {e : Token} (h : e.mtype = some .EOF) : leafComments e = [] := by
  unfold leafComments; rw [h]

theorem ast_locations {D : List Dialect} {T : Table} {G : Grammar} {fuel : Nat} (L : LinkFacts D T G fuel)
    (hB : oneBuildLast T = true)
    (hCR : ((contentStates T).all fun s => (T.row? s).any isContentRow) = true)
    (μ : MState) (ids : Nat) (src : Str) (hμ : (μ.reset D).dialect ∈ D) (d : Doc)
    (h : (parseWith D T false μ ids src).1 = .ok d) :
    (∀ loc ∈ srcLocs d, ∃ (i : Nat) (l : Str) (dl : Dialect), (splitLines src)[i]? = some l ∧ dl ∈ D ∧
      ElemAt dl l (i + 1) loc) ∧
    (∀ cm ∈ d.comments, ∃ (i : Nat) (l : Str), (splitLines src)[i]? = some l ∧ cm.loc = ⟨i + 1, some 1⟩ ∧
      cm.text = rstripCRLF l ∧ startsWith [35] (l.drop (lineIndent l)) = true) := by
  refine ⟨fun loc hloc => ?_, fun cm hcm => ?_⟩
  · rw [srcLocs_eq_map, List.mem_map] at hloc
    obtain ⟨el, hel, rfl⟩ := hloc
    obtain ⟨toks, -, -, -, -, hfrom⟩ := fields_in_document L hB hCR μ ids src hμ d h
    obtain ⟨i, l, hi, hd, hfl⟩ := hfrom el hel
    exact ⟨i, l, _, hi, hd, elemAt_of_fromLine hfl⟩
  · obtain ⟨t, toks, e, μf, A⟩ := parse_accepted L hB hCR μ ids src hμ d h
    obtain ⟨-, -, hcms, -, -⟩ := A.tree.ast_facts L.shape
    rw [hcms, commentsOf_eq, List.mem_flatMap] at hcm
    obtain ⟨tk, htk, hin⟩ := hcm
    rcases A.leaf_cases htk with ⟨i, l, K, hi, -, -, -, hres, rfl, -⟩ | he
    · exact ⟨i, l, hi, matched_leafComments D K _ l (i + 1) hres cm hin⟩
    · rw [leafComments_eof he] at hin; cases hin

theorem ast_locations_bounds {D : List Dialect} {T : Table} {G : Grammar} {fuel : Nat} (L : LinkFacts D T G fuel)
    (hB : oneBuildLast T = true)
    (hCR : ((contentStates T).all fun s => (T.row? s).any isContentRow) = true)
    (μ : MState) (ids : Nat) (src : Str) (hμ : (μ.reset D).dialect ∈ D) (d : Doc)
    (h : (parseWith D T false μ ids src).1 = .ok d) :
    ∀ loc ∈ srcLocs d, LocOK (splitLines src) loc := by
  intro loc hloc
  obtain ⟨i, l, dl, hi, hdl, hel⟩ := (ast_locations L hB hCR μ ids src hμ d h).1 loc hloc
  have hf := L.dialects
  simp only [textDialectFacts, Bool.and_eq_true] at hf
  obtain ⟨c, rfl, h1, h2⟩ := ElemAt.bounds hel fun kw hkw =>
    noEmptyKeyword_spec (keywordFacts_spec hf.1).1 hdl (mem_allKeywords_step hkw)
  exact ⟨i, l, c, hi, rfl, h1, h2⟩

end Lemmas
end GV
