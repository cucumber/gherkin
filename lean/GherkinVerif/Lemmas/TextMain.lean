/-
  Lemmas/TextMain.lean — the queue-free parse in collecting mode against the text-level acceptor.

  `line_step` walks the tests of a state on one line (`LinePost`): with no branch for the line's
  intrinsic kind, or a test that raises before it, an error that is not a ragged-table error is left
  on record (`Unclean`); otherwise the branch `pickBranch` picks runs (`Clean`, `Fired`).  Such an
  error can be on record and the walk still go on in one way only, a peek that met a raising tag
  line: then the acceptor rejects whatever follows (`Doomed`) and the walk is inside a run of
  tag-line tests — the second alternative of `line_step`'s precondition.  `eof_step` is the walk on
  the end-of-file token.  `lines_sim` is the loop: the errors at the end are ragged-table errors
  only if the acceptor accepts; if it rejects, another error is on record or the run was cut short;
  a run that returns with no error on record is a `Trace` whose builder calls ran.  `body_sim` and
  `pure_outcome` read this as the outcome of the whole parse, `queue_refines_peek` carries it to
  the parser with its queue (`text_accept_A`, `text_accept_B`, `text_accept_iff`).
-/
import GherkinVerif.Lemmas.TextParse
import GherkinVerif.Lemmas.GlueTerm
import GherkinVerif.Lemmas.CleanStep
namespace GV
namespace Lemmas
open Spec

/-- something other than a ragged-table error has been recorded (or the model crashed) -/
def Unclean (r : Except Abort Nat) (c' : Ctx) : Prop := NR c' ∨ ∃ w, r = .error (.crash w)

/-- when the tests starting in `c` returned a state, the test of `b` had matched on a token with the
    line `ol`, and the run ended with the productions of `b` on the token that test made -/
def Fired (D : List Dialect) (T : Table) (μ : MState) (ol : Option Str) (b : Branch) (c : Ctx)
    (r : Except Abort Nat) (c' : Ctx) : Prop :=
  ∀ s', r = .ok s' → ∃ t0 c2, t0.line = ol ∧ (matchTok D b.kind μ t0).1.res = .matched ∧ FootM c c2 ∧
    run (do runProds T.errorCap false (matchTok D b.kind μ t0).1.tok b.prods; Pure.pure b.target : PM Nat) c2 = (r, c')

theorem Fired.foot {D : List Dialect} {T : Table} {μ : MState} {ol : Option Str} {b : Branch} {c c1 : Ctx}
    {r : Except Abort Nat} {c' : Ctx} (hf : FootM c c1) (h : Fired D T μ ol b c1 r c') : Fired D T μ ol b c r c' :=
  fun s' hs => let ⟨t0, c2, h1, h2, h3, h4⟩ := h s' hs; ⟨t0, c2, h1, h2, hf.trans h3, h4⟩

/-- branch `b` was taken without a raise: new state and matcher state as the acceptor computes them;
    the error list is still clean, or a peek met a raising tag line and the acceptor rejects the rest -/
def Clean (D : List Dialect) (T : Table) (μ : MState) (l : Str) (ls : List Str) (b : Branch) (c : Ctx)
    (r : Except Abort Nat) (c' : Ctx) : Prop :=
  (∀ s', r = .ok s' → s' = b.target ∧ c'.μ = muAfter D μ l b.kind) ∧
  (AR c' ∨ (NR c' ∧ textAccepts D T b.target (muAfter D μ l b.kind) ls = false)) ∧ Fired D T μ (some l) b c r c'

def LinePost (D : List Dialect) (T : Table) (μ : MState) (l : Str) (ls : List Str) (bs : List Branch) (c : Ctx)
    (r : Except Abort Nat) (c' : Ctx) : Prop :=
  match pickBranch T (intrinsicKind D μ l) (kindsOf D μ ls) bs with
  | none => Unclean r c'
  | some b => if raisesBefore D μ l b bs = true then Unclean r c' else Clean D T μ l ls b c r c'

section
variable {D : List Dialect} {T : Table} {μ : MState} {l : Str} {ls : List Str} {b0 : Branch} {rest : List Branch}
  {r : Except Abort Nat} {c c1 c' : Ctx}

theorem linePost_raise (hz : raises D μ l b0.kind = true) (hu : Unclean r c') :
    LinePost D T μ l ls (b0 :: rest) c r c' := by
  unfold LinePost
  cases pickBranch T (intrinsicKind D μ l) (kindsOf D μ ls) (b0 :: rest) with
  | none => exact hu
  | some b =>
    dsimp only
    rw [raisesBefore, hz, Bool.true_or, if_pos rfl]
    exact hu

theorem linePost_skip
    (hfail : (passes (intrinsicKind D μ l) b0.kind && guardOkAbs T b0 (kindsOf D μ ls)) = false)
    (hz : raises D μ l b0.kind = false) (hfoot : FootM c c1) (h : LinePost D T μ l ls rest c1 r c') :
    LinePost D T μ l ls (b0 :: rest) c r c' := by
  unfold LinePost at h ⊢
  rw [pickBranch, hfail]
  simp only [Bool.false_eq_true, if_false]
  cases hp : pickBranch T (intrinsicKind D μ l) (kindsOf D μ ls) rest with
  | none => rw [hp] at h; exact h
  | some b =>
    rw [hp] at h
    dsimp only at h ⊢
    have hne : (b0 == b) = false := by
      cases hb : b0 == b with
      | false => rfl
      | true =>
        exfalso
        have hbb : b0 = b := by simpa using hb
        obtain ⟨-, h1, h2⟩ := pick_mem hp
        rw [hbb, h1, h2] at hfail
        cases hfail
    rw [raisesBefore, hz, hne]
    cases hrb : raisesBefore D μ l b rest <;> rw [hrb] at h
    · exact ⟨h.1, h.2.1, h.2.2.foot hfoot⟩
    · exact h

theorem linePost_take
    (hok : (passes (intrinsicKind D μ l) b0.kind && guardOkAbs T b0 (kindsOf D μ ls)) = true)
    (hz : raises D μ l b0.kind = false) (h : Clean D T μ l ls b0 c r c') :
    LinePost D T μ l ls (b0 :: rest) c r c' := by
  unfold LinePost
  rw [pickBranch, hok]
  simp only [if_true]
  rw [raisesBefore, hz]
  simp only [beq_self_eq_true, Bool.not_true, Bool.false_and, Bool.or_false, Bool.false_eq_true, if_false]
  exact h

end

theorem rb_tagNext {D : List Dialect} {T : Table} {μ : MState} {l : Str} {fut : List Kind}
    (hz : raises D μ l .TagLine = false) {bs : List Branch} {b : Branch} (hn : tagNext T bs = true)
    (hgt : guardTail T bs = true) (h : pickBranch T .TagLine fut bs = some b) :
    raisesBefore D μ l b bs = false := by
  obtain ⟨b', hb', -, hr⟩ := pick_tagNext_spec (fut := fut) hn hgt
  rw [hb'] at h
  cases h
  exact hr D μ l hz

theorem unexpectedErr_bad (row : StateRow) (t : Token) : badE (unexpectedErr row t) := by
  unfold unexpectedErr
  split
  · refine ⟨nofun, ?_⟩
    dsimp only
    lit_lists
    simp
  · refine ⟨nofun, ?_⟩
    dsimp only
    lit_lists
    simp

theorem tail_nr {D : List Dialect} {T : Table} {row : StateRow} {t : Token} {c : Ctx} (hc : AR c)
    {r : Except Abort Nat} {c' : Ctx} (h : run (tryBranchesPure D T false row [] t) c = (r, c')) :
    NR c' := by
  rw [tail_pure_eq D T false row (t := t) (t' := t) rfl rfl, tryBranches, prun_bind, run_modify] at h
  dsimp only at h
  simp only [Bool.false_eq_true, if_false] at h
  rcases run_bind_cases h with ⟨_, ha, -⟩ | ⟨_, _, ha, h⟩
  · exact addError_bad ha (unexpectedErr_bad row t) hc
  · rw [prun_pure] at h; cases h; exact addError_bad ha (unexpectedErr_bad row t) hc

def ScanM {α} (m : PM α) : Prop := ∀ c r c', run m c = (r, c') → ScanEq c c'

theorem run_lookaheadPure (D : List Dialect) (cap : Nat) (stop : Bool) (la : LookAhead) (c : Ctx) :
    run (lookaheadPure D cap stop la) c = run (peekLoop D cap stop la c.lines (c.lineNo + 1)) c := by
  rw [lookaheadPure, prun_bind, run_get]

theorem ScanM.tryBranchesPure (D : List Dialect) (T : Table) (stop : Bool) (row : StateRow) (bs : List Branch)
    (t : Token) : ScanM (Spec.tryBranchesPure D T stop row bs t) :=
  foot_of_inv ScanEq ScanEq.rfl' fun c0 => (scanPrims D T stop c0).tryBranchesPure row bs t

theorem matchP_true {D : List Dialect} {cap : Nat} {stop : Bool} {K : Kind} {t t' : Token} {c c' : Ctx}
    (h : run (matchP D cap stop K t) c = (.ok (true, t'), c')) :
    (matchTok D K c.μ t).1.res = .matched ∧ t' = (matchTok D K c.μ t).1.tok := by
  obtain ⟨_, -, ⟨m, hm, hx, -⟩ | ⟨e, -, ⟨-, hx, -⟩ | ⟨-, r2, -, hx⟩⟩⟩ := matchP_cases h
  · cases hx
    rcases hm with ⟨hres, -⟩ | ⟨-, hm⟩
    · exact ⟨hres, rfl⟩
    · cases hm
  · cases hx
  · cases r2 <;> cases hx

theorem finish_clean {D : List Dialect} {T : Table} {μ : MState} {l : Str} {ls : List Str} {b : Branch}
    {t0 : Token} {c c1 : Ctx} {r : Except Abort Nat} {c' : Ctx} (hfoot : FootM c c1) (ht0 : t0.line = some l)
    (hres : (matchTok D b.kind μ t0).1.res = .matched)
    (h : run (do runProds T.errorCap false (matchTok D b.kind μ t0).1.tok b.prods; Pure.pure b.target : PM Nat) c1 = (r, c'))
    (hμ1 : c1.μ = muAfter D μ l b.kind)
    (hpre : AR c1 ∨ (NR c1 ∧ textAccepts D T b.target (muAfter D μ l b.kind) ls = false)) :
    (c'.lines = c1.lines ∧ c'.lineNo = c1.lineNo) ∧ Clean D T μ l ls b c r c' := by
  have hfired : Fired D T μ (some l) b c r c' := fun _ _ => ⟨t0, c1, ht0, hres, hfoot, h⟩
  rw [prun_bind] at h
  rcases hr2 : run (runProds T.errorCap false (matchTok D b.kind μ t0).1.tok b.prods) c1 with ⟨r2, c2⟩
  rw [hr2] at h
  obtain ⟨hf2, heff2, har2⟩ := runProds_spec b.prods hr2
  have hsc := hf2.scan
  have hμ2 : c2.μ = c1.μ := hf2.same.2.1
  have hpost : AR c2 ∨ (NR c2 ∧ textAccepts D T b.target (muAfter D μ l b.kind) ls = false) := by
    rcases hpre with h1 | ⟨h1, h2⟩
    · exact .inl (har2 h1)
    · exact .inr ⟨heff2.1.nr h1, h2⟩
  cases r2 with
  | error a =>
    cases h
    exact ⟨⟨hsc.2.1, hsc.2.2⟩, ⟨(fun s' hs => by cases hs), hpost, hfired⟩⟩
  | ok _ =>
    dsimp only at h
    rw [prun_pure] at h
    cases h
    exact ⟨⟨hsc.2.1, hsc.2.2⟩, ⟨(fun s' hs => by cases hs; exact ⟨rfl, hμ2.trans hμ1⟩), hpost, hfired⟩⟩

theorem line_step {D : List Dialect} {T : Table} (hf : textDialectFacts D = true) (F : QF D T) (row : StateRow)
    (μ : MState) (hμ : MuOK D μ) (l : Str) (ls : List Str) :
    ∀ (bs : List Branch), guardTail T bs = true → ∀ (t : Token), t.line = some l →
      ∀ (c : Ctx), c.μ = μ → c.lines = ls →
      (AR c ∨ (NR c ∧ Doomed D T μ ls ∧ intrinsicKind D μ l = .TagLine ∧ tagNext T bs = true)) →
      ∀ r c', run (tryBranchesPure D T false row bs t) c = (r, c') →
        (c'.lines = ls ∧ c'.lineNo = c.lineNo) ∧ LinePost D T μ l ls bs c r c' := by
  intro bs
  induction bs with
  | nil =>
    intro _ t _ c _ hcl hpre r c' h
    have hnr := fun hc => tail_nr (t := t) hc h
    rw [tail_pure_eq D T false row (t := t) (t' := t) rfl rfl] at h
    obtain ⟨⟨es, un, rfl⟩, -⟩ := tail_spec D T false row t h
    refine ⟨⟨hcl, rfl⟩, ?_⟩
    unfold LinePost
    rw [pickBranch]
    left
    rcases hpre with hc | ⟨-, -, -, hn⟩
    · exact hnr hc
    · cases hn
  | cons b0 rest ih =>
    intro hgt t hl c hcμ hcl hpre r c' h
    simp only [guardTail, Bool.and_eq_true, Bool.or_eq_true, beq_iff_eq] at hgt
    obtain ⟨hhead, hgt'⟩ := hgt
    rw [tryBranchesPure, prun_bind] at h
    rcases hr1 : run (matchP D T.errorCap false b0.kind t) c with ⟨r1, c1⟩
    rw [hr1] at h
    obtain ⟨hf1, heff1, hyes, hno⟩ := matchP_text hl hr1
    rw [hcμ] at hyes hno
    have hsc1 := hf1.scan
    have hl1' : c1.lines = ls := hsc1.2.1.trans hcl
    have hvp : verdict D μ l b0.kind = passes (intrinsicKind D μ l) b0.kind := kind_unique hf D μ hμ.1 hμ.2 l b0.kind
    cases hv : verdict D μ l b0.kind with
    | false =>
      obtain ⟨hμ1, hval, hnz, hz⟩ := hno hv
      have hpass : passes (intrinsicKind D μ l) b0.kind = false := by rw [← hvp]; exact hv
      have hfail : (passes (intrinsicKind D μ l) b0.kind && guardOkAbs T b0 (kindsOf D μ ls)) = false := by
        rw [hpass]; rfl
      -- the dirty precondition is impossible here: the next test would be a tag-line test that passes
      have hAR : AR c := by
        rcases hpre with hc | ⟨-, -, hk, hn⟩
        · exact hc
        · exfalso
          simp only [tagNext, Bool.and_eq_true, beq_iff_eq] at hn
          rw [hk, hn.1] at hpass
          cases hpass
      cases hzz : raises D μ l b0.kind with
      | true =>
        have hnr1 : NR c1 := hz hzz hAR
        cases r1 with
        | error a => cases h; exact ⟨⟨hl1', hsc1.2.2⟩, linePost_raise hzz (.inl hnr1)⟩
        | ok x =>
          obtain ⟨m1, t1⟩ := x
          obtain ⟨hm1, ht1⟩ := hval _ rfl
          dsimp only at hm1 ht1 h
          subst hm1
          simp only [Bool.false_eq_true, if_false] at h
          have hgrow := (EffM.tryBranchesPure D T row rest t1 c1 r c' h).1
          have hsc := ScanM.tryBranchesPure D T false row rest t1 c1 r c' h
          exact ⟨⟨hsc.2.1.trans hl1', hsc.2.2.trans hsc1.2.2⟩, linePost_raise hzz (.inl (hgrow.nr hnr1))⟩
      | false =>
        obtain ⟨he1, x, rfl⟩ := hnz hzz
        obtain ⟨m1, t1⟩ := x
        obtain ⟨hm1, ht1⟩ := hval _ rfl
        dsimp only at hm1 ht1 h
        subst hm1
        simp only [Bool.false_eq_true, if_false] at h
        have hAR1 : AR c1 := AR.of_errors_eq he1 hAR
        obtain ⟨hsc, hpost⟩ := ih hgt' t1 ht1 c1 hμ1 hl1' (.inl hAR1) r c' h
        exact ⟨⟨hsc.1, hsc.2.trans hsc1.2.2⟩, linePost_skip hfail hzz hf1 hpost⟩
    | true =>
      obtain ⟨hμ1, he1, t1, rfl, ht1⟩ := hyes hv
      obtain ⟨hres, rfl⟩ := matchP_true hr1
      rw [hcμ] at hres h ht1
      have hpass : passes (intrinsicKind D μ l) b0.kind = true := by rw [← hvp]; exact hv
      have hzz : raises D μ l b0.kind = false := by
        cases hz : raises D μ l b0.kind with
        | false => rfl
        | true => rw [(raises_imp D μ l b0.kind hz).2] at hv; cases hv
      have hpre1 : AR c1 ∨ (NR c1 ∧ Doomed D T μ ls ∧ intrinsicKind D μ l = .TagLine ∧ tagNext T (b0 :: rest) = true) := by
        rcases hpre with hc | ⟨hn, hd⟩
        · exact .inl (AR.of_errors_eq he1 hc)
        · exact .inr ⟨heff1.1.nr hn, hd⟩
      dsimp only at h
      simp only [if_true] at h
      cases hg : b0.guard with
      | none =>
        rw [hg] at h
        dsimp only at h
        rw [prun_bind, prun_pure] at h
        dsimp only at h
        simp only [if_true] at h
        have hok : (passes (intrinsicKind D μ l) b0.kind && guardOkAbs T b0 (kindsOf D μ ls)) = true := by
          rw [hpass, guardOk_unguarded hg]; rfl
        have hpre2 : AR c1 ∨ (NR c1 ∧ textAccepts D T b0.target (muAfter D μ l b0.kind) ls = false) := by
          rcases hpre1 with h1 | ⟨h1, hd, hk, hn⟩
          · exact .inl h1
          · simp only [tagNext, Bool.and_eq_true, beq_iff_eq] at hn
            refine .inr ⟨h1, ?_⟩
            rw [hn.1, muAfter_stable D μ l .TagLine rfl]
            exact hd _ hn.2
        obtain ⟨hsc, hclean⟩ := finish_clean hf1 hl hres h hμ1 hpre2
        exact ⟨⟨hsc.1.trans hl1', hsc.2.trans hsc1.2.2⟩, linePost_take hok hzz hclean⟩
      | some i =>
        rw [hg] at h
        dsimp only at h
        obtain ⟨⟨hkind, htag⟩, hnext⟩ : (b0.kind = .TagLine ∧ isTag T b0.target = true) ∧ tagNext T rest = true := by
          rcases hhead with hh | hh
          · rw [hg] at hh; cases hh
          · exact hh
        have hk : intrinsicKind D μ l = .TagLine := passes_tagLine (by rw [← hkind]; exact hpass)
        have hmu : muAfter D μ l b0.kind = μ := by rw [hkind]; exact muAfter_stable D μ l .TagLine rfl
        have hzT : raises D μ l .TagLine = false := by rw [← hkind]; exact hzz
        rw [hmu] at hμ1
        -- whatever is picked later in this run of tag-line tests leads to a tag state
        have hlater : ∀ b, pickBranch T (intrinsicKind D μ l) (kindsOf D μ ls) rest = some b →
            b.kind = .TagLine ∧ isTag T b.target = true ∧ raisesBefore D μ l b rest = false := by
          intro b hb
          rw [hk] at hb
          obtain ⟨h1, h2⟩ := pick_tagNext hnext hgt' hb
          exact ⟨h1, h2, rb_tagNext hzT hnext hgt' hb⟩
        cases hla : T.lookaheads[i]? with
        | none =>
          rw [hla] at h
          dsimp only at h
          rw [prun_bind, prun_throw] at h
          cases h
          have hgo : guardOkAbs T b0 (kindsOf D μ ls) = false := by unfold guardOkAbs; rw [hg]; dsimp only; rw [hla]
          have hfail : (passes (intrinsicKind D μ l) b0.kind && guardOkAbs T b0 (kindsOf D μ ls)) = false := by
            rw [hgo, Bool.and_false]
          refine ⟨⟨hl1', hsc1.2.2⟩, linePost_skip hfail hzz (FootM.refl c) ?_⟩
          unfold LinePost
          cases hp : pickBranch T (intrinsicKind D μ l) (kindsOf D μ ls) rest with
          | none => exact .inr ⟨_, rfl⟩
          | some b =>
            obtain ⟨hbk, hbt, hrb⟩ := hlater b hp
            dsimp only
            rw [hrb]
            simp only [Bool.false_eq_true, if_false]
            refine ⟨(fun s' hs => by cases hs), ?_, fun s' hs => by cases hs⟩
            rcases hpre1 with h1 | ⟨h1, hd, -, -⟩
            · exact .inl h1
            · exact .inr ⟨h1, by rw [hbk, muAfter_stable D μ l .TagLine rfl]; exact hd _ hbt⟩
        | some la =>
          rw [hla] at h
          dsimp only at h
          rw [prun_bind] at h
          rcases hrl : run (lookaheadPure D T.errorCap false la) c1 with ⟨r2, c2⟩
          rw [hrl] at h
          have hgrow2 := (EffM.lookaheadPure D T.errorCap la c1 r2 c2 hrl).1
          rw [run_lookaheadPure, hl1'] at hrl
          obtain ⟨hf2, hμ2, hval2, hcase2⟩ := peek_text hf F hla ls _ c1 (by rw [hμ1]; exact hμ) r2 c2 hrl
          rw [hμ1] at hval2 hcase2
          have hsc2 := hf2.scan
          have hgoeq : guardOkAbs T b0 (kindsOf D μ ls) = peekAbs la (kindsOf D μ ls) := by
            unfold guardOkAbs; rw [hg]; dsimp only; rw [hla]
          -- the error list after the peek: clean, or dirty and doomed
          have hD2 : AR c2 ∨ (NR c2 ∧ Doomed D T μ ls) := by
            rcases hpre1 with h1 | ⟨h1, hd, -, -⟩
            · exact hcase2 h1
            · exact .inr ⟨hgrow2.nr h1, hd⟩
          have hdoom : ∀ b : Branch, b.kind = .TagLine → isTag T b.target = true →
              AR c2 ∨ (NR c2 ∧ textAccepts D T b.target (muAfter D μ l b.kind) ls = false) := by
            intro b hbk hbt
            rcases hD2 with h1 | ⟨h1, hd⟩
            · exact .inl h1
            · exact .inr ⟨h1, by rw [hbk, muAfter_stable D μ l .TagLine rfl]; exact hd _ hbt⟩
          have hl2' : c2.lines = ls := hsc2.2.1.trans hl1'
          have hn2 : c2.lineNo = c.lineNo := hsc2.2.2.trans hsc1.2.2
          cases hgo : peekAbs la (kindsOf D μ ls) with
          | true =>
            have hok : (passes (intrinsicKind D μ l) b0.kind && guardOkAbs T b0 (kindsOf D μ ls)) = true := by
              rw [hpass, hgoeq, hgo]; rfl
            cases r2 with
            | error a =>
              cases h
              exact ⟨⟨hl2', hn2⟩, linePost_take hok hzz ⟨(fun s' hs => by cases hs), hdoom b0 hkind htag, fun s' hs => by cases hs⟩⟩
            | ok ok =>
              have := hval2 ok rfl
              rw [hgo] at this
              subst this
              dsimp only at h
              simp only [if_true] at h
              obtain ⟨hsc, hclean⟩ := finish_clean (μ := μ) (l := l) (ls := ls) (hf1.trans hf2) hl hres h
                (by rw [hmu]; exact hμ2.trans hμ1) (hdoom b0 hkind htag)
              exact ⟨⟨hsc.1.trans hl2', hsc.2.trans hn2⟩, linePost_take hok hzz hclean⟩
          | false =>
            have hfail : (passes (intrinsicKind D μ l) b0.kind && guardOkAbs T b0 (kindsOf D μ ls)) = false := by
              rw [hgoeq, hgo, Bool.and_false]
            cases r2 with
            | error a =>
              cases h
              refine ⟨⟨hl2', hn2⟩, linePost_skip hfail hzz (FootM.refl c) ?_⟩
              unfold LinePost
              obtain ⟨b, hp⟩ := pick_total_tag (fut := kindsOf D μ ls) hnext hgt'
              rw [hk, hp]
              rw [← hk] at hp
              obtain ⟨hbk, hbt, hrb⟩ := hlater b hp
              dsimp only
              rw [hrb]
              simp only [Bool.false_eq_true, if_false]
              exact ⟨(fun s' hs => by cases hs), hdoom b hbk hbt, fun s' hs => by cases hs⟩
            | ok ok =>
              have := hval2 ok rfl
              rw [hgo] at this
              subst this
              dsimp only at h
              simp only [Bool.false_eq_true, if_false] at h
              have hpre3 : AR c2 ∨ (NR c2 ∧ Doomed D T μ ls ∧ intrinsicKind D μ l = .TagLine ∧ tagNext T rest = true) := by
                rcases hD2 with h1 | ⟨h1, hd⟩
                · exact .inl h1
                · exact .inr ⟨h1, hd, hk, hnext⟩
              obtain ⟨hsc, hpost⟩ := ih hgt' _ ht1 c2 (hμ2.trans hμ1) hl2' hpre3 r c' h
              exact ⟨⟨hsc.1, hsc.2.trans hn2⟩, linePost_skip hfail hzz (hf1.trans hf2) hpost⟩

theorem muAfter_ok (D : List Dialect) (μ : MState) (hμ : MuOK D μ) (l : Str) (K : Kind) : MuOK D (muAfter D μ l K) := by
  unfold muAfter
  rw [matchLine_eq]
  cases hd : lineDec D K μ l with
  | hit μs text kw kt ind items μ' =>
    show MuOK D μ'
    rcases lineDec_hit_cases hd with rfl | ⟨-, name, d, hf, rfl⟩ | ⟨-, h1, -, h3⟩
    · exact hμ
    · exact ⟨(findDialect_some D name d hf).1, hμ.2⟩
    · exact ⟨h1 ▸ hμ.1, by rcases h3 with h | h | h <;> simp [sepOK, h]⟩
  | _ => exact hμ

theorem eof_step {D : List Dialect} {T : Table} (row : StateRow) :
    ∀ (bs : List Branch), guardTail T bs = true → ∀ (t : Token), t.line = none →
      ∀ (c : Ctx), AR c → ∀ r c', run (tryBranchesPure D T false row bs t) c = (r, c') →
        match pickBranch T .EOF [] bs with
        | none => NR c'
        | some b => AR c' ∧ Fired D T c.μ none b c r c' := by
  intro bs
  induction bs with
  | nil =>
    intro _ t _ c hc r c' h
    exact tail_nr hc h
  | cons b0 rest ih =>
    intro hgt t hl c hc r c' h
    simp only [guardTail, Bool.and_eq_true, Bool.or_eq_true, beq_iff_eq] at hgt
    rw [tryBranchesPure, prun_bind] at h
    rcases hr1 : run (matchP D T.errorCap false b0.kind t) c with ⟨r1, c1⟩
    rw [hr1] at h
    obtain ⟨hf1, hμ1, he1, t1, rfl, hl1⟩ := matchP_eofTok hl hr1
    have hAR1 : AR c1 := AR.of_errors_eq he1 hc
    rw [pickBranch, passes_EOF]
    cases hk : b0.kind == Kind.EOF with
    | false =>
      rw [hk] at h
      dsimp only at h
      simp only [Bool.false_eq_true, if_false, Bool.false_and] at h ⊢
      have := ih hgt.2 t1 hl1 c1 hAR1 r c' h
      rw [hμ1] at this
      cases hp : pickBranch T .EOF [] rest <;> rw [hp] at this
      · exact this
      · exact ⟨this.1, this.2.foot hf1⟩
    | true =>
      rw [hk] at h hr1
      obtain ⟨hres, rfl⟩ := matchP_true hr1
      dsimp only at h
      simp only [if_true] at h
      have hg : b0.guard = none := by
        rcases hgt.1 with hn | hn
        · simpa using hn
        · rw [hn.1.1] at hk; cases hk
      rw [hg] at h
      dsimp only at h
      rw [prun_bind, prun_pure] at h
      dsimp only at h
      simp only [if_true] at h
      rw [guardOk_unguarded hg]
      simp only [Bool.and_self, if_true]
      refine ⟨?_, fun _ _ => ⟨t, c1, hl, hres, hf1, h⟩⟩
      rcases run_bind_cases h with ⟨_, hr2, -⟩ | ⟨_, _, hr2, h⟩
      · exact (runProds_spec b0.prods hr2).2.2 hAR1
      · rw [prun_pure] at h; cases h; exact (runProds_spec b0.prods hr2).2.2 hAR1

/-- the run was cut short: a crash of the model, fuel, or the error limit -/
def Aborted {α} (cap : Nat) (r : Except Abort α) : Prop :=
  ∃ a, r = .error a ∧ ((∃ w, a = .crash w) ∨ a = .fuel ∨ ∃ es, a = .composite es ∧ cap < es.length)

theorem Aborted.of_abOK {α} {cap : Nat} {a : Abort} {c' : Ctx} (h : AbOK cap a c') :
    Aborted cap (.error a : Except Abort α) := by
  rcases h with ⟨h1, h2⟩ | h | h
  · exact ⟨a, rfl, .inr (.inr ⟨_, h1, h2⟩)⟩
  · exact ⟨a, rfl, .inl h⟩
  · exact ⟨a, rfl, .inr (.inl h)⟩

theorem textAccepts_cons {D : List Dialect} {T : Table} {s : Nat} {row : StateRow} (hrow : T.row? s = some row)
    (μ : MState) (l : Str) (ls : List Str) :
    textAccepts D T s μ (l :: ls) =
      match pickBranch T (intrinsicKind D μ l) (kindsOf D μ ls) row.branches with
      | none => false
      | some b => !raisesBefore D μ l b row.branches && textAccepts D T b.target (muAfter D μ l b.kind) ls := by
  simp only [textAccepts, hrow]
  rfl

/-- a run that has recorded another error than a ragged table, or was cut short, is no clean run -/
theorem no_trace {cap : Nat} {r : Except Abort Nat} {c' : Ctx} {X : Nat → Prop} (h : NR c' ∨ Aborted cap r) :
    ∀ sf, r = .ok sf → c'.errors = [] → X sf :=
  fun _ hr he => h.elim (fun hn => absurd hn (not_NR_of_nil he)) fun ⟨_, ha, _⟩ => by rw [hr] at ha; cases ha

theorem lines_sim {D : List Dialect} {T : Table} (hf : textDialectFacts D = true) (F : QF D T) :
    ∀ (fuel s : Nat) (p : Ctx), MuOK D p.μ → AR p →
      ∀ r c', run (parseLinesPure D T false fuel s) p = (r, c') →
        (textAccepts D T s p.μ p.lines = true → AR c') ∧
        (textAccepts D T s p.μ p.lines = false → NR c' ∨ Aborted T.errorCap r) ∧
        ∀ sf, r = .ok sf → c'.errors = [] →
          ∃ steps, Trace D T s p.μ p.lines sf steps ∧
            applyOps (stepsOps steps) p.β p.ids = (.ok (), c'.β, c'.ids) ∧
            c'.builds = p.builds ++ opToks (stepsOps steps) := by
  intro fuel
  induction fuel with
  | zero =>
    intro s p _ hp r c' h
    rw [parseLinesPure, prun_throw] at h
    cases h
    exact ⟨fun _ => hp, fun _ => .inr ⟨_, rfl, .inr (.inl rfl)⟩, fun _ hr => nomatch hr⟩
  | succ fuel ih =>
    intro s p hμ hp r c' h
    rw [pure_step, prun_bind] at h
    rcases hr1 : run (matchTokenPure D T false s { line := p.lines.head?, lineNo := p.lineNo + 1 })
      { p with lines := p.lines.tail, lineNo := p.lineNo + 1, reads := p.reads ++ [p.lineNo + 1] } with ⟨r1, c1⟩
    rw [hr1] at h
    have heff1 := EffM.matchTokenPure D T s _ _ _ _ hr1
    -- what the rest of the run does to a dirty error list
    have hrest_nr : ∀ s', NR c1 → run (if ({ line := p.lines.head?, lineNo := p.lineNo + 1 } : Token).eof = true
        then Pure.pure s' else parseLinesPure D T false fuel s') c1 = (r, c') → NR c' := by
      intro s' hn hrun
      split at hrun
      · rw [prun_pure] at hrun; cases hrun; exact hn
      · exact (EffM.parseLinesPure D T fuel s' c1 r c' hrun).1.nr hn
    unfold matchTokenPure at hr1
    cases hrow : T.row? s with
    | none =>
      rw [hrow] at hr1
      dsimp only at hr1
      rw [prun_throw] at hr1
      cases hr1
      cases h
      have hta : textAccepts D T s p.μ p.lines = false := by
        cases hl : p.lines with
        | nil => simp [textAccepts, stepAbs, hrow]
        | cons l ls => simp [textAccepts, hrow]
      rw [hta]
      exact ⟨(fun hh => by cases hh), fun _ => .inr ⟨_, rfl, .inl ⟨_, rfl⟩⟩, fun _ hr => nomatch hr⟩
    | some row =>
      rw [hrow] at hr1
      dsimp only at hr1
      have hgt := (F.rows s row hrow).1
      cases hl : p.lines with
      | nil =>
        rw [hl] at hr1 h
        have hstep := (fun hc => eof_step row row.branches hgt _ rfl _ hc r1 c1 hr1) hp
        have hta : textAccepts D T s p.μ [] = (pickBranch T .EOF [] row.branches).isSome := by
          simp [textAccepts, stepAbs, hrow]
        rw [hta]
        -- after the end-of-file token the loop ends
        have hfin : r = r1 ∧ c' = c1 := by
          cases r1 with
          | error a => cases h; exact ⟨rfl, rfl⟩
          | ok s' =>
            dsimp only at h
            have : ({ line := ([] : List Str).head?, lineNo := p.lineNo + 1 } : Token).eof = true := rfl
            rw [if_pos this, prun_pure] at h
            cases h; exact ⟨rfl, rfl⟩
        obtain ⟨rfl, rfl⟩ := hfin
        cases hp' : pickBranch T .EOF [] row.branches with
        | none =>
          rw [hp'] at hstep
          exact ⟨(fun hh => by cases hh), fun _ => .inl hstep, no_trace (cap := T.errorCap) (.inl hstep)⟩
        | some b =>
          rw [hp'] at hstep
          refine ⟨fun _ => hstep.1, (fun hh => by cases hh), fun sf hr he => ?_⟩
          obtain ⟨t0, c2, ht0, hres, hfoot, hrun⟩ := hstep.2 sf hr
          subst hr
          obtain ⟨rfl, -, hcs, -⟩ := finish_step hrun he
          refine ⟨[(b, (matchTok D b.kind p.μ t0).1.tok)], Trace.eof hrow hp' ht0 hres, ?_⟩
          simpa only [stepsOps, List.flatMap_cons, List.flatMap_nil, List.append_nil] using
            And.intro (hcs.of_footM hfoot).1 (hcs.of_footM hfoot).2.1
      | cons l ls =>
        rw [hl] at hr1 h
        have hline := line_step hf F row p.μ hμ l ls row.branches hgt
          { line := (l :: ls).head?, lineNo := p.lineNo + 1 } rfl
          { p with lines := (l :: ls).tail, lineNo := p.lineNo + 1, reads := p.reads ++ [p.lineNo + 1] }
          rfl rfl (.inl hp) r1 c1 hr1
        obtain ⟨⟨hlines1, -⟩, hpost⟩ := hline
        rw [textAccepts_cons hrow]
        unfold LinePost at hpost
        have hneof : ({ line := (l :: ls).head?, lineNo := p.lineNo + 1 } : Token).eof = false := rfl
        have hunclean : Unclean r1 c1 → NR c' ∨ Aborted T.errorCap r := by
          intro hu
          cases r1 with
          | error a =>
            cases h
            rcases hu with hn | ⟨w, hw⟩
            · exact .inl hn
            · cases hw; exact .inr ⟨_, rfl, .inl ⟨_, rfl⟩⟩
          | ok s' =>
            dsimp only at h
            rcases hu with hn | ⟨w, hw⟩
            · exact .inl (hrest_nr s' hn (by rw [hl]; exact h))
            · cases hw
        cases hpk : pickBranch T (intrinsicKind D p.μ l) (kindsOf D p.μ ls) row.branches with
        | none =>
          rw [hpk] at hpost
          exact ⟨(fun hh => by cases hh), fun _ => hunclean hpost, no_trace (hunclean hpost)⟩
        | some b =>
          rw [hpk] at hpost
          dsimp only at hpost ⊢
          cases hrb : raisesBefore D p.μ l b row.branches with
          | true =>
            rw [hrb] at hpost
            simp only [if_true] at hpost
            simp only [Bool.not_true, Bool.false_and]
            exact ⟨(fun hh => by cases hh), fun _ => hunclean hpost, no_trace (hunclean hpost)⟩
          | false =>
            rw [hrb] at hpost
            simp only [Bool.false_eq_true, if_false] at hpost
            simp only [Bool.not_false, Bool.true_and]
            obtain ⟨hval, hcl, hfired⟩ := hpost
            cases r1 with
            | error a =>
              cases h
              refine ⟨fun hta => ?_, fun hta => ?_, fun _ hr => nomatch hr⟩
              · rcases hcl with h1 | ⟨-, h2⟩
                · exact h1
                · rw [hta] at h2; cases h2
              · rcases hcl with h1 | ⟨h1, -⟩
                · exact .inr (Aborted.of_abOK (heff1.2 _ rfl))
                · exact .inl h1
            | ok s' =>
              obtain ⟨hs', hμ1⟩ := hval s' rfl
              subst hs'
              dsimp only at h
              rw [if_neg (by rw [hneof]; simp)] at h
              rcases hcl with h1 | ⟨h1, h2⟩
              · have := ih b.target c1 (by rw [hμ1]; exact muAfter_ok D p.μ hμ l b.kind) h1 r c' h
                rw [hμ1, hlines1] at this
                refine ⟨this.1, this.2.1, fun sf hr he => ?_⟩
                -- the rest of the run is a trace; no error is on record after this line either
                obtain ⟨rest, htr, hops, hbuilds⟩ := this.2.2 sf hr he
                obtain ⟨t0, c2, ht0, hres, hfoot, hrun⟩ := hfired b.target rfl
                obtain ⟨-, -, hcs, -⟩ :=
                  finish_step hrun (errors_nil_of_grow (EffM.parseLinesPure D T fuel b.target c1 r c' h).1 he)
                refine ⟨(b, (matchTok D b.kind p.μ t0).1.tok) :: rest, Trace.line hrow hpk ht0 hres htr, ?_⟩
                simpa only [stepsOps, List.flatMap_cons] using CleanStep.trans (hcs.of_footM hfoot) hops hbuilds
              · rw [h2]
                have hn := (EffM.parseLinesPure D T fuel b.target c1 r c' h).1.nr h1
                exact ⟨(fun hh => by cases hh), fun _ => .inl hn, no_trace (cap := T.errorCap) (.inl hn)⟩

/-- outcome when the text-level acceptor accepts -/
def OutA (r : Except Abort Doc) : Prop :=
  match r with
  | .ok _ => True
  | .error (.composite es) => ∀ e ∈ es, e.kind = .raggedTable
  | .error (.single _) => False
  | .error (.crash _) => True
  | .error .fuel => True

/-- outcome when the text-level acceptor rejects -/
def OutB (cap : Nat) (r : Except Abort Doc) : Prop :=
  match r with
  | .ok _ => False
  | .error (.composite es) => (∃ e ∈ es, e.kind ≠ .raggedTable) ∨ cap < es.length
  | .error (.single _) => False
  | .error (.crash _) => True
  | .error .fuel => True

theorem outA_of_abOK {cap : Nat} {a : Abort} {c : Ctx} (h : AbOK cap a c) (hc : AR c) : OutA (.error a) := by
  rcases h with ⟨rfl, -⟩ | ⟨w, rfl⟩ | rfl
  · exact fun e he => (hc e he).1
  · trivial
  · trivial

theorem outB_of_abOK {cap : Nat} {a : Abort} {c : Ctx} (h : AbOK cap a c) : OutB cap (.error a) := by
  rcases h with ⟨rfl, hl⟩ | ⟨w, rfl⟩ | rfl
  · exact .inr hl
  · trivial
  · trivial

theorem body_sim {D : List Dialect} {T : Table} (hf : textDialectFacts D = true) (F : QF D T) (n : Nat) (p : Ctx)
    (hμ : MuOK D p.μ) (hp : AR p) :
    Triple (fun c => c = p) (parseBodyPure D T false n) (fun _ _ => textAccepts D T 0 p.μ p.lines = true)
      (fun a _ => (textAccepts D T 0 p.μ p.lines = true → OutA (.error a : Except Abort Doc)) ∧
        (textAccepts D T 0 p.μ p.lines = false → OutB T.errorCap (.error a : Except Abort Doc))) := by
  -- between the loop and the end: the error list is clean if the acceptor accepts, dirty if not
  let P := fun c : Ctx => (textAccepts D T 0 p.μ p.lines = true → AR c) ∧ (textAccepts D T 0 p.μ p.lines = false → NR c)
  have hab : ∀ {a : Abort} {c : Ctx}, AbOK T.errorCap a c → (textAccepts D T 0 p.μ p.lines = true → AR c) →
      (textAccepts D T 0 p.μ p.lines = true → OutA (.error a : Except Abort Doc)) ∧
      (textAccepts D T 0 p.μ p.lines = false → OutB T.errorCap (.error a : Except Abort Doc)) :=
    fun ha hc => ⟨fun hta => outA_of_abOK ha (hc hta), fun _ => outB_of_abOK ha⟩
  refine (body_rule (P1 := fun c => c = { p with β := p.β.startRule T.startRule }) (P2 := fun _ => P) (P3 := P)
    (fun c hc => by rw [hc]) (Triple.intro fun c r1 c1 hc hr1 => ?_) (fun _ => Triple.intro fun c r2 c2 hc hr2 => ?_)
    (fun c hc _ => ⟨fun hta e he => (hc.1 hta e he).1, fun hta => .inl (hc.2 hta)⟩)
    fun _ _ _ _ _ => ⟨fun _ => trivial, fun _ => trivial⟩).post fun _ c h => ?_
  · subst hc
    have hsim := lines_sim hf F (n + 2) 0 { p with β := p.β.startRule T.startRule } hμ hp r1 c1 hr1
    have heff := EffM.parseLinesPure D T (n + 2) 0 _ _ _ hr1
    cases r1 with
    | ok s => exact ⟨hsim.1, fun hta => (hsim.2.1 hta).resolve_right fun ⟨_, ha, _⟩ => nomatch ha⟩
    | error a => exact hab (heff.2 _ rfl) hsim.1
  · obtain ⟨-, heff, har⟩ := runProd_spec hr2
    cases r2 with
    | ok _ => exact ⟨fun hta => har (hc.1 hta), fun hta => heff.1.nr (hc.2 hta)⟩
    | error a => exact hab (heff.2 _ rfl) fun hta => har (hc.1 hta)
  · cases hta : textAccepts D T 0 p.μ p.lines with
    | true => rfl
    | false =>
      obtain ⟨e, he, -⟩ := h.1.2 hta
      rw [h.2.1] at he
      cases he

theorem reset_sepOK (D : List Dialect) (μ : MState) : sepOK (μ.reset D) = true := by
  unfold MState.reset sepOK
  rfl

theorem pure_outcome {D : List Dialect} {T : Table} (hf : textDialectFacts D = true) (F : QF D T)
    (μ : MState) (ids : Nat) (src : Str) (hμ : (μ.reset D).dialect ∈ D) :
    let out := (parseWithPure D T false μ ids src).1
    let ta := textAccepts D T 0 (μ.reset D) (splitLines src)
    (ta = true → (∃ d, out = .ok d) ∨ (∃ es, out = .rejected es true ∧ ∀ e ∈ es, e.kind = .raggedTable) ∨
        (∃ w, out = .crash w) ∨ out = .fuel) ∧
    (ta = false → (∃ es, out = .rejected es true ∧ ((∃ e ∈ es, e.kind ≠ .raggedTable) ∨ T.errorCap < es.length)) ∨
        (∃ w, out = .crash w) ∨ out = .fuel) := by
  intro out ta
  rcases parseWithPure_spec (body_sim hf F _ (ctx0 D μ ids src) ⟨hμ, reset_sepOK D μ⟩ fun e he => nomatch he) rfl
    with ⟨d, hd, hta⟩ | ⟨a, ha, h1, h2⟩
  · exact ⟨fun _ => .inl ⟨d, hd⟩, fun hf' => by rw [show ta = true from hta] at hf'; cases hf'⟩
  · cases a with
    | single e => exact ⟨fun h => (h1 h).elim, fun h => (h2 h).elim⟩
    | composite es => exact ⟨fun h => .inr (.inl ⟨es, ha, h1 h⟩), fun h => .inl ⟨es, ha, h2 h⟩⟩
    | crash w => exact ⟨fun _ => .inr (.inr (.inl ⟨w, ha⟩)), fun _ => .inr (.inl ⟨w, ha⟩)⟩
    | fuel => exact ⟨fun _ => .inr (.inr (.inr ha)), fun _ => .inr (.inr ha)⟩

theorem queueDialectFacts_of_text {D : List Dialect} (hf : textDialectFacts D = true) : queueDialectFacts D = true := by
  simp only [textDialectFacts, Bool.and_eq_true] at hf
  exact (keywordFacts_spec hf.1).2.1

section
variable {D : List Dialect} {T : Table} (hf : textDialectFacts D = true) (hT : queueFacts T = true)
  (hCB : commentBlankTested T = true) (hE : lookaheadsStopAtEOF T = true)
include hf hT hCB hE

omit hE in
theorem parse_outcome_eq_pure (μ : MState) (ids : Nat) (src : Str) (hμ : (μ.reset D).dialect ∈ D) :
    (parseWith D T false μ ids src).1 = (parseWithPure D T false μ ids src).1 :=
  congrArg Spec.Observed.outcome
    (queue_refines_peek D T (queueDialectFacts_of_text hf) hT hCB false μ ids src hμ)

/-- accepted at text level ⇒ accepted, or rejected with ragged-table errors only (or a crash of the
    model, which `C01_no_crash_any` excludes) -/
theorem text_accept_A (μ : MState) (ids : Nat) (src : Str) (hμ : (μ.reset D).dialect ∈ D)
    (hta : textAccepts D T 0 (μ.reset D) (splitLines src) = true) :
    (∃ d, (parseWith D T false μ ids src).1 = .ok d) ∨
    (∃ es, (parseWith D T false μ ids src).1 = .rejected es true ∧ ∀ e ∈ es, e.kind = .raggedTable) ∨
    (∃ w, (parseWith D T false μ ids src).1 = .crash w) := by
  have F := QF.of_facts (queueDialectFacts_of_text hf) hT
  have hnf := parse_terminates D T hE false μ ids src
  rw [parse_outcome_eq_pure hf hT hCB μ ids src hμ] at hnf ⊢
  rcases (pure_outcome hf F μ ids src hμ).1 hta with h | h | h | h
  · exact .inl h
  · exact .inr (.inl h)
  · exact .inr (.inr h)
  · exact absurd h hnf

/-- rejected at text level ⇒ rejected with an error that is not a ragged-table error, or cut short
    by the error limit (or a crash of the model) -/
theorem text_accept_B (μ : MState) (ids : Nat) (src : Str) (hμ : (μ.reset D).dialect ∈ D)
    (hta : textAccepts D T 0 (μ.reset D) (splitLines src) = false) :
    (∃ es, (parseWith D T false μ ids src).1 = .rejected es true ∧
      ((∃ e ∈ es, e.kind ≠ .raggedTable) ∨ T.errorCap < es.length)) ∨
    (∃ w, (parseWith D T false μ ids src).1 = .crash w) := by
  have F := QF.of_facts (queueDialectFacts_of_text hf) hT
  have hnf := parse_terminates D T hE false μ ids src
  rw [parse_outcome_eq_pure hf hT hCB μ ids src hμ] at hnf ⊢
  rcases (pure_outcome hf F μ ids src hμ).2 hta with h | h | h
  · exact .inl h
  · exact .inr h
  · exact absurd h hnf

/-- when the model does not crash and the error limit is not hit, the document is accepted, or
    rejected with ragged-table errors only, iff the text-level acceptor accepts it -/
theorem text_accept_iff (μ : MState) (ids : Nat) (src : Str) (hμ : (μ.reset D).dialect ∈ D)
    (hnc : ∀ w, (parseWith D T false μ ids src).1 ≠ .crash w)
    (hcap : ∀ es comp, (parseWith D T false μ ids src).1 = .rejected es comp → es.length ≤ T.errorCap) :
    ((∃ d, (parseWith D T false μ ids src).1 = .ok d) ∨
     (∃ es comp, (parseWith D T false μ ids src).1 = .rejected es comp ∧ ∀ e ∈ es, e.kind = .raggedTable)) ↔
    textAccepts D T 0 (μ.reset D) (splitLines src) = true := by
  constructor
  · intro hl
    cases hta : textAccepts D T 0 (μ.reset D) (splitLines src) with
    | true => rfl
    | false =>
      exfalso
      rcases text_accept_B hf hT hCB hE μ ids src hμ hta with ⟨es, hes, hbad⟩ | ⟨w, hw⟩
      · rcases hl with ⟨d, hd⟩ | ⟨es', comp, hes', hall⟩
        · rw [hd] at hes; cases hes
        · rw [hes'] at hes
          cases hes
          rcases hbad with ⟨e, he, hk⟩ | hlen
          · exact hk (hall e he)
          · have := hcap _ _ hes'
            omega
      · exact hnc w hw
  · intro hta
    rcases text_accept_A hf hT hCB hE μ ids src hμ hta with h | ⟨es, hes, hall⟩ | ⟨w, hw⟩
    · exact .inl h
    · exact .inr ⟨es, true, hes, hall⟩
    · exact absurd hw (hnc w)

end

end Lemmas
end GV
