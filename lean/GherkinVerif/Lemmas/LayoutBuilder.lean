/-
  Lemmas/LayoutBuilder.lean — the AST builder never reads the physical line of a token.

  `ValSame` / `ItemsSame` / `BSame` relate builder values, node contents and builder states that
  agree on everything except the `line` field of the tokens stored in them (`TokSame`,
  Lemmas/Layout.lean).  Every builder operation (`start_rule`, `build`, `end_rule` with all of
  `transform_node`, `get_result`) takes related states to related states and produces EQUAL
  documents, errors and id counters; for `transform_node` this is `transformNode_nat` of
  Lemmas/BuilderNat.lean without shift or renaming (`reads_same`).  Used by the simulations of
  Lemmas/LayoutDoc.lean and LayoutDoc2.lean (property C16, whole parse).
-/
import GherkinVerif.Lemmas.Layout
import GherkinVerif.Lemmas.BuilderNat
namespace GV
namespace Lemmas

mutual
/-- two builder values agree up to the physical lines carried by the tokens inside them -/
inductive ValSame : Val → Val → Prop
  | refl (v : Val) : ValSame v v
  | tok {a b : Token} (h : TokSame a b) : ValSame (.tok a) (.tok b)
  | raw (rt : RuleType) {xs ys : List (Key × Val)} (h : ItemsSame xs ys) : ValSame (.raw rt xs) (.raw rt ys)
/-- two item lists of a node: same keys in the same order, values related -/
inductive ItemsSame : List (Key × Val) → List (Key × Val) → Prop
  | nil : ItemsSame [] []
  | cons (k : Key) {v w : Val} {xs ys : List (Key × Val)} (h : ValSame v w) (t : ItemsSame xs ys) :
      ItemsSame ((k, v) :: xs) ((k, w) :: ys)
end

theorem ItemsSame.refl : ∀ xs : List (Key × Val), ItemsSame xs xs
  | [] => .nil
  | (k, v) :: xs => .cons k (.refl v) (ItemsSame.refl xs)

theorem ItemsSame.append {xs ys xs' ys' : List (Key × Val)} (h : ItemsSame xs ys) (h' : ItemsSame xs' ys') :
    ItemsSame (xs ++ xs') (ys ++ ys') := by
  induction xs generalizing ys with
  | nil => cases h; exact h'
  | cons x xs ih =>
    cases h with
    | cons k hv ht => exact .cons k hv (ih ht)

theorem TokSame.lineNo_eq {a b : Token} (h : TokSame a b) : a.lineNo = b.lineNo := h.1
theorem TokSame.col_eq {a b : Token} (h : TokSame a b) : a.col = b.col := h.2.1
theorem TokSame.mtype_eq {a b : Token} (h : TokSame a b) : a.mtype = b.mtype := h.2.2.1
theorem TokSame.text_eq {a b : Token} (h : TokSame a b) : a.text = b.text := h.2.2.2.1
theorem TokSame.keyword_eq {a b : Token} (h : TokSame a b) : a.keyword = b.keyword := h.2.2.2.2.1
theorem TokSame.ktype_eq {a b : Token} (h : TokSame a b) : a.ktype = b.ktype := h.2.2.2.2.2.1
theorem TokSame.indent_eq {a b : Token} (h : TokSame a b) : a.indent = b.indent := h.2.2.2.2.2.2.1
theorem TokSame.items_eq {a b : Token} (h : TokSame a b) : a.items = b.items := h.2.2.2.2.2.2.2.1
theorem TokSame.dialect_eq {a b : Token} (h : TokSame a b) : a.dialect = b.dialect := h.2.2.2.2.2.2.2.2

theorem TokSame.loc_eq {a b : Token} (h : TokSame a b) : a.loc = b.loc := by
  unfold Token.loc; rw [h.lineNo_eq, h.col_eq]

theorem TokSame.getLocation_eq {a b : Token} (h : TokSame a b) (c : Option Nat) :
    getLocation a c = getLocation b c := by
  unfold getLocation; rw [h.loc_eq, h.lineNo_eq]

theorem getItems_same {xs ys : List (Key × Val)} (h : ItemsSame xs ys) (k : Key) :
    All2 ValSame (getItems xs k) (getItems ys k) := by
  induction xs generalizing ys with
  | nil => cases h; exact .nil
  | cons x xs ih =>
    cases h with
    | cons k' hv ht =>
      unfold getItems
      simp only [List.filter_cons]
      by_cases hk : (k' == k) = true
      · simp only [hk, ↓reduceIte, List.map_cons]
        exact .cons hv (ih ht)
      · simp only [hk, Bool.false_eq_true, ↓reduceIte]
        exact ih ht

theorem getSingle_same {xs ys : List (Key × Val)} (h : ItemsSame xs ys) (k : Key) :
    ValSame (getSingle xs k) (getSingle ys k) := by
  unfold getSingle
  have := getItems_same h k
  revert this
  generalize getItems xs k = vs
  generalize getItems ys k = ws
  intro hvw
  cases hvw with
  | nil => exact .refl _
  | cons hv _ => exact hv

theorem getSingle_cases {xs ys : List (Key × Val)} (h : ItemsSame xs ys) (k : Key) :
    getSingle xs k = getSingle ys k ∨
    (∃ a b, TokSame a b ∧ getSingle xs k = .tok a ∧ getSingle ys k = .tok b) ∨
    (∃ rt is js, ItemsSame is js ∧ getSingle xs k = .raw rt is ∧ getSingle ys k = .raw rt js) := by
  have := getSingle_same h k
  revert this
  generalize getSingle xs k = v
  generalize getSingle ys k = w
  intro hvw
  cases hvw with
  | refl => exact .inl rfl
  | tok ht => exact .inr (.inl ⟨_, _, ht, rfl, rfl⟩)
  | raw rt hi => exact .inr (.inr ⟨rt, _, _, hi, rfl, rfl⟩)

theorem getTokens_same {xs ys : List (Key × Val)} (h : ItemsSame xs ys) (k : Kind) :
    All2 TokSame (getTokens xs k) (getTokens ys k) := by
  unfold getTokens
  have := getItems_same h (.tok k)
  revert this
  generalize getItems xs (.tok k) = vs
  generalize getItems ys (.tok k) = ws
  intro hvw
  induction hvw with
  | nil => exact .nil
  | cons hv _ ih =>
    cases hv with
    | refl =>
      simp only [List.filterMap_cons]
      split
      · exact ih
      · exact .cons (TokSame.refl _) ih
    | tok ht => simp only [List.filterMap_cons]; exact .cons ht ih
    | raw rt hi => simp only [List.filterMap_cons]; exact ih

/-- two builder computations fail with the same error or succeed with related values, and draw
    the same ids either way -/
def BSim {α} (R : α → α → Prop) (m1 m2 : BM α) : Prop :=
  ∀ n, (∃ a b n', m1.run.run n = (.ok a, n') ∧ m2.run.run n = (.ok b, n') ∧ R a b) ∨
       (∃ e n', m1.run.run n = (.error e, n') ∧ m2.run.run n = (.error e, n'))

theorem valN_same {v w : Val} : ValN 0 idMap TokSame ItemsSame v w ↔ ValSame v w := by
  rw [valN_zero_id]
  constructor
  · intro h
    cases v
    case tok a => obtain ⟨b, rfl, hab⟩ := h; exact .tok hab
    case raw rt xs => obtain ⟨ys, rfl, hxy⟩ := h; exact .raw rt hxy
    all_goals (cases h; exact .refl _)
  · intro h
    cases h
    case tok hab => exact ⟨_, rfl, hab⟩
    case raw hxy => exact ⟨_, rfl, hxy⟩
    case refl =>
      cases v
      case tok a => exact ⟨_, rfl, TokSame.refl a⟩
      case raw rt xs => exact ⟨_, rfl, ItemsSame.refl xs⟩
      all_goals rfl

theorem reads_same : Reads 0 idMap Eq TokSame ItemsSame where
  crash _ := rfl
  ragged hab _ := by rw [hab.getLocation_eq]
  tok hab := ⟨hab.text_eq.symm, hab.keyword_eq.symm, hab.ktype_eq.symm, hab.dialect_eq.symm,
    by rw [idMap_loc, hab.getLocation_eq]⟩
  items hab := by
    rw [← hab.items_eq]
    exact All2.refl (fun it => ⟨rfl, by rw [idMap_loc, hab.getLocation_eq]⟩) _
  read h _ := (getItems_same h _).mono fun _ _ => valN_same.2
  other h := (getTokens_same h .Other).map_eq fun _ _ e => e.text_eq.symm
  descr h := by
    unfold Spec.descOf
    have := getItems_same h (.rule .Description)
    revert this
    generalize getItems _ (.rule .Description) = vs
    generalize getItems _ (.rule .Description) = ws
    intro hvw
    cases hvw with
    | nil => rfl
    | cons hv _ =>
      cases hv with
      | refl => rename_i v _ _ _; cases v <;> rfl
      | tok _ => rfl
      | raw _ _ => rfl

theorem BSim.of_nat {α} {R S : α → α → Prop} {m1 m2 : BM α} (h : BSimN 0 Eq R m1 m2) (hRS : ∀ a b, R a b → S a b) :
    BSim S m1 m2 := fun k =>
  (h k).imp (fun ⟨a, b, k', e1, e2, hab⟩ => ⟨a, b, k', e1, e2, hRS _ _ hab⟩)
    fun ⟨e, _, k', e1, e2, he⟩ => ⟨e, k', e1, he ▸ e2⟩

theorem transformNode_same (cs : List Comment) (rt : RuleType) {xs ys : List (Key × Val)} (h : ItemsSame xs ys) :
    BSim ValSame (transformNode cs ⟨rt, xs⟩) (transformNode cs ⟨rt, ys⟩) := by
  have := transformNode_nat reads_same cs rt h
  rw [funext mapComment_id, List.map_id'] at this
  exact .of_nat this fun _ _ => valN_same.1

def NodeSame (a b : Node) : Prop := a.rt = b.rt ∧ ItemsSame a.items b.items

/-- two builder states agree up to the physical lines of the tokens on the stack -/
def BSame (β1 β2 : BState) : Prop := All2 NodeSame β1.stack β2.stack ∧ β1.comments = β2.comments

theorem NodeSame.refl (a : Node) : NodeSame a a := ⟨rfl, ItemsSame.refl _⟩

theorem BSame.refl (β : BState) : BSame β β := ⟨All2.refl NodeSame.refl _, rfl⟩

theorem BSame.startRule {β1 β2 : BState} (h : BSame β1 β2) (r : RuleType) :
    BSame (β1.startRule r) (β2.startRule r) :=
  ⟨.cons ⟨rfl, .nil⟩ h.1, h.2⟩

theorem addToTop_same {s1 s2 : List Node} (h : All2 NodeSame s1 s2) (k : Key) {v w : Val} (hv : ValSame v w) :
    (addToTop s1 k v = none ∧ addToTop s2 k w = none) ∨
    ∃ s1' s2', addToTop s1 k v = some s1' ∧ addToTop s2 k w = some s2' ∧ All2 NodeSame s1' s2' := by
  cases h with
  | nil => exact .inl ⟨rfl, rfl⟩
  | cons hab ht =>
    exact .inr ⟨_, _, rfl, rfl, .cons ⟨hab.1, hab.2.append (.cons k hv .nil)⟩ ht⟩

theorem BSame.build {β1 β2 : BState} (h : BSame β1 β2) {t1 t2 : Token} (ht : TokSame t1 t2) :
    (∃ e, β1.build t1 = .error e ∧ β2.build t2 = .error e) ∨
    (∃ β1' β2', β1.build t1 = .ok β1' ∧ β2.build t2 = .ok β2' ∧ BSame β1' β2') := by
  cases hm : t1.mtype with
  | none =>
    rw [layBuild_unmatched _ _ hm, layBuild_unmatched _ _ (ht.mtype_eq ▸ hm)]
    exact .inl ⟨_, rfl, rfl⟩
  | some k =>
    have hm2 : t2.mtype = some k := ht.mtype_eq ▸ hm
    by_cases hk : k = .Comment
    · subst hk
      rw [layBuild_comment _ _ hm, layBuild_comment _ _ hm2, ← ht.text_eq, ← ht.getLocation_eq]
      cases t1.text with
      | none => exact .inl ⟨_, rfl, rfl⟩
      | some tx => exact .inr ⟨_, _, rfl, rfl, h.1, by simp only [h.2]⟩
    · rw [layBuild_other _ _ k hk hm, layBuild_other _ _ k hk hm2]
      rcases addToTop_same h.1 (.tok k) (.tok ht) with ⟨e1, e2⟩ | ⟨s1, s2, e1, e2, hs⟩
      · rw [e1, e2]; exact .inl ⟨_, rfl, rfl⟩
      · rw [e1, e2]; exact .inr ⟨_, _, rfl, rfl, hs, h.2⟩

theorem BSame.endRule {β1 β2 : BState} (h : BSame β1 β2) (n : Nat) :
    (β1.endRule n).1 = (β2.endRule n).1 ∧ BSame (β1.endRule n).2.1 (β2.endRule n).2.1 ∧
    (β1.endRule n).2.2 = (β2.endRule n).2.2 := by
  obtain ⟨s1, c1⟩ := β1
  obtain ⟨s2, c2⟩ := β2
  obtain ⟨hs, hc⟩ := h
  simp only at hs hc
  subst hc
  cases hs with
  | nil => exact ⟨rfl, ⟨.nil, rfl⟩, rfl⟩
  | cons hab ht =>
    rename_i a b as bs
    obtain ⟨rt, xs⟩ := a
    obtain ⟨rt', ys⟩ := b
    obtain ⟨hrt, hxy⟩ := hab
    simp only at hrt hxy
    subst hrt
    simp only [BState.endRule]
    rcases transformNode_same c1 rt hxy n with ⟨v, w, n', e1, e2, hvw⟩ | ⟨e, n', e1, e2⟩
    · rw [e1, e2]
      simp only []
      rcases addToTop_same ht (.rule rt) hvw with ⟨e1, e2⟩ | ⟨s1, s2, e1, e2, hs⟩
      · rw [e1, e2]; exact ⟨rfl, ⟨ht, rfl⟩, rfl⟩
      · rw [e1, e2]; exact ⟨rfl, ⟨hs, rfl⟩, rfl⟩
    · rw [e1, e2]
      exact ⟨rfl, ⟨ht, rfl⟩, rfl⟩

theorem BSame.result {β1 β2 : BState} (h : BSame β1 β2) : β1.result = β2.result := by
  unfold BState.result
  obtain ⟨hs, hc⟩ := h
  revert hs
  generalize β1.stack = s1
  generalize β2.stack = s2
  intro hs
  cases hs with
  | nil => rfl
  | cons hab ht =>
    simp only []
    rcases getSingle_cases hab.2 (.rule .GherkinDocument) with e | ⟨_, _, _, e1, e2⟩ | ⟨_, _, _, _, e1, e2⟩
    · rw [e]
    · simp only [e1, e2]
    · simp only [e1, e2]

end Lemmas
end GV
