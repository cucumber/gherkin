/-
  Lemmas/FactsDialects.lean — the Boolean facts about the dialect table regenerated from
  gherkin-languages.json that more than one property uses.  The kernel evaluates two checkers on the
  table: `Spec.renderFacts` (what the head of every keyword looks like) and `pairFacts` (the facts about
  pairs of keywords, about dialect names and about `:` inside a keyword).  The other dialect facts
  follow from these two for every dialect table.  What a fact says is written at its checker (in Spec/;
  `renderFacts` in Lemmas/RoundtripLines.lean).
-/
import GherkinVerif.Spec.TextFacts
import GherkinVerif.Lemmas.RoundtripLines
import GherkinVerif.Gen.Dialects
import GherkinVerif.KDecide
namespace GV.Facts
open Spec

/-- what `keywordFacts` says beyond what the head of every keyword shows -/
def pairFacts (D : List Dialect) : Bool :=
  titleColonFree D && namesDistinct D && onlyStarRepeated D && starNotOnce D && noStepTitleClash D &&
  noCrossRoleClash D

theorem of_kwHeadOK {k : Str} (h : kwHeadOK k = true) :
    (!k.isEmpty) = true ∧ plainStart k = true ∧ (!startsWith [34] k && !startsWith [96] k) = true := by
  cases k with
  | nil => cases h
  | cons c r =>
    simp only [kwHeadOK, Bool.and_eq_true, Bool.not_eq_true', bne_iff_ne, ne_eq] at h
    obtain ⟨⟨⟨⟨⟨h1, h2⟩, h3⟩, h4⟩, h5⟩, h6⟩ := h
    simp [plainStart, noWsStart, startsWith, dq3, bt3, h1, Ne.symm h2, Ne.symm h3, Ne.symm h4, Ne.symm h5, Ne.symm h6]

theorem renderFacts_heads {D : List Dialect} (h : renderFacts D = true) :
    noEmptyKeyword D = true ∧ keywordsPlainStart D = true ∧ noQuoteStart D = true := by
  simp only [renderFacts, noEmptyKeyword, keywordsPlainStart, noQuoteStart, List.all_eq_true, Bool.and_eq_true] at h ⊢
  exact ⟨fun d hd k hk => (of_kwHeadOK (h d hd k hk).1).1, fun d hd k hk => (of_kwHeadOK (h d hd k hk).1).2.1,
    fun d hd k hk => by simpa using (of_kwHeadOK (h d hd k hk).1).2.2⟩

theorem keywordFacts_of {D : List Dialect} (hr : renderFacts D = true) (hp : pairFacts D = true) :
    keywordFacts D = true := by
  obtain ⟨h1, h2, -⟩ := renderFacts_heads hr
  simp only [pairFacts, Bool.and_eq_true] at hp
  simp only [keywordFacts, h1, h2, hp]; rfl

theorem markdownFacts_of_keywordFacts {D : List Dialect} (h : keywordFacts D = true) : markdownFacts D = true := by
  simp only [keywordFacts, Bool.and_eq_true] at h
  simp only [markdownFacts, h]; rfl

theorem renderFacts_dialects : renderFacts Gen.dialects = true := by kdecide

theorem pairFacts_dialects : pairFacts Gen.dialects = true := by kdecide

theorem keywordFacts_dialects : Spec.keywordFacts Gen.dialects = true :=
  keywordFacts_of renderFacts_dialects pairFacts_dialects

theorem noQuoteStart_dialects : Spec.noQuoteStart Gen.dialects = true :=
  (renderFacts_heads renderFacts_dialects).2.2

theorem markdownFacts_dialects : Spec.markdownFacts Gen.dialects = true :=
  markdownFacts_of_keywordFacts keywordFacts_dialects

theorem textDialectFacts_dialects : Spec.textDialectFacts Gen.dialects = true := by
  rw [Spec.textDialectFacts, keywordFacts_dialects, noQuoteStart_dialects]; rfl

theorem queueDialectFacts_dialects : Spec.queueDialectFacts Gen.dialects = true :=
  (renderFacts_heads renderFacts_dialects).2.1

end GV.Facts
