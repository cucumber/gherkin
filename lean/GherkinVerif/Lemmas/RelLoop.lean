/-
  Lemmas/RelLoop.lean — two runs of the queue-free parse side by side (`PostR`, Lemmas/Rel.lean).
  `branches_rel`: the tests of two states, branch by branch.  `parseLinesPure_rel`,
  `parsePrefixPure_rel`: a relation, indexed by the parser states, that one `match_token` of each
  run keeps is kept by the two main loops.  `insert_lines`, `insert_parseWithPure`: the second text
  has one line more; the runs go side by side up to it, the second takes a step of its own on it,
  and they go side by side again.  The runs are taken apart by the equations of Lemmas/PureInv.lean:
  a step is a `match_token` on `nextTok c` from `taken c` (`prefix_step`; `pure_step` spells the two
  out), the whole is
  `toOutcome` of the main loop followed by `bodyTail` (`parseWithPure_lines`).  `bodyTail_rel`: two
  runs of what follows the main loop.
-/
import GherkinVerif.Lemmas.Rel
import GherkinVerif.Lemmas.PureInv
namespace GV
namespace Lemmas
open Spec

section branches
variable {D : List Dialect} {T : Table} {stop : Bool} {E : Abort → Abort → Ctx → Ctx → Prop}
  {X0 X : Option Abort × Ctx → Option Abort × Ctx → Prop}

/-- The relational form of `Lemmas.branches_rule`.  `P`: what holds between two pairs of tests;
    `Tk bs1 bs2 t1 t2`: what is known of the tokens in hand and the branches still to be tried;
    `Pm b1 b2 t1' t2'`: what holds once the tests of `b1`, `b2` have matched and made `t1'`, `t2'`
    of the tokens.  Both tests give the same verdict, both guards too; a failed guard leads back to
    `P` and to `Tk` of the rest, which matching tests therefore provide whenever the branch is
    guarded.  Tests and look-aheads escape through `X0`, which is an escape `X` of the whole once
    the runs have gone on (`hX0`). -/
theorem branches_rel {P : Ctx → Ctx → Prop} {Tk : List Branch → List Branch → Token → Token → Prop}
    {Pm : Branch → Branch → Token → Token → Ctx → Ctx → Prop} {Q : Nat → Nat → Ctx → Ctx → Prop}
    (row1 row2 : StateRow)
    (hcons : ∀ b1 bs1 bs2 t1 t2, Tk (b1 :: bs1) bs2 t1 t2 → ∃ b2 bs2', bs2 = b2 :: bs2' ∧ b2.guard = b1.guard)
    (htest : ∀ b1 bs1 b2 bs2 t1 t2 c1 c2, Tk (b1 :: bs1) (b2 :: bs2) t1 t2 → P c1 c2 →
      PostR (fun r1 r2 d1 d2 => r2.1 = r1.1 ∧
          (r1.1 = true → Pm b1 b2 r1.2 r2.2 d1 d2 ∧ (b1.guard ≠ none → Tk bs1 bs2 r1.2 r2.2)) ∧
          (r1.1 = false → P d1 d2 ∧ Tk bs1 bs2 r1.2 r2.2)) E X0
        (run (matchP D T.errorCap stop b1.kind t1) c1) (run (matchP D T.errorCap stop b2.kind t2) c2))
    (hlook : ∀ b1 b2 t1' t2' i la c1 c2, b1.guard = some i → T.lookaheads[i]? = some la → Pm b1 b2 t1' t2' c1 c2 →
      PostR (fun o1 o2 d1 d2 => o2 = o1 ∧ (o1 = true → Pm b1 b2 t1' t2' d1 d2) ∧ (o1 = false → P d1 d2)) E X0
        (run (lookaheadPure D T.errorCap stop la) c1) (run (lookaheadPure D T.errorCap stop la) c2))
    (hnola : ∀ b1 b2 t1' t2' w c1 c2, Pm b1 b2 t1' t2' c1 c2 → E (.crash w) (.crash w) c1 c2)
    (hprods : ∀ b1 b2 t1' t2' c1 c2, Pm b1 b2 t1' t2' c1 c2 →
      PostR (fun _ _ d1 d2 => Q b1.target b2.target d1 d2) E X
        (run (runProds T.errorCap stop t1' b1.prods) c1) (run (runProds T.errorCap stop t2' b2.prods) c2))
    (htail : ∀ bs2 t1 t2 c1 c2, Tk [] bs2 t1 t2 → P c1 c2 →
      PostR Q E X (run (tryBranchesPure D T stop row1 [] t1) c1) (run (tryBranchesPure D T stop row2 bs2 t2) c2))
    (hX0 : ∀ {α β γ δ : Type} (k1 : α → PM γ) (k2 : β → PM δ), StickyTo X0 X k1 k2) :
    ∀ bs1 bs2 t1 t2 c1 c2, Tk bs1 bs2 t1 t2 → P c1 c2 →
      PostR Q E X (run (tryBranchesPure D T stop row1 bs1 t1) c1) (run (tryBranchesPure D T stop row2 bs2 t2) c2) := by
  intro bs1
  induction bs1 with
  | nil => intro bs2 t1 t2 c1 c2 ht hp; exact htail bs2 t1 t2 c1 c2 ht hp
  | cons b1 bs1 ih =>
    intro bs2 t1 t2 c1 c2 ht hp
    obtain ⟨b2, bs2, rfl, hg⟩ := hcons _ _ _ _ _ ht
    unfold tryBranchesPure
    refine (htest _ _ _ _ _ _ _ _ ht hp).bindTo (fun r1 r2 d1 d2 _ _ hr => ?_) (hX0 _ _)
    obtain ⟨m1, t1'⟩ := r1
    obtain ⟨m2, t2'⟩ := r2
    obtain ⟨hm, hyes, hno⟩ := hr
    simp only at hm hyes hno
    subst hm
    dsimp only
    cases m2 with
    | false =>
      obtain ⟨hp', ht'⟩ := hno rfl
      exact ih bs2 t1' t2' d1 d2 ht' hp'
    | true =>
      obtain ⟨hpm, hnext⟩ := hyes rfl
      simp only [↓reduceIte]
      -- after the guard
      have cont : ∀ (ok : Bool) (e1 e2 : Ctx), (ok = false → b1.guard ≠ none) → (ok = true → Pm b1 b2 t1' t2' e1 e2) →
          (ok = false → P e1 e2) →
          PostR Q E X
            (run (if ok = true then (do runProds T.errorCap stop t1' b1.prods; Pure.pure b1.target : PM Nat)
              else tryBranchesPure D T stop row1 bs1 t1') e1)
            (run (if ok = true then (do runProds T.errorCap stop t2' b2.prods; Pure.pure b2.target : PM Nat)
              else tryBranchesPure D T stop row2 bs2 t2') e2) := by
        intro ok e1 e2 hok hy hn
        cases ok with
        | false => exact ih bs2 t1' t2' e1 e2 (hnext (hok rfl)) (hn rfl)
        | true =>
          simp only [↓reduceIte]
          refine (hprods _ _ _ _ _ _ (hy rfl)).bind (fun _ _ f1 f2 _ _ hq => ?_) (Sticky.pure X _ _)
          exact .ok hq
      rw [hg]
      cases hg1 : b1.guard with
      | none =>
        simp only []
        rw [prun_bind, prun_bind, prun_pure, prun_pure]
        exact cont true d1 d2 (fun h => nomatch h) (fun _ => hpm) (fun h => nomatch h)
      | some i =>
        have hne : b1.guard ≠ none := by rw [hg1]; exact fun h => nomatch h
        simp only []
        cases hla : T.lookaheads[i]? with
        | none =>
          simp only []
          rw [prun_bind, prun_bind, prun_throw, prun_throw]
          exact .err (hnola _ _ _ _ _ _ _ hpm)
        | some la =>
          simp only []
          refine (hlook _ _ _ _ i la _ _ hg1 hla hpm).bindTo (fun o1 o2 e1 e2 _ _ ho => ?_) (hX0 _ _)
          obtain ⟨rfl, hy, hn⟩ := ho
          exact cont o2 e1 e2 (fun _ => hne) hy hn

end branches

section loops
variable {D : List Dialect} {T : Table} {stop : Bool} {E : Abort → Abort → Ctx → Ctx → Prop}
  {X : Option Abort × Ctx → Option Abort × Ctx → Prop}

/-- how the main loop goes on after a token: `eof` says whether that was the end of the text -/
abbrev loopRest (D : List Dialect) (T : Table) (stop : Bool) (fuel : Nat) (eof : Bool) (s : Nat) : PM Nat :=
  if eof then Pure.pure s else parseLinesPure D T stop fuel s

/-- `J` holds before each pair of steps, the stronger `J'` after it. -/
theorem parseLinesPure_rel {J J' : Nat → Nat → Ctx → Ctx → Prop}
    (hJ : ∀ s1 s2 c1 c2, J' s1 s2 c1 c2 → J s1 s2 c1 c2)
    (heof : ∀ s1 s2 c1 c2, J s1 s2 c1 c2 → c2.lines.head?.isNone = c1.lines.head?.isNone)
    (hstep : ∀ s1 s2 c1 c2, J s1 s2 c1 c2 →
      PostR J' E X (run (matchTokenPure D T stop s1 (nextTok c1)) (taken c1))
        (run (matchTokenPure D T stop s2 (nextTok c2)) (taken c2)))
    (hfuel : ∀ s1 s2 c1 c2, J s1 s2 c1 c2 → E .fuel .fuel c1 c2)
    (hX : ∀ fuel b, Sticky X (loopRest D T stop fuel b) (loopRest D T stop fuel b)) :
    ∀ (fuel s1 s2 : Nat) (c1 c2 : Ctx), J s1 s2 c1 c2 →
      PostR J' E X (run (parseLinesPure D T stop fuel s1) c1) (run (parseLinesPure D T stop fuel s2) c2) := by
  intro fuel
  induction fuel with
  | zero => intro s1 s2 c1 c2 h; exact .err (hfuel _ _ _ _ h)
  | succ fuel ih =>
    intro s1 s2 c1 c2 h
    rw [pure_step, pure_step]
    show PostR J' E X (run (_ >>= loopRest D T stop fuel c1.lines.head?.isNone) _)
      (run (_ >>= loopRest D T stop fuel c2.lines.head?.isNone) _)
    rw [heof _ _ _ _ h]
    refine (hstep _ _ _ _ h).bind (fun a1 a2 d1 d2 _ _ hj => ?_) (hX fuel _)
    cases c1.lines.head?.isNone with
    | true => exact .ok hj
    | false => exact ih a1 a2 d1 d2 (hJ _ _ _ _ hj)

theorem parsePrefixPure_rel {J : List Str → Nat → Ctx → Ctx → Prop}
    (hlines : ∀ l p s c1 c2, J (l :: p) s c1 c2 → c1.lines.head? = some l ∧ c2.lines.head? = some l)
    (hstep : ∀ l p s c1 c2, J (l :: p) s c1 c2 →
      PostR (fun s1 s2 d1 d2 => s2 = s1 ∧ J p s1 d1 d2) E X
        (run (matchTokenPure D T stop s (nextTok c1)) (taken c1)) (run (matchTokenPure D T stop s (nextTok c2)) (taken c2)))
    (hX : ∀ j, Sticky X (fun s => parsePrefixPure D T stop j s) (fun s => parsePrefixPure D T stop j s)) :
    ∀ (p : List Str) (s : Nat) (c1 c2 : Ctx), J p s c1 c2 →
      PostR (fun a1 a2 d1 d2 => a2 = a1 ∧ a1.2 = false ∧ J [] a1.1 d1 d2) E X
        (run (parsePrefixPure D T stop p.length s) c1) (run (parsePrefixPure D T stop p.length s) c2) := by
  intro p
  induction p with
  | nil => intro s c1 c2 h; exact .ok ⟨rfl, rfl, h⟩
  | cons l p ih =>
    intro s c1 c2 h
    obtain ⟨h1, h2⟩ := hlines _ _ _ _ _ h
    have step : ∀ c : Ctx, c.lines.head? = some l → run (parsePrefixPure D T stop (p.length + 1) s) c =
        run (matchTokenPure D T stop s (nextTok c) >>= fun s' => parsePrefixPure D T stop p.length s') (taken c) :=
      fun c hc => by rw [prefix_step, hc]; rfl
    rw [List.length_cons, step c1 h1, step c2 h2]
    refine (hstep _ _ _ _ _ h).bind (fun a1 a2 d1 d2 _ _ hj => ?_) (hX _)
    obtain ⟨h12, hj⟩ := hj
    rw [h12]
    exact ih a1 d1 d2 hj

/-- `J0 p s`: both runs are in state `s` and have the lines `p` to read before the insertion
    point; `J1 s1 s2`: the second run has read the inserted line `b`.  An abort before
    the insertion point (`E0`) is an abort of the second run's loop over `pre`. -/
theorem insert_lines {J0 : List Str → Nat → Ctx → Ctx → Prop} {J1 J1' : Nat → Nat → Ctx → Ctx → Prop}
    {E0 E1 : Abort → Abort → Ctx → Ctx → Prop}
    {b : Str} {pre post : List Str} {c1 c2 : Ctx} (h0 : J0 pre 0 c1 c2)
    (hl0 : ∀ l p s c1 c2, J0 (l :: p) s c1 c2 → c1.lines.head? = some l ∧ c2.lines.head? = some l)
    (hstep0 : ∀ l p s c1 c2, J0 (l :: p) s c1 c2 →
      PostR (fun s1 s2 d1 d2 => s2 = s1 ∧ J0 p s1 d1 d2) E0 X
        (run (matchTokenPure D T stop s (nextTok c1)) (taken c1)) (run (matchTokenPure D T stop s (nextTok c2)) (taken c2)))
    (hextra : ∀ s f d1 d2, run (parsePrefixPure D T stop pre.length 0) c1 = (.ok (s, f), d1) →
      run (parsePrefixPure D T stop pre.length 0) c2 = (.ok (s, f), d2) → J0 [] s d1 d2 →
      d2.lines.head? = some b ∧
      ((∃ s2 d2', run (matchTokenPure D T stop s (nextTok d2)) (taken d2) = (.ok s2, d2') ∧ J1 s s2 d1 d2') ∨
       (∃ e d2', run (matchTokenPure D T stop s (nextTok d2)) (taken d2) = (.error e, d2') ∧ ∀ x1, X x1 (some e, d2'))))
    (hJ : ∀ s1 s2 c1 c2, J1' s1 s2 c1 c2 → J1 s1 s2 c1 c2)
    (heof1 : ∀ s1 s2 c1 c2, J1 s1 s2 c1 c2 → c2.lines.head?.isNone = c1.lines.head?.isNone)
    (hstep1 : ∀ s1 s2 c1 c2, J1 s1 s2 c1 c2 →
      PostR J1' E1 X (run (matchTokenPure D T stop s1 (nextTok c1)) (taken c1))
        (run (matchTokenPure D T stop s2 (nextTok c2)) (taken c2)))
    (hfuel : ∀ s1 s2 c1 c2, J1 s1 s2 c1 c2 → E1 .fuel .fuel c1 c2)
    (hX : ∀ {α β γ δ : Type} (k1 : α → PM γ) (k2 : β → PM δ), Sticky X k1 k2) :
    PostR J1' (fun e1 e2 d1 d2 => E1 e1 e2 d1 d2 ∨
        (E0 e1 e2 d1 d2 ∧ run (parsePrefixPure D T stop pre.length 0) c2 = (.error e2, d2))) X
      (run (parseLinesPure D T stop ((pre ++ post).length + 2) 0) c1)
      (run (parseLinesPure D T stop ((pre ++ b :: post).length + 2) 0) c2) := by
  have e1 : (pre ++ post).length + 2 = pre.length + (post.length + 2) := by simp; omega
  have e2 : (pre ++ b :: post).length + 2 = pre.length + (post.length + 2 + 1) := by simp; omega
  rw [e1, e2, parseLinesPure_split, parseLinesPure_split]
  rcases parsePrefixPure_rel hl0 hstep0 (fun _ => hX _ _) pre 0 c1 c2 h0 with
    ⟨a1, a2, d1, d2, r1, r2, h12, hflag, hj⟩ | ⟨a1, a2, d1, d2, r1, r2, he⟩ | hx
  · rw [h12] at r2
    obtain ⟨s, f⟩ := a1
    simp only at hflag hj
    subst hflag
    rw [prun_bind, prun_bind, r1, r2]
    simp only [Bool.false_eq_true, if_false]
    obtain ⟨hb, hex⟩ := hextra s false d1 d2 r1 r2 hj
    have hnone : d2.lines.head?.isNone = false := by rw [hb]; rfl
    rw [pure_step (p := d2)]
    show PostR J1' _ X _ (run (_ >>= loopRest D T stop (post.length + 2) d2.lines.head?.isNone) _)
    rw [hnone]
    rcases hex with ⟨s2, d2', hr, hj1⟩ | ⟨e, d2', hr, hx⟩
    · rw [prun_bind, hr]
      exact (parseLinesPure_rel hJ heof1 hstep1 hfuel (fun _ _ => hX _ _) _ s s2 d1 d2' hj1).monoE fun _ _ _ _ _ h => .inl h
    · rw [prun_bind, hr]
      exact .esc (hx _)
  · exact .inr (.inl ⟨a1, a2, d1, d2, by rw [prun_bind, r1], by rw [prun_bind, r2], .inr ⟨he, r2⟩⟩)
  · exact .esc (hX _ _ _ _ _ _ hx)

/-- what `parse` reports in the context that the final `end_rule` has left -/
def bodyResult (c : Ctx) : Except Abort Doc :=
  if !c.errors.isEmpty then .error (.composite c.errors)
  else match c.β.result with
    | .ok (some d) => .ok d
    | .ok none => .error (.crash "get_result returned None")
    | .error (.crash w) => .error (.crash w)
    | .error (.ast e) => .error (.single e)

theorem run_bodyTail (T : Table) (stop : Bool) (c : Ctx) :
    run (bodyTail T stop) c =
      match run (runProd T.errorCap stop default (.end_ T.startRule)) c with
      | (.ok _, d) => (bodyResult d, d)
      | (.error e, d) => (.error e, d) := by
  unfold bodyTail
  rw [prun_bind]
  rcases run (runProd T.errorCap stop default (.end_ T.startRule)) c with ⟨_ | _, d⟩
  · rfl
  dsimp only
  unfold finishX
  rw [prun_bind, run_get]
  unfold bodyResult astResult
  dsimp only
  split
  · rfl
  · rcases d.β.result with (_ | _) | _ | _ <;> rfl

/-- Two runs of the tail of `parse`: the final `end_rule`s end alike (`hend`); where both have returned, `hres`
    compares what is then reported. -/
theorem bodyTail_rel {C : Unit → Unit → Ctx → Ctx → Prop} {Q : Doc → Doc → Ctx → Ctx → Prop} {c1 c2 : Ctx}
    (hend : PostR C E X (run (runProd T.errorCap stop default (.end_ T.startRule)) c1)
      (run (runProd T.errorCap stop default (.end_ T.startRule)) c2))
    (hres : ∀ d1 d2, C () () d1 d2 → PostR Q E X (bodyResult d1, d1) (bodyResult d2, d2))
    (hX : ∀ {α β γ δ : Type} (k1 : α → PM γ) (k2 : β → PM δ), Sticky X k1 k2) :
    PostR Q E X (run (bodyTail T stop) c1) (run (bodyTail T stop) c2) := by
  rcases hend with ⟨_, _, d1, d2, r1, r2, hc⟩ | ⟨e1, e2, d1, d2, r1, r2, he⟩ | hx
  · rw [run_bodyTail, run_bodyTail, r1, r2]
    exact hres d1 d2 hc
  · rw [run_bodyTail, run_bodyTail, r1, r2]
    exact .err he
  · exact .esc (hX _ _ _ _ _ _ hx)

/-- The two parses as runs (`parseWithPure_lines`): main loops that end alike (`hloops`, from `insert_lines`), then
    tails that do. -/
theorem insert_parseWithPure {J : Nat → Nat → Ctx → Ctx → Prop} {Q : Doc → Doc → Ctx → Ctx → Prop}
    {μ : MState} {ids : Nat} {src src' : Str} {b : Str} {pre post : List Str}
    (h1 : splitLines src = pre ++ post) (h2 : splitLines src' = pre ++ b :: post)
    (hloops : PostR J E X (run (parseLinesPure D T stop ((pre ++ post).length + 2) 0) (startCtx D T μ ids src))
      (run (parseLinesPure D T stop ((pre ++ b :: post).length + 2) 0) (startCtx D T μ ids src')))
    (htail : ∀ s1 s2 d1 d2, J s1 s2 d1 d2 → PostR Q E X (run (bodyTail T stop) d1) (run (bodyTail T stop) d2))
    (hX : Sticky X (fun _ : Nat => bodyTail T stop) (fun _ : Nat => bodyTail T stop)) :
    PostR Q E X
      (run (parseLinesPure D T stop ((splitLines src).length + 2) 0 >>= fun _ => bodyTail T stop)
        (startCtx D T μ ids src))
      (run (parseLinesPure D T stop ((splitLines src').length + 2) 0 >>= fun _ => bodyTail T stop)
        (startCtx D T μ ids src')) := by
  rw [h1, h2]
  exact hloops.bind (fun _ _ _ _ _ _ h => htail _ _ _ _ h) hX

end loops
end Lemmas
end GV
