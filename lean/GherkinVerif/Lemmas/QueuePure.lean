/-
  The token queue is an implementation detail: the parse with the look-ahead queue (`parseWith`) and
  the parse that only peeks at the unread lines (`Spec.parseWithPure`) agree on every observable
  (C18_queue_refines_peek).

  Simulation: the pure context is the imperative context with the scanner fields overwritten
  (`pureOf`: empty queue, unread lines = all lines after the `k` tokens the main loop has read).
  Tokens differ: a token that has been through the queue carries the fields a look-ahead match
  wrote.  A later successful match overwrites all of them (`setMatched_congr`), and the one field
  an error tail reads (`col`) is, for a queued token, either what a fresh token yields or the
  line is a comment / blank line, which never reaches an error tail (`commentBlankTested`).
-/
import GherkinVerif.Lemmas.QueueFacts
import GherkinVerif.Spec.PureParse
namespace GV
namespace Lemmas
open Spec

def sameKey (t t' : Token) : Prop := t.line = t'.line ∧ t.lineNo = t'.lineNo

theorem sameKey.refl (t : Token) : sameKey t t := ⟨rfl, rfl⟩
theorem sameKey.trans {a b c : Token} (h1 : sameKey a b) (h2 : sameKey b c) : sameKey a c :=
  ⟨h1.1.trans h2.1, h1.2.trans h2.2⟩
theorem sameKey.symm {a b : Token} (h : sameKey a b) : sameKey b a := ⟨h.1.symm, h.2.symm⟩

theorem setMatched_congr {t t' : Token} (hk : sameKey t t') (μ : MState) (ty : Kind) (text : Option Str)
    (keyword : Option Str) (ktype : Option KType) (indent : Option Nat) (items : List (Nat × Str)) :
    setMatched μ t ty text keyword ktype indent items = setMatched μ t' ty text keyword ktype indent items := by
  obtain ⟨h1, h2⟩ := hk
  cases t; cases t'
  simp only at h1 h2
  subst h1 h2
  rfl

/-- relation between the outcomes of one test on two tokens of the same line: same matcher
    state, same verdict (same error), and the tokens afterwards are equal or both untouched -/
def OutRel (t t' : Token) (o o' : MOut) : Prop :=
  o.μ = o'.μ ∧ o.res = o'.res ∧ (o.tok = o'.tok ∨ (MRes.isMatched o.res = false ∧ o.tok = t ∧ o'.tok = t'))

theorem OutRel.same {t t' : Token} {o : MOut} : OutRel t t' o o := ⟨rfl, rfl, .inl rfl⟩
theorem OutRel.no {t t' : Token} {μ : MState} : OutRel t t' ⟨t, μ, .no⟩ ⟨t', μ, .no⟩ :=
  ⟨rfl, rfl, .inr ⟨rfl, rfl, rfl⟩⟩

theorem matchLine_rel (D : List Dialect) (K : Kind) (μ : MState) {t t' : Token} (hk : sameKey t t') (l : Str) :
    OutRel t t' (matchLine D K μ t l) (matchLine D K μ t' l) := by
  rw [matchLine_eq, matchLine_eq]
  cases lineDec D K μ l with
  | no => exact OutRel.no
  | hit μs text kw kt ind items μ' => simp only [LineDec.out, setMatched_congr hk]; exact OutRel.same
  | tagErr col => exact ⟨rfl, by simp only [LineDec.out, hk.2], .inr ⟨rfl, rfl, rfl⟩⟩
  | langErr name => simp only [LineDec.out, setMatched_congr hk]; exact OutRel.same

theorem matchTok_rel (D : List Dialect) (K : Kind) (μ : MState) {t t' : Token} (hk : sameKey t t') :
    OutRel t t' (matchTok D K μ t).1 (matchTok D K μ t').1 ∧ (matchTok D K μ t).2 = (matchTok D K μ t').2 := by
  unfold matchTok
  rw [← hk.1]
  cases t.line with
  | none =>
    dsimp only
    split
    · rw [setMatched_congr hk]; exact ⟨OutRel.same, rfl⟩
    · exact ⟨OutRel.no, rfl⟩
  | some l => exact ⟨matchLine_rel D K μ hk l, rfl⟩

/-- overwrite the scanner fields -/
def rf (c : Ctx) (q : List Token) (ls : List Str) (n : Nat) : Ctx := { c with queue := q, lines := ls, lineNo := n }

/-- the pure context for an imperative one: no queue, all lines after the `k` tokens read are unread -/
def pureOf (L : List Str) (k : Nat) (c : Ctx) : Ctx := rf c [] (L.drop k) k

/-- `m` neither reads nor writes the scanner fields -/
def QFrame {α} (m : PM α) : Prop :=
  ∀ c q ls n r c', run m c = (r, c') → run m (rf c q ls n) = (r, rf c' q ls n)

theorem QFrame.pure {α} (a : α) : QFrame (pure a : PM α) := by
  intro c q ls n r c' h; rw [prun_pure] at h ⊢; cases h; rfl
theorem QFrame.throw {α} (e : Abort) : QFrame (throw e : PM α) := by
  intro c q ls n r c' h; rw [prun_throw] at h ⊢; cases h; rfl

theorem QFrame.bind {α β} {m : PM α} {f : α → PM β} (h1 : QFrame m) (h2 : ∀ a, QFrame (f a)) : QFrame (m >>= f) := by
  intro c q ls n r c' h
  rw [prun_bind] at h ⊢
  rcases hr : run m c with ⟨r1, c1⟩
  rw [hr] at h
  rw [h1 c q ls n r1 c1 hr]
  cases r1 with
  | ok a => exact h2 a c1 q ls n r c' h
  | error e => cases h; rfl

theorem QFrame.get_bind {α} {f : Ctx → PM α} (hf : ∀ c, QFrame (f c)) (hc : ∀ c q ls n, f (rf c q ls n) = f c) :
    QFrame (get >>= f) := by
  intro c q ls n r c' h
  rw [prun_bind, run_get] at h ⊢
  dsimp only at h ⊢
  rw [hc]
  exact hf c c q ls n r c' h

theorem QFrame.addError (cap : Nat) (e : PErr) : QFrame (addError cap e) := by
  intro c q ls n r c' h
  rw [run_addError] at h ⊢
  dsimp only [rf] at h ⊢
  split at h
  · rename_i h1; simp only [h1, if_true]; cases h; rfl
  · rename_i h1
    simp only [h1]
    split at h
    · rename_i h2; simp only [h2, if_true]; cases h; rfl
    · rename_i h2; simp only [h2, if_false]; cases h; rfl

theorem QFrame.liftB (cap : Nat) (stop : Bool) (x : Except BErr Unit) : QFrame (liftB cap stop x) := by
  intro c q ls n r c' h
  rw [run_liftB] at h ⊢
  split at h
  · cases h; rfl
  · cases h; rfl
  · split at h
    · rename_i h1; simp only [h1, if_true]; cases h; rfl
    · rename_i h1; simp only [h1]; exact QFrame.addError cap _ c q ls n r c' h

theorem QFrame.runProd (cap : Nat) (stop : Bool) (t : Token) (p : Prod) : QFrame (runProd cap stop t p) := by
  intro c q ls n r c' h
  rw [run_runProd] at h ⊢
  cases p with
  | start rr => dsimp only at h ⊢; cases h; rfl
  | end_ rr => exact QFrame.liftB cap stop _ _ q ls n r c' h
  | build =>
    dsimp only [rf] at h ⊢
    cases hb : c.β.build t with
    | ok β' => rw [hb] at h; dsimp only at h ⊢; cases h; rfl
    | error e' => rw [hb] at h; dsimp only at h ⊢; exact QFrame.liftB cap stop _ c q ls n r c' h

theorem QFrame.runProds (cap : Nat) (stop : Bool) (t : Token) (ps : List Prod) : QFrame (runProds cap stop t ps) := by
  induction ps with
  | nil => exact QFrame.pure _
  | cons p ps ih => exact QFrame.bind (QFrame.runProd cap stop t p) fun _ => ih

/-- relation between the results of the same test on two tokens of the same line -/
def ResRel (t t' : Token) (r r' : Except Abort (Bool × Token)) : Prop :=
  match r, r' with
  | .ok (m, u), .ok (m', u') => m = m' ∧ (u = u' ∨ (m = false ∧ u = t ∧ u' = t'))
  | .error e, .error e' => e = e'
  | _, _ => False

theorem matchP_rel (D : List Dialect) (cap : Nat) (stop : Bool) (K : Kind) {t t' : Token} (hk : sameKey t t')
    (c : Ctx) (q : List Token) (ls : List Str) (n : Nat) {r : Except Abort (Bool × Token)} {c1 : Ctx}
    (h : run (matchP D cap stop K t) c = (r, c1)) :
    ∃ r', run (matchP D cap stop K t') (rf c q ls n) = (r', rf c1 q ls n) ∧ ResRel t t' r r' := by
  obtain ⟨⟨hμ, hres, htok⟩, hinv⟩ := matchTok_rel D K c.μ hk
  rw [run_matchP] at h ⊢
  have e1 : (rf c q ls n).μ = c.μ := rfl
  have e2 : (rf c q ls n).calls = c.calls := rfl
  simp only [e1, e2, ← hres, ← hinv, ← hμ]
  dsimp only at h
  cases hr : (matchTok D K c.μ t).1.res with
  | matched =>
    rw [hr] at h; dsimp only at h ⊢; cases h
    refine ⟨_, rfl, rfl, ?_⟩
    rcases htok with h | ⟨h, -⟩
    · exact .inl h
    · rw [hr] at h; cases h
  | no =>
    rw [hr] at h; dsimp only at h ⊢; cases h
    refine ⟨_, rfl, rfl, ?_⟩
    rcases htok with h | ⟨-, h1, h2⟩
    · exact .inl h
    · exact .inr ⟨rfl, h1, h2⟩
  | raised e =>
    rw [hr] at h; dsimp only at h ⊢
    cases stop with
    | true =>
      simp only [if_true] at h ⊢
      cases h
      exact ⟨_, rfl, rfl⟩
    | false =>
      simp only [Bool.false_eq_true, if_false] at h ⊢
      rcases ha : run (GV.addError cap e)
        { c with μ := (matchTok D K c.μ t).1.μ, calls := c.calls + (if (matchTok D K c.μ t).2 = true then 1 else 0) }
        with ⟨r2, c2⟩
      rw [ha] at h
      have hfr := QFrame.addError cap e _ q ls n r2 c2 ha
      dsimp only [rf] at hfr ⊢
      rw [hfr]
      cases r2 with
      | error e2 => cases h; exact ⟨_, rfl, rfl⟩
      | ok _ =>
        cases h
        refine ⟨_, rfl, rfl, ?_⟩
        rcases htok with h | ⟨-, h1, h2⟩
        · exact .inl h
        · exact .inr ⟨rfl, h1, h2⟩

/-- relation between the results of `matchAny` on two tokens of the same line -/
def ResRel2 (r r' : Except Abort (Bool × Token)) : Prop :=
  match r, r' with
  | .ok (m, u), .ok (m', u') => m = m' ∧ sameKey u u'
  | .error e, .error e' => e = e'
  | _, _ => False

theorem matchAny_rel (D : List Dialect) (cap : Nat) (stop : Bool) (ks : List Kind) {t t' : Token} (hk : sameKey t t')
    (c : Ctx) (q : List Token) (ls : List Str) (n : Nat) {r : Except Abort (Bool × Token)} {c1 : Ctx}
    (h : run (matchAny D cap stop ks t) c = (r, c1)) :
    ∃ r', run (matchAny D cap stop ks t') (rf c q ls n) = (r', rf c1 q ls n) ∧ ResRel2 r r' := by
  induction ks generalizing t t' c with
  | nil =>
    rw [GV.matchAny, prun_pure] at h ⊢
    cases h
    exact ⟨_, rfl, rfl, hk⟩
  | cons k ks ih =>
    rw [GV.matchAny, prun_bind] at h ⊢
    rcases hr : run (matchP D cap stop k t) c with ⟨r1, c2⟩
    rw [hr] at h
    obtain ⟨r1', hr', hrel⟩ := matchP_rel D cap stop k hk c q ls n hr
    rw [hr']
    cases r1 with
    | error e =>
      cases r1' with
      | error e' => cases h; cases hrel; exact ⟨_, rfl, rfl⟩
      | ok x => exact hrel.elim
    | ok x =>
      cases r1' with
      | error e' => exact hrel.elim
      | ok x' =>
        obtain ⟨m, u⟩ := x
        obtain ⟨m', u'⟩ := x'
        obtain ⟨hm, hu⟩ := hrel
        subst hm
        have hku : sameKey u u' := by
          rcases hu with rfl | ⟨-, rfl, rfl⟩
          · exact sameKey.refl _
          · exact hk
        dsimp only at h ⊢
        split at h
        · rename_i hm
          rw [if_pos hm, prun_pure] at *
          cases h
          exact ⟨_, rfl, rfl, hku⟩
        · rename_i hm
          rw [if_neg hm]
          exact ih hku c2 h

/-- the column of the token is unset or the one a fresh match would compute -/
def colOK (t : Token) : Prop :=
  match t.line with
  | none => t.col = none
  | some l => t.col = none ∨ t.col = some (lineIndent l + 1)

theorem unexpectedErr_colOK (row : StateRow) {t t' : Token} (hk : sameKey t t') (h : colOK t) (h' : colOK t') :
    unexpectedErr row t = unexpectedErr row t' := by
  obtain ⟨h1, h2⟩ := hk
  unfold colOK at h h'
  unfold unexpectedErr Token.loc
  rw [h1, h2]
  rw [h1] at h
  cases hl : t'.line with
  | none =>
    rw [hl] at h h'
    dsimp only at h h' ⊢
    rw [h, h']
  | some l =>
    rw [hl] at h h'
    dsimp only at h h' ⊢
    rcases h with h | h <;> rcases h' with h' | h' <;> rw [h, h'] <;> simp

/-- a comment line or a blank line -/
def cbLine (l : Option Str) : Prop :=
  ∃ s, l = some s ∧ (lineStartsWith s [35] = true ∨ lineIsEmpty s = true)

/-- what holds of every token in the queue -/
def TokInv (t : Token) : Prop := colOK t ∨ cbLine t.line

theorem colOK_setMatched_none (μ : MState) (t : Token) (ty : Kind) (text keyword : Option Str) (ktype : Option KType)
    (items : List (Nat × Str)) (l : Str) (hl : t.line = some l) :
    colOK (setMatched μ t ty text keyword ktype none items) := by
  unfold colOK setMatched
  simp only [hl]
  exact .inr trivial

theorem matchTok_tokinv (D : List Dialect) (K : Kind) (hK : stableKind K = true) (μ : MState) (t : Token)
    (h : TokInv t) : TokInv (matchTok D K μ t).1.tok := by
  rcases h with h | h
  · unfold matchTok
    split
    · rename_i hl
      split
      · rename_i hk
        cases K <;> first | exact absurd hK (by decide) | exact absurd hk (by decide)
      · exact .inl h
    · rename_i l hl
      dsimp only
      have htitle : ∀ ty, ty.isTitle = true → TokInv (matchLine D ty μ t l).tok := by
        intro ty hty
        rw [matchLine_title D ty hty]
        unfold matchTitle
        cases List.find? (fun k => lineStartsWithTitle l k) (μ.dialect.roleKeywords ty) with
        | none => exact .inl h
        | some k => exact .inl (colOK_setMatched_none _ _ _ _ _ _ _ l hl)
      cases K <;> first
        | exact absurd hK (by decide)
        | exact htitle _ rfl
        | skip
      · -- Empty
        simp only [matchLine]
        split
        · rename_i he
          exact .inr ⟨l, by simp [setMatched, hl], .inr he⟩
        · exact .inl h
      · -- Comment
        simp only [matchLine]
        split
        · rename_i he
          exact .inr ⟨l, by simp [setMatched, hl], .inl he⟩
        · exact .inl h
      · -- TagLine
        simp only [matchLine]
        split
        · split
          · exact .inl (colOK_setMatched_none _ _ _ _ _ _ _ l hl)
          · exact .inl h
        · exact .inl h
  · right
    rw [(matchTok_tok D K μ t).1]
    exact h

/-- the kind certainly matches the line, whatever the matcher state -/
def sure (K : Kind) (l : Option Str) : Prop :=
  ∃ s, l = some s ∧ (K = .Other ∨ (K = .Comment ∧ lineStartsWith s [35] = true) ∨ (K = .Empty ∧ lineIsEmpty s = true))

theorem sure_matched (D : List Dialect) (K : Kind) (μ : MState) (l : Option Str) (h : sure K l) : mm D K μ l = true := by
  obtain ⟨s, rfl, h⟩ := h
  unfold mm matchTok
  dsimp only
  rcases h with rfl | ⟨rfl, h⟩ | ⟨rfl, h⟩
  · rfl
  · simp only [matchLine, h, if_true]; rfl
  · simp only [matchLine, h, if_true]; rfl

/-! ### the look-ahead through the queue and the peek make the same tests -/

def LRel (r : Except Abort (Bool × List Token)) (r' : Except Abort Bool) : Prop :=
  match r, r' with
  | .ok (m, _), .ok m' => m = m'
  | .error e, .error e' => e = e'
  | _, _ => False

theorem drop_cases (L : List Str) (i : Nat) :
    (L.drop i = [] ∧ L[i]? = none) ∨ (∃ l ls, L.drop i = l :: ls ∧ L[i]? = some l ∧ L.drop (i + 1) = ls) := by
  cases h : L.drop i with
  | nil =>
    left
    refine ⟨rfl, ?_⟩
    rw [← List.head?_drop, h]; rfl
  | cons l ls =>
    right
    refine ⟨l, ls, rfl, ?_, ?_⟩
    · rw [← List.head?_drop, h]; rfl
    · rw [← List.tail_drop, h]; rfl

theorem la_sim (D : List Dialect) (cap : Nat) (stop : Bool) (la : LookAhead)
    (hsk : la.skip.all isSkipKind = true) (L : List Str) (q0 : List Token) (ls0 : List Str) (n0 : Nat) :
    ∀ (fuel : Nat) (acc : List Token) (c : Ctx) (i : Nat),
      c.queue.map key = (List.range' i c.queue.length).map (srcAt L) → c.lineNo = i + c.queue.length →
      c.lines = L.drop c.lineNo → i ≤ L.length → L.length + 1 ≤ fuel + i →
      ∀ r c', run (lookaheadLoop D cap stop la fuel acc) c = (r, c') →
        ∃ r', run (peekLoop D cap stop la (L.drop i) (i + 1)) (rf c q0 ls0 n0) = (r', rf c' q0 ls0 n0) ∧ LRel r r' := by
  have hsk' := stable_of _ (.inl hsk)
  intro fuel
  induction fuel with
  | zero => intro acc c i _ _ _ h1 h2; omega
  | succ fuel ih =>
    intro acc c i hq hln hlines hi hfuel r c' h
    rw [lookaheadLoop, prun_bind] at h
    obtain ⟨t, c1, hr0, hcase⟩ := readToken_cases c
    rw [hr0] at h
    dsimp only at h
    -- the token read is the token of line `i + 1`; the scanner fields afterwards
    have hstep : key t = srcAt L i ∧ rf c1 q0 ls0 n0 = rf c q0 ls0 n0 ∧ c1.μ = c.μ ∧
        c1.queue.map key = (List.range' (i + 1) c1.queue.length).map (srcAt L) ∧
        c1.lineNo = (i + 1) + c1.queue.length ∧ c1.lines = L.drop c1.lineNo := by
      rcases hcase with ⟨q, hcq, rfl⟩ | ⟨hcq, rfl, rfl⟩
      · rw [hcq, List.map_cons, List.length_cons, List.range'_succ, List.map_cons, List.cons.injEq] at hq
        rw [hcq, List.length_cons] at hln
        exact ⟨hq.1, rfl, rfl, hq.2, by dsimp only; omega, hlines⟩
      · rw [hcq] at hln
        simp only [List.length_nil, Nat.add_zero] at hln
        refine ⟨?_, rfl, rfl, by dsimp only; rw [hcq]; rfl, by dsimp only; rw [hcq, hln]; rfl, ?_⟩
        · unfold key srcAt
          dsimp only
          rw [hlines, List.head?_drop, hln]
        · dsimp only; rw [hlines, List.tail_drop]
    obtain ⟨hkey, hrf, hμ1, hq1, hln1, hlines1⟩ := hstep
    have htl : t.line = L[i]? := congrArg Prod.fst hkey
    have htn : t.lineNo = i + 1 := congrArg Prod.snd hkey
    rw [← hrf]
    rw [prun_bind] at h
    rcases hr1 : run (matchAny D cap stop la.expected t) c1 with ⟨r1, c2⟩
    rw [hr1] at h
    have hf1 := matchAny_foot D cap stop _ _ _ _ _ hr1
    rcases drop_cases L i with ⟨hd, hnone⟩ | ⟨l, ls, hd, hsome, hd'⟩
    · -- end of file
      rw [hd, peekLoop, prun_bind]
      have hk : sameKey t { line := none, lineNo := i + 1 } := ⟨by rw [htl, hnone], htn⟩
      obtain ⟨r1', hr1', hrel1⟩ := matchAny_rel D cap stop la.expected hk c1 q0 ls0 n0 hr1
      rw [hr1']
      cases r1 with
      | error e =>
        cases r1' with
        | error e' => cases h; cases hrel1; exact ⟨_, rfl, rfl⟩
        | ok x => exact hrel1.elim
      | ok x =>
        cases r1' with
        | error e' => exact hrel1.elim
        | ok x' =>
          obtain ⟨m, u⟩ := x
          obtain ⟨m', u'⟩ := x'
          obtain ⟨hm, hu⟩ := hrel1
          subst hm
          have hul := (matchAny_tok D cap stop _ _ _ _ _ hr1).1
          dsimp only at h ⊢
          cases m with
          | true =>
            rw [if_pos rfl, prun_pure] at h ⊢
            cases h
            exact ⟨_, rfl, by simp [LRel]⟩
          | false =>
            rw [if_neg Bool.false_ne_true] at h ⊢
            rw [prun_bind] at h ⊢
            rcases hr2 : run (matchAny D cap stop la.skip u) c2 with ⟨r2, c3⟩
            rw [hr2] at h
            obtain ⟨r2', hr2', hrel2⟩ := matchAny_rel D cap stop la.skip hu c2 q0 ls0 n0 hr2
            rw [hr2']
            obtain ⟨-, -, -, hv2⟩ := matchAny_spec la.skip hsk' hr2
            cases r2 with
            | error e =>
              cases r2' with
              | error e' => cases h; cases hrel2; exact ⟨_, rfl, rfl⟩
              | ok x => exact hrel2.elim
            | ok x =>
              cases r2' with
              | error e' => exact hrel2.elim
              | ok x' =>
                obtain ⟨s, u2⟩ := x
                obtain ⟨s', u2'⟩ := x'
                obtain ⟨hs, -, -⟩ := hv2 s u2 rfl
                have hs0 : s = false := by
                  rw [hs, hul, htl, hnone]
                  exact skipM_eof D la.skip hsk c2.μ
                subst hs0
                dsimp only at h ⊢
                simp only [Bool.false_eq_true, if_false] at h
                rw [prun_pure] at h ⊢
                cases h
                exact ⟨_, rfl, by simp [LRel]⟩
    · -- a line
      rw [hd, peekLoop, prun_bind]
      have hk : sameKey t { line := some l, lineNo := i + 1 } := ⟨by rw [htl, hsome], htn⟩
      obtain ⟨r1', hr1', hrel1⟩ := matchAny_rel D cap stop la.expected hk c1 q0 ls0 n0 hr1
      rw [hr1']
      cases r1 with
      | error e =>
        cases r1' with
        | error e' => cases h; cases hrel1; exact ⟨_, rfl, rfl⟩
        | ok x => exact hrel1.elim
      | ok x =>
        cases r1' with
        | error e' => exact hrel1.elim
        | ok x' =>
          obtain ⟨m, u⟩ := x
          obtain ⟨m', u'⟩ := x'
          obtain ⟨hm, hu⟩ := hrel1
          subst hm
          dsimp only at h ⊢
          cases m with
          | true =>
            rw [if_pos rfl, prun_pure] at h ⊢
            cases h
            exact ⟨_, rfl, by simp [LRel]⟩
          | false =>
            rw [if_neg Bool.false_ne_true] at h ⊢
            rw [prun_bind] at h ⊢
            rcases hr2 : run (matchAny D cap stop la.skip u) c2 with ⟨r2, c3⟩
            rw [hr2] at h
            obtain ⟨r2', hr2', hrel2⟩ := matchAny_rel D cap stop la.skip hu c2 q0 ls0 n0 hr2
            rw [hr2']
            obtain ⟨hf2, -, -, -⟩ := matchAny_spec la.skip hsk' hr2
            cases r2 with
            | error e =>
              cases r2' with
              | error e' => cases h; cases hrel2; exact ⟨_, rfl, rfl⟩
              | ok x => exact hrel2.elim
            | ok x =>
              cases r2' with
              | error e' => exact hrel2.elim
              | ok x' =>
                obtain ⟨s, u2⟩ := x
                obtain ⟨s', u2'⟩ := x'
                obtain ⟨hs, -⟩ := hrel2
                subst hs
                dsimp only at h ⊢
                cases s with
                | true =>
                  rw [if_pos rfl] at h ⊢
                  have hlt : i < L.length := (List.getElem?_eq_some_iff.1 hsome).1
                  obtain ⟨_, _, _, rfl⟩ := hf1.trans hf2
                  have := (fun a b d => ih (acc ++ [u2]) _ (i + 1) a b d (by omega) (by omega) r c' h)
                    hq1 hln1 hlines1
                  rw [hd'] at this
                  exact this
                | false =>
                  rw [if_neg Bool.false_ne_true] at h ⊢
                  rw [prun_pure] at h ⊢
                  cases h
                  exact ⟨_, rfl, by simp [LRel]⟩

theorem lookahead_rel (D D' : List Dialect) (cap : Nat) (stop : Bool) (la : LookAhead)
    (hsk : la.skip.all isSkipKind = true) {L : List Str} {k : Nat} {c : Ctx} (hqs : QS D' L k c) (hk : k ≤ L.length)
    {r : Except Abort Bool} {c' : Ctx} (h : run (lookahead D cap stop la) c = (r, c')) :
    run (lookaheadPure D cap stop la) (pureOf L k c) = (r, pureOf L k c') := by
  rw [lookaheadPure, prun_bind, run_get]
  show run (peekLoop D cap stop la (L.drop k) (k + 1)) (rf c [] (L.drop k) k) = _
  rw [run_lookahead] at h
  rcases hr : run (lookaheadLoop D cap stop la (c.queue.length + c.lines.length + 2) []) c with ⟨r1, c1⟩
  rw [hr] at h
  have hfuel : L.length + 1 ≤ c.queue.length + c.lines.length + 2 + k := by
    have h1 := hqs.lineNo
    have h2 := congrArg List.length hqs.lines
    rw [List.length_drop] at h2
    omega
  obtain ⟨r', hr', hrel⟩ := la_sim D cap stop la hsk L [] (L.drop k) k _ [] c k hqs.queue hqs.lineNo hqs.lines
    hk hfuel r1 c1 hr
  rw [hr']
  cases r1 with
  | error e =>
    cases r' with
    | error e' => cases h; cases hrel; rfl
    | ok x => exact hrel.elim
  | ok x =>
    cases r' with
    | error e' => exact hrel.elim
    | ok m' =>
      obtain ⟨m, read⟩ := x
      have hm : m = m' := hrel
      subst hm
      cases h
      rfl

theorem matchP_out {D : List Dialect} {cap : Nat} {stop : Bool} {K : Kind} {t : Token} {c : Ctx} {m : Bool}
    {t' : Token} {c' : Ctx} (h : run (matchP D cap stop K t) c = (.ok (m, t'), c')) :
    t' = (matchTok D K c.μ t).1.tok := by
  rw [run_matchP] at h
  dsimp only at h
  split at h
  · cases h; rfl
  · cases h; rfl
  · split at h
    · cases h
    · rcases hr : run (addError cap _) _ with ⟨r2, c2⟩
      rw [hr] at h
      cases r2 <;> cases h
      rfl

theorem matchAny_tokinv (D : List Dialect) (cap : Nat) (stop : Bool) (ks : List Kind)
    (hks : ks.all stableKind = true) {t : Token} (ht : TokInv t) {c : Ctx} {m : Bool} {t' : Token} {c' : Ctx}
    (h : run (matchAny D cap stop ks t) c = (.ok (m, t'), c')) : TokInv t' := by
  induction ks generalizing t c with
  | nil => rw [GV.matchAny, prun_pure] at h; cases h; exact ht
  | cons k ks ih =>
    rw [List.all_cons, Bool.and_eq_true] at hks
    rw [GV.matchAny, prun_bind] at h
    rcases hr : run (matchP D cap stop k t) c with ⟨r1, c1⟩
    rw [hr] at h
    cases r1 with
    | error e => cases h
    | ok x =>
      obtain ⟨m1, t1⟩ := x
      have ht1 : TokInv t1 := by
        rw [matchP_out hr]
        exact matchTok_tokinv D k hks.1 c.μ t ht
      dsimp only at h
      split at h
      · rw [prun_pure] at h; cases h; exact ht1
      · exact ih hks.2 ht1 h

theorem colOK_fresh (l : Option Str) (n : Nat) : colOK { line := l, lineNo := n } := by
  unfold colOK
  cases l with
  | none => rfl
  | some s => exact .inl rfl

def QI (c : Ctx) : Prop := ∀ t ∈ c.queue, TokInv t

theorem lookaheadLoop_tokinv (D : List Dialect) (cap : Nat) (stop : Bool) (la : LookAhead)
    (hsk : la.skip.all stableKind = true) (hexp : la.expected.all stableKind = true) :
    ∀ (fuel : Nat) (acc : List Token) (c : Ctx), QI c → (∀ x ∈ acc, TokInv x) →
      ∀ m read c', run (lookaheadLoop D cap stop la fuel acc) c = (.ok (m, read), c') →
        QI c' ∧ ∀ x ∈ read, TokInv x := by
  intro fuel
  induction fuel with
  | zero => intro acc c _ _ m read c' h; rw [lookaheadLoop, prun_throw] at h; cases h
  | succ fuel ih =>
    intro acc c hqi hacc m read c' h
    obtain ⟨t, c1, r1, c2, hr0, hr1, hcase⟩ := lookaheadLoop_step h
    have ht : TokInv t ∧ QI c1 := by
      rcases readToken_eq hr0 with ⟨q, hcq, rfl⟩ | ⟨hcq, rfl, rfl⟩
      · exact ⟨hqi t (by rw [hcq]; exact List.mem_cons_self ..),
          fun x hx => hqi x (by rw [hcq]; exact List.mem_cons_of_mem _ hx)⟩
      · exact ⟨.inl (colOK_fresh _ _), hqi⟩
    have hq2 : c2.queue = c1.queue := (matchAny_foot D cap stop _ _ _ _ _ hr1).scan.1
    have hadd : ∀ u, TokInv u → ∀ x ∈ acc ++ [u], TokInv x := by
      intro u hu x hx
      rcases List.mem_append.1 hx with hx | hx
      · exact hacc x hx
      · rw [List.mem_singleton] at hx; subst hx; exact hu
    rcases hcase with ⟨e, -, he, -⟩ | ⟨t1, rfl, he, rfl⟩ | ⟨t1, r2, c3, rfl, hr2, hcase⟩
    · cases he
    · cases he
      exact ⟨fun x hx => ht.2 x (by rw [← hq2]; exact hx),
        hadd t1 (matchAny_tokinv D cap stop la.expected hexp ht.1 hr1)⟩
    · have ht1 := matchAny_tokinv D cap stop la.expected hexp ht.1 hr1
      have hq3 : c3.queue = c2.queue := (matchAny_foot D cap stop _ _ _ _ _ hr2).scan.1
      have hqi3 : QI c3 := fun x hx => ht.2 x (by rw [← hq2, ← hq3]; exact hx)
      rcases hcase with ⟨e, -, he, -⟩ | ⟨t2, rfl, he, rfl⟩ | ⟨t2, rfl, hrec⟩
      · cases he
      · cases he
        exact ⟨hqi3, hadd t2 (matchAny_tokinv D cap stop la.skip hsk ht1 hr2)⟩
      · exact ih _ _ hqi3 (hadd t2 (matchAny_tokinv D cap stop la.skip hsk ht1 hr2)) m read c' hrec

theorem lookahead_tokinv (D : List Dialect) (cap : Nat) (stop : Bool) (la : LookAhead)
    (hsk : la.skip.all stableKind = true) (hexp : la.expected.all stableKind = true) {c : Ctx} (hqi : QI c)
    {b : Bool} {c' : Ctx} (h : run (lookahead D cap stop la) c = (.ok b, c')) : QI c' := by
  rw [run_lookahead] at h
  rcases hr : run (lookaheadLoop D cap stop la (c.queue.length + c.lines.length + 2) []) c with ⟨r1, c1⟩
  rw [hr] at h
  cases r1 with
  | error e => cases h
  | ok x =>
    obtain ⟨m, read⟩ := x
    cases h
    obtain ⟨h1, h2⟩ := lookaheadLoop_tokinv D cap stop la hsk hexp _ [] c hqi (fun x hx => by cases hx) _ _ c1 hr
    intro x hx
    rcases List.mem_append.1 hx with hx | hx
    · exact h1 x hx
    · exact h2 x hx

end Lemmas
end GV
