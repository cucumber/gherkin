/-
  Lemmas/Recover2Stop.lean — property C14, recovery at document level, stop-at-first-error mode:
  a line that every test of the current state refuses ends the run with exactly the
  unexpected-token error for that line, whatever follows.  No look-ahead condition is needed: the
  statement speaks about ONE run.  On the way: `match_token` of the queue-free parse (with its
  look-aheads, which only PEEK) leaves the unread lines and the line counter alone, so the prefix
  run for `p.length` lines of a text `p ++ q` ends with the lines `q` unread, at line number
  `p.length`, and has not seen the end of file.
-/
import GherkinVerif.Lemmas.RecoverDoc
namespace GV
namespace Recover2
open Lemmas Spec Layout3 Recover

theorem matchTokenPure_frame (D : List Dialect) (T : Table) (stop : Bool) (s : Nat) (t : Token) :
    ∀ c r c', run (matchTokenPure D T stop s t) c = (r, c') → Frame c c' := fun c r c' h =>
  (foot_of_inv ScanEq ScanEq.rfl' (fun c0 => (scanPrims D T stop c0).matchTokenPure s t) c r c' h).2

theorem prefix_lines {D : List Dialect} (T : Table) (stop : Bool) (q : List Str) :
    ∀ (p : List Str) (s : Nat) (c : Ctx) (s' : Nat) (fl : Bool) (c' : Ctx), c.lines = p ++ q →
      run (parsePrefixPure D T stop p.length s) c = (.ok (s', fl), c') →
      fl = false ∧ c'.lines = q ∧ c'.lineNo = c.lineNo + p.length := by
  intro p
  induction p with
  | nil =>
    intro s c s' fl c' hl h
    simp only [List.length_nil, parsePrefixPure, prun_pure] at h
    cases h
    exact ⟨rfl, hl, rfl⟩
  | cons l p ih =>
    intro s c s' fl c' hl h
    simp only [List.length_cons, List.cons_append] at h hl
    rw [prefix_step, prun_bind] at h
    rcases hr : run (matchTokenPure D T stop s (nextTok c)) (taken c) with ⟨r1, c1⟩
    rw [hr] at h
    obtain ⟨e1, e2⟩ := matchTokenPure_frame D T stop s _ _ _ _ hr
    cases r1 with
    | error e => cases h
    | ok s1 =>
      simp only [hl, List.head?_cons, Option.isNone_some, Bool.false_eq_true, ↓reduceIte] at h
      obtain ⟨h1, h2, h3⟩ := ih s1 c1 s' fl c' (by rw [e1]; simp only [hl, List.tail_cons]) h
      refine ⟨h1, h2, ?_⟩
      rw [h3, e2]
      simp only [List.length_cons]
      omega

theorem parseWithPure_unexpected_stop {D : List Dialect} {T : Table} {u : Str} (μ : MState) (ids : Nat)
    {src' : Str} (pre post : List Str) (h2 : splitLines src' = pre ++ u :: post) {s : Nat} {cr : Ctx}
    (hrun : runAfter D T true μ ids src' pre.length = some (s, cr))
    (hun : lineUnexpectedAt D T s cr.μ u = true) :
    (parseWithPure D T true μ ids src').1 = .rejected [skippedError T s pre.length u] false ∧
    (parseWithPure D T true μ ids src').2.errors = cr.errors ∧
    (parseWithPure D T true μ ids src').2.unexpected = cr.unexpected ++ [pre.length + 1] ∧
    (parseWithPure D T true μ ids src').2.builds = cr.builds ∧
    (parseWithPure D T true μ ids src').2.μ = cr.μ ∧
    (parseWithPure D T true μ ids src').2.ids = cr.ids := by
  obtain ⟨fl, hx⟩ := runAfter_eq_some.1 hrun
  obtain ⟨rfl, hl, hno⟩ := prefix_lines T true (u :: post) pre 0 _ s fl cr h2 hx
  replace hno : cr.lineNo = pre.length := hno.trans (Nat.zero_add _)
  obtain ⟨row, j, hrow, hstep⟩ := unexpected_line_step_stop (D := D) T s u (cr.lineNo + 1)
    { cr with lines := post, lineNo := cr.lineNo + 1, reads := cr.reads ++ [cr.lineNo + 1] } hun
  have hsk : skippedError T s pre.length u = unexpectedErr row { line := some u, lineNo := cr.lineNo + 1 } := by
    rw [skippedError_eq hrow, hno]
  have hlen : (pre ++ u :: post).length + 2 = pre.length + (post.length + 2 + 1) := by simp; omega
  rw [parseWithPure_lines, h2, prun_bind, hlen, run_lines_of_prefix hx,
    run_lines_cons (D := D) T true (post.length + 2) s cr hl, hstep, hsk]
  exact ⟨rfl, rfl, by rw [hno]; rfl, rfl, rfl, rfl⟩

theorem unexpected_line_parseWith_stop {D : List Dialect} {T : Table}
    (hQD : Spec.queueDialectFacts D = true) (hQT : Spec.queueFacts T = true)
    (hCB : Spec.commentBlankTested T = true)
    {u : Str} (μ : MState) (ids : Nat) {src' : Str} (pre post : List Str)
    (h2 : splitLines src' = pre ++ u :: post)
    (hμ : (μ.reset D).dialect ∈ D) {s : Nat} {cr : Ctx}
    (hrun : runAfter D T true μ ids src' pre.length = some (s, cr))
    (hun : lineUnexpectedAt D T s cr.μ u = true) :
    (parseWith D T true μ ids src').1 = .rejected [skippedError T s pre.length u] false ∧
    (parseWith D T true μ ids src').2.errors = cr.errors ∧
    (parseWith D T true μ ids src').2.unexpected = cr.unexpected ++ [pre.length + 1] ∧
    (parseWith D T true μ ids src').2.builds = cr.builds ∧
    (parseWith D T true μ ids src').2.μ = cr.μ ∧
    (parseWith D T true μ ids src').2.ids = cr.ids := by
  obtain ⟨o, e, m, i, un, b⟩ := parseWith_sameObs hQD hQT hCB true μ ids src' hμ
  rw [o, e, m, i, un, b]
  exact parseWithPure_unexpected_stop μ ids pre post h2 hrun hun

end Recover2
end GV
