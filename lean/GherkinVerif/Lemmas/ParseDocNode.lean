/-
  Lemmas/ParseDocNode.lean — the value of a `DocString` node with the children described by
  `Spec.DocSeq` (`docNode_value`); the line numbers of its children are consecutive
  (`docNodes_lineNo`); the `DocString` nodes of the tree of an accepted document (`Accepted.docNodes`).
-/
import GherkinVerif.Lemmas.ParseDocTree
namespace GV
namespace Spec

/-- `s` is a subtree of `t` (possibly `t` itself) -/
inductive SubT : TTree → TTree → Prop
  | refl (t : TTree) : SubT t t
  | child {s c : TTree} {r : RuleType} {cs : List TTree} : c ∈ cs → SubT s c → SubT s (.node r cs)

def DocSeqNo (bs : List Token) : Prop :=
  DocSeq bs ∧ ∃ a, bs.map (·.lineNo) = List.range' a bs.length

end Spec

namespace Lemmas
open Spec

theorem LineNodes.sub {r : RuleType} {P : List Token → Prop} {NP : TTree → Prop} {NLP : List TTree → Prop}
    (H : LineNodes r P NP NLP) {s t : TTree} (h : SubT s t) (ht : NP t) : NP s := by
  induction h with
  | refl => exact ht
  | child hc _ ih => exact ih (H.mem ((H.node _ _).1 ht).2 _ hc)

theorem LineNodes.at {r : RuleType} {P : List Token → Prop} {NP : TTree → Prop} {NLP : List TTree → Prop}
    (H : LineNodes r P NP NLP) {t : TTree} (ht : NP t) {ch : List TTree} (h : SubT (.node r ch) t) :
    ∃ bs : List Token, ch = bs.map .leaf ∧ P bs :=
  ((H.node _ _).1 (H.sub h ht)).1 rfl

theorem docNodesP_at {P : List Token → Prop} {t : TTree} (ht : docNodesP P t) {ch : List TTree}
    (h : SubT (.node .DocString ch) t) : ∃ bs, ch = bs.map .leaf ∧ P bs :=
  (docNodes_lineNodes P).at ht h

theorem leavesList_leaves (bs : List Token) : leavesList (bs.map .leaf) = bs := by
  induction bs with
  | nil => rfl
  | cons b bs ih => simp [leavesList, leaves, ih]

theorem range'_split {l1 l2 : List Nat} {a : Nat} (h : l1 ++ l2 = List.range' a (l1.length + l2.length)) :
    l1 = List.range' a l1.length ∧ l2 = List.range' (a + l1.length) l2.length := by
  have : List.range' a (l1.length + l2.length) = List.range' a l1.length ++ List.range' (a + l1.length) l2.length := by
    rw [List.range'_append_1]
  rw [this] at h
  exact List.append_inj h (by simp)

mutual
theorem docNodes_lineNo (P : List Token → Prop) : ∀ (t : TTree) (a : Nat), docNodesP P t →
    (leaves t).map (·.lineNo) = List.range' a (leaves t).length →
    docNodesP (fun bs => P bs ∧ ∃ a, bs.map (·.lineNo) = List.range' a bs.length) t
  | .leaf _, _, _, _ => trivial
  | .node r ch, a, h, hno => by
    refine ⟨fun hr => ?_, docNodesList_lineNo P ch a h.2 hno⟩
    obtain ⟨bs, hch, hp⟩ := h.1 hr
    refine ⟨bs, hch, hp, a, ?_⟩
    have : leaves (.node r ch) = bs := by rw [leaves, hch, leavesList_leaves]
    rw [this] at hno
    exact hno
theorem docNodesList_lineNo (P : List Token → Prop) : ∀ (ts : List TTree) (a : Nat), docNodesListP P ts →
    (leavesList ts).map (·.lineNo) = List.range' a (leavesList ts).length →
    docNodesListP (fun bs => P bs ∧ ∃ a, bs.map (·.lineNo) = List.range' a bs.length) ts
  | [], _, _, _ => trivial
  | c :: cs, a, h, hno => by
    simp only [leavesList, List.map_append, List.length_append] at hno
    have hsplit := range'_split (l1 := (leaves c).map (·.lineNo)) (l2 := (leavesList cs).map (·.lineNo)) (a := a)
      (by simpa using hno)
    simp only [List.length_map] at hsplit
    exact ⟨docNodes_lineNo P c a h.1 hsplit.1, docNodesList_lineNo P cs _ h.2 hsplit.2⟩
end

theorem leafItems_ok (t : Token) (hw : WellMatched t) (n : Nat) : ∃ is, (leafItems t).run.run n = (.ok is, n) := by
  obtain ⟨k, hm, hf⟩ := (wellMatched_iff t).1 hw
  by_cases hc : k = .Comment
  · subst hc
    simp only [fieldsRead, Option.isSome_iff_exists] at hf
    obtain ⟨tx, htx⟩ := hf
    exact ⟨[], by unfold leafItems; rw [hm]; simp only [htx]; rfl⟩
  · exact ⟨_, run_leafItems_token t k n hm hc⟩

theorem itemsOfList_leaves_ok (cs : List Comment) (bs : List Token) (hw : ∀ t ∈ bs, WellMatched t) (n : Nat) :
    ∃ is, (itemsOfList cs (bs.map .leaf)).run.run n = (.ok is, n) := by
  induction bs with
  | nil => exact ⟨[], by rw [List.map_nil, itemsOfList]; rfl⟩
  | cons b bs ih =>
    obtain ⟨i1, h1⟩ := leafItems_ok b (hw b (List.mem_cons_self ..)) n
    obtain ⟨i2, h2⟩ := ih fun t ht => hw t (List.mem_cons_of_mem _ ht)
    refine ⟨i1 ++ i2, ?_⟩
    rw [List.map_cons, run_itemsOfList_cons, itemsOf, h1]
    dsimp only
    rw [h2]

theorem childToks_leaves (k : Kind) (bs : List Token) :
    childToks k (bs.map .leaf) = bs.filter fun t => decide (t.mtype = some k) := by
  induction bs with
  | nil => rfl
  | cons b bs ih =>
    rw [List.map_cons, childToks_cons, ih]
    by_cases hb : b.mtype = some k
    · rw [List.filter_cons_of_pos (by simpa using hb)]
      simp [childToks, hb]
    · rw [List.filter_cons_of_neg (by simpa using hb)]
      simp [childToks, hb]

theorem docNode_value (cs : List Comment) (o : Token) (xs : List Token) (c : Token) (ys : List Token)
    (sep lo : Str) (ho : DocOpen o sep lo) (hxs : ∀ x ∈ xs, DocLine sep (lineIndent lo) x)
    (hc : DocClose sep c) (hys : ∀ y ∈ ys, DocTrail y) (n : Nat) :
    (astOf cs (.node .DocString ((o :: (xs ++ c :: ys)).map .leaf))).run.run n =
      (.ok (.docString
        { loc := o.loc,
          content := joinWith [10] (xs.map fun x => docLineText sep (lineIndent lo) (x.line.getD [])),
          delimiter := sep,
          mediaType := if rstripCRLF (strip ((trimmed lo).drop 3)) = [] then none
                       else some (rstripCRLF (strip ((trimmed lo).drop 3))) }), n) := by
  obtain ⟨-, -, -, homt, hokw, hotx, howm⟩ := ho
  obtain ⟨-, hcmt, -, -, hcwm⟩ := hc
  have hw : ∀ t ∈ o :: (xs ++ c :: ys), WellMatched t := by
    intro t ht
    rcases List.mem_cons.1 ht with rfl | ht
    · exact howm
    · rcases List.mem_append.1 ht with ht | ht
      · obtain ⟨_, _, _, _, _, h⟩ := hxs t ht; exact h
      · rcases List.mem_cons.1 ht with rfl | ht
        · exact hcwm
        · exact (hys t ht).2
  obtain ⟨is, hrun⟩ := itemsOfList_leaves_ok cs _ hw n
  have htoks := getTokens_itemsOfList cs _ n is n hrun
  have hxo : ∀ x ∈ xs, x.mtype = some .Other := fun x hx => by
    obtain ⟨_, _, _, h, _⟩ := hxs x hx; exact h
  have hsepTok : getTokens is .DocStringSeparator =
      o :: (xs ++ c :: ys).filter fun t => decide (t.mtype = some .DocStringSeparator) := by
    rw [htoks _ (by decide), childToks_leaves, List.filter_cons_of_pos (by simpa using homt)]
  have hoth : getTokens is .Other = xs := by
    rw [htoks _ (by decide), childToks_leaves, List.filter_cons_of_neg (by rw [homt]; simp),
      List.filter_append, List.filter_cons_of_neg (by rw [hcmt]; simp)]
    have h1 : xs.filter (fun t => decide (t.mtype = some .Other)) = xs :=
      List.filter_eq_self.2 fun x hx => by simpa using hxo x hx
    have h2 : ys.filter (fun t => decide (t.mtype = some .Other)) = [] :=
      List.filter_eq_nil_iff.2 fun y hy => by
        rcases (hys y hy).1 with h | h <;> (rw [h]; simp)
    rw [h1, h2, List.append_nil]
  have hls : (getTokens is .Other).map (·.text) =
      (xs.map fun x => docLineText sep (lineIndent lo) (x.line.getD [])).map some := by
    rw [hoth, List.map_map]
    refine List.map_congr_left fun x hx => ?_
    obtain ⟨lx, hl, -, -, htx, -⟩ := hxs x hx
    simp only [Function.comp, hl, Option.getD_some]
    exact htx
  rw [run_astOf_node, hrun]
  dsimp only
  rw [transformNode_docString cs is o _ _ sep _ hsepTok hotx hokw hls]
  rfl

theorem Accepted.docNodes {D : List Dialect} {T : Table} {G : Grammar} {μ0 : MState} {lines : List Str} {d : Doc}
    {builds : List Token} {ids ids' : Nat} {t : TTree} {toks : List Token} {e : Token} {μf : MState}
    (A : Accepted D T G μ0 lines d builds ids ids' t toks e μf) (hT : T.startRule = .GherkinDocument)
    (F : DocFacts D T) : docNodesP DocSeqNo t := by
  obtain ⟨steps, sf, htr, ht⟩ := A.trace
  have hdo := lineOps_enclose (r0 := T.startRule) (by rw [hT]; decide) (trace_docOps F htr A.start.1 A.start.2)
  refine docNodes_lineNo DocSeq t 1 (ttreeOf_lineNodes (docNodes_lineNodes _) _ t hdo ht) ?_
  rw [A.tree.leaves_eq, A.lineNo, A.builds_eq, List.length_append, LineToks.length A.lineToks]; rfl

end Lemmas
end GV
