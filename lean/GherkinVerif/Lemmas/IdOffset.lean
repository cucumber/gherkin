/-
  Lemmas/IdOffset.lean — C15, "up to the offset of ids drawn from a shared generator".

  Ids are drawn from a counter, stored, and never inspected.  `shiftDoc n` adds `n` to every id
  of a document (tags, rows, steps, backgrounds, scenarios, examples, rules), `shiftPickle n`
  to every id and AST reference of a pickle.  Running from a counter `n` higher, on a builder stack
  whose stored ids are `n` higher, does the same thing with every id `n` higher: for `transform_node`
  this is `transformNode_nat` of Lemmas/BuilderNat.lean at `reads_shift`; the primitives of the parser
  monad are simulated one by one (`Sim2`), its compound operations by the walk of Lemmas/RelWalk.lean
  (`shiftWalk`, `Sim2.simJ`).  The compiler: the specification on the shifted document gives the same
  pickles with every reference shifted (`pickles_shift`), and numbering them from a higher counter
  shifts the ids handed out (`numbered_shift`).  Together: `parseWith_shift`, `compile_shift`,
  `streamEnum_shift`.
-/
import GherkinVerif.Lemmas.History
import GherkinVerif.Lemmas.BuilderNat
import GherkinVerif.Model.Stream
import GherkinVerif.Lemmas.RelWalk
import GherkinVerif.Lemmas.Compile
namespace GV

mutual
def shiftVal (n : Nat) : Val → Val
  | .tok t => .tok t
  | .none => .none
  | .step s => .step (shiftStep n s)
  | .docString d => .docString d
  | .dataTable d => .dataTable (shiftDataTable n d)
  | .background b => .background (shiftBackground n b)
  | .scenario s => .scenario (shiftScenario n s)
  | .examples e => .examples (shiftExamples n e)
  | .rows rs => .rows (rs.map (shiftRow n))
  | .descr s => .descr s
  | .rule r => .rule (shiftRule n r)
  | .feature f => .feature (shiftFeature n f)
  | .doc d => .doc (shiftDoc n d)
  | .raw rt items => .raw rt (shiftItems n items)
def shiftItems (n : Nat) : List (Key × Val) → List (Key × Val)
  | [] => []
  | kv :: rest => shiftItem n kv :: shiftItems n rest
def shiftItem (n : Nat) : Key × Val → Key × Val
  | (k, v) => (k, shiftVal n v)
end

theorem shiftItems_eq_map (n : Nat) (items : List (Key × Val)) :
    shiftItems n items = items.map fun kv => (kv.1, shiftVal n kv.2) := by
  induction items with
  | nil => simp [shiftItems]
  | cons kv rest ih => obtain ⟨k, v⟩ := kv; simp [shiftItems, shiftItem, ih]

def shiftNode (n : Nat) (nd : Node) : Node := ⟨nd.rt, shiftItems n nd.items⟩
def shiftBState (n : Nat) (β : BState) : BState := { β with stack := β.stack.map (shiftNode n) }
def shiftCtx (n : Nat) (c : Ctx) : Ctx := { c with β := shiftBState n c.β, ids := c.ids + n }

/-- the outcome with every id shifted: only an accepted document carries ids -/
def shiftOutcome (n : Nat) : Outcome → Outcome
  | .ok d => .ok (shiftDoc n d)
  | o => o

def shiftPStep (n : Nat) (s : PickleStep) : PickleStep :=
  { s with astNodeIds := s.astNodeIds.map (· + n), id := s.id + n }
def shiftPTag (n : Nat) (t : PickleTag) : PickleTag := { t with astNodeId := t.astNodeId + n }
def shiftPickle (n : Nat) (p : Pickle) : Pickle :=
  { p with astNodeIds := p.astNodeIds.map (· + n), id := p.id + n, tags := p.tags.map (shiftPTag n),
           steps := p.steps.map (shiftPStep n) }

def shiftEnvelope (n : Nat) : Envelope → Envelope
  | .gherkinDocument uri d => .gherkinDocument uri (shiftDoc n d)
  | .pickle p => .pickle (shiftPickle n p)
  | e => e

namespace Lemmas

def runBM {α} (m : BM α) (k : Nat) : Except BErr α × Nat := m.run.run k

theorem runBM_pure {α} (a : α) (k : Nat) : runBM (pure a) k = (.ok a, k) := rfl
theorem runBM_throw {α} (e : BErr) (k : Nat) : runBM (throw e : BM α) k = (.error e, k) := rfl
theorem runBM_nextId (k : Nat) : runBM nextId k = (.ok k, k + 1) := rfl

theorem getItems_shift (n : Nat) (items : List (Key × Val)) (k : Key) :
    getItems (shiftItems n items) k = (getItems items k).map (shiftVal n) := by
  simp only [getItems, shiftItems_eq_map, List.filter_map, List.map_map]
  rfl

theorem getSingle_shift (n : Nat) (items : List (Key × Val)) (k : Key) :
    getSingle (shiftItems n items) k = shiftVal n (getSingle items k) := by
  simp only [getSingle, getItems_shift]
  cases getItems items k <;> simp [shiftVal]

theorem getTokens_shift (n : Nat) (items : List (Key × Val)) (k : Kind) :
    getTokens (shiftItems n items) k = getTokens items k := by
  simp only [getTokens, getItems_shift, List.filterMap_map]
  congr 1
  funext v
  cases v <;> rfl

def ShiftI (n : Nat) (xs ys : List (Key × Val)) : Prop := ys = shiftItems n xs

theorem valN_shift {n : Nat} {v w : Val} : ValN n idMap Eq (ShiftI n) v w ↔ w = shiftVal n v := by
  cases v <;>
    simp only [ValN, shiftVal, ShiftI, mapStep_id, mapDocString_id, mapTable_id, mapBackground_id, mapScenario_id,
      mapExamples_id, funext mapRow_id, List.map_id', mapRule_id, mapFeature_id, mapDoc_id, exists_eq_right',
      exists_eq_right]

theorem reads_shift (n : Nat) : Reads n idMap Eq Eq (ShiftI n) where
  toReadsTok := readsTok_eq
  read := by
    rintro xs _ k rfl -
    rw [getItems_shift]
    exact All2.map_right _ _ fun _ _ => valN_shift.2 rfl
  other := by rintro xs _ rfl; rw [getTokens_shift]
  descr := by
    rintro xs _ rfl
    unfold Spec.descOf
    rw [getItems_shift]
    cases getItems xs (.rule .Description) with
    | nil => rfl
    | cons v vs => cases v <;> rfl

/-- `m2` run from a counter `n` higher does what `m1` does, with the result shifted by `S` -/
def BSim {α} (n : Nat) (S : α → α) (m2 m1 : BM α) : Prop :=
  ∀ k, runBM m2 (k + n) = ((runBM m1 k).1.map S, (runBM m1 k).2 + n)

theorem bsim_transformNode (n : Nat) (cm : List Comment) (rt : RuleType) (items : List (Key × Val)) :
    BSim n (shiftVal n) (transformNode cm ⟨rt, shiftItems n items⟩) (transformNode cm ⟨rt, items⟩) := by
  intro k
  have := transformNode_nat (reads_shift n) cm rt (xs := items) rfl k
  rw [funext mapComment_id, List.map_id'] at this
  rcases this with ⟨a, b, k', e1, e2, hab⟩ | ⟨e, e', k', e1, e2, rfl⟩
  · rw [runBM, runBM, e1, e2, valN_shift.1 hab]; rfl
  · rw [runBM, runBM, e1, e2]; rfl

theorem shiftItems_append (n : Nat) (a b : List (Key × Val)) :
    shiftItems n (a ++ b) = shiftItems n a ++ shiftItems n b := by
  simp [shiftItems_eq_map]

theorem startRule_shift (n : Nat) (β : BState) (r : RuleType) :
    (shiftBState n β).startRule r = shiftBState n (β.startRule r) := by
  simp [BState.startRule, shiftBState, shiftNode, shiftItems]

theorem addToTop_shift (n : Nat) (stack : List Node) (k : Key) (v : Val) :
    addToTop (stack.map (shiftNode n)) k (shiftVal n v) =
      (addToTop stack k v).map (List.map (shiftNode n)) := by
  cases stack with
  | nil => rfl
  | cons top rest =>
    simp [addToTop, shiftNode, shiftItems_append, shiftItems, shiftItem]

theorem build_shift (n : Nat) (β : BState) (t : Token) :
    (shiftBState n β).build t = (β.build t).map (shiftBState n) := by
  unfold BState.build
  split
  · split <;> rfl
  · rename_i k _ _
    have := addToTop_shift n β.stack (.tok k) (.tok t)
    simp only [shiftVal] at this
    simp only [shiftBState, this]
    cases addToTop β.stack (.tok k) (.tok t) <;> rfl
  · rfl

theorem result_shift (n : Nat) (β : BState) :
    (shiftBState n β).result = β.result.map (Option.map (shiftDoc n)) := by
  unfold BState.result
  cases hs : β.stack with
  | nil => simp [shiftBState, hs]; rfl
  | cons top rest =>
    simp only [shiftBState, hs, List.map_cons, shiftNode, getSingle_shift]
    cases getSingle top.items (.rule .GherkinDocument) <;> simp only [shiftVal] <;> rfl

theorem endRule_shift (n : Nat) (β : BState) (k : Nat) :
    (shiftBState n β).endRule (k + n) =
      ((β.endRule k).1, shiftBState n (β.endRule k).2.1, (β.endRule k).2.2 + n) := by
  unfold BState.endRule
  cases hs : β.stack with
  | nil => simp [shiftBState, hs]
  | cons node rest =>
    simp only [shiftBState, hs, List.map_cons]
    have h := bsim_transformNode n β.comments node.rt node.items k
    unfold runBM at h
    simp only [shiftNode]
    rw [h]
    generalize (StateT.run (ExceptT.run (transformNode β.comments { rt := node.rt, items := node.items })) k) = r
    obtain ⟨r, k'⟩ := r
    cases r with
    | error e => rfl
    | ok v =>
      simp only [Except.map]
      rw [addToTop_shift]
      cases addToTop rest (.rule node.rt) v <;> rfl

/-- `m2` run from the shifted context does what `m1` does from `c`, result shifted by `S` -/
def Sim2 {α} (n : Nat) (S : α → α) (m2 m1 : PM α) (c : Ctx) : Prop :=
  runPM m2 (shiftCtx n c) = ((runPM m1 c).1.map S, shiftCtx n (runPM m1 c).2)

theorem sim2_pure {α} {n : Nat} {S : α → α} {a2 a1 : α} {c : Ctx} (h : a2 = S a1) :
    Sim2 n S (pure a2) (pure a1) c := by
  subst h; rfl
theorem sim2_throw {α} {n : Nat} {S : α → α} {e : Abort} {c : Ctx} :
    Sim2 n S (throw e : PM α) (throw e) c := rfl
theorem sim2_bind {α β} {n : Nat} {S : α → α} {S' : β → β} {m2 m1 : PM α} {f2 f1 : α → PM β} {c : Ctx}
    (hm : Sim2 n S m2 m1 c) (hf : ∀ a c', Sim2 n S' (f2 (S a)) (f1 a) c') :
    Sim2 n S' (m2 >>= f2) (m1 >>= f1) c := by
  unfold Sim2 at *
  rw [runPM_bind, runPM_bind, hm]
  generalize runPM m1 c = r
  obtain ⟨r, c'⟩ := r
  cases r with
  | ok a => exact hf a c'
  | error e => rfl
theorem sim2_get_bind {β} {n : Nat} {S : β → β} {f2 f1 : Ctx → PM β} {c : Ctx}
    (h : Sim2 n S (f2 (shiftCtx n c)) (f1 c) c) : Sim2 n S (get >>= f2) (get >>= f1) c := by
  unfold Sim2 at *
  rw [runPM_bind, runPM_bind, runPM_get, runPM_get]
  exact h
theorem sim2_set {n : Nat} {c2 c1 c : Ctx} (h : c2 = shiftCtx n c1) :
    Sim2 n id (set c2 : PM PUnit) (set c1) c := by
  subst h; rfl
theorem sim2_modify {n : Nat} {g2 g1 : Ctx → Ctx} {c : Ctx} (h : g2 (shiftCtx n c) = shiftCtx n (g1 c)) :
    Sim2 n id (modify g2 : PM PUnit) (modify g1) c := by
  unfold Sim2
  rw [runPM_modify, runPM_modify, h]
  rfl

theorem shiftCtx_queue (n : Nat) (c : Ctx) : (shiftCtx n c).queue = c.queue := rfl
theorem shiftCtx_lines (n : Nat) (c : Ctx) : (shiftCtx n c).lines = c.lines := rfl
theorem shiftCtx_lineNo (n : Nat) (c : Ctx) : (shiftCtx n c).lineNo = c.lineNo := rfl
theorem shiftCtx_errors (n : Nat) (c : Ctx) : (shiftCtx n c).errors = c.errors := rfl
theorem shiftCtx_μ (n : Nat) (c : Ctx) : (shiftCtx n c).μ = c.μ := rfl
theorem shiftCtx_calls (n : Nat) (c : Ctx) : (shiftCtx n c).calls = c.calls := rfl
theorem shiftCtx_β (n : Nat) (c : Ctx) : (shiftCtx n c).β = shiftBState n c.β := rfl
theorem shiftCtx_ids (n : Nat) (c : Ctx) : (shiftCtx n c).ids = c.ids + n := rfl

theorem sim_readToken (n : Nat) (c : Ctx) : Sim2 n id readToken readToken c := by
  unfold readToken
  apply sim2_get_bind
  simp only [shiftCtx_queue, shiftCtx_lines, shiftCtx_lineNo]
  cases c.queue with
  | cons t q => exact sim2_bind (sim2_set rfl) (fun _ _ => sim2_pure rfl)
  | nil =>
    cases c.lines with
    | cons l ls => exact sim2_bind (sim2_set rfl) (fun _ _ => sim2_pure rfl)
    | nil => exact sim2_bind (sim2_set rfl) (fun _ _ => sim2_pure rfl)

theorem sim2_ite {α} {n : Nat} {S : α → α} {p : Prop} [Decidable p] {a2 b2 a1 b1 : PM α} {c : Ctx}
    (ht : p → Sim2 n S a2 a1 c) (hf : ¬p → Sim2 n S b2 b1 c) :
    Sim2 n S (if p then a2 else b2) (if p then a1 else b1) c := by
  split
  · exact ht ‹_›
  · exact hf ‹_›

theorem sim_addError (n : Nat) (cap : Nat) (e : PErr) (c : Ctx) :
    Sim2 n id (addError cap e) (addError cap e) c := by
  unfold addError
  apply sim2_get_bind
  simp only [shiftCtx_errors]
  refine sim2_ite (fun _ => sim2_pure rfl) (fun _ => ?_)
  refine sim2_bind (sim2_set rfl) (fun _ _ => ?_)
  exact sim2_ite (fun _ => sim2_throw) (fun _ => sim2_pure rfl)

theorem sim_matchP (n : Nat) (D : List Dialect) (cap : Nat) (stop : Bool) (k : Kind) (t : Token) (c : Ctx) :
    Sim2 n id (matchP D cap stop k t) (matchP D cap stop k t) c := by
  unfold matchP
  apply sim2_get_bind
  rw [shiftCtx_μ]
  rcases matchTok D k c.μ t with ⟨out, invoked⟩
  dsimp only
  refine sim2_bind (sim2_set rfl) (fun _ c' => ?_)
  cases out.res with
  | matched => exact sim2_pure rfl
  | no => exact sim2_pure rfl
  | raised e =>
    dsimp only
    refine sim2_ite (fun _ => sim2_throw) (fun _ => ?_)
    exact sim2_bind (sim_addError n cap _ c') (fun _ _ => sim2_pure rfl)

theorem sim_liftB (n : Nat) (cap : Nat) (stop : Bool) (r : Except BErr Unit) (c : Ctx) :
    Sim2 n id (liftB cap stop r) (liftB cap stop r) c := by
  unfold liftB
  split
  · exact sim2_pure rfl
  · exact sim2_throw
  · exact sim2_ite (fun _ => sim2_throw) (fun _ => sim_addError n cap _ c)

theorem sim_runProd (n : Nat) (cap : Nat) (stop : Bool) (t : Token) (p : Prod) (c : Ctx) :
    Sim2 n id (runProd cap stop t p) (runProd cap stop t p) c := by
  unfold runProd
  apply sim2_get_bind
  cases p with
  | start r =>
    dsimp only
    exact sim2_set (by simp [shiftCtx, startRule_shift])
  | end_ r =>
    dsimp only
    rw [shiftCtx_β, shiftCtx_ids, endRule_shift]
    rcases c.β.endRule c.ids with ⟨r, β', n'⟩
    dsimp only
    exact sim2_bind (sim2_set rfl) (fun _ c' => sim_liftB n cap stop _ c')
  | build =>
    dsimp only
    rw [shiftCtx_β, build_shift]
    cases c.β.build t with
    | ok β' => exact sim2_set rfl
    | error e => exact sim_liftB n cap stop _ c

/-- the second run starts from the shifted context (Lemmas/RelWalk.lean): no escape -/
def shiftWalk (n : Nat) : Walk where
  J c1 c2 := c2 = shiftCtx n c1
  A _ c1 c2 := c2 = shiftCtx n c1
  X _ _ := False
  K1 _ := True
  K2 _ := True

theorem shiftWalk_ok (n : Nat) : (shiftWalk n).OK where
  k1 := ⟨fun _ => trivial, fun _ => trivial, trivial, trivial, fun _ _ => trivial⟩
  k2 := ⟨fun _ => trivial, fun _ => trivial, trivial, trivial, fun _ _ => trivial⟩
  sticky _ _ := Sticky.none _ _
  crash _ _ _ h := h
  fuel _ _ h := h
  len _ _ h := by rw [h]; rfl

theorem Sim2.simJ {α} {n : Nat} {m2 m1 : PM α} (h : ∀ c, Sim2 n id m2 m1 c) : SimJ (shiftWalk n) m1 m2 := by
  refine ⟨fun c1 c2 hc => ?_, trivial, trivial⟩
  cases hc
  have h := h c1
  unfold Sim2 runPM at h
  unfold run
  rw [h]
  rcases StateT.run (ExceptT.run m1) c1 with ⟨r, c'⟩
  cases r with
  | ok a => exact .ok ⟨rfl, rfl⟩
  | error e => exact .err ⟨rfl, rfl⟩

theorem sim_lookahead (n : Nat) (D : List Dialect) (cap : Nat) (stop : Bool) (la : LookAhead) :
    SimJ (shiftWalk n) (lookahead D cap stop la) (lookahead D cap stop la) :=
  SimJ.lookahead (shiftWalk_ok n) la (Sim2.simJ (sim_readToken n)) (fun k _ t => Sim2.simJ (sim_matchP n D cap stop k t))
    fun _ => Sim2.simJ fun _ => sim2_modify rfl

theorem sim_tryBranches (n : Nat) (D : List Dialect) (T : Table) (stop : Bool) (row : StateRow)
    (bs : List Branch) (t : Token) :
    SimJ (shiftWalk n) (tryBranches D T stop row bs t) (tryBranches D T stop row bs t) := by
  rw [tryBranches_eq_X]
  refine SimJ.tryBranchesX (shiftWalk_ok n) (fun k t => Sim2.simJ (sim_matchP n D _ stop k t))
    (sim_lookahead n D _ stop) (fun t p => Sim2.simJ (sim_runProd n _ stop t p)) (fun t => Sim2.simJ fun c => ?_) bs t
  unfold tryBranches
  refine sim2_bind (sim2_modify rfl) (fun _ c1 => ?_)
  refine sim2_ite (fun _ => sim2_throw) (fun _ => ?_)
  exact sim2_bind (sim_addError n _ _ c1) (fun _ _ => sim2_pure rfl)

theorem sim_parseLoop (n : Nat) (D : List Dialect) (T : Table) (stop : Bool) (fuel state : Nat) :
    SimJ (shiftWalk n) (parseLoop D T stop fuel state) (parseLoop D T stop fuel state) := by
  rw [parseLoop_eq_X]
  refine SimJ.loopX (shiftWalk_ok n) (Sim2.simJ (sim_readToken n)) (fun _ => Sim2.simJ fun _ => sim2_modify rfl)
    (fun s t => ?_) fuel state
  exact SimJ.matchRow (shiftWalk_ok n) s _ fun row => sim_tryBranches n D T stop row _ t

theorem sim_parseBody (n : Nat) (D : List Dialect) (T : Table) (stop : Bool) (k : Nat) :
    SimR (shiftWalk n) (fun d1 d2 => d2 = shiftDoc n d1) (parseBody D T stop k) (parseBody D T stop k) := by
  rw [parseBody_eq_X]
  refine SimR.bodyX (shiftWalk_ok n) (Sim2.simJ fun _ => sim2_modify (by simp [shiftCtx, startRule_shift]))
    (sim_parseLoop n D T stop _ _) (Sim2.simJ (sim_runProd n _ stop _ _))
    (SimR.finishX (fun c1 c2 h => ?_) (fun c1 c2 h _ => ?_) trivial trivial)
  · cases h
    exact ⟨rfl, fun _ => rfl⟩
  · cases h
    unfold astResult
    rw [shiftCtx_β, result_shift]
    rcases c1.β.result with (_ | _) | (_ | d)
    · exact .err ⟨rfl, rfl⟩
    · exact .err ⟨rfl, rfl⟩
    · exact .err ⟨rfl, rfl⟩
    · exact .ok ⟨rfl, rfl⟩

theorem shiftBState_reset (n : Nat) : shiftBState n BState.reset = BState.reset := by
  simp [shiftBState, BState.reset, shiftNode, shiftItems]

theorem parseWith_shift (D : List Dialect) (T : Table) (stop : Bool) (μ : MState) (k n : Nat) (src : Str) :
    parseWith D T stop μ (k + n) src =
      (shiftOutcome n (parseWith D T stop μ k src).1, shiftCtx n (parseWith D T stop μ k src).2) := by
  have h0 : shiftCtx n (ctx0 D μ k src) = ctx0 D μ (k + n) src := by simp [ctx0, shiftCtx, shiftBState_reset]
  rw [parseWith_eq, parseWith_eq]
  rcases (sim_parseBody n D T stop (splitLines src).length).rel (ctx0 D μ k src) _ h0.symm with
    ⟨d1, d2, c1, c2, e1, e2, rfl, rfl⟩ | ⟨e, _, c1, c2, e1, e2, rfl, rfl⟩ | hx
  · rw [e1, e2]
    rfl
  · rw [e1, e2]
    cases e <;> rfl
  · exact hx.elim

theorem pickleArg_shift (n : Nat) (arg : StepArg) (hs vs : List Str) :
    pickleArg (shiftStepArg n arg) hs vs = pickleArg arg hs vs := by
  cases arg with
  | none => rfl
  | doc d => rfl
  | table t =>
    simp only [shiftStepArg, pickleArg, shiftDataTable]
    congr 1
    induction t.rows with
    | nil => rfl
    | cons r rs ih => simp only [List.map_cons, mapOpt, ih]; rfl

theorem nextType_shift (n : Nat) (last : KType) (s : Step) : nextType last (shiftStep n s) = nextType last s := rfl

theorem pickleTags_shift (n : Nat) (tags : List Tag) :
    pickleTags (tags.map (shiftTag n)) = (pickleTags tags).map (shiftPTag n) := by
  simp [pickleTags, shiftTag, shiftPTag]

def shiftRes (n : Nat) (r : List Pickle × Nat) : List Pickle × Nat := (r.1.map (shiftPickle n), r.2 + n)

open Spec

def shiftRefsStep (k : Nat) (s : PickleStep) : PickleStep := { s with astNodeIds := s.astNodeIds.map (· + k) }
def shiftRefs (k : Nat) (p : Pickle) : Pickle :=
  { p with astNodeIds := p.astNodeIds.map (· + k), tags := p.tags.map (shiftPTag k),
           steps := p.steps.map (shiftRefsStep k) }
def shiftScope (k : Nat) (sc : Scope) : Scope :=
  ⟨sc.ftags.map (shiftTag k), sc.rtags.map (shiftTag k), sc.bg.map (shiftStep k)⟩
def shiftSub (k : Nat) (sub : Option (Nat × List Str × List Str)) : Option (Nat × List Str × List Str) :=
  sub.map fun x => (x.1 + k, x.2)


/-- numbering from a counter `k` higher, of pickles whose references are `k` higher -/
theorem numSteps_shift (k n : Nat) (st : List PickleStep) :
    numSteps (n + k) (st.map (shiftRefsStep k)) = (numSteps n st).map (shiftPStep k) := by
  induction st generalizing n with
  | nil => rfl
  | cons s st ih =>
    simp only [List.map_cons, numSteps, Nat.add_right_comm n k 1, ih]
    rfl

theorem numbered_shift (k n : Nat) (ps : List Pickle) :
    numbered (n + k) (ps.map (shiftRefs k)) = shiftRes k (numbered n ps) := by
  induction ps generalizing n with
  | nil => rfl
  | cons p ps ih =>
    have e : n + k + p.steps.length + 1 = n + p.steps.length + 1 + k := by omega
    simp only [List.map_cons, numbered_cons, shiftRefs, List.length_map, e, ih]
    simp only [shiftRes, List.map_cons, numPickle, shiftPickle, List.length_map, numSteps_shift,
      Nat.add_right_comm n k]

/-! the specification never looks at an id: on the shifted document it gives the same pickles with
    every reference shifted -/

theorem ktype_shift (k : Nat) (ss : List Step) :
    (ss.map (shiftStep k)).map (·.ktype) = ss.map (·.ktype) := by
  rw [List.map_map]; rfl

theorem pickleStep_shift (k : Nat) (sub : Option (Nat × List Str × List Str)) (s : Step) (ty : KType) :
    pickleStep (shiftSub k sub) (shiftStep k s) ty = (pickleStep sub s ty).map (shiftRefsStep k) := by
  have ha : (shiftStep k s).arg = shiftStepArg k s.arg := rfl
  cases sub with
  | none =>
    simp only [shiftSub, Option.map_none, pickleStep, ha, pickleArg_shift]
    cases pickleArg s.arg [] [] <;> rfl
  | some x =>
    obtain ⟨rowId, hs, vs⟩ := x
    simp only [shiftSub, Option.map_some, pickleStep, ha, pickleArg_shift]
    have ht : (shiftStep k s).text = s.text := rfl
    rw [ht]
    cases interp s.text hs vs <;> cases pickleArg s.arg hs vs <;> rfl

theorem zipSteps_shift (k : Nat) (sub : Option (Nat × List Str × List Str)) (ss : List Step) (ts : List KType) :
    zipSteps (shiftSub k sub) (ss.map (shiftStep k)) ts =
      (zipSteps sub ss ts).map (List.map (shiftRefsStep k)) := by
  induction ss generalizing ts with
  | nil => cases ts <;> rfl
  | cons s ss ih =>
    cases ts with
    | nil => rfl
    | cons t ts =>
      simp only [List.map_cons, zipSteps, pickleStep_shift, ih]
      cases pickleStep sub s t <;> cases zipSteps sub ss ts <;> rfl

theorem steps_shift (k : Nat) (sc : Scope) (s : Scenario) (sub : Option (Nat × List Str × List Str)) :
    steps (shiftScope k sc) (shiftScenario k s) (shiftSub k sub) =
      (steps sc s sub).map (List.map (shiftRefsStep k)) := by
  have hs : (shiftScenario k s).steps = s.steps.map (shiftStep k) := rfl
  have hn : ∀ (ss : List Step) ts, zipSteps none (ss.map (shiftStep k)) ts = _ := zipSteps_shift k none
  simp only [steps, hs, shiftScope, List.map_eq_nil_iff, ← List.map_append, ktype_shift, List.length_map, hn,
    zipSteps_shift]
  split
  · rfl
  · cases zipSteps none sc.bg _ <;> cases zipSteps sub s.steps _ <;> simp

theorem scenarioPickle_shift (k : Nat) (uri language : Str) (sc : Scope) (s : Scenario) :
    scenarioPickle uri language (shiftScope k sc) (shiftScenario k s) =
      (scenarioPickle uri language sc s).map (shiftRefs k) := by
  have hn : steps (shiftScope k sc) (shiftScenario k s) none = _ := steps_shift k sc s none
  simp only [scenarioPickle, hn]
  cases steps sc s none with
  | none => rfl
  | some st =>
    simp only [Option.map_some, shiftRefs, shiftScope, shiftScenario, ← List.map_append, pickleTags_shift,
      List.map_cons, List.map_nil]

theorem rowPickle_shift (k : Nat) (uri language : Str) (sc : Scope) (s : Scenario) (ex : Examples)
    (header row : Row) :
    rowPickle uri language (shiftScope k sc) (shiftScenario k s) (shiftExamples k ex) (shiftRow k header)
        (shiftRow k row) = (rowPickle uri language sc s ex header row).map (shiftRefs k) := by
  have h := steps_shift k sc s (some (row.id, header.cells.map (·.value), row.cells.map (·.value)))
  simp only [shiftSub, Option.map_some] at h
  have hr : (shiftRow k row).id = row.id + k := rfl
  have hc : (shiftRow k row).cells = row.cells := rfl
  have hh : (shiftRow k header).cells = header.cells := rfl
  have hn : (shiftScenario k s).name = s.name := rfl
  simp only [rowPickle, hr, hc, hh, hn, h]
  cases steps sc s (some (row.id, header.cells.map (·.value), row.cells.map (·.value))) with
  | none => rfl
  | some st =>
    cases interp s.name (header.cells.map (·.value)) (row.cells.map (·.value)) with
    | none => rfl
    | some name =>
      simp only [Option.map_some, shiftRefs, shiftScope, shiftScenario, shiftExamples, ← List.map_append,
        pickleTags_shift, List.map_cons, List.map_nil]

theorem scenarioPickles_shift (k : Nat) (uri language : Str) (sc : Scope) (s : Scenario) :
    scenarioPickles uri language (shiftScope k sc) (shiftScenario k s) =
      (scenarioPickles uri language sc s).map (Option.map (shiftRefs k)) := by
  have he : (shiftScenario k s).examples = s.examples.map (shiftExamples k) := rfl
  simp only [scenarioPickles, he, List.map_eq_nil_iff]
  split
  · simp [scenarioPickle_shift]
  · simp only [List.flatMap_map, List.map_flatMap]
    congr 1
    funext ex
    have hh : (shiftExamples k ex).header = ex.header.map (shiftRow k) := rfl
    have hb : (shiftExamples k ex).body = ex.body.map (shiftRow k) := rfl
    rw [hh, hb]
    cases ex.header with
    | none => rfl
    | some h => simp [rowPickle_shift]

theorem allSome_map {α β} (f : α → β) (l : List (Option α)) :
    allSome (l.map (Option.map f)) = (allSome l).map (List.map f) := by
  induction l with
  | nil => rfl
  | cons o l ih =>
    cases o with
    | none => rfl
    | some a => simp only [List.map_cons, Option.map_some, allSome, ih]; cases allSome l <;> rfl

def shiftScoped (k : Nat) (x : Scope × Scenario) : Scope × Scenario := (shiftScope k x.1, shiftScenario k x.2)

theorem ruleScen_shift (k : Nat) (ft rt : List Tag) (cs : List RuleChild) (bg : List Step) :
    ruleScen (ft.map (shiftTag k)) (rt.map (shiftTag k)) (cs.map (shiftRuleChild k)) (bg.map (shiftStep k)) =
      (ruleScen ft rt cs bg).map (shiftScoped k) := by
  induction cs generalizing bg with
  | nil => rfl
  | cons c cs ih =>
    cases c with
    | background b =>
      have : (shiftBackground k b).steps = b.steps.map (shiftStep k) := rfl
      simp only [List.map_cons, shiftRuleChild, ruleScen, this, ← List.map_append, ih]
    | scenario sc => simp only [List.map_cons, shiftRuleChild, ruleScen, ih]; rfl

theorem featScen_shift (k : Nat) (ft : List Tag) (cs : List FeatureChild) (bg : List Step) :
    featScen (ft.map (shiftTag k)) (cs.map (shiftFeatureChild k)) (bg.map (shiftStep k)) =
      (featScen ft cs bg).map (shiftScoped k) := by
  induction cs generalizing bg with
  | nil => rfl
  | cons c cs ih =>
    cases c with
    | background b =>
      have : (shiftBackground k b).steps = b.steps.map (shiftStep k) := rfl
      simp only [List.map_cons, shiftFeatureChild, featScen, this, ← List.map_append, ih]
    | scenario sc => simp only [List.map_cons, shiftFeatureChild, featScen, ih]; rfl
    | rule r =>
      have h1 : (shiftRule k r).tags = r.tags.map (shiftTag k) := rfl
      have h2 : (shiftRule k r).children = r.children.map (shiftRuleChild k) := rfl
      simp only [List.map_cons, shiftFeatureChild, featScen, h1, h2, ruleScen_shift, ih, List.map_append]

theorem pickles_shift (k : Nat) (uri : Str) (doc : Doc) :
    pickles uri (shiftDoc k doc) = (pickles uri doc).map (List.map (shiftRefs k)) := by
  cases hf : doc.feature with
  | none => simp [pickles, shiftDoc, hf]
  | some f =>
    have hf' : (shiftDoc k doc).feature = some (shiftFeature k f) := by simp [shiftDoc, hf]
    rw [pickles_some _ _ _ hf', pickles_some _ _ _ hf, featureScenarios_eq, featureScenarios_eq, ← allSome_map]
    have := featScen_shift k f.tags f.children []
    simp only [List.map_nil] at this
    simp only [shiftFeature, this, List.flatMap_map, List.map_flatMap, shiftScoped, scenarioPickles_shift]

theorem compile_shift (n : Nat) (uri : Str) (doc : Doc) (k : Nat) :
    compile uri (shiftDoc n doc) (k + n) = (compile uri doc k).map (shiftRes n) := by
  rw [compile_num, compile_num, pickles_shift]
  cases pickles uri doc with
  | none => rfl
  | some qs => simp only [Option.map_some, numbered_shift]


theorem streamEnum_shift (D : List Dialect) (T : Table) (opts : Opts) (k n : Nat) (uri data : Str) :
    streamEnum D T opts (k + n) uri data =
      ((streamEnum D T opts k uri data).1.map (shiftEnvelope n), (streamEnum D T opts k uri data).2 + n) := by
  unfold streamEnum
  cases MState.init D (lit "en") with
  | none => rfl
  | some μ =>
    dsimp only
    rw [parseWith_shift]
    rcases parseWith D T false μ k data with ⟨out, ctx⟩
    cases out with
    | ok d =>
      simp only [shiftOutcome, shiftCtx_ids, compile_shift]
      cases opts.printPickles with
      | false =>
        cases opts.printSource <;> cases opts.printAst <;> simp [shiftEnvelope]
      | true =>
        cases compile uri d ctx.ids with
        | none => cases opts.printSource <;> cases opts.printAst <;> simp [shiftEnvelope]
        | some r =>
          obtain ⟨ps, n'⟩ := r
          cases opts.printSource <;> cases opts.printAst <;> simp [shiftEnvelope, shiftRes]
    | rejected es comp => simp [shiftOutcome, shiftEnvelope, shiftCtx_ids]
    | crash w => simp [shiftOutcome, shiftEnvelope, shiftCtx_ids]
    | fuel => simp [shiftOutcome, shiftEnvelope, shiftCtx_ids]

end Lemmas
end GV
