/-
  Lemmas/RoundtripTags.lean — property C03, round trip: the rendered tag line `@a @b` is matched
  as a tag line with the tags at their columns (`tag_match`).
-/
import GherkinVerif.Lemmas.RoundtripLines
namespace GV
namespace Lemmas
open Spec

theorem tagOK_spec {t : Str} (h : tagOK t = true) :
    ∃ b, t = 64 :: b ∧ (∀ c ∈ b, isSpace c = false) ∧ (∀ c ∈ b, c ≠ 64) := by
  cases t with
  | nil => simp [tagOK] at h
  | cons a b =>
    by_cases ha : a = 64
    · subst ha
      simp only [tagOK, List.all_eq_true, Bool.and_eq_true, Bool.not_eq_true', bne_iff_ne, ne_eq] at h
      exact ⟨b, rfl, fun c hc => (h c hc).1, fun c hc => (h c hc).2⟩
    · unfold tagOK at h
      split at h
      · next heq => cases heq; exact absurd rfl ha
      · cases h

theorem isSpace_64 : isSpace 64 = false := by decide

theorem nospace_clean (b : Str) (h : ∀ c ∈ b, isSpace c = false) : noWsStart b = true ∧ noWsEnd b = true := by
  induction b with
  | nil => exact ⟨rfl, rfl⟩
  | cons a b ih =>
    have ha : isSpace a = false := h a (by simp)
    refine ⟨by simp [noWsStart, ha], ?_⟩
    cases b with
    | nil => simp [noWsEnd, ha]
    | cons c r =>
      have := (ih fun x hx => h x (by simp [hx])).2
      simpa [noWsEnd] using this

theorem bwh_nospace (s : Str) (h : ∀ c ∈ s, isSpace c = false) (x : Str) :
    beforeWsHash (s ++ x) = s ++ beforeWsHash x := by
  induction s with
  | nil => rfl
  | cons a s ih =>
    have ha : isSpace a = false := h a (by simp)
    have ih' := ih fun c hc => h c (by simp [hc])
    show beforeWsHash (a :: (s ++ x)) = a :: (s ++ beforeWsHash x)
    rw [← ih']
    cases hsx : s ++ x with
    | nil => simp [beforeWsHash]
    | cons d rest => simp [beforeWsHash, ha]

theorem bwh_sep (y : Str) : beforeWsHash (32 :: 64 :: y) = 32 :: beforeWsHash (64 :: y) := by
  simp [beforeWsHash]

theorem tag_nospace {t : Str} (h : tagOK t = true) : ∀ c ∈ t, isSpace c = false := by
  obtain ⟨b, rfl, h1, -⟩ := tagOK_spec h
  intro c hc
  simp only [List.mem_cons] at hc
  rcases hc with rfl | hc
  · exact isSpace_64
  · exact h1 c hc

theorem joinWith_cons2 (sep t u : Str) (r : List Str) :
    joinWith sep (t :: u :: r) = t ++ sep ++ joinWith sep (u :: r) := rfl

theorem join_head (tags : List Str) (hne : tags ≠ []) (h : ∀ t ∈ tags, tagOK t = true) :
    ∃ y, joinWith [32] tags = 64 :: y := by
  cases tags with
  | nil => exact absurd rfl hne
  | cons t r =>
    obtain ⟨b, rfl, -, -⟩ := tagOK_spec (h t (by simp))
    cases r with
    | nil => exact ⟨b, rfl⟩
    | cons u r => exact ⟨_, by rw [joinWith_cons2]; rfl⟩

theorem bwh_join (tags : List Str) (h : ∀ t ∈ tags, tagOK t = true) :
    beforeWsHash (joinWith [32] tags) = joinWith [32] tags := by
  induction tags with
  | nil => rfl
  | cons t r ih =>
    cases r with
    | nil =>
      have := bwh_nospace t (tag_nospace (h t (by simp))) []
      simpa [joinWith, beforeWsHash] using this
    | cons u r =>
      have ih' := ih fun x hx => h x (by simp [hx])
      obtain ⟨y, hy⟩ := join_head (u :: r) (by simp) fun x hx => h x (by simp [hx])
      rw [joinWith_cons2, List.append_assoc, bwh_nospace t (tag_nospace (h t (by simp)))]
      rw [hy] at ih' ⊢
      show t ++ beforeWsHash (32 :: 64 :: y) = _
      rw [bwh_sep, ih']
      rfl

theorem join_noWs (tags : List Str) (hne : tags ≠ []) (h : ∀ t ∈ tags, tagOK t = true) :
    noWsStart (joinWith [32] tags) = true ∧ noWsEnd (joinWith [32] tags) = true ∧
    ∀ x ∈ joinWith [32] tags, x ≠ 10 := by
  obtain ⟨y, hy⟩ := join_head tags hne h
  refine ⟨by rw [hy]; simp [noWsStart, isSpace_64], ?_, ?_⟩
  · clear hy
    induction tags with
    | nil => exact absurd rfl hne
    | cons t r ih =>
      cases r with
      | nil => exact (nospace_clean t (tag_nospace (h t (by simp)))).2
      | cons u r =>
        have ih' := ih (by simp) fun x hx => h x (by simp [hx])
        obtain ⟨y, hy⟩ := join_head (u :: r) (by simp) fun x hx => h x (by simp [hx])
        rw [hy] at ih'
        rw [joinWith_cons2, hy]
        rw [List.append_assoc]
        show noWsEnd (t ++ 32 :: 64 :: y) = true
        rw [noWsEnd_append_cons]
        simpa [noWsEnd] using ih'
  · clear hy
    induction tags with
    | nil => exact absurd rfl hne
    | cons t r ih =>
      have ht : ∀ x ∈ t, x ≠ 10 := fun x hx hx10 => by
        have := tag_nospace (h t (by simp)) x hx
        rw [hx10, isSpace_10] at this; cases this
      cases r with
      | nil => exact ht
      | cons u r =>
        have ih' := ih (by simp) fun x hx => h x (by simp [hx])
        rw [joinWith_cons2]
        intro x hx
        simp only [List.mem_append, List.mem_singleton] at hx
        rcases hx with (hx | rfl) | hx
        · exact ht x hx
        · decide
        · exact ih' x hx

theorem split_free (s x : Str) (y0 : Str) (ys0 : List Str) (hs : ∀ c ∈ s, c ≠ 64)
    (hx : splitOnChar 64 x = y0 :: ys0) : splitOnChar 64 (s ++ x) = (s ++ y0) :: ys0 := by
  induction s with
  | nil => exact hx
  | cons a s ih =>
    have ha : a ≠ 64 := hs a (by simp)
    have ih' := ih fun c hc => hs c (by simp [hc])
    simp only [List.cons_append, splitOnChar, beq_iff_eq, ha, if_false, ih']

theorem split_join (tags : List Str) (hne : tags ≠ []) (h : ∀ t ∈ tags, tagOK t = true) :
    ∃ items, splitOnChar 64 (joinWith [32] tags) = [] :: items ∧
      ∀ col, tagItems items col = .ok (tagCols col tags) := by
  induction tags with
  | nil => exact absurd rfl hne
  | cons t r ih =>
    obtain ⟨b, rfl, hb1, hb2⟩ := tagOK_spec (h t (by simp))
    have hbc := nospace_clean b hb1
    have hv : ((64 :: b).any isSpace) = false := by
      simp only [List.any_cons, isSpace_64, Bool.false_or, List.any_eq_false]
      intro x hx; simp [hb1 x hx]
    cases r with
    | nil =>
      refine ⟨[b], ?_, fun col => ?_⟩
      · have := split_free b [] [] [] hb2 rfl
        simp only [List.append_nil] at this
        simp [joinWith, splitOnChar, this]
      · simp only [tagItems, strip_id b hbc.1 hbc.2, hv, tagCols]
        rfl
    | cons u r =>
      obtain ⟨items', hsp, hti⟩ := ih (by simp) fun x hx => h x (by simp [hx])
      refine ⟨(b ++ [32]) :: items', ?_, fun col => ?_⟩
      · rw [joinWith_cons2]
        have := split_free (b ++ [32]) _ _ _ (by
          intro c hc
          simp only [List.mem_append, List.mem_singleton] at hc
          rcases hc with hc | rfl
          · exact hb2 c hc
          · decide) hsp
        simp only [List.cons_append, List.append_assoc, List.append_nil] at this ⊢
        simp only [splitOnChar, beq_self_eq_true, if_true, this]
      · have hst : strip (b ++ [32]) = b := by
          have := strip_clean [] b 32 isSpace_32 (by simp) hbc.1 hbc.2
          simpa using this
        simp only [tagItems, hst, hv, tagCols, hti]
        simp [Nat.add_assoc]

section tagline
variable {D' : List Dialect} (hf : keywordFacts D' = true) (hr : renderFacts D' = true)
variable (D : List Dialect) (μ : MState) (hμ : μ.dialect ∈ D')
variable (tags : List Str) (hne : tags ≠ []) (h : ∀ t ∈ tags, tagOK t = true)
include hne h

theorem tag_match (t : Token) (n : Nat) (hl : t.line = some (joinWith [32] tags ++ [10])) (hno : t.lineNo = n) :
    matchLine D .TagLine μ t (joinWith [32] tags ++ [10]) = ⟨tagTok μ n tags, μ, .matched⟩ := by
  obtain ⟨y, hy⟩ := join_head tags hne h
  obtain ⟨hj1, hj2, -⟩ := join_noWs tags hne h
  have htr : trimmed (joinWith [32] tags ++ [10]) = joinWith [32] tags ++ [10] := by
    rw [hy]; simp [trimmed, lstrip, isSpace_64]
  have hind : lineIndent (joinWith [32] tags ++ [10]) = 0 := by
    rw [hy]; simp [lineIndent, indentOf, isSpace_64]
  have hstrip : strip (joinWith [32] tags ++ [10]) = joinWith [32] tags := by
    have := strip_clean [] _ 10 isSpace_10 (by simp) hj1 hj2
    simpa using this
  obtain ⟨items, hsp, hti⟩ := split_join tags hne h
  have htags : lineTags (joinWith [32] tags ++ [10]) = .ok (tagCols 1 tags) := by
    simp only [lineTags, htr, hstrip, bwh_join tags h, strip_id _ hj1 hj2, hsp, hind,
      List.drop_succ_cons, List.drop_zero, Nat.zero_add]
    exact hti 1
  have hsw : lineStartsWith (joinWith [32] tags ++ [10]) [64] = true := by
    rw [lineStartsWith, htr, hy]; simp [startsWith]
  cases t
  simp only at hl hno
  subst hl hno
  simp [matchLine, hsw, htags, setMatched, tagTok, hind]

end tagline

end Lemmas
end GV
