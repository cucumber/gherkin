/-
  The run invariant behind `C14_errors_classified` (Props/C14ErrorsDoc.lean): on the queue-free
  parse (Spec/PureParse.lean), at every point of every run, every error in `ctx.errors` is
  classified against the source lines (`Spec.ErrClass`, Lemmas/ErrorsDocBase.lean), and so is the
  single error of a stop-mode abort and every error of a composite abort.

  Errors enter the list through `addError` only, called from three places:
    * `matchP` when the matcher raises — on a token carrying a source line that is a
      tag-whitespace or an unknown-language error of that line (`matchTok_raised_cls`); this covers
      the tests of the main loop and those of a look-ahead (`peekLoop` over the unread lines);
    * the error tail of `tryBranchesPure` — the token in hand carries its source line (or is the
      end-of-file token numbered `|L| + 1`), holds no column or the column indent + 1 (`colOK`:
      tests that do not match leave the token alone, except `Language`, which writes indent + 1;
      guarded tests, which may match and still fall through, are `TagLine` tests — table fact
      `guardsOnTagLine` — and write indent + 1), and is not whitespace-only (table fact
      `blankTaken`: every state has an unguarded `Empty` or `Other` test, which such a line passes);
    * `liftB` — the builder's only error is the ragged-table error (`endRule_good`).
-/
import GherkinVerif.Lemmas.ErrorsDocBase
namespace GV
namespace ErrorsDoc
open Lemmas Spec AnyRun

structure EInv (D : List Dialect) (T : Table) (L : List Str) (n : Nat) (c : Ctx) : Prop where
  le : n ≤ L.length + 1
  lineNo : c.lineNo = n
  lines : c.lines = L.drop n
  errs : ∀ e ∈ c.errors, ErrClass D T L c.unexpected e

def EAb (D : List Dialect) (T : Table) (L : List Str) (a : Abort) (c : Ctx) : Prop :=
  (∀ e, a = .single e → ErrClass D T L c.unexpected e) ∧
  (∀ es, a = .composite es → ∀ e ∈ es, ErrClass D T L c.unexpected e)

section
variable {D : List Dialect} {T : Table} {L : List Str} {n : Nat}

theorem EInv.same {c c' : Ctx} (h : EInv D T L n c) (h1 : c'.lineNo = c.lineNo) (h2 : c'.lines = c.lines)
    (h3 : c'.errors = c.errors) (h4 : c'.unexpected = c.unexpected) : EInv D T L n c' :=
  ⟨h.le, h1.trans h.lineNo, h2.trans h.lines, by rw [h3, h4]; exact h.errs⟩

theorem eab_crash (w : String) (c : Ctx) : EAb D T L (.crash w) c := ⟨nofun, nofun⟩

theorem eab_single {e : PErr} {c : Ctx} (h : ErrClass D T L c.unexpected e) : EAb D T L (.single e) c :=
  ⟨fun e' he => by cases he; exact h, nofun⟩

theorem report_e (cap : Nat) (stop : Bool) :
    Report cap stop (fun e c => EInv D T L n c ∧ ErrClass D T L c.unexpected e) (EInv D T L n) (EAb D T L) := by
  have hall : ∀ e c, EInv D T L n c ∧ ErrClass D T L c.unexpected e →
      ∀ x ∈ c.errors ++ [e], ErrClass D T L c.unexpected x := by
    intro e c hc x hx
    rcases List.mem_append.1 hx with hx | hx
    · exact hc.1.errs x hx
    · rw [List.mem_singleton] at hx; subst hx; exact hc.2
  exact
    { single := fun _ _ _ hc => eab_single hc.2
      add := fun _ e => addError_rule e (fun _ hc _ => hc.1)
        (fun c hc => ⟨hc.1.le, hc.1.lineNo, hc.1.lines, hall e c hc⟩)
        fun c hc _ => ⟨nofun, fun es he => by cases he; exact hall e c hc⟩ }

theorem raise_e {k : Kind} {t : Token} (ht : LineOf L t) (c : Ctx) (m : Nat) (e : PErr) (hc : EInv D T L n c)
    (hres : (matchTok D k c.μ t).1.res = .raised e) :
    EInv D T L n { c with μ := (matchTok D k c.μ t).1.μ, calls := m } ∧ ErrClass D T L c.unexpected e :=
  ⟨hc.same rfl rfl rfl rfl, .inr (.inr (matchTok_raised_cls ht hres))⟩

theorem lookaheadPure_e (cap : Nat) (stop : Bool) (la : LookAhead) :
    Inv (EInv D T L n) (EAb D T L) (lookaheadPure D cap stop la) := by
  refine lookaheadPure_rule (Tk := LineOf L) (fun _ _ h1 h2 h => lineOf_of_keep h h1 h2)
    (fun k t ht => matchP_inv_rule (report_e cap stop) k t (fun _ _ hc => hc.same rfl rfl rfl rfl) (raise_e ht)) la
    fun c hc i _ l hl => ?_
  have hl : c.lines[i]? = some l := hl
  rw [hc.lines, List.getElem?_drop] at hl
  show L[c.lineNo + 1 + i - 1]? = some l ∧ 1 ≤ c.lineNo + 1 + i
  rw [hc.lineNo, Nat.add_right_comm, Nat.add_sub_cancel]
  exact ⟨hl, Nat.le_add_left _ _⟩

theorem good_ragged {e : PErr} (h : good e) : ErrClassM D L e := .inr (.inr ⟨h.1, h.2⟩)

theorem runProd_e (cap : Nat) (stop : Bool) (t : Token) (p : Prod) :
    Inv (EInv D T L n) (EAb D T L) (runProd cap stop t p) :=
  runProd_rule (report_e cap stop) t p fun c hc => by
    cases p with
    | start r => exact hc.same rfl rfl rfl rfl
    | end_ r =>
      have hc1 : EInv D T L n { c with β := (c.β.endRule c.ids).2.1, ids := (c.β.endRule c.ids).2.2 } :=
        hc.same rfl rfl rfl rfl
      dsimp only
      split
      · exact hc1
      · next e he => exact ⟨hc1, .inr (.inr (good_ragged (endRule_good c.β c.ids e he)))⟩
      · exact eab_crash _ _
    | build =>
      dsimp only
      split
      · exact hc.same rfl rfl rfl rfl
      · exact fun w => eab_crash _ _

theorem tail_cls {row : StateRow} (hrow : row ∈ T.rows) {t : Token} (hs : SrcTok L t) (hc : colOK t)
    (hb : ∀ l, t.line = some l → lineIsEmpty l = false) {un : List Nat} (hun : t.lineNo ∈ un) :
    ErrClass D T L un (unexpectedErr row t) := by
  rcases hs with ⟨hl, hn⟩ | ⟨l, hL, h1, hl⟩
  · rw [unexpectedErr_eof row t hl hc, hn]
    exact .inr (.inl ⟨row, hrow, by rw [← hn]; exact hun, rfl⟩)
  · rw [unexpectedErr_line row t l hl hc]
    exact .inl ⟨t.lineNo, l, row, hL, h1, hun, hrow, hb l hl, rfl⟩

/-- a whitespace-only line in hand still has an unguarded `Empty` / `Other` test ahead -/
def BlankAhead (t : Token) (bs : List Branch) : Prop :=
  ∀ l, t.line = some l → lineIsEmpty l = true →
    ∃ b ∈ bs, b.guard = none ∧ (b.kind = .Empty ∨ b.kind = .Other)

/-- what the error tail needs of the token in hand, in a form that the tests before it keep: a line
    of the source, no column or indent + 1, a test it passes still ahead if it is whitespace-only;
    the guarded tests are `TagLine` tests -/
def Ahead (L : List Str) (bs : List Branch) (t : Token) : Prop :=
  SrcTok L t ∧ colOK t ∧ BlankAhead t bs ∧ ∀ b ∈ bs, b.guard ≠ none → b.kind = .TagLine

theorem Ahead.next {b : Branch} {bs : List Branch} {t : Token} (h : Ahead L (b :: bs) t) (μ : MState)
    (hm : (matchTok D b.kind μ t).1.res ≠ .matched ∨ b.guard ≠ none) : Ahead L bs (matchTok D b.kind μ t).1.tok := by
  obtain ⟨hs, hc, hb, hg⟩ := h
  refine ⟨srcTok_match hs, colOK_match hc (hm.imp_right (hg b List.mem_cons_self)), fun l hl hE => ?_,
    fun b' hb' => hg b' (List.mem_cons_of_mem _ hb')⟩
  have hl' : t.line = some l := (matchTok_tok D b.kind μ t).1.symm.trans hl
  obtain ⟨b', hb', hg', hk'⟩ := hb l hl' hE
  rcases List.mem_cons.1 hb' with rfl | hb'
  · exact hm.elim (absurd (blank_matches D _ μ t l hl' hE hk')) (absurd hg')
  · exact ⟨b', hb', hg', hk'⟩

theorem tryBranchesPure_e (stop : Bool) {row : StateRow} (hrow : row ∈ T.rows) (bs : List Branch) (t : Token)
    (h : Ahead L bs t) :
    Triple (EInv D T L n) (tryBranchesPure D T stop row bs t) (fun _ => EInv D T L n) (EAb D T L) := by
  rw [tryBranchesPure_eq_X]
  refine branches_rule (Tk := Ahead L) (Pm := fun _ _ => EInv D T L n) (Q := fun _ => EInv D T L n) row
    (report_e _ stop)
    (fun _ _ _ h c _ hc hres => ⟨hc.same rfl rfl rfl rfl, fun hg => h.next c.μ (.inr hg)⟩)
    (fun _ _ _ h c _ hc hres => ⟨hc.same rfl rfl rfl rfl, h.next c.μ (.inl hres)⟩)
    (fun _ _ _ h => raise_e (SrcTok.lineOf h.1))
    (fun _ _ _ _ _ la _ _ _ => (lookaheadPure_e _ stop la).either)
    (fun _ _ _ _ _ _ _ _ _ _ _ => eab_crash _ _)
    (fun b _ _ t' _ => Inv.runProds _ fun p _ => runProd_e _ stop t' p)
    (fun t h => tail_rule (Q := fun _ => EInv D T L n) (report_e _ stop) t fun c hc => ?_) bs t h
  obtain ⟨hs, hcol, hb, -⟩ := h
  refine ⟨⟨hc.le, hc.lineNo, hc.lines, fun e he => (hc.errs e he).mono fun i hi => List.mem_append_left _ hi⟩,
    tail_cls hrow hs hcol (fun l hl => ?_) (List.mem_append_right _ (List.mem_singleton.2 rfl))⟩
  cases hE : lineIsEmpty l with
  | false => rfl
  | true => obtain ⟨b, hb', -⟩ := hb l hl hE; cases hb'

theorem matchTokenPure_e (hG : guardsOnTagLine T = true) (hB : blankTaken T = true) (stop : Bool) (s : Nat)
    (t : Token) (hs : SrcTok L t) (hc : colOK t) :
    Triple (EInv D T L n) (matchTokenPure D T stop s t) (fun _ => EInv D T L n) (EAb D T L) := by
  refine matchTokenPure_rule s t (fun row hrow => ?_) fun _ _ _ _ => eab_crash _ _
  have hmem : row ∈ T.rows := List.mem_of_find?_eq_some hrow
  refine tryBranchesPure_e stop hmem row.branches t ⟨hs, hc, fun l _ _ => ?_, fun b hb hne => ?_⟩
  · simp only [blankTaken, List.all_eq_true, List.any_eq_true, Bool.and_eq_true, Bool.or_eq_true,
      beq_iff_eq, Option.isNone_iff_eq_none] at hB
    obtain ⟨b, hb, hk, hgd⟩ := hB row hmem
    exact ⟨b, hb, hgd, hk⟩
  · simp only [guardsOnTagLine, List.all_eq_true] at hG
    have := hG row hmem b hb
    cases hgd : b.guard with
    | none => exact absurd hgd hne
    | some i =>
      rw [hgd] at this
      simp only [Bool.and_eq_true, beq_iff_eq] at this
      exact this.1

end

theorem getElem?_of_drop_cons {α} {L : List α} {k : Nat} {l : α} {ls : List α} (h : L.drop k = l :: ls) :
    L[k]? = some l ∧ L.drop (k + 1) = ls := by
  constructor
  · have := List.getElem?_drop (xs := L) (i := k) (j := 0)
    rw [h] at this
    simpa using this.symm
  · rw [← List.tail_drop, h]; rfl

theorem parseBodyPure_e {D : List Dialect} {L : List Str} {T : Table} (hG : guardsOnTagLine T = true)
    (hB : blankTaken T = true) (stop : Bool) (k : Nat) :
    Triple (EInv D T L 0) (parseBodyPure D T stop k) (fun _ => EInv D T L (L.length + 1)) (EAb D T L) :=
  (body_rule (P2 := fun _ => EInv D T L (L.length + 1)) (fun _ hc => hc.same rfl rfl rfl rfl)
    (parseLinesPure_rule (I := EInv D T L) (I' := EInv D T L) L (fun _ _ hc => ⟨hc.lineNo, hc.lines⟩)
      (fun _ c hn hc => ⟨Nat.succ_le_succ hn, rfl, by show c.lines.tail = _; rw [hc.lines, List.tail_drop], hc.errs⟩)
      (fun n s hn => matchTokenPure_e hG hB stop s _ (srcTok_at hn) (colOK_fresh _ _))
      (fun _ _ _ => ⟨nofun, nofun⟩) _ 0 0 (Nat.zero_le _))
    (fun _ => runProd_e _ _ _ _) (fun _ hc _ => ⟨nofun, fun es he => by cases he; exact hc.errs⟩)
    fun _ _ _ _ _ => eab_crash _ _).post fun _ _ h => h.1

theorem errors_pure {D : List Dialect} {T : Table} (hG : guardsOnTagLine T = true) (hB : blankTaken T = true)
    (stop : Bool) (μ : MState) (ids : Nat) (src : Str) (es : List PErr) (comp : Bool)
    (h : (parseWithPure D T stop μ ids src).1 = .rejected es comp) :
    ∀ e ∈ es, ErrClass D T (splitLines src) (parseWithPure D T stop μ ids src).2.unexpected e := by
  have h0 : EInv D T (splitLines src) 0 (ctx0 D μ ids src) :=
    ⟨Nat.zero_le _, rfl, rfl, fun e he => by cases he⟩
  rcases parseWithPure_spec (parseBodyPure_e hG hB stop _) h0 with ⟨d, hd, -⟩ | ⟨a, ha, hab⟩
  · rw [hd] at h; cases h
  · rw [ha] at h
    cases a <;> cases h
    · exact fun e he => List.mem_singleton.1 he ▸ hab.1 _ rfl
    · exact hab.2 _ rfl

end ErrorsDoc
end GV
