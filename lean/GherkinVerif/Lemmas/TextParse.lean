/-
  Lemmas/TextParse.lean — the primitives of the queue-free parse (Spec/PureParse.lean) in
  collecting mode, in the terms of the text-level acceptor `Spec.textAccepts`: a test on a line is
  `verdict` / `raises` / `muAfter` (`matchP_text`), and a test that raises leaves an error on record
  that is not a ragged-table error; a peek returns `peekAbs` of the following intrinsic kinds, and
  when a tag line it meets raises, the acceptor rejects whatever follows (`peek_text`, `Doomed`);
  errors only accumulate and an abort is the composite of the errors so far (`EffM`, `effPrims`).
  The walk through the branches of a state is in Lemmas/TextMain.lean.
-/
import GherkinVerif.Lemmas.TextErrors
import GherkinVerif.Lemmas.TextLevel
import GherkinVerif.Lemmas.MatchLine
import GherkinVerif.Lemmas.PureInv
namespace GV
namespace Lemmas
open Spec

def MRes.shape : MRes → Nat
  | .matched => 0
  | .no => 1
  | .raised _ => 2

theorem ofOpt_mu (μ : MState) (t : Token) (o : Option Token) :
    (match o with | some t' => (⟨t', μ, .matched⟩ : MOut) | none => ⟨t, μ, .no⟩).μ = μ := by
  cases o <;> rfl

theorem ofOpt_shape (μ : MState) (t : Token) (o : Option Token) :
    MRes.shape (match o with | some t' => (⟨t', μ, .matched⟩ : MOut) | none => ⟨t, μ, .no⟩).res =
      if o.isSome then 0 else 1 := by
  cases o <;> rfl

/-- `verdict`, `raises` and `muAfter` are defined with the token `probe l`; the token the parse
    holds gives the same -/
theorem matchLine_indep (D : List Dialect) (K : Kind) (μ : MState) (t t' : Token) (l : Str) :
    (matchLine D K μ t l).μ = (matchLine D K μ t' l).μ ∧
    MRes.shape (matchLine D K μ t l).res = MRes.shape (matchLine D K μ t' l).res := by
  rw [matchLine_eq, matchLine_eq]
  cases lineDec D K μ l <;> exact ⟨rfl, rfl⟩

theorem verdict_shape (D : List Dialect) (μ : MState) (l : Str) (K : Kind) :
    verdict D μ l K = (MRes.shape (matchLine D K μ (probe l) l).res == 0) := by
  unfold verdict
  cases (matchLine D K μ (probe l) l).res <;> rfl

theorem raises_shape (D : List Dialect) (μ : MState) (l : Str) (K : Kind) :
    raises D μ l K = (MRes.shape (matchLine D K μ (probe l) l).res == 2) := by
  unfold raises
  cases (matchLine D K μ (probe l) l).res <;> rfl

theorem raised_bad (D : List Dialect) (K : Kind) (μ : MState) (t : Token) (l : Str) (e : PErr)
    (h : (matchLine D K μ t l).res = .raised e) : badE e := by
  rw [matchLine_eq] at h
  cases hd : lineDec D K μ l <;> rw [hd] at h <;> cases h
  · refine ⟨nofun, ?_⟩
    dsimp only
    lit_lists
    simp
  · refine ⟨nofun, ?_⟩
    dsimp only
    lit_lists
    simp

theorem nomatch_mu (D : List Dialect) (K : Kind) (μ : MState) (t : Token) (l : Str)
    (h : MRes.shape (matchLine D K μ t l).res ≠ 0) : (matchLine D K μ t l).μ = μ := by
  rw [matchLine_eq] at h ⊢
  cases hd : lineDec D K μ l <;> first | rfl | (rw [hd] at h; exact absurd rfl h)

theorem matchP_text {D : List Dialect} {cap : Nat} {K : Kind} {t : Token} {l : Str} {c : Ctx}
    {r : Except Abort (Bool × Token)} {c' : Ctx} (hl : t.line = some l)
    (h : run (matchP D cap false K t) c = (r, c')) :
    FootM c c' ∧ Eff cap c r c' ∧
    (verdict D c.μ l K = true → c'.μ = muAfter D c.μ l K ∧ c'.errors = c.errors ∧
      ∃ t', r = .ok (true, t') ∧ t'.line = some l) ∧
    (verdict D c.μ l K = false → c'.μ = c.μ ∧ (∀ x, r = .ok x → x.1 = false ∧ x.2.line = some l) ∧
      (raises D c.μ l K = false → c'.errors = c.errors ∧ ∃ x, r = .ok x) ∧
      (raises D c.μ l K = true → AR c → NR c')) := by
  have hfoot := matchP_foot D cap false K t c r c' h
  refine ⟨hfoot, ?_⟩
  rw [run_matchP, matchTok_line hl] at h
  dsimp only at h
  obtain ⟨hμi, hsi⟩ := matchLine_indep D K c.μ t (probe l) l
  have htok := (matchLine_tok D K c.μ t l).1
  rw [verdict_shape, raises_shape, ← hsi]
  have hmu : muAfter D c.μ l K = (matchLine D K c.μ t l).μ := hμi.symm
  cases hres : (matchLine D K c.μ t l).res with
  | matched =>
    rw [hres] at h
    dsimp only at h
    cases h
    refine ⟨Eff.ok_refl _ _ |> fun e => ⟨Grow.of_eq rfl, e.2⟩, fun _ => ⟨hmu.symm, rfl, _, rfl, htok.trans hl⟩, fun hv => ?_⟩
    simp [MRes.shape] at hv
  | no =>
    rw [hres] at h
    dsimp only at h
    cases h
    have hm := nomatch_mu D K c.μ t l (by rw [hres]; simp [MRes.shape])
    refine ⟨⟨Grow.of_eq rfl, fun a ha => by cases ha⟩, (fun hv => by simp [MRes.shape] at hv), fun _ =>
      ⟨hm, (fun x hx => by cases hx; exact ⟨rfl, htok.trans hl⟩), (fun _ => ⟨rfl, _, rfl⟩), fun hz => by simp [MRes.shape] at hz⟩⟩
  | raised e =>
    rw [hres] at h
    simp only [Bool.false_eq_true, if_false] at h
    have hm := nomatch_mu D K c.μ t l (by rw [hres]; simp [MRes.shape])
    have hbad := raised_bad D K c.μ t l e hres
    rcases ha : run (addError cap e)
        { c with μ := (matchLine D K c.μ t l).μ, calls := c.calls + (if True then 1 else 0) } with ⟨r2, c2⟩
    rw [ha] at h
    obtain ⟨hfe, heff, -⟩ := addError_spec ha
    have hnr : AR c → NR c2 := fun hc => addError_bad ha hbad hc
    obtain ⟨es, rfl⟩ := hfe
    cases r2 with
    | ok _ =>
      cases h
      refine ⟨⟨heff.1, fun a ha => by cases ha⟩, (fun hv => by simp [MRes.shape] at hv), fun _ =>
        ⟨hm, (fun x hx => by cases hx; exact ⟨rfl, htok.trans hl⟩), (fun hz => by simp [MRes.shape] at hz), fun _ => hnr⟩⟩
    | error a =>
      cases h
      refine ⟨⟨heff.1, fun a' ha' => by cases ha'; exact heff.2 _ rfl⟩, (fun hv => by simp [MRes.shape] at hv), fun _ =>
        ⟨hm, (fun x hx => by cases hx), (fun hz => by simp [MRes.shape] at hz), fun _ => hnr⟩⟩

theorem matchP_eofTok {D : List Dialect} {cap : Nat} {stop : Bool} {K : Kind} {t : Token} {c : Ctx}
    {r : Except Abort (Bool × Token)} {c' : Ctx} (hl : t.line = none)
    (h : run (matchP D cap stop K t) c = (r, c')) :
    FootM c c' ∧ c'.μ = c.μ ∧ c'.errors = c.errors ∧ ∃ t', r = .ok (K == .EOF, t') ∧ t'.line = none := by
  have hfoot := matchP_foot D cap stop K t c r c' h
  refine ⟨hfoot, ?_⟩
  rw [run_matchP] at h
  unfold matchTok at h
  rw [hl] at h
  dsimp only at h
  cases hk : K == Kind.EOF with
  | true =>
    rw [hk] at h
    simp only [if_true] at h
    cases h
    exact ⟨rfl, rfl, _, rfl, by simp [setMatched, hl]⟩
  | false =>
    rw [hk] at h
    simp only [Bool.false_eq_true, if_false] at h
    cases h
    exact ⟨rfl, rfl, _, rfl, hl⟩

def EffM {α} (cap : Nat) (m : PM α) : Prop := ∀ c r c', run m c = (r, c') → Eff cap c r c'

/-- `Eff` in the form the Hoare rules take: an invariant, relative to an earlier context `c0` -/
theorem EffM.inv {α} {cap : Nat} {m : PM α} (h : EffM cap m) (c0 : Ctx) :
    Triple (Grow c0) m (fun _ => Grow c0) (fun a c => Grow c0 c ∧ AbOK cap a c) :=
  Triple.intro fun c r c' hc hr => by
    have e := h c r c' hr
    cases r with
    | ok a => exact hc.trans e.1
    | error a => exact ⟨hc.trans e.1, e.2 _ rfl⟩

theorem EffM.of_inv {α} {cap : Nat} {m : PM α}
    (h : ∀ c0, Triple (Grow c0) m (fun _ => Grow c0) (fun a c => Grow c0 c ∧ AbOK cap a c)) :
    EffM cap m := by
  intro c r c' hr
  have e := (h c).elim (Grow.refl c) hr
  cases r with
  | ok a => exact ⟨e, fun _ h => by cases h⟩
  | error a => exact ⟨e.1, fun _ h => by cases h; exact e.2⟩

theorem EffM.set_of {cap : Nat} (x : Ctx) : ∀ c r c', c.errors = x.errors → run (set x : PM PUnit) c = (r, c') → Eff cap c r c' := by
  intro c r c' hx h
  rw [run_set] at h; cases h
  exact ⟨Grow.of_eq hx.symm, fun a ha => by cases ha⟩

theorem EffM.addError (cap : Nat) (e : PErr) : EffM cap (addError cap e) := fun _ _ _ h => (addError_spec h).2.1

theorem EffM.matchP (D : List Dialect) (cap : Nat) (K : Kind) (t : Token) : EffM cap (matchP D cap false K t) := by
  intro c r c' h
  rw [run_matchP] at h
  dsimp only at h
  split at h
  · cases h; exact ⟨Grow.of_eq rfl, fun a ha => by cases ha⟩
  · cases h; exact ⟨Grow.of_eq rfl, fun a ha => by cases ha⟩
  · rename_i e hres
    simp only [Bool.false_eq_true, if_false] at h
    rcases ha : run (GV.addError cap e) _ with ⟨r2, c2⟩
    rw [ha] at h
    obtain ⟨-, heff, -⟩ := addError_spec ha
    have hg : Grow c c2 := heff.1
    cases r2 with
    | ok _ => cases h; exact ⟨hg, fun a ha => by cases ha⟩
    | error a => cases h; exact ⟨hg, fun a' ha' => by cases ha'; exact heff.2 _ rfl⟩

theorem EffM.matchAny (D : List Dialect) (cap : Nat) (ks : List Kind) (t : Token) :
    EffM cap (matchAny D cap false ks t) :=
  EffM.of_inv fun c0 => (matchAny_rule (Tk := fun _ => True) (fun _ _ _ _ _ => trivial) ks
    (fun k _ t _ => EffM.inv (EffM.matchP D cap k t) c0) t trivial).post fun _ _ h => h.1

theorem EffM.peekLoop (D : List Dialect) (cap : Nat) (la : LookAhead) (ls : List Str) (n : Nat) :
    EffM cap (peekLoop D cap false la ls n) :=
  EffM.of_inv fun c0 => peekLoop_rule (Tk := fun _ => True) (fun _ _ _ _ _ => trivial)
    (fun k t _ => EffM.inv (EffM.matchP D cap k t) c0) la ls n fun _ _ => trivial

theorem effPrims (D : List Dialect) (T : Table) (c0 : Ctx) :
    PrimsP D T false (Grow c0) (fun a c => Grow c0 c ∧ AbOK T.errorCap a c) :=
  have R : Report T.errorCap false (fun _ => Grow c0) (Grow c0) (fun a c => Grow c0 c ∧ AbOK T.errorCap a c) :=
    ⟨nofun, fun _ e => EffM.inv (EffM.addError T.errorCap e) c0⟩
  { matchP := fun k t => EffM.inv (EffM.matchP D T.errorCap k t) c0
    runProd := fun _ _ => EffM.inv (fun _ _ _ h => (runProd_spec h).2.1) c0
    crash := fun w _ h => ⟨h, .inr (.inl ⟨w, rfl⟩)⟩
    tail := fun _ t => tail_rule R t fun _ h => h }

theorem EffM.lookaheadPure (D : List Dialect) (cap : Nat) (la : LookAhead) : EffM cap (lookaheadPure D cap false la) :=
  EffM.of_inv fun c0 => lookaheadPure_rule (Tk := fun _ => True) (fun _ _ _ _ _ => trivial)
    (fun k t _ => EffM.inv (EffM.matchP D cap k t) c0) la fun _ _ _ _ => trivial

theorem EffM.tryBranchesPure (D : List Dialect) (T : Table) (row : StateRow) (bs : List Branch) (t : Token) :
    EffM T.errorCap (tryBranchesPure D T false row bs t) :=
  EffM.of_inv fun c0 => (effPrims D T c0).tryBranchesPure row bs t

theorem EffM.matchTokenPure (D : List Dialect) (T : Table) (s : Nat) (t : Token) :
    EffM T.errorCap (matchTokenPure D T false s t) :=
  EffM.of_inv fun c0 => (effPrims D T c0).matchTokenPure s t

theorem EffM.parseLinesPure (D : List Dialect) (T : Table) (fuel s : Nat) :
    EffM T.errorCap (parseLinesPure D T false fuel s) :=
  EffM.of_inv fun c0 => (effPrims D T c0).parseLinesPure (fun _ h => h) (fun _ h => ⟨h, .inr (.inr rfl)⟩) fuel s

theorem raises_imp (D : List Dialect) (μ : MState) (l : Str) (K : Kind) (h : raises D μ l K = true) :
    (K = .TagLine ∨ K = .Language) ∧ verdict D μ l K = false := by
  unfold raises at h
  unfold verdict
  rw [matchLine_eq] at h ⊢
  cases hd : lineDec D K μ l <;> rw [hd] at h <;> first | cases h | skip
  · exact ⟨.inl (lineDec_err.1 _ hd), rfl⟩
  · exact ⟨.inr (lineDec_err.2 _ hd), rfl⟩

theorem raises_tag_start (D : List Dialect) (μ : MState) (l : Str) (h : raises D μ l .TagLine = true) :
    lineStartsWith l [64] = true := by
  cases hc : lineStartsWith l [64] with
  | true => rfl
  | false => simp [raises, matchLine, hc] at h

theorem matchAny_eofTok {D : List Dialect} {cap : Nat} {stop : Bool} (ks : List Kind) (hks : Kind.EOF ∉ ks) {t : Token}
    (hl : t.line = none) {c : Ctx} {r : Except Abort (Bool × Token)} {c' : Ctx}
    (h : run (matchAny D cap stop ks t) c = (r, c')) :
    FootM c c' ∧ c'.μ = c.μ ∧ c'.errors = c.errors ∧ ∃ t', r = .ok (false, t') ∧ t'.line = none := by
  induction ks generalizing t c with
  | nil => rw [GV.matchAny, prun_pure] at h; cases h; exact ⟨FootM.refl _, rfl, rfl, _, rfl, hl⟩
  | cons k ks ih =>
    rw [GV.matchAny, prun_bind] at h
    rcases hr : run (matchP D cap stop k t) c with ⟨r1, c1⟩
    rw [hr] at h
    obtain ⟨hf, hμ, he, t1, rfl, hl1⟩ := matchP_eofTok hl hr
    have hk : (k == Kind.EOF) = false := by
      cases hh : k == Kind.EOF with
      | false => rfl
      | true => exact absurd (by rw [← (beq_iff_eq.1 hh)]; exact List.mem_cons_self ..) hks
    rw [hk] at h
    dsimp only at h
    simp only [Bool.false_eq_true, if_false] at h
    obtain ⟨hf2, hμ2, he2, t2, hr2, hl2⟩ := ih (fun hm => hks (List.mem_cons_of_mem _ hm)) hl1 h
    exact ⟨hf.trans hf2, hμ2.trans hμ, he2.trans he, t2, hr2, hl2⟩

theorem matchAny_text {D : List Dialect} {cap : Nat} (ks : List Kind) {t : Token} {l : Str} (hl : t.line = some l)
    {c : Ctx} {r : Except Abort (Bool × Token)} {c' : Ctx} (h : run (matchAny D cap false ks t) c = (r, c')) :
    (∀ K ∈ ks, stableKind K = true) →
    FootM c c' ∧ c'.μ = c.μ ∧ (∀ m t', r = .ok (m, t') → m = ks.any (verdict D c.μ l) ∧ t'.line = some l) ∧
    ((c'.errors = c.errors ∧ ∃ x, r = .ok x) ∨ (∃ K ∈ ks, raises D c.μ l K = true ∧ (AR c → NR c'))) := by
  induction ks generalizing t c with
  | nil =>
    intro _
    rw [GV.matchAny, prun_pure] at h
    cases h
    exact ⟨FootM.refl _, rfl, (fun m t' he => by cases he; exact ⟨rfl, hl⟩), .inl ⟨rfl, _, rfl⟩⟩
  | cons k ks ih =>
    intro hst
    have hk := hst k (List.mem_cons_self ..)
    have hst' : ∀ K ∈ ks, stableKind K = true := fun K hK => hst K (List.mem_cons_of_mem _ hK)
    rw [GV.matchAny, prun_bind] at h
    rcases hr : run (matchP D cap false k t) c with ⟨r1, c1⟩
    rw [hr] at h
    obtain ⟨hf, heff, hyes, hno⟩ := matchP_text hl hr
    cases hv : verdict D c.μ l k with
    | true =>
      obtain ⟨hμ1, he1, t1, rfl, hl1⟩ := hyes hv
      dsimp only at h
      simp only [if_true] at h
      rw [prun_pure] at h
      cases h
      refine ⟨hf, ?_, fun m t' he => ?_, .inl ⟨he1, _, rfl⟩⟩
      · rw [hμ1]; exact muAfter_stable D c.μ l k hk
      · cases he
        exact ⟨by rw [List.any_cons, hv]; rfl, hl1⟩
    | false =>
      obtain ⟨hμ1, hval, hnz, hz⟩ := hno hv
      cases r1 with
      | error a =>
        cases h
        refine ⟨hf, hμ1, (fun m t' he => by cases he), ?_⟩
        cases hzz : raises D c.μ l k with
        | false => obtain ⟨-, x, hx⟩ := hnz hzz; cases hx
        | true => exact .inr ⟨k, List.mem_cons_self .., hzz, hz hzz⟩
      | ok x =>
        obtain ⟨m1, t1⟩ := x
        obtain ⟨hm1, hl1⟩ := hval _ rfl
        dsimp only at hm1 hl1 h
        subst hm1
        simp only [Bool.false_eq_true, if_false] at h
        obtain ⟨hf2, hμ2, hval2, hcase2⟩ := ih hl1 h hst'
        rw [hμ1] at hval2 hcase2
        refine ⟨hf.trans hf2, hμ2.trans hμ1, fun m t' he => ?_, ?_⟩
        · obtain ⟨hm, hl2⟩ := hval2 m t' he
          exact ⟨by rw [List.any_cons, hv, Bool.false_or]; exact hm, hl2⟩
        · have hgrow := (EffM.matchAny D cap ks t1 c1 r c' h).1
          cases hzz : raises D c.μ l k with
          | true => exact .inr ⟨k, List.mem_cons_self .., hzz, fun hc => hgrow.nr (hz hzz hc)⟩
          | false =>
            obtain ⟨he1, -⟩ := hnz hzz
            rcases hcase2 with ⟨he2, hx⟩ | ⟨K, hK, hzK, hnr⟩
            · exact .inl ⟨he2.trans he1, hx⟩
            · refine .inr ⟨K, List.mem_cons_of_mem _ hK, hzK, fun hc => hnr ?_⟩
              exact AR.of_errors_eq he1 hc

/-- the matcher state is one the parse can be in -/
def MuOK (D : List Dialect) (μ : MState) : Prop := μ.dialect ∈ D ∧ sepOK μ = true

def kindsOf (D : List Dialect) (μ : MState) (ls : List Str) : List Kind := ls.map (intrinsicKind D μ) ++ [.EOF]

/-- the text-level acceptor rejects `ls` from whatever tag state it reaches them in: what a raise
    met by a peek means for the run (the lines a peek steps over are read in tag states) -/
def Doomed (D : List Dialect) (T : Table) (μ : MState) (ls : List Str) : Prop :=
  ∀ s, isTag T s = true → textAccepts D T s μ ls = false

theorem stable_mem_priority {K : Kind} (h : stableKind K = true) : K ∈ kindPriority := by
  cases K <;> first | exact absurd h (by decide) | decide

theorem doomed_skip {D : List Dialect} {T : Table} (F : QF D T) (μ : MState) (l : Str) (ls : List Str)
    {K0 : Kind} (hK0 : isSkipKind K0 = true) (hp0 : passes (intrinsicKind D μ l) K0 = true)
    (hd : Doomed D T μ ls) : Doomed D T μ (l :: ls) := by
  intro s hs
  simp only [textAccepts]
  cases hrow : T.row? s with
  | none => rfl
  | some row =>
    dsimp only
    cases hp : pickBranch T (intrinsicKind D μ l) (ls.map (intrinsicKind D μ) ++ [.EOF]) row.branches with
    | none => rfl
    | some b =>
      obtain ⟨htag, hstab⟩ := tag_pick_skip F hs hrow hp hK0 hp0
      dsimp only
      rw [muAfter_stable D μ l b.kind hstab, hd b.target htag, Bool.and_false]

theorem doomed_raise {D : List Dialect} {T : Table} (hf : textDialectFacts D = true) (F : QF D T) (μ : MState)
    (hμ : MuOK D μ) (l : Str) (ls : List Str) (hz : raises D μ l .TagLine = true) : Doomed D T μ (l :: ls) := by
  intro s hs
  simp only [textAccepts]
  cases hrow : T.row? s with
  | none => rfl
  | some row =>
    dsimp only
    cases hp : pickBranch T (intrinsicKind D μ l) (ls.map (intrinsicKind D μ) ++ [.EOF]) row.branches with
    | none => rfl
    | some b =>
      exfalso
      obtain ⟨hmem, hpass, -⟩ := pick_mem hp
      obtain ⟨hbr, -⟩ := F.tagRow s row hs hrow
      obtain ⟨-, hstab, -⟩ := hbr b hmem
      have hv : verdict D μ l b.kind = true := by rw [kind_unique hf D μ hμ.1 hμ.2 l]; exact hpass
      have hc := verdict_class hf D μ hμ.1 hμ.2 l b.kind (stable_mem_priority hstab) hv
      rw [headClass_of_startsWith (p := [64]) rfl (raises_tag_start D μ l hz)] at hc
      have hk : b.kind = .TagLine := by
        cases hbk : b.kind <;> rw [hbk] at hc hstab <;> first | rfl | exact absurd hc (by decide) | exact absurd hstab (by decide)
      rw [hk, (raises_imp D μ l .TagLine hz).2] at hv
      cases hv

theorem any_verdict_eq {D : List Dialect} (hf : textDialectFacts D = true) (μ : MState) (hμ : MuOK D μ) (l : Str)
    (ks : List Kind) : ks.any (verdict D μ l) = ks.any (passes (intrinsicKind D μ l)) := by
  induction ks with
  | nil => rfl
  | cons k ks ih => rw [List.any_cons, List.any_cons, ih, kind_unique hf D μ hμ.1 hμ.2 l]

theorem any_passes_EOF (ks : List Kind) (h : ∀ K ∈ ks, stableKind K = true) : ks.any (passes .EOF) = false := by
  rw [List.any_eq_false]
  intro K hK
  have := h K hK
  cases K <;> first | exact absurd this (by decide) | decide

theorem peek_text {D : List Dialect} {T : Table} (hf : textDialectFacts D = true) (F : QF D T) {cap i : Nat}
    {la : LookAhead} (hla : T.lookaheads[i]? = some la) :
    ∀ (ls : List Str) (n : Nat) (c : Ctx), MuOK D c.μ →
      ∀ r c', run (peekLoop D cap false la ls n) c = (r, c') →
        FootM c c' ∧ c'.μ = c.μ ∧ (∀ b, r = .ok b → b = peekAbs la (kindsOf D c.μ ls)) ∧
        (AR c → AR c' ∨ (NR c' ∧ Doomed D T c.μ ls)) := by
  obtain ⟨hskipla, hexpla, -⟩ := F.la i la hla
  have hsk : la.skip.all isSkipKind = true := by rw [hskipla]; exact F.skAll
  have hexpS : ∀ K ∈ la.expected, stableKind K = true := by
    intro K hK; simp [stableKind, List.all_eq_true.1 hexpla K hK]
  have hskS : ∀ K ∈ la.skip, stableKind K = true := by
    intro K hK; simp [stableKind, List.all_eq_true.1 hsk K hK]
  have hnoE : ∀ ks : List Kind, (∀ K ∈ ks, stableKind K = true) → Kind.EOF ∉ ks := by
    intro ks h hm; exact absurd (h _ hm) (by decide)
  intro ls
  induction ls with
  | nil =>
    intro n c _ r c' h
    rw [peekLoop, prun_bind] at h
    rcases hr1 : run (matchAny D cap false la.expected { line := none, lineNo := n }) c with ⟨r1, c1⟩
    rw [hr1] at h
    obtain ⟨hf1, hμ1, he1, t1, rfl, hl1⟩ := matchAny_eofTok la.expected (hnoE _ hexpS) rfl hr1
    dsimp only at h
    simp only [Bool.false_eq_true, if_false] at h
    rw [prun_bind] at h
    rcases hr2 : run (matchAny D cap false la.skip t1) c1 with ⟨r2, c2⟩
    rw [hr2] at h
    obtain ⟨hf2, hμ2, he2, t2, rfl, -⟩ := matchAny_eofTok la.skip (hnoE _ hskS) hl1 hr2
    dsimp only at h
    rw [prun_pure] at h
    cases h
    refine ⟨hf1.trans hf2, hμ2.trans hμ1, fun b hb => ?_, fun hc => .inl ?_⟩
    · cases hb
      simp only [kindsOf, List.map_nil, List.nil_append, peekAbs, any_passes_EOF _ hexpS, any_passes_EOF _ hskS]
      rfl
    · intro e he; rw [he2, he1] at he; exact hc e he
  | cons l ls ih =>
    intro n c hμ r c' h
    rw [peekLoop, prun_bind] at h
    rcases hr1 : run (matchAny D cap false la.expected { line := some l, lineNo := n }) c with ⟨r1, c1⟩
    rw [hr1] at h
    obtain ⟨hf1, hμ1, hv1, hc1⟩ := matchAny_text la.expected (t := { line := some l, lineNo := n }) rfl hr1 hexpS
    -- title kinds never raise
    have he1 : c1.errors = c.errors ∧ ∃ x, r1 = .ok x := by
      rcases hc1 with h1 | ⟨K, hK, hz, -⟩
      · exact h1
      · exfalso
        have hti := List.all_eq_true.1 hexpla K hK
        rcases (raises_imp D c.μ l K hz).1 with rfl | rfl <;> exact absurd hti (by decide)
    obtain ⟨he1, ⟨m1, t1⟩, rfl⟩ := he1
    obtain ⟨hm1, hl1⟩ := hv1 m1 t1 rfl
    rw [any_verdict_eq hf c.μ hμ l] at hm1
    have hk : kindsOf D c.μ (l :: ls) = intrinsicKind D c.μ l :: kindsOf D c.μ ls := rfl
    dsimp only at h
    split at h
    · rename_i hm
      rw [prun_pure] at h
      cases h
      refine ⟨hf1, hμ1, fun b hb => ?_, fun hc => .inl ?_⟩
      · cases hb
        rw [hk, peekAbs, ← hm1, hm]; rfl
      · exact AR.of_errors_eq he1 hc
    · rename_i hm
      have hm' : la.expected.any (passes (intrinsicKind D c.μ l)) = false := by rw [← hm1]; simpa using hm
      rw [prun_bind] at h
      rcases hr2 : run (matchAny D cap false la.skip t1) c1 with ⟨r2, c2⟩
      rw [hr2] at h
      obtain ⟨hf2, hμ2, hv2, hc2⟩ := matchAny_text la.skip hl1 hr2 hskS
      rw [hμ1] at hv2 hc2
      have hARc1 : AR c → AR c1 := AR.of_errors_eq he1
      -- of the skipped kinds only `TagLine` can raise, and then no continuation is accepted
      have hdoom : ∀ K ∈ la.skip, raises D c.μ l K = true → Doomed D T c.μ (l :: ls) := by
        intro K hK hz
        rcases (raises_imp D c.μ l K hz).1 with rfl | rfl
        · exact doomed_raise hf F c.μ hμ l ls hz
        · exact absurd (List.all_eq_true.1 hsk _ hK) (by decide)
      cases r2 with
      | error a =>
        cases h
        refine ⟨hf1.trans hf2, hμ2.trans hμ1, (fun b hb => by cases hb), fun hc => ?_⟩
        rcases hc2 with ⟨-, x, hx⟩ | ⟨K, hK, hz, hnr⟩
        · cases hx
        · exact .inr ⟨hnr (hARc1 hc), hdoom K hK hz⟩
      | ok x =>
        obtain ⟨s, t2⟩ := x
        obtain ⟨hs, hl2⟩ := hv2 s t2 rfl
        rw [any_verdict_eq hf c.μ hμ l] at hs
        dsimp only at h
        have hμc2 : c2.μ = c.μ := hμ2.trans hμ1
        split at h
        · rename_i hst
          have hs' : la.skip.any (passes (intrinsicKind D c.μ l)) = true := by rw [← hs]; exact hst
          obtain ⟨hf3, hμ3, hv3, hc3⟩ := ih (n + 1) c2 (by rw [hμc2]; exact hμ) r c' h
          rw [hμc2] at hv3 hc3
          obtain ⟨K0, hK0, hp0⟩ := List.any_eq_true.1 hs'
          have hK0s := List.all_eq_true.1 hsk K0 hK0
          refine ⟨(hf1.trans hf2).trans hf3, hμ3.trans hμc2, fun b hb => ?_, fun hc => ?_⟩
          · rw [hv3 b hb, hk, peekAbs, hm', hs']; rfl
          · rcases hc2 with ⟨he2, -⟩ | ⟨K, hK, hz, hnr⟩
            · have hARc2 : AR c2 := AR.of_errors_eq he2 (hARc1 hc)
              rcases hc3 hARc2 with h3 | ⟨h3, hd⟩
              · exact .inl h3
              · exact .inr ⟨h3, doomed_skip F c.μ l ls hK0s hp0 hd⟩
            · exact .inr ⟨(EffM.peekLoop D cap la ls (n + 1) c2 r c' h).1.nr (hnr (hARc1 hc)),
                hdoom K hK hz⟩
        · rename_i hst
          have hs' : la.skip.any (passes (intrinsicKind D c.μ l)) = false := by rw [← hs]; simpa using hst
          rw [prun_pure] at h
          cases h
          refine ⟨hf1.trans hf2, hμc2, fun b hb => ?_, fun hc => ?_⟩
          · cases hb
            rw [hk, peekAbs, hm', hs']; rfl
          · rcases hc2 with ⟨he2, -⟩ | ⟨K, hK, hz, hnr⟩
            · exact .inl (AR.of_errors_eq he2 (hARc1 hc))
            · exact .inr ⟨hnr (hARc1 hc), hdoom K hK hz⟩

end Lemmas
end GV
