/-
  Lemmas/TextKinds.lean — every physical line has exactly one intrinsic kind (C02_kind_unique):
  under the dialect facts, the tests a line passes are exactly the fallback chain of its intrinsic
  kind (`passes (intrinsicKind …)`): its own kind, `Comment` too for a valid language header,
  `Other` always.  A test says something other than no only on a line whose first non-blank code
  point is of its class (`decides_class`); two different tests of one class are `Language` and
  `Comment`, or look for keywords of different roles, which the dialect facts keep from prefixing
  one another (`exclusive_no`).  What is left is combinatorial (`passes_of_exclusive`).
-/
import GherkinVerif.Spec.TextLevel
import GherkinVerif.Spec.TextFacts
import GherkinVerif.Lemmas.Keywords
import GherkinVerif.Lemmas.Kinds
import GherkinVerif.Lemmas.MatchLine
namespace GV
namespace Lemmas
open Spec

theorem verdict_EOF (D : List Dialect) (μ : MState) (l : Str) : verdict D μ l .EOF = false := rfl
theorem verdict_Other (D : List Dialect) (μ : MState) (l : Str) : verdict D μ l .Other = true := rfl

theorem verdict_Comment (D : List Dialect) (μ : MState) (l : Str) :
    verdict D μ l .Comment = lineStartsWith l [35] := by
  cases h : lineStartsWith l [35] <;> simp [verdict, matchLine, h]

theorem verdict_hit {D : List Dialect} {μ : MState} {l : Str} {K : Kind} (h : verdict D μ l K = true) :
    ∃ μs tx kw kt ind its μ', Decides D μ l K (.hit μs tx kw kt ind its μ') := by
  have hm : (matchLine D K μ (probe l) l).res = .matched := by
    unfold verdict at h
    split at h <;> first | assumption | cases h
  obtain ⟨μs, tx, kw, kt, ind, its, μ', hd, -⟩ := matched_hit hm
  exact ⟨μs, tx, kw, kt, ind, its, μ', hd⟩

theorem languageRe_start {s name : Str} (h : languageRe s = some name) : startsWith [35] (lstrip s) = true := by
  unfold languageRe at h
  split at h
  · next s1 hs => rw [hs]; rfl
  · cases h

theorem verdict_Language_start (D : List Dialect) (μ : MState) (l : Str) (h : verdict D μ l .Language = true) :
    lineStartsWith l [35] = true := by
  obtain ⟨_, _, _, _, _, _, _, hd⟩ := verdict_hit h
  cases hd with
  | title hk => cases hk
  | language hre =>
    have := languageRe_start hre
    rwa [show lstrip (lineText l none) = trimmed l from lstrip_lstrip l] at this

/-! the class of a line by its first non-blank code point: none, `#`, `@`, `|`, `"` or a back-tick,
    anything else; and, for a kind, the class of the lines on which its test can match or raise -/

def headClass : Str → Nat
  | [] => 0
  | c :: _ => if c == 35 then 1 else if c == 64 then 2 else if c == 124 then 3
      else if c == 34 || c == 96 then 4 else 5

def kindClass : Kind → Nat
  | .Empty => 0 | .Language => 1 | .Comment => 1 | .TagLine => 2 | .TableRow => 3
  | .DocStringSeparator => 4 | _ => 5

theorem headClass_of_startsWith {p s : Str} {a : Nat} {r : Str} (hp : p = a :: r) (h : startsWith p s = true) :
    headClass s = headClass [a] := by
  subst hp
  cases s with
  | nil => simp [startsWith] at h
  | cons c s =>
    simp only [startsWith, Bool.and_eq_true, beq_iff_eq] at h
    rw [← h.1]; rfl

theorem headClass_keyword {D : List Dialect} (hf : textDialectFacts D = true) {d : Dialect} (hd : d ∈ D)
    {k : Str} (hk : k ∈ d.allKeywords) (suffix s : Str) (h : startsWith (k ++ suffix) s = true) :
    headClass s = 5 := by
  simp only [textDialectFacts, Bool.and_eq_true] at hf
  obtain ⟨hne, hps, -⟩ := keywordFacts_spec hf.1
  have hp := keywordsPlainStart_spec hps hd hk
  have hn := noEmptyKeyword_spec hne hd hk
  have hq : (!startsWith [34] k && !startsWith [96] k) = true := by
    have := hf.2
    simp only [noQuoteStart, List.all_eq_true] at this
    exact this d hd k hk
  cases k with
  | nil => exact absurd rfl hn
  | cons a k =>
    rw [headClass_of_startsWith (List.cons_append ..) h]
    simp only [plainStart, startsWith, Bool.and_eq_true, Bool.not_eq_true', Bool.and_true, beq_eq_false_iff_ne, ne_eq] at hp hq
    obtain ⟨⟨⟨⟨⟨-, h35⟩, h64⟩, h124⟩, -⟩, -⟩ := hp
    obtain ⟨h34, h96⟩ := hq
    simp only [headClass]
    have e1 : (a == 35) = false := by simpa using fun e => h35 e.symm
    have e2 : (a == 64) = false := by simpa using fun e => h64 e.symm
    have e3 : (a == 124) = false := by simpa using fun e => h124 e.symm
    have e4 : (a == 34) = false := by simpa using fun e => h34 e.symm
    have e5 : (a == 96) = false := by simpa using fun e => h96 e.symm
    simp [e1, e2, e3, e4, e5]

theorem mem_priority_iff (K : Kind) : K ∈ kindPriority ↔ K ≠ .EOF ∧ K ≠ .Other := by
  revert K
  decide

/-- a test of the priority list decides (a match, or one of the two errors) only on a line of its class -/
theorem decides_class {D' : List Dialect} (hf : textDialectFacts D' = true) (D : List Dialect) (μ : MState)
    (hμ : μ.dialect ∈ D') (hsep : sepOK μ = true) (l : Str) (K : Kind) (hK : K ∈ kindPriority) {d : LineDec}
    (hd : Decides D μ l K d) : headClass (trimmed l) = kindClass K := by
  have hstart : ∀ {p : Str} {a : Nat} {r : Str}, p = a :: r → lineStartsWith l p = true →
      headClass (trimmed l) = headClass [a] := fun hp hs => headClass_of_startsWith hp hs
  cases hd with
  | title hk hmem hs =>
    rw [headClass_keyword hf hμ (mem_allKeywords_title (mem_titleKeywords_of_role _ _ _ hmem)) [58] (trimmed l) hs]
    cases K <;> first | rfl | exact absurd hk (by decide)
  | step hmem hs =>
    rw [headClass_keyword hf hμ (mem_allKeywords_step hmem) [] (trimmed l) (by rw [List.append_nil]; exact hs)]
    rfl
  | empty he => rw [show trimmed l = [] by simpa [lineIsEmpty] using he]; rfl
  | other => simp [kindPriority] at hK
  | language hre | langErr hre =>
    have := languageRe_start hre
    rw [show lstrip (lineText l none) = trimmed l from lstrip_lstrip l] at this
    exact hstart rfl this
  | sepOpen hsep _ hs => rcases hsep with rfl | rfl <;> exact hstart (r := [_, _]) rfl hs
  | sepClose ha _ hs =>
    -- the active separator is one of the two delimiters
    simp only [sepOK, ha, Bool.or_eq_true, beq_iff_eq] at hsep
    rcases hsep with (h0 | h0) | h0
    · cases h0
    · cases h0; exact hstart (r := [34, 34]) rfl hs
    · cases h0; exact hstart (r := [96, 96]) rfl hs
  | row hs | comment hs | tags hs | tagErr hs => exact hstart rfl hs

theorem verdict_class {D' : List Dialect} (hf : textDialectFacts D' = true) (D : List Dialect) (μ : MState)
    (hμ : μ.dialect ∈ D') (hsep : sepOK μ = true) (l : Str) (K : Kind) (hK : K ∈ kindPriority)
    (h : verdict D μ l K = true) : headClass (trimmed l) = kindClass K :=
  let ⟨_, _, _, _, _, _, _, hd⟩ := verdict_hit h; decides_class hf D μ hμ hsep l K hK hd

theorem kindClass_eq {K1 K2 : Kind} (h : kindClass K1 = kindClass K2) :
    K1 = K2 ∨ (K1 = .Language ∧ K2 = .Comment) ∨ (K1 = .Comment ∧ K2 = .Language) ∨
      (kindClass K1 = 5 ∧ kindClass K2 = 5) := by
  revert K1 K2
  decide

theorem keyword_kind_of_class {K : Kind} (hK : K ∈ kindPriority) (h : kindClass K = 5) :
    K.isTitle = true ∨ K = .StepLine := by
  revert K
  decide

/-- **on a line that one test of the priority list matches, every other one says no** and leaves token and
    matcher as they are — unless the two are `Language` and `Comment`: their classes differ, or both look
    for a keyword and the keywords of different roles do not prefix one another -/
theorem exclusive_no {D' : List Dialect} (hf : textDialectFacts D' = true) (D : List Dialect) (μ : MState)
    (hμ : μ.dialect ∈ D') (hsep : sepOK μ = true) (t : Token) (l : Str) (K1 K2 : Kind) (hK1 : K1 ∈ kindPriority)
    (hK2 : K2 ∈ kindPriority) (h1 : (matchLine D K1 μ t l).res = .matched) (hne : K1 ≠ K2)
    (hlc : ¬(K1 = .Language ∧ K2 = .Comment)) (hcl : ¬(K1 = .Comment ∧ K2 = .Language)) :
    matchLine D K2 μ t l = ⟨t, μ, .no⟩ := by
  obtain ⟨_, _, _, _, _, _, _, hd1, hm1⟩ := matched_hit h1
  rcases lineDec_cases D K2 μ l with h | h
  · rw [matchLine_eq, h]; rfl
  · have c1 := decides_class hf D μ hμ hsep l K1 hK1 hd1
    have c2 := decides_class hf D μ hμ hsep l K2 hK2 h
    rcases kindClass_eq (c1.symm.trans c2) with e | e | e | ⟨a, b⟩
    · exact absurd e hne
    · exact absurd e hlc
    · exact absurd e hcl
    · simp only [textDialectFacts, Bool.and_eq_true] at hf
      exact keyword_kinds_exclusive D D' hf.1 μ hμ t l K1 K2 (keyword_kind_of_class hK1 a) (keyword_kind_of_class hK2 b)
        hne _ _ hm1

theorem verdict_exclusive {D' : List Dialect} (hf : textDialectFacts D' = true) (D : List Dialect) (μ : MState)
    (hμ : μ.dialect ∈ D') (hsep : sepOK μ = true) (l : Str) (K1 K2 : Kind) (hK1 : K1 ∈ kindPriority)
    (hK2 : K2 ∈ kindPriority) (h1 : verdict D μ l K1 = true) (hne : K1 ≠ K2)
    (hlc : ¬(K1 = .Language ∧ K2 = .Comment)) (hcl : ¬(K1 = .Comment ∧ K2 = .Language)) :
    verdict D μ l K2 = false := by
  have hm : (matchLine D K1 μ (probe l) l).res = .matched := by
    unfold verdict at h1
    split at h1 <;> first | assumption | cases h1
  simp only [verdict, exclusive_no hf D μ hμ hsep (probe l) l K1 K2 hK1 hK2 hm hne hlc hcl]

/-- the combinatorial core: a truth assignment to the tests that is exclusive up to
    `Language`/`Comment` is the fallback chain of the first test (in priority order) it satisfies -/
theorem passes_of_exclusive (v : Kind → Bool) (hEOF : v .EOF = false) (hOther : v .Other = true)
    (hex : ∀ K1 K2, K1 ∈ kindPriority → K2 ∈ kindPriority → v K1 = true → K1 ≠ K2 →
      ¬(K1 = .Language ∧ K2 = .Comment) → ¬(K1 = .Comment ∧ K2 = .Language) → v K2 = false)
    (hLC : v .Language = true → v .Comment = true) (K : Kind) :
    v K = passes ((kindPriority.find? v).getD .Other) K := by
  -- the test found holds, is not `EOF`, and any other test of the list that holds is `Comment`
  -- after `Language`
  obtain ⟨k0, hk0, hv0, hE0, huniq⟩ : ∃ k0, (kindPriority.find? v).getD .Other = k0 ∧ v k0 = true ∧
      k0 ≠ .EOF ∧ ∀ K ∈ kindPriority, v K = true → K = k0 ∨ (k0 = .Language ∧ K = .Comment) := by
    cases hfind : kindPriority.find? v with
    | none =>
      refine ⟨_, rfl, hOther, by decide, fun K hK hv => ?_⟩
      exact absurd hv (by simpa using List.find?_eq_none.mp hfind K hK)
    | some k0 =>
      have hk0 := List.mem_of_find?_eq_some hfind
      have hv0 : v k0 = true := List.find?_some hfind
      refine ⟨k0, rfl, hv0, ((mem_priority_iff k0).mp hk0).1, fun K hK hv => ?_⟩
      by_cases hne : k0 = K
      · exact .inl hne.symm
      · by_cases hlc : k0 = .Language ∧ K = .Comment
        · exact .inr hlc
        · have hcl : k0 = .Comment ∧ K = .Language := Classical.not_not.mp fun hcl => by
            rw [hex k0 K hk0 hK hv0 hne hlc hcl] at hv; cases hv
          -- impossible: `Language` precedes `Comment` in the list and would have been found
          obtain ⟨rfl, rfl⟩ := hcl
          simp only [kindPriority, List.find?, hv] at hfind
          split at hfind <;> cases hfind
  rw [hk0, Bool.eq_iff_iff, passes_iff]
  constructor
  · intro hv
    by_cases hE : K = .EOF
    · rw [hE, hEOF] at hv; cases hv
    · by_cases hO : K = .Other
      · exact .inr (.inr ⟨hO, hE0⟩)
      · rcases huniq K ((mem_priority_iff K).mpr ⟨hE, hO⟩) hv with h | h
        · exact .inl h
        · exact .inr (.inl h)
  · rintro (rfl | ⟨rfl, rfl⟩ | ⟨rfl, -⟩)
    · exact hv0
    · exact hLC hv0
    · exact hOther

/-- **C02_kind_unique.**  Under the dialect facts, for a matcher state whose dialect is one of
    the table and whose doc-string mode is one the matcher can produce, each test succeeds on a
    line exactly when it is in the fallback chain of the line's intrinsic kind. -/
theorem kind_unique {D' : List Dialect} (hf : textDialectFacts D' = true) (D : List Dialect) (μ : MState)
    (hμ : μ.dialect ∈ D') (hsep : sepOK μ = true) (l : Str) (K : Kind) :
    verdict D μ l K = passes (intrinsicKind D μ l) K := by
  unfold intrinsicKind
  refine passes_of_exclusive (verdict D μ l) (verdict_EOF D μ l) (verdict_Other D μ l)
    (fun K1 K2 h1 h2 hv hne hlc hcl => verdict_exclusive hf D μ hμ hsep l K1 K2 h1 h2 hv hne hlc hcl)
    (fun h => ?_) K
  rw [verdict_Comment]
  exact verdict_Language_start D μ l h

theorem intrinsicKind_ne_EOF (D : List Dialect) (μ : MState) (l : Str) : intrinsicKind D μ l ≠ .EOF := by
  unfold intrinsicKind
  cases h : kindPriority.find? (verdict D μ l) with
  | none => simp
  | some k =>
    have := List.mem_of_find?_eq_some h
    simp only [Option.getD_some]
    exact ((mem_priority_iff k).1 this).1

end Lemmas
end GV
