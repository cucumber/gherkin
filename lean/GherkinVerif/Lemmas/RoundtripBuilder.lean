/-
  Lemmas/RoundtripBuilder.lean — property C03, round trip: the AST builder's `end_rule` on the
  stacks that arise while the rendered document is parsed, computed symbolically.
-/
import GherkinVerif.Lemmas.RoundtripTags
import GherkinVerif.Lemmas.ParseTree
namespace GV
namespace Lemmas
open Spec

theorem getItems_map {α} (k k' : Key) (f : α → Val) (L : List α) :
    getItems (L.map fun a => (k', f a)) k = if k' = k then L.map f else [] := by
  induction L with
  | nil => simp [getItems]
  | cons a L ih =>
    simp only [getItems, List.map_cons, List.filter_cons, beq_iff_eq] at ih ⊢
    split <;> simp_all

theorem getItems_cons (kv : Key × Val) (l : List (Key × Val)) (k : Key) :
    getItems (kv :: l) k = if kv.1 = k then kv.2 :: getItems l k else getItems l k := by
  simp only [getItems, List.filter_cons, beq_iff_eq]
  split <;> rfl

theorem filterMap_map_some {α β : Type} (g : α → β) (f : β → Option α) (h : ∀ a, f (g a) = some a) (l : List α) :
    (l.map g).filterMap f = l := by
  induction l with
  | nil => rfl
  | cons a l ih => simp [h, ih]

def stepItems (L : List Step) : List (Key × Val) := L.map fun s => (Key.rule .Step, Val.step s)
def scItems (L : List Scenario) : List (Key × Val) :=
  L.map fun s => (Key.rule .ScenarioDefinition, Val.scenario s)

theorem stepItems_snoc (L : List Step) (s : Step) :
    stepItems L ++ [(Key.rule .Step, Val.step s)] = stepItems (L ++ [s]) := by simp [stepItems]
theorem scItems_snoc (L : List Scenario) (s : Scenario) :
    scItems L ++ [(Key.rule .ScenarioDefinition, Val.scenario s)] = scItems (L ++ [s]) := by simp [scItems]

theorem endRule_step (μ : MState) (n : Nat) (s : MStep) (rt : RuleType) (items : List (Key × Val))
    (rest : List Node) (cm : List Comment) (i : Nat) :
    (⟨⟨.Step, [(.tok .StepLine, .tok (stepTok μ n s))]⟩ :: ⟨rt, items⟩ :: rest, cm⟩ : BState).endRule i =
      (.ok (), ⟨⟨rt, items ++ [(.rule .Step, .step
          { id := i, loc := ⟨n, some 3⟩, keyword := s.kw, ktype := stepKType μ.dialect s.kw, text := s.text,
            arg := .none })]⟩ :: rest, cm⟩, i + 1) := rfl

/-- nodes `transform_node` returns unchanged -/
theorem endRule_raw (r : RuleType) (hr : r = .Scenario ∨ r = .Tags ∨ r = .FeatureHeader)
    (its : List (Key × Val)) (rt : RuleType) (items : List (Key × Val))
    (rest : List Node) (cm : List Comment) (i : Nat) :
    (⟨⟨r, its⟩ :: ⟨rt, items⟩ :: rest, cm⟩ : BState).endRule i =
      (.ok (), ⟨⟨rt, items ++ [(.rule r, .raw r its)]⟩ :: rest, cm⟩, i) := by
  rcases hr with rfl | rfl | rfl <;> rfl

def tagsItem (μ : MState) (n : Nat) (tags : List Str) : List (Key × Val) :=
  if tags.isEmpty then [] else [(.rule .Tags, .raw .Tags [(.tok .TagLine, .tok (tagTok μ n tags))])]

/-- no tag is at column 0, which `getLocation` would read as "no column" -/
theorem tagCols_pos (tags : List Str) : ∀ c, 0 < c → ∀ p ∈ tagCols c tags, (p.1 == 0) = false := by
  induction tags with
  | nil => intro c _ p hp; cases hp
  | cons t r ih =>
    intro c hc p hp
    simp only [tagCols, List.mem_cons] at hp
    rcases hp with rfl | hp
    · simp; omega
    · exact ih _ (by omega) p hp

theorem tagCols_length (tags : List Str) : ∀ c, (tagCols c tags).length = tags.length := by
  induction tags with
  | nil => intro c; rfl
  | cons t r ih => intro c; simp [tagCols, ih]

theorem numberTags_aux (t : Token) (n : Nat) (ht : t.lineNo = n) (L : List (Nat × Str))
    (hL : ∀ p ∈ L, (p.1 == 0) = false) : ∀ i,
    (L.zipIdx i).map (fun p => ({ id := p.2, loc := getLocation t (some p.1.1), name := p.1.2 } : Tag)) =
    (L.zipIdx i).map (fun p => ({ id := p.2, loc := ⟨n, some p.1.1⟩, name := p.1.2 } : Tag)) := by
  induction L with
  | nil => intro i; rfl
  | cons a L ih =>
    intro i
    have ha := hL a (by simp)
    rw [List.zipIdx_cons, List.map_cons, List.map_cons, ih (fun p hp => hL p (by simp [hp]))]
    congr 1
    simp [getLocation, ha, ht]

theorem numberTags_tagTok (μ : MState) (n i : Nat) (tags : List Str) :
    numberTags [tagTok μ n tags] i = expTags n i tags := by
  rw [numberTags_cons, numberTags_nil, List.append_nil]
  exact numberTags_aux _ n rfl _ (tagCols_pos tags 1 (by omega)) i

def tagToks (μ : MState) (n : Nat) (tags : List Str) : List Token := if tags.isEmpty then [] else [tagTok μ n tags]

theorem tagTokens_tagsItem (μ : MState) (n : Nat) (tags : List Str) (post : List (Key × Val))
    (hpost : getItems post (.rule .Tags) = []) : tagTokens (tagsItem μ n tags ++ post) = some (tagToks μ n tags) := by
  unfold tagTokens tagsItem tagToks getSingle
  rw [getItems_append, hpost]
  cases tags <;> rfl

theorem numberTags_tagToks (μ : MState) (n i : Nat) (tags : List Str) :
    numberTags (tagToks μ n tags) i = expTags n i tags ∧ tagCount (tagToks μ n tags) = tags.length := by
  unfold tagToks
  cases tags with
  | nil => exact ⟨rfl, rfl⟩
  | cons t r => exact ⟨numberTags_tagTok μ n i (t :: r), by simp [tagCount, tagPairs, tagTok, tagCols_length]⟩

theorem getItems_tagsItem (μ : MState) (n : Nat) (tags : List Str) (k : Key) (hk : Key.rule .Tags ≠ k) :
    getItems (tagsItem μ n tags) k = [] := by
  unfold tagsItem
  split
  · rfl
  · simp [getItems, hk]

theorem getSingle_tagsItem (μ : MState) (n : Nat) (tags : List Str) (k : Key) (v : Val) (hk : Key.rule .Tags ≠ k) :
    getSingle (tagsItem μ n tags ++ [(k, v)]) k = v := by
  rw [getSingle, getItems_append, getItems_tagsItem μ n tags k hk]
  simp [getItems]

theorem getSteps_items (hd : Key × Val) (hhd : hd.1 ≠ Key.rule .Step) (L : List Step) :
    getSteps (hd :: stepItems L) = L := by
  unfold getSteps
  rw [getItems_cons, if_neg hhd, stepItems, getItems_map, if_pos rfl]
  exact filterMap_map_some Val.step _ (fun _ => rfl) L

theorem endRule_doc (f : Feature) (i : Nat) :
    (⟨[⟨.GherkinDocument, [(.rule .Feature, .feature f)]⟩, ⟨.None_, []⟩], []⟩ : BState).endRule i =
      (.ok (), ⟨[⟨.None_, [(.rule .GherkinDocument, .doc ⟨some f, []⟩)]⟩], []⟩, i) := rfl

theorem result_doc (d : Doc) :
    (⟨[⟨.None_, [(.rule .GherkinDocument, .doc d)]⟩], []⟩ : BState).result = .ok (some d) := rfl

end Lemmas
end GV
