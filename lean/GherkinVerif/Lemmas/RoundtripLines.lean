/-
  Lemmas/RoundtripLines.lean — property C03, round trip: string-level and per-line matcher lemmas
  for the lines `Spec.render` writes.  Each rendered line is matched as its intended kind with the
  intended fields (`title_match`, `step_match`); that every other specific test says no, token and
  matcher untouched, is `others_no`, from the text level's `exclusive_no`.
-/
import GherkinVerif.Spec.Render
import GherkinVerif.Lemmas.TextKinds
namespace GV
namespace Spec

/-- head of a keyword: present, not whitespace, none of `#`, `@`, `|`, `"`, backtick -/
def kwHeadOK : Str → Bool
  | [] => false
  | c :: _ => !isSpace c && c != 35 && c != 64 && c != 124 && c != 34 && c != 96

/-- the dialect fact of the round trip: no keyword starts like a line of another kind (`kwHeadOK`) or contains
    a line feed, so that a rendered keyword line is one line and no comment, tag, table-row or delimiter line -/
def renderFacts (D : List Dialect) : Bool :=
  D.all fun d => d.allKeywords.all fun k => kwHeadOK k && k.all (· != 10)

end Spec

namespace Lemmas
open Spec

theorem dropWhileEnd_append_single (p : Nat → Bool) (s : Str) (c : Nat) (hc : p c = true) :
    dropWhileEnd p (s ++ [c]) = dropWhileEnd p s := by
  induction s with
  | nil => simp [dropWhileEnd, hc]
  | cons a s ih => simp only [List.cons_append, dropWhileEnd, ih]

theorem dropWhileEnd_noWsEnd (p : Nat → Bool) (hp : ∀ x, p x = true → isSpace x = true) (s : Str)
    (h : noWsEnd s = true) : dropWhileEnd p s = s := by
  induction s with
  | nil => rfl
  | cons a s ih =>
    cases s with
    | nil =>
      have : isSpace a = false := by simpa [noWsEnd] using h
      have hpa : p a = false := by
        cases hpa : p a with
        | false => rfl
        | true => rw [hp a hpa] at this; cases this
      simp [dropWhileEnd, hpa]
    | cons c r =>
      have h' : noWsEnd (c :: r) = true := by simpa [noWsEnd] using h
      simp only [dropWhileEnd] at ih ⊢
      rw [ih h']

theorem noWsEnd_append_cons (s z : Str) (a : Nat) : noWsEnd (s ++ a :: z) = noWsEnd (a :: z) := by
  induction s with
  | nil => rfl
  | cons b s ihs =>
    cases s with
    | nil => simp [noWsEnd]
    | cons b' s' => simpa [noWsEnd] using ihs

theorem isSpace_10 : isSpace 10 = true := by decide
theorem isSpace_32 : isSpace 32 = true := by decide

/-- `x` is the line feed, or the blank between two tags -/
theorem strip_clean (ws s : Str) (x : Nat) (hx : isSpace x = true) (hws : ∀ c ∈ ws, isSpace c = true)
    (h1 : noWsStart s = true) (h2 : noWsEnd s = true) : strip (ws ++ (s ++ [x])) = s := by
  unfold strip rstrip
  rw [lstrip_ws_append ws _ hws]
  cases s with
  | nil => simp [lstrip, hx, dropWhileEnd]
  | cons c r =>
    have hc : isSpace c = false := by simpa [noWsStart] using h1
    have : lstrip ((c :: r) ++ [x]) = (c :: r) ++ [x] := by simp [lstrip, hc]
    rw [this, dropWhileEnd_append_single _ _ _ hx, dropWhileEnd_noWsEnd isSpace (fun _ h => h) _ h2]

theorem strip_id (s : Str) (h1 : noWsStart s = true) (h2 : noWsEnd s = true) : strip s = s := by
  unfold strip rstrip
  rw [lstrip_of_noWsStart _ h1, dropWhileEnd_noWsEnd isSpace (fun _ h => h) _ h2]

theorem splitLines_line (b rest : Str) (hb : ∀ c ∈ b, c ≠ 10) :
    splitLines (b ++ [10] ++ rest) = (b ++ [10]) :: splitLines rest := by
  induction b with
  | nil => simp [splitLines]
  | cons c b ih =>
    have hc : c ≠ 10 := hb c (by simp)
    have ih' := ih fun x hx => hb x (by simp [hx])
    simp only [List.cons_append, List.append_assoc] at ih' ⊢
    simp only [splitLines, beq_iff_eq, hc, if_false, ih']

theorem splitLines_flatMap (bs : List Str) (h : ∀ b ∈ bs, ∀ c ∈ b, c ≠ 10) :
    splitLines (bs.flatMap (· ++ [10])) = bs.map (· ++ [10]) := by
  induction bs with
  | nil => rfl
  | cons b bs ih =>
    rw [List.flatMap_cons, List.map_cons, splitLines_line b _ (h b (by simp)),
      ih fun b' hb' => h b' (by simp [hb'])]

section head
variable (D : List Dialect) (μ : MState) (t : Token) (l : Str) (c : Nat) (r : Str)

theorem no_EOF : matchLine D .EOF μ t l = ⟨t, μ, .no⟩ := rfl

end head

theorem renderFacts_spec {D : List Dialect} (h : renderFacts D = true) {d : Dialect} (hd : d ∈ D)
    {k : Str} (hk : k ∈ d.allKeywords) :
    (∃ c r, k = c :: r ∧ isSpace c = false ∧ c ≠ 35 ∧ c ≠ 64 ∧ c ≠ 124 ∧ c ≠ 34 ∧ c ≠ 96) ∧
    ∀ x ∈ k, x ≠ 10 := by
  simp only [renderFacts, List.all_eq_true, Bool.and_eq_true, bne_iff_ne, ne_eq] at h
  obtain ⟨h1, h2⟩ := h d hd k hk
  refine ⟨?_, h2⟩
  cases k with
  | nil => simp [kwHeadOK] at h1
  | cons c r =>
    refine ⟨c, r, rfl, ?_⟩
    simpa [kwHeadOK, and_assoc] using h1

theorem startsWith_snoc (k s : Str) (h : ∀ x ∈ k, x ≠ 10) : startsWith k (s ++ [10]) = startsWith k s := by
  induction k generalizing s with
  | nil => simp [startsWith]
  | cons a k ih =>
    have ha : a ≠ 10 := h a (by simp)
    cases s with
    | nil =>
      cases k <;> simp [startsWith, ha]
    | cons b s =>
      simp only [List.cons_append, startsWith]
      rw [ih s fun x hx => h x (by simp [hx])]

def titleTok (μ : MState) (n : Nat) (ty : Kind) (kw name : Str) : Token :=
  { line := some (titleLineOf kw name ++ [10]), lineNo := n, col := some 1, mtype := some ty,
    text := some name, keyword := some kw, ktype := none, indent := 0, items := [], dialect := μ.name }

def stepTok (μ : MState) (n : Nat) (s : MStep) : Token :=
  { line := some (stepLineOf s ++ [10]), lineNo := n, col := some 3, mtype := some .StepLine,
    text := some s.text, keyword := some s.kw, ktype := some (stepKType μ.dialect s.kw), indent := 2,
    items := [], dialect := μ.name }

def tagTok (μ : MState) (n : Nat) (tags : List Str) : Token :=
  { line := some (joinWith [32] tags ++ [10]), lineNo := n, col := some 1, mtype := some .TagLine,
    text := none, keyword := none, ktype := none, indent := 0, items := tagCols 1 tags, dialect := μ.name }

theorem textFacts_of_render {D : List Dialect} (hf : keywordFacts D = true) (hr : renderFacts D = true) :
    textDialectFacts D = true := by
  simp only [textDialectFacts, hf, Bool.true_and, noQuoteStart, List.all_eq_true]
  intro d hd k hk
  obtain ⟨⟨c, r, rfl, -, -, -, -, h34, h96⟩, -⟩ := renderFacts_spec hr hd hk
  simp [startsWith, Ne.symm h34, Ne.symm h96]

theorem others_no {D' : List Dialect} (hf : keywordFacts D' = true) (hr : renderFacts D' = true) (D : List Dialect)
    {μ : MState} (hμ : μ.dialect ∈ D') (hsep : μ.activeSep = none) (t : Token) (l : Str) {K : Kind}
    (hK : K ∈ kindPriority) (hL : K ≠ .Language) (hC : K ≠ .Comment) (hm : (matchLine D K μ t l).res = .matched)
    (K' : Kind) (hK' : K' ≠ K) (hO : K' ≠ .Other) : matchLine D K' μ t l = ⟨t, μ, .no⟩ := by
  by_cases hE : K' = .EOF
  · subst hE; rfl
  · exact exclusive_no (textFacts_of_render hf hr) D μ hμ (by simp [sepOK, hsep]) t l K K' hK
      ((mem_priority_iff K').2 ⟨hE, hO⟩) hm (Ne.symm hK') (fun h => hL h.1) (fun h => hC h.1)

theorem cleanText_spec {s : Str} (h : cleanText s = true) :
    noWsStart s = true ∧ noWsEnd s = true ∧ ∀ x ∈ s, x ≠ 10 := by
  simp only [cleanText, Bool.and_eq_true, List.all_eq_true, bne_iff_ne, ne_eq] at h
  exact ⟨h.1.1, h.1.2, h.2⟩

section kw
variable {D' : List Dialect} (hf : keywordFacts D' = true) (hr : renderFacts D' = true)
variable (D : List Dialect) (μ : MState) (hμ : μ.dialect ∈ D')
include hf hr hμ

theorem title_match (ty : Kind) (hty : ty.isTitle = true) (kw name : Str) (hk : kw ∈ μ.dialect.roleKeywords ty)
    (hn : cleanText name = true) (t : Token) (n : Nat) (hl : t.line = some (titleLineOf kw name ++ [10]))
    (hno : t.lineNo = n) :
    matchLine D ty μ t (titleLineOf kw name ++ [10]) = ⟨titleTok μ n ty kw name, μ, .matched⟩ := by
  obtain ⟨hn1, hn2, -⟩ := cleanText_spec hn
  have hka : kw ∈ μ.dialect.allKeywords := mem_allKeywords_title (mem_titleKeywords_of_role _ ty kw hk)
  obtain ⟨⟨c, r, rfl, hc, -⟩, -⟩ := renderFacts_spec hr hμ hka
  have e : titleLineOf (c :: r) name ++ [10] = [] ++ (c :: r) ++ [58] ++ ([32] ++ (name ++ [10])) := by
    simp [titleLineOf]
  have hind : lineIndent (titleLineOf (c :: r) name ++ [10]) = 0 := by
    simp [titleLineOf, lineIndent, indentOf, hc]
  rw [e, title_in_table D D' hf ty hty μ hμ t [] (c :: r) _ hk (by simp)]
  rw [strip_clean [32] name 10 isSpace_10 (by simp [isSpace_32]) hn1 hn2]
  have hs : rstripCRLF name = name := by
    have := rstripCRLF_strip name
    rwa [strip_id name hn1 hn2] at this
  cases t
  simp only at hl hno
  subst hl hno
  simp [setMatched, titleTok, hind, hs]

omit hf in
theorem step_match (s : MStep) (hs : stepOK μ.dialect s = true) (t : Token) (n : Nat)
    (hl : t.line = some (stepLineOf s ++ [10])) (hno : t.lineNo = n) :
    matchLine D .StepLine μ t (stepLineOf s ++ [10]) = ⟨stepTok μ n s, μ, .matched⟩ := by
  simp only [stepOK, Bool.and_eq_true, beq_iff_eq, firstStepKeyword] at hs
  obtain ⟨hfind, hclean⟩ := hs
  obtain ⟨hn1, hn2, -⟩ := cleanText_spec hclean
  rw [List.find?_eq_some_iff_append] at hfind
  obtain ⟨-, pre, post, hsplit, hpre⟩ := hfind
  have hkm : s.kw ∈ μ.dialect.stepKeywords := by rw [hsplit]; simp
  obtain ⟨⟨c, r, hkw, hc, -⟩, -⟩ := renderFacts_spec hr hμ (mem_allKeywords_step hkm)
  have hns : noWsStart s.kw = true := by rw [hkw]; simp [noWsStart, hc]
  have hne : s.kw ≠ [] := by rw [hkw]; simp
  have e : stepLineOf s ++ [10] = [32, 32] ++ s.kw ++ (s.text ++ [10]) := by simp [stepLineOf]
  have hws : ∀ c ∈ ([32, 32] : Str), isSpace c = true := by
    intro c hc; simp at hc; subst hc; exact isSpace_32
  have hind : lineIndent (stepLineOf s ++ [10]) = 2 := by
    rw [e, List.append_assoc]
    exact indentOf_ws_append [32, 32] _ hws (noWsStart_append s.kw _ hns hne)
  have hpre' : ∀ k' ∈ pre, startsWith k' (s.kw ++ (s.text ++ [10])) = false := by
    intro k' hk'
    have hk'm : k' ∈ μ.dialect.stepKeywords := by rw [hsplit]; simp [hk']
    obtain ⟨-, h10⟩ := renderFacts_spec hr hμ (mem_allKeywords_step hk'm)
    rw [← List.append_assoc, startsWith_snoc _ _ h10]
    simpa using hpre k' hk'
  rw [e, matchLine_step_line D μ t [32, 32] s.kw _ pre post hsplit hws hns hne hpre']
  have h0 := strip_clean [] s.text 10 isSpace_10 (by simp) hn1 hn2
  rw [List.nil_append] at h0
  rw [h0]
  have hs : rstripCRLF s.text = s.text := by
    have := rstripCRLF_strip s.text
    rwa [strip_id s.text hn1 hn2] at this
  cases t
  simp only at hl hno
  subst hl hno
  simp [setMatched, stepTok, hind, hs]

end kw

end Lemmas
end GV
