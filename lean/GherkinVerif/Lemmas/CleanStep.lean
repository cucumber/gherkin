/-
  Lemmas/CleanStep.lean — what a step of the queue-free parse does when no error is on record
  afterwards: the builder ran the calls `Spec.prodOps` of the branch's productions (`CleanStep`,
  `finish_step`), and the pure description of an accepted run, `Trace`.
-/
import GherkinVerif.Lemmas.TextParse
import GherkinVerif.Lemmas.ParseTree
namespace GV
namespace Lemmas
open Spec

theorem errors_nil_of_grow {c c' : Ctx} (h : Grow c c') (h' : c'.errors = []) : c.errors = [] := by
  obtain ⟨es, hes⟩ := h
  rw [h'] at hes
  cases hc : c.errors with
  | nil => rfl
  | cons a l => rw [hc] at hes; cases hes

theorem AR_of_nil {c : Ctx} (h : c.errors = []) : AR c := fun e he => by rw [h] at he; cases he

theorem not_NR_of_nil {c : Ctx} (h : c.errors = []) : ¬ NR c := by
  rintro ⟨e, he, -⟩
  rw [h] at he; cases he

theorem verdict_matched {D : List Dialect} {μ : MState} {l : Str} {K : Kind} (h : verdict D μ l K = true) :
    (matchLine D K μ (probe l) l).res = .matched := by
  unfold verdict at h
  cases hr : (matchLine D K μ (probe l) l).res with
  | matched => rfl
  | no => rw [hr] at h; cases h
  | raised e => rw [hr] at h; cases h

/-- from `c` to `c'` the builder ran the calls `ops` without error (state and counter), the built
    tokens were appended to the ghost list, the scanner was left alone -/
def CleanStep (c c' : Ctx) (ops : List BOp) : Prop :=
  applyOps ops c.β c.ids = (.ok (), c'.β, c'.ids) ∧ c'.builds = c.builds ++ opToks ops ∧
  c'.lines = c.lines ∧ c'.lineNo = c.lineNo

theorem CleanStep.of_footM {c c1 c' : Ctx} {ops : List BOp} (hf : FootM c c1) (h : CleanStep c1 c' ops) :
    CleanStep c c' ops := by
  obtain ⟨_, _, _, rfl⟩ := hf
  exact h

theorem prodOps_cons (t : Token) (p : Prod) (ps : List Prod) : prodOps t (p :: ps) = prodOps t [p] ++ prodOps t ps := by
  cases p <;> rfl

theorem runProd_clean {cap : Nat} {t : Token} {p : Prod} {c c' : Ctx}
    (h : run (runProd cap false t p) c = (.ok (), c')) (hc : c'.errors = []) :
    CleanStep c c' (prodOps t [p]) ∧ c'.μ = c.μ ∧ c.errors = [] := by
  rw [run_runProd] at h
  cases p with
  | start r =>
    dsimp only at h
    cases h
    exact ⟨⟨rfl, by simp [prodOps, opToks], rfl, rfl⟩, rfl, hc⟩
  | end_ r =>
    dsimp only at h
    rcases he : c.β.endRule c.ids with ⟨r0, β', n'⟩
    rw [he] at h
    dsimp only at h
    rw [run_liftB] at h
    cases r0 with
    | ok u =>
      cases u
      dsimp only at h
      cases h
      refine ⟨⟨?_, by simp [prodOps, opToks], rfl, rfl⟩, rfl, hc⟩
      simp only [prodOps, applyOps, applyOp, he]
    | error e =>
      cases e with
      | crash w => cases h
      | ast e =>
        dsimp only at h
        simp only [Bool.false_eq_true, if_false] at h
        exfalso
        obtain ⟨-, -, hcase⟩ := addError_spec h
        rcases hcase with ⟨h1, e', he', -⟩ | h1
        · rw [← h1, hc] at he'; cases he'
        · rw [hc] at h1
          have := congrArg List.length h1
          simp at this
  | build =>
    dsimp only at h
    cases hb : c.β.build t with
    | ok β' =>
      rw [hb] at h
      dsimp only at h
      cases h
      refine ⟨⟨?_, by simp [prodOps, opToks], rfl, rfl⟩, rfl, hc⟩
      simp only [prodOps, applyOps, applyOp, hb]
    | error e =>
      rw [hb] at h
      dsimp only at h
      obtain ⟨w, rfl⟩ := build_error _ _ _ hb
      rw [run_liftB] at h
      cases h

theorem runProds_clean {cap : Nat} {t : Token} (ps : List Prod) {c c' : Ctx}
    (h : run (runProds cap false t ps) c = (.ok (), c')) (hc : c'.errors = []) :
    CleanStep c c' (prodOps t ps) ∧ c'.μ = c.μ ∧ c.errors = [] := by
  induction ps generalizing c with
  | nil =>
    rw [runProds, prun_pure] at h
    cases h
    exact ⟨⟨rfl, by simp [prodOps, opToks], rfl, rfl⟩, rfl, hc⟩
  | cons p ps ih =>
    rw [runProds, prun_bind] at h
    rcases hr : run (runProd cap false t p) c with ⟨r1, c1⟩
    rw [hr] at h
    cases r1 with
    | error e => cases h
    | ok u =>
      cases u
      dsimp only at h
      obtain ⟨⟨ha2, hb2, hl2, hn2⟩, hμ2, he2⟩ := ih h
      obtain ⟨⟨ha1, hb1, hl1, hn1⟩, hμ1, he1⟩ := runProd_clean hr he2
      refine ⟨⟨?_, ?_, hl2.trans hl1, hn2.trans hn1⟩, hμ2.trans hμ1, he1⟩
      · rw [prodOps_cons, applyOps_append_ok _ _ _ _ _ _ ha1]; exact ha2
      · rw [prodOps_cons, opToks_append, hb2, hb1, List.append_assoc]

theorem finish_step {cap : Nat} {t : Token} {ps : List Prod} {tgt : Nat} {c : Ctx} {s' : Nat} {c' : Ctx}
    (h : run (do runProds cap false t ps; Pure.pure tgt : PM Nat) c = (.ok s', c')) (hc : c'.errors = []) :
    s' = tgt ∧ c'.μ = c.μ ∧ CleanStep c c' (prodOps t ps) ∧ c.errors = [] := by
  rw [prun_bind] at h
  rcases hr : run (runProds cap false t ps) c with ⟨r1, c1⟩
  rw [hr] at h
  cases r1 with
  | error e => cases h
  | ok u =>
    cases u
    dsimp only at h
    rw [prun_pure] at h
    cases h
    obtain ⟨h1, h2, h3⟩ := runProds_clean ps hr hc
    exact ⟨rfl, h2, h1, h3⟩

/-- the pure description of an accepted run from state `s` with matcher state `μ` over the lines
    `ls`: per line the branch `pickBranch` takes for the line's intrinsic kind and the token the
    successful test made of it; then the same for the end-of-file token; `sf` is the final state -/
inductive Trace (D : List Dialect) (T : Table) : Nat → MState → List Str → Nat → List (Branch × Token) → Prop
  | eof {s : Nat} {μ : MState} {row : StateRow} {b : Branch} {t0 : Token} :
      T.row? s = some row → pickBranch T .EOF [] row.branches = some b → t0.line = none →
      (matchTok D b.kind μ t0).1.res = .matched →
      Trace D T s μ [] b.target [(b, (matchTok D b.kind μ t0).1.tok)]
  | line {s : Nat} {μ : MState} {l : Str} {ls : List Str} {row : StateRow} {b : Branch} {t0 : Token}
      {sf : Nat} {rest : List (Branch × Token)} :
      T.row? s = some row →
      pickBranch T (intrinsicKind D μ l) (kindsOf D μ ls) row.branches = some b →
      t0.line = some l → (matchTok D b.kind μ t0).1.res = .matched →
      Trace D T b.target (muAfter D μ l b.kind) ls sf rest →
      Trace D T s μ (l :: ls) sf ((b, (matchTok D b.kind μ t0).1.tok) :: rest)

def stepsOps (steps : List (Branch × Token)) : List BOp := steps.flatMap fun p => prodOps p.2 p.1.prods

def stepsEvs (steps : List (Branch × Token)) : List Ev := steps.flatMap fun p => prodEvents p.1.kind p.1.prods

theorem CleanStep.trans {a b c : Ctx} {x y : List BOp} (h1 : CleanStep a b x)
    (h2 : applyOps y b.β b.ids = (.ok (), c.β, c.ids)) (h2' : c.builds = b.builds ++ opToks y) :
    applyOps (x ++ y) a.β a.ids = (.ok (), c.β, c.ids) ∧ c.builds = a.builds ++ opToks (x ++ y) := by
  refine ⟨?_, ?_⟩
  · rw [applyOps_append_ok _ _ _ _ _ _ h1.1]; exact h2
  · rw [opToks_append, h2', h1.2.1, List.append_assoc]

end Lemmas
end GV
