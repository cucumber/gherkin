/-
  Lemmas/AstIds.lean — the ids of the AST of a grammar-shaped tree are consecutive from the
  incoming counter in the canonical order (property C11, `C11_ast_ids_canonical`).

  Method: `valIds` extends `Spec.canonicalIds` to all intermediate values of the builder (a raw
  node = the ids of its items in order).  For every rule type, if the items of a node have the
  shape `Spec.nodeShape` prescribes and values of the expected constructors (`ValTyped`), then
  `transformNode`'s result `v` satisfies `valIds v = (ids of the items, in order) ++ (ids drawn
  by this call)` (`node_valIds`): the ids of the items split key by key (`itemsIds_view`, by
  Lemmas/AstView.lean); the rest is the induction of Lemmas/AstItems.lean.
-/
import GherkinVerif.Lemmas.AstView
namespace GV
namespace Lemmas
open Spec

mutual
def valIds : Val → List Nat
  | .step s => stepIds s
  | .dataTable d => rowIds d.rows
  | .background b => backgroundIds b
  | .scenario s => scenarioIds s
  | .examples e => examplesIds e
  | .rows rs => rowIds rs
  | .rule r => ruleIds r
  | .feature f => featureIds f
  | .doc d => canonicalIds d
  | .raw _ items => itemsIds items
  | .tok _ => []
  | .none => []
  | .docString _ => []
  | .descr _ => []
def itemsIds : List (Key × Val) → List Nat
  | [] => []
  | (_, v) :: rest => valIds v ++ itemsIds rest
end

theorem itemsIds_eq (is : List (Key × Val)) : itemsIds is = itemsMap valIds is := by
  induction is with
  | nil => rw [itemsIds]; rfl
  | cons kv l ih => obtain ⟨k, v⟩ := kv; rw [itemsIds, ih, itemsMap_cons]
theorem itemsIds_nil : itemsIds [] = [] := by rw [itemsIds]
theorem itemsIds_append (a b : List (Key × Val)) : itemsIds (a ++ b) = itemsIds a ++ itemsIds b := by
  simp only [itemsIds_eq, itemsMap_append]
theorem itemsIds_singleton (k : Key) (v : Val) : itemsIds [(k, v)] = valIds v := by
  rw [itemsIds_eq, itemsMap_singleton]
theorem valIds_raw (rt : RuleType) (is : List (Key × Val)) : valIds (.raw rt is) = itemsIds is := by
  rw [valIds]

/-- the constructors as in `WFVal`; for the rule types that stay raw nodes: the ids of their items,
    as the parent's transformation will read them -/
def ValTyped : RuleType → Val → Prop
  | .Step, v => ∃ s, v = .step s
  | .DataTable, v => ∃ d, v = .dataTable d
  | .DocString, v => ∃ d, v = .docString d
  | .Background, v => ∃ b, v = .background b
  | .ScenarioDefinition, v => ∃ s, v = .scenario s
  | .ExamplesDefinition, v => ∃ e, v = .examples e
  | .ExamplesTable, v => ∃ rs, v = .rows rs
  | .Description, v => ∃ s, v = .descr s
  | .Rule, v => ∃ r, v = .rule r
  | .Feature, v => ∃ f, v = .feature f
  | .GherkinDocument, v => ∃ d, v = .doc d
  | .Tags, v => ∃ is, v = .raw .Tags is ∧ itemsIds is = []
  | .Scenario, v => ∃ sc, v = .raw .Scenario sc ∧
      itemsIds sc = (getSteps sc).flatMap stepIds ++ (getExamples sc).flatMap examplesIds
  | .Examples, v => ∃ ex, v = .raw .Examples ex ∧ itemsIds ex = rowIds (tableOf ex)
  | .RuleHeader, v => ∃ hd, v = .raw .RuleHeader hd ∧ itemsIds hd = [] ∧
      ∃ line, getSingle hd (.tok .RuleLine) = .tok line
  | .FeatureHeader, v => ∃ hd, v = .raw .FeatureHeader hd ∧ itemsIds hd = [] ∧
      ∃ line, getSingle hd (.tok .FeatureLine) = .tok line
  | _, _ => True

def TypedItem (kv : Key × Val) : Prop :=
  match kv.1 with
  | .tok _ => ∃ t, kv.2 = .tok t
  | .rule r => ValTyped r kv.2

theorem typed_getSingle {is : List (Key × Val)} (hty : ∀ kv ∈ is, TypedItem kv) (r : RuleType) :
    getSingle is (.rule r) = .none ∨ ValTyped r (getSingle is (.rule r)) :=
  (getSingle_none_or_mem is (.rule r)).imp_right fun h => hty (.rule r, _) h

theorem valIds_reading : Reading valIds := ⟨fun _ _ _ _ => by rw [valIds], fun _ => by rw [valIds], by rw [valIds]⟩

theorem itemsIds_view {R : RuleType} {is : List (Key × Val)} (hok : ItemsOK R is)
    (hwf : ∀ kv ∈ is, WFItem kv) (hR : R ∉ inlinedRules := by decide) :
    itemsIds is = (viewKeys R).flatMap (readKey valIds is) := by
  rw [itemsIds_eq, read_view valIds valIds_reading hok hwf hR]

theorem itemsIds_tokens {R : RuleType} {is : List (Key × Val)} (hok : ItemsOK R is)
    (hwf : ∀ kv ∈ is, WFItem kv) (ks : List Kind) (hv : viewKeys R = ks.map .tok) (hR : R ∉ inlinedRules := by decide) :
    itemsIds is = [] := by
  rw [itemsIds_view hok hwf hR, hv, List.flatMap_map, List.flatMap_eq_nil_iff]
  intro k _
  simp only [readKey, valIds, flatMap_const_nil]

theorem ids_tags (is : List (Key × Val)) (hty : ∀ kv ∈ is, TypedItem kv) : valIds (getSingle is (.rule .Tags)) = [] := by
  rcases typed_getSingle hty .Tags with h0 | ⟨tis, e, h0⟩
  · rw [h0, valIds]
  · rw [e, valIds_raw, h0]

/-- what is shown for each rule type; `v ≠ .none` because `node_ids` (Lemmas/Builder.lean) speaks of
    the ids drawn only then: a rule or feature without header line returns `none` after drawing
    the tag ids (`rule_none_after_tags`), which a grammar-shaped node never does -/
def NodeIds (R : RuleType) : Prop :=
  ∀ (cs : List Comment) (is : List (Key × Val)) (n m : Nat) (v : Val),
    ItemsOK R is → (∀ kv ∈ is, WFItem kv) → (∀ kv ∈ is, TypedItem kv) →
    (transformNode cs ⟨R, is⟩).run.run n = (.ok v, m) →
    ValTyped R v ∧ valIds v = itemsIds is ++ drawnIds R v ∧ v ≠ .none

theorem nodeIds_step : NodeIds .Step := by
  intro cs is n m v hok hwf hty h
  obtain ⟨line, -, kw, -, kt, -, tx, -, rfl, rfl⟩ := (step_ok cs is n m v).1 h
  refine ⟨⟨_, rfl⟩, ?_, fun h => by cases h⟩
  rw [itemsIds_view hok hwf]
  simp only [viewKeys, readKey, valIds, stepIds, drawnIds, List.flatMap_cons, List.flatMap_nil, List.append_nil,
    flatMap_const_nil, List.nil_append]
  congr 1
  rcases stepArgOf_cases hok hwf with ⟨d, a, b, c⟩ | ⟨d, a, b, c⟩ | ⟨a, b, c⟩ <;> rw [a, b, c] <;> simp [valIds, argIds]

theorem nodeIds_dataTable : NodeIds .DataTable := by
  intro cs is n m v hok hwf hty h
  obtain ⟨-, t0, rest, -, rfl, rfl⟩ := (dataTable_ok cs is n m v).1 h
  refine ⟨⟨_, rfl⟩, ?_, fun h => by cases h⟩
  rw [valIds, itemsIds_tokens hok hwf [.TableRow] rfl]; rfl

theorem nodeIds_examplesTable : NodeIds .ExamplesTable := by
  intro cs is n m v hok hwf hty h
  obtain ⟨-, rfl, rfl⟩ := (examplesTable_ok cs is n m v).1 h
  refine ⟨⟨_, rfl⟩, ?_, fun h => by cases h⟩
  rw [valIds, itemsIds_tokens hok hwf [.TableRow] rfl]; rfl

theorem nodeIds_description : NodeIds .Description := by
  intro cs is n m v hok hwf hty h
  obtain ⟨ls, -, rfl, rfl⟩ := (description_ok cs is n m v).1 h
  refine ⟨⟨_, rfl⟩, ?_, fun h => by cases h⟩
  rw [valIds, itemsIds_tokens hok hwf [] rfl]; rfl

theorem nodeIds_docString : NodeIds .DocString := by
  intro cs is n m v hok hwf hty h
  obtain ⟨sep, rest, -, st, -, dl, -, ls, -, rfl, rfl⟩ := (docString_ok cs is n m v).1 h
  refine ⟨⟨_, rfl⟩, ?_, fun h => by cases h⟩
  rw [valIds, itemsIds_tokens hok hwf [.DocStringSeparator] rfl]; rfl

theorem nodeIds_raw (R : RuleType) (hR : ∀ cs is, transformNode cs ⟨R, is⟩ = pure (.raw R is))
    (hD : ∀ v, drawnIds R v = [])
    (hT : ∀ (_ : List Comment) is, ItemsOK R is → (∀ kv ∈ is, WFItem kv) → (∀ kv ∈ is, TypedItem kv) →
      WFVal R (.raw R is) → ValTyped R (.raw R is)) : NodeIds R := by
  intro cs is n m v hok hwf hty h
  have hw := node_wf R cs is n m v hok hwf h
  obtain ⟨rfl, rfl⟩ := raw_ok cs _ is n m v (hR cs is) h
  exact ⟨hT cs is hok hwf hty hw, by rw [valIds_raw, hD, List.append_nil], fun h => by cases h⟩

theorem nodeIds_tags : NodeIds .Tags :=
  nodeIds_raw _ (fun _ _ => rfl) (fun _ => rfl) fun _ is hok hwf _ _ =>
    ⟨_, rfl, itemsIds_tokens hok hwf [.TagLine] rfl⟩

theorem nodeIds_scenarioRaw : NodeIds .Scenario :=
  nodeIds_raw _ (fun _ _ => rfl) (fun _ => rfl) fun _ is hok hwf hty _ => by
    refine ⟨_, rfl, ?_⟩
    rw [itemsIds_view hok hwf]
    simp only [viewKeys, readKey, valIds, List.flatMap_cons, List.flatMap_nil, List.append_nil, flatMap_const_nil,
      List.nil_append]

theorem rowIds_head_drop (rs : List Row) : rowIds rs.head?.toList ++ rowIds (rs.drop 1) = rowIds rs := by
  cases rs <;> simp [rowIds]

theorem nodeIds_examplesRaw : NodeIds .Examples :=
  nodeIds_raw _ (fun _ _ => rfl) (fun _ => rfl) fun _ is hok hwf hty _ => by
    refine ⟨_, rfl, ?_⟩
    rw [itemsIds_view hok hwf]
    simp only [viewKeys, readKey, valIds, List.flatMap_cons, List.flatMap_nil, List.append_nil, flatMap_const_nil,
      List.nil_append, tableOf]
    rcases typed_getSingle hty .ExamplesTable with h0 | ⟨rs, hrs⟩
    · simp only [h0, valIds]; rfl
    · simp only [hrs, valIds]

theorem header_ids {R : RuleType} {is : List (Key × Val)} (hok : ItemsOK R is) (hwf : ∀ kv ∈ is, WFItem kv)
    (hty : ∀ kv ∈ is, TypedItem kv) (k : Kind) (hv : viewKeys R = [.rule .Tags, .tok k])
    (hR : R ∉ inlinedRules := by decide) : itemsIds is = [] := by
  rw [itemsIds_view hok hwf hR, hv]
  simp only [readKey, valIds, List.flatMap_cons, List.flatMap_nil, List.append_nil, ids_tags is hty, flatMap_const_nil]

theorem nodeIds_ruleHeader : NodeIds .RuleHeader :=
  nodeIds_raw _ (fun _ _ => rfl) (fun _ => rfl) fun _ is hok hwf hty ⟨_, e, _, hl⟩ => by
    cases e; exact ⟨_, rfl, header_ids hok hwf hty .RuleLine rfl, hl⟩

theorem nodeIds_featureHeader : NodeIds .FeatureHeader :=
  nodeIds_raw _ (fun _ _ => rfl) (fun _ => rfl) fun _ is hok hwf hty ⟨_, e, _, hl⟩ => by
    cases e; exact ⟨_, rfl, header_ids hok hwf hty .FeatureLine rfl, hl⟩

theorem nodeIds_background : NodeIds .Background := by
  intro cs is n m v hok hwf hty h
  obtain ⟨line, -, d, -, kw, -, nm, -, rfl, rfl⟩ := (background_ok cs is n m v).1 h
  refine ⟨⟨_, rfl⟩, ?_, fun h => by cases h⟩
  rw [itemsIds_view hok hwf]
  simp only [viewKeys, readKey, valIds, backgroundIds, drawnIds, List.flatMap_cons, List.flatMap_nil, List.append_nil,
    flatMap_const_nil, List.nil_append]

theorem definition_typed {is : List (Key × Val)} (hty : ∀ kv ∈ is, TypedItem kv) {x rt : RuleType}
    {inner : List (Key × Val)} (hs : getSingle is (.rule x) = .raw rt inner) : ValTyped x (.raw rt inner) := by
  rcases typed_getSingle hty x with h0 | h1
  · rw [hs] at h0; cases h0
  · rwa [hs] at h1

theorem nodeIds_scenario : NodeIds .ScenarioDefinition := by
  intro cs is n m v hok hwf hty h
  obtain ⟨toks, -, rt, sc, hs, line, -, d, -, kw, -, nm, -, rfl, rfl⟩ := (scenario_ok cs is n m v).1 h
  refine ⟨⟨_, rfl⟩, ?_, fun h => by cases h⟩
  obtain ⟨sc', e, hsc⟩ := definition_typed hty hs
  cases e
  rw [itemsIds_view hok hwf]
  simp only [viewKeys, readKey, List.flatMap_cons, List.flatMap_nil, List.append_nil, ids_tags is hty, hs, valIds_raw,
    hsc, valIds, scenarioIds, drawnIds, List.nil_append, List.append_assoc]

theorem nodeIds_examples : NodeIds .ExamplesDefinition := by
  intro cs is n m v hok hwf hty h
  obtain ⟨toks, -, rt, ex, hs, line, -, d, -, kw, -, nm, -, rfl, rfl⟩ := (examples_ok cs is n m v).1 h
  refine ⟨⟨_, rfl⟩, ?_, fun h => by cases h⟩
  obtain ⟨ex', e, hex⟩ := definition_typed hty hs
  cases e
  rw [itemsIds_view hok hwf]
  simp only [viewKeys, readKey, List.flatMap_cons, List.flatMap_nil, List.append_nil, ids_tags is hty, hs, valIds_raw,
    hex, valIds, examplesIds, drawnIds, List.nil_append, rowIds_head_drop, List.append_assoc]

theorem nodeIds_rule : NodeIds .Rule := by
  intro cs is n m v hok hwf hty h
  obtain ⟨-, hd, hh, -, line, hl⟩ := header_needed hok hwf .RuleHeader (by decide) (by decide)
  obtain ⟨toks, -, d, -, kw, -, nm, -, rfl, rfl⟩ := (rule_ok_at cs is n m _ hh hl).1 h
  refine ⟨⟨_, rfl⟩, ?_, fun h => by cases h⟩
  obtain ⟨hd', e, h0, -⟩ := definition_typed hty hh
  cases e
  rw [itemsIds_view hok hwf]
  simp only [viewKeys, List.flatMap_cons, List.flatMap_nil, List.append_nil, readKey_background valIds valIds_reading hwf]
  simp only [readKey, hh, valIds_raw, h0, valIds, ruleIds, drawnIds, ruleChildren_eq, List.flatMap_append, flatMap_map,
    ruleChildIds, List.nil_append, List.append_assoc]

theorem nodeIds_feature : NodeIds .Feature := by
  intro cs is n m v hok hwf hty h
  obtain ⟨-, hd, hh, -, line, hl⟩ := header_needed hok hwf .FeatureHeader (by decide) (by decide)
  obtain ⟨toks, -, d, -, kw, -, nm, -, rfl, rfl⟩ := (feature_ok_at cs is n m _ hh hl).1 h
  refine ⟨⟨_, rfl⟩, ?_, fun h => by cases h⟩
  obtain ⟨hd', e, h0, -⟩ := definition_typed hty hh
  cases e
  rw [itemsIds_view hok hwf]
  simp only [viewKeys, List.flatMap_cons, List.flatMap_nil, List.append_nil, readKey_background valIds valIds_reading hwf]
  simp only [readKey, hh, valIds_raw, h0, valIds, featureIds, drawnIds, featureChildren_eq, List.flatMap_append,
    flatMap_map, featureChildIds, List.nil_append, List.append_assoc]

theorem nodeIds_document : NodeIds .GherkinDocument := by
  intro cs is n m v hok hwf hty h
  rw [document_eq] at h
  simp only [res_inj, Except.ok.injEq] at h
  obtain ⟨rfl, rfl⟩ := h
  refine ⟨⟨_, rfl⟩, ?_, fun h => by cases h⟩
  rw [show drawnIds .GherkinDocument (.doc _) = [] from rfl, List.append_nil, itemsIds_view hok hwf]
  simp only [viewKeys, readKey, List.flatMap_cons, List.flatMap_nil, List.append_nil, valIds, canonicalIds, featureOf]
  rcases typed_getSingle hty .Feature with h0 | ⟨f, hf⟩
  · simp only [h0, valIds]
  · simp only [hf, valIds]

theorem nodeIds_all (R : RuleType) : NodeIds R := by
  cases R
  case None_ => exact nodeIds_raw _ (fun _ _ => rfl) (fun _ => rfl) fun _ _ _ _ _ _ => trivial
  case StepArg => exact nodeIds_raw _ (fun _ _ => rfl) (fun _ => rfl) fun _ _ _ _ _ _ => trivial
  case DescriptionHelper => exact nodeIds_raw _ (fun _ _ => rfl) (fun _ => rfl) fun _ _ _ _ _ _ => trivial
  case GherkinDocument => exact nodeIds_document
  case Feature => exact nodeIds_feature
  case FeatureHeader => exact nodeIds_featureHeader
  case Rule => exact nodeIds_rule
  case RuleHeader => exact nodeIds_ruleHeader
  case Background => exact nodeIds_background
  case ScenarioDefinition => exact nodeIds_scenario
  case Scenario => exact nodeIds_scenarioRaw
  case ExamplesDefinition => exact nodeIds_examples
  case Examples => exact nodeIds_examplesRaw
  case ExamplesTable => exact nodeIds_examplesTable
  case Step => exact nodeIds_step
  case DataTable => exact nodeIds_dataTable
  case DocString => exact nodeIds_docString
  case Tags => exact nodeIds_tags
  case Description => exact nodeIds_description

theorem range'_append_le (n n₁ n₂ : Nat) (h1 : n ≤ n₁) (h2 : n₁ ≤ n₂) :
    List.range' n (n₁ - n) ++ List.range' n₁ (n₂ - n₁) = List.range' n (n₂ - n) := by
  have : n₁ = n + 1 * (n₁ - n) := by omega
  conv => lhs; arg 2; rw [this]
  rw [List.range'_append]
  congr 1; omega

theorem node_valIds (R : RuleType) (cs : List Comment) (is : List (Key × Val)) (n m : Nat) (v : Val)
    (hok : ItemsOK R is) (hwf : ∀ kv ∈ is, WFItem kv) (hty : ∀ kv ∈ is, TypedItem kv)
    (h : (transformNode cs ⟨R, is⟩).run.run n = (.ok v, m)) :
    ValTyped R v ∧ valIds v = itemsIds is ++ List.range' n (m - n) ∧ n ≤ m := by
  obtain ⟨h1, h2, h3⟩ := nodeIds_all R cs is n m v hok hwf hty h
  obtain ⟨h4, h5⟩ := node_ids cs ⟨R, is⟩ n m v h3 h
  exact ⟨h1, by rw [h2, h4], h5⟩

def IdsSpecList (ts : List TTree) : Prop :=
  shapedList ts = true → ∀ (cs : List Comment) (n : Nat) (is : List (Key × Val)) (n' : Nat),
    (itemsOfList cs ts).run.run n = (.ok is, n') →
    (∀ kv ∈ is, TypedItem kv) ∧ itemsIds is = List.range' n (n' - n) ∧ n ≤ n' ∧
      is.map (·.1) = ts.filterMap keyOf

structure IdsRel (n : Nat) (is : List (Key × Val)) (n' : Nat) : Prop where
  typed : ∀ kv ∈ is, TypedItem kv
  ids : itemsIds is = List.range' n (n' - n)
  le : n ≤ n'

theorem IdsRel.nil (n : Nat) : IdsRel n [] n :=
  ⟨fun _ h => (nomatch h), by rw [Nat.sub_self, List.range'_zero, itemsIds_nil], Nat.le_refl _⟩

theorem IdsRel.append {n n₁ n₂ : Nat} {i is : List (Key × Val)} (a : IdsRel n i n₁) (b : IdsRel n₁ is n₂) :
    IdsRel n (i ++ is) n₂ :=
  ⟨fun kv hkv => (List.mem_append.1 hkv).elim (a.typed kv) (b.typed kv),
    by rw [itemsIds_append, a.ids, b.ids, range'_append_le n n₁ n₂ a.le b.le], Nat.le_trans a.le b.le⟩

theorem idsStep (cs : List Comment) : ItemsStep cs (fun n _ is n' => IdsRel n is n') (fun n _ is n' => IdsRel n is n') where
  comment _ n _ := .nil n
  line t k n _ _ := ⟨fun kv hkv => List.mem_singleton.1 hkv ▸ ⟨t, rfl⟩,
    by rw [Nat.sub_self, List.range'_zero, itemsIds_singleton, valIds], Nat.le_refl _⟩
  node r ch n is n₁ v n₂ q hok hwf _ h := by
    obtain ⟨b1, b2, b3⟩ := node_valIds r cs is n₁ n₂ v hok hwf q.typed h
    exact ⟨fun kv hkv => List.mem_singleton.1 hkv ▸ b1,
      by rw [itemsIds_singleton, b2, q.ids, range'_append_le n n₁ n₂ q.le b3], Nat.le_trans q.le b3⟩
  nil := .nil
  cons _ _ _ _ _ _ _ := IdsRel.append

theorem idsSpecList_all : ∀ ts : List TTree, IdsSpecList ts := fun ts hs cs n is n' h =>
  let ⟨⟨a, b, c⟩, k, _⟩ := itemsOfList_induct (idsStep cs) ts hs n is n' h
  ⟨a, b, c, k⟩

theorem valIds_astOf (t : TTree) (hs : shaped t = true) (cs : List Comment) (n n' : Nat) (v : Val)
    (hnode : ∃ r ch, t = .node r ch)
    (h : (astOf cs t).run.run n = (.ok v, n')) : valIds v = List.range' n (n' - n) ∧ n ≤ n' := by
  obtain ⟨r, ch, rfl⟩ := hnode
  obtain ⟨⟨-, a2, a3⟩, -⟩ := itemsOf_induct (idsStep cs) _ hs n _ n' (itemsOf_node_ok cs r ch n n' v h)
  rw [itemsIds_singleton] at a2
  exact ⟨a2, a3⟩

theorem ast_ids_canonical (t : TTree) (hs : shaped t = true) (cs : List Comment) (n n' : Nat) (d : Doc)
    (h : (astOf cs t).run.run n = (.ok (.doc d), n')) :
    canonicalIds d = List.range' n (n' - n) ∧ n ≤ n' := by
  cases t with
  | leaf tk => have := astOf_leaf_ok cs tk n n' _ h; cases this
  | node r ch =>
    have := valIds_astOf _ hs cs n n' _ ⟨r, ch, rfl⟩ h
    rwa [valIds] at this

end Lemmas
end GV
