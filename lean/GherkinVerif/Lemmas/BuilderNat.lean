/-
  Lemmas/BuilderNat.lean — the AST builder never inspects an id, a source position or the physical
  line of a token, it only copies them: so it commutes with `shiftX n ∘ mapX f`, drawing the ids from
  a counter `n` higher (`shiftDoc n`) and renaming the positions by `f : Spec.LocMap` (`Spec.mapDoc f`).
  `transformNode_nat` is the one walk of `transform_node` saying so, over `BSimN` (two runs) and `ValN`
  (two values); what a relation on tokens and node contents owes to be an instance is `Reads`.
-/
import GherkinVerif.Lemmas.Builder
import GherkinVerif.Spec.LocMap
namespace GV

def shiftTag (n : Nat) (t : Tag) : Tag := { t with id := t.id + n }
def shiftRow (n : Nat) (r : Row) : Row := { r with id := r.id + n }
def shiftDataTable (n : Nat) (t : DataTable) : DataTable := { t with rows := t.rows.map (shiftRow n) }
def shiftStepArg (n : Nat) : StepArg → StepArg
  | .none => .none
  | .table t => .table (shiftDataTable n t)
  | .doc d => .doc d
def shiftStep (n : Nat) (s : Step) : Step := { s with id := s.id + n, arg := shiftStepArg n s.arg }
def shiftBackground (n : Nat) (b : Background) : Background :=
  { b with id := b.id + n, steps := b.steps.map (shiftStep n) }
def shiftExamples (n : Nat) (e : Examples) : Examples :=
  { e with id := e.id + n, tags := e.tags.map (shiftTag n), header := e.header.map (shiftRow n),
           body := e.body.map (shiftRow n) }
def shiftScenario (n : Nat) (s : Scenario) : Scenario :=
  { s with id := s.id + n, tags := s.tags.map (shiftTag n), steps := s.steps.map (shiftStep n),
           examples := s.examples.map (shiftExamples n) }
def shiftRuleChild (n : Nat) : RuleChild → RuleChild
  | .background b => .background (shiftBackground n b)
  | .scenario s => .scenario (shiftScenario n s)
def shiftRule (n : Nat) (r : Rule) : Rule :=
  { r with id := r.id + n, tags := r.tags.map (shiftTag n), children := r.children.map (shiftRuleChild n) }
def shiftFeatureChild (n : Nat) : FeatureChild → FeatureChild
  | .background b => .background (shiftBackground n b)
  | .scenario s => .scenario (shiftScenario n s)
  | .rule r => .rule (shiftRule n r)
def shiftFeature (n : Nat) (f : Feature) : Feature :=
  { f with tags := f.tags.map (shiftTag n), children := f.children.map (shiftFeatureChild n) }
def shiftDoc (n : Nat) (d : Doc) : Doc := { d with feature := d.feature.map (shiftFeature n) }

namespace Lemmas
open Spec

/-! ### lists related element by element -/

inductive All2 {α β} (R : α → β → Prop) : List α → List β → Prop
  | nil : All2 R [] []
  | cons {a b as bs} (h : R a b) (t : All2 R as bs) : All2 R (a :: as) (b :: bs)

theorem All2.length_eq {α β} {R : α → β → Prop} {as : List α} {bs : List β} (h : All2 R as bs) :
    as.length = bs.length := by
  induction h with
  | nil => rfl
  | cons _ _ ih => simp [ih]

theorem All2.append {α β} {R : α → β → Prop} {as as' : List α} {bs bs' : List β}
    (h : All2 R as bs) (h' : All2 R as' bs') : All2 R (as ++ as') (bs ++ bs') := by
  induction h with
  | nil => exact h'
  | cons hab _ ih => exact .cons hab ih

theorem All2.refl {α} {R : α → α → Prop} (hR : ∀ a, R a a) : ∀ as : List α, All2 R as as
  | [] => .nil
  | a :: as => .cons (hR a) (All2.refl hR as)

theorem All2.nil_left {α β} {R : α → β → Prop} {bs : List β} (h : All2 R [] bs) : bs = [] := by
  cases h; rfl
theorem All2.cons_left {α β} {R : α → β → Prop} {a : α} {as : List α} {bs : List β} (h : All2 R (a :: as) bs) :
    ∃ b bs', bs = b :: bs' ∧ R a b ∧ All2 R as bs' := by
  cases h with
  | cons hab ht => exact ⟨_, _, rfl, hab, ht⟩

theorem All2.mono {α β} {R S : α → β → Prop} (hRS : ∀ a b, R a b → S a b) {as : List α} {bs : List β}
    (h : All2 R as bs) : All2 S as bs := by
  induction h with
  | nil => exact .nil
  | cons hab _ ih => exact .cons (hRS _ _ hab) ih

theorem all2_map_eq {α β} {g : α → β} {as : List α} {bs : List β} (h : All2 (fun a b => b = g a) as bs) :
    bs = as.map g := by
  induction h with
  | nil => rfl
  | cons hab _ ih => rw [hab, ih]; rfl

theorem All2.map_right {α β} {R : α → β → Prop} (g : α → β) : ∀ as : List α, (∀ a ∈ as, R a (g a)) → All2 R as (as.map g)
  | [], _ => .nil
  | a :: as, h => .cons (h a List.mem_cons_self) (All2.map_right g as fun b hb => h b (List.mem_cons_of_mem _ hb))

theorem All2.map_eq {α β γ} {R : α → β → Prop} {g : α → γ} {g' : β → γ} (hR : ∀ a b, R a b → g' b = g a)
    {as : List α} {bs : List β} (h : All2 R as bs) : bs.map g' = as.map g := by
  induction h with
  | nil => rfl
  | cons hab _ ih => rw [List.map_cons, List.map_cons, hR _ _ hab, ih]

/-- the second computation, run from a counter `n` higher, ends `n` higher than the first; both
    succeed, with results related by `R`, or both fail, with errors related by `E` -/
def BSimN (n : Nat) (E : BErr → BErr → Prop) {α β} (R : α → β → Prop) (m1 : BM α) (m2 : BM β) : Prop :=
  ∀ k, (∃ a b k', m1.run.run k = (.ok a, k') ∧ m2.run.run (k + n) = (.ok b, k' + n) ∧ R a b) ∨
       (∃ e e' k', m1.run.run k = (.error e, k') ∧ m2.run.run (k + n) = (.error e', k' + n) ∧ E e e')

section kit
variable {n : Nat} {E : BErr → BErr → Prop}

theorem BSimN.pure {α β} {R : α → β → Prop} {a : α} {b : β} (h : R a b) :
    BSimN n E R (pure a) (pure b) := fun k => .inl ⟨a, b, k, rfl, rfl, h⟩

theorem BSimN.throw {α β} {R : α → β → Prop} {e e' : BErr} (h : E e e') :
    BSimN n E R (throw e : BM α) (throw e' : BM β) := fun k => .inr ⟨e, e', k, rfl, rfl, h⟩

theorem BSimN.bind {α β γ δ} {R : α → β → Prop} {S : γ → δ → Prop} {m1 : BM α} {m2 : BM β}
    {f1 : α → BM γ} {f2 : β → BM δ} (h1 : BSimN n E R m1 m2) (h2 : ∀ a b, R a b → BSimN n E S (f1 a) (f2 b)) :
    BSimN n E S (m1 >>= f1) (m2 >>= f2) := by
  intro k
  rw [run_bind, run_bind]
  rcases h1 k with ⟨a, b, k', e1, e2, hab⟩ | ⟨e, e', k', e1, e2, he⟩
  · rw [e1, e2]; exact h2 a b hab k'
  · rw [e1, e2]; exact .inr ⟨e, e', k', rfl, rfl, he⟩

theorem BSimN.mono {α β} {R S : α → β → Prop} {m1 : BM α} {m2 : BM β} (h : BSimN n E R m1 m2)
    (hRS : ∀ a b, R a b → S a b) : BSimN n E S m1 m2 := by
  intro k
  rcases h k with ⟨a, b, k', e1, e2, hab⟩ | h
  · exact .inl ⟨a, b, k', e1, e2, hRS _ _ hab⟩
  · exact .inr h

theorem BSimN.nextId : BSimN n E (fun i j => j = i + n) nextId nextId :=
  fun k => .inl ⟨k, k + n, k + 1, rfl, by rw [run_nextId, Nat.add_right_comm], rfl⟩

theorem BSimN.mapM' {α β γ δ} {R : α → β → Prop} {S : γ → δ → Prop} {g1 : α → BM γ} {g2 : β → BM δ}
    (hg : ∀ a b, R a b → BSimN n E S (g1 a) (g2 b)) {as : List α} {bs : List β} (h : All2 R as bs) :
    BSimN n E (All2 S) (mapM' g1 as) (mapM' g2 bs) := by
  induction h with
  | nil => exact BSimN.pure .nil
  | cons hab _ ih =>
    unfold GV.mapM'
    exact BSimN.bind (hg _ _ hab) fun c d hcd => BSimN.bind ih fun cs ds hcds => BSimN.pure (.cons hcd hcds)

variable (hE : ∀ w, E (.crash w) (.crash w))
include hE

theorem BSimN.crash {α β} {R : α → β → Prop} (w : String) : BSimN n E R (crash w : BM α) (crash w : BM β) :=
  BSimN.throw (hE w)

theorem BSimN.need {α} (w : String) (o : Option α) : BSimN n E Eq (need w o) (need w o) := by
  cases o with
  | none => exact BSimN.crash hE _
  | some a => exact BSimN.pure rfl

theorem BSimN.texts (w : String) {as bs : List Token} (h : bs.map (·.text) = as.map (·.text)) :
    BSimN n E Eq (GV.mapM' (fun (t : Token) => GV.need w t.text) as)
      (GV.mapM' (fun (t : Token) => GV.need w t.text) bs) := by
  induction as generalizing bs with
  | nil =>
    cases bs with
    | nil => exact BSimN.pure rfl
    | cons b bs => cases h
  | cons a as ih =>
    cases bs with
    | nil => cases h
    | cons b bs =>
      simp only [List.map_cons, List.cons.injEq] at h
      unfold GV.mapM'
      rw [h.1]
      refine BSimN.bind (BSimN.need hE _ _) fun c d hcd => BSimN.bind (ih h.2) fun cs ds hcds => ?_
      subst hcd hcds
      exact BSimN.pure rfl

end kit

/-- the keys whose items the transforms read one by one.  Of the others, blank lines and the end of
    file are never read, a free-text line is read for its text only, and a description through
    `get_description`. -/
def readOne : Key → Bool
  | .tok .Empty | .tok .EOF | .tok .Other | .rule .Description => false
  | _ => true

/-- `w` is `v` with every id `n` higher and every source position renamed by `f`; tokens are related
    by `T`, the contents of raw nodes by `I` -/
def ValN (n : Nat) (f : LocMap) (T : Token → Token → Prop)
    (I : List (Key × Val) → List (Key × Val) → Prop) : Val → Val → Prop
  | .tok a, w => ∃ b, w = .tok b ∧ T a b
  | .none, w => w = .none
  | .step s, w => w = .step (shiftStep n (mapStep f s))
  | .docString d, w => w = .docString (mapDocString f d)
  | .dataTable d, w => w = .dataTable (shiftDataTable n (mapTable f d))
  | .background b, w => w = .background (shiftBackground n (mapBackground f b))
  | .scenario s, w => w = .scenario (shiftScenario n (mapScenario f s))
  | .examples e, w => w = .examples (shiftExamples n (mapExamples f e))
  | .rows rs, w => w = .rows ((rs.map (mapRow f)).map (shiftRow n))
  | .descr s, w => w = .descr s
  | .rule r, w => w = .rule (shiftRule n (mapRule f r))
  | .feature x, w => w = .feature (shiftFeature n (mapFeature f x))
  | .doc d, w => w = .doc (shiftDoc n (mapDoc f d))
  | .raw rt xs, w => ∃ ys, w = .raw rt ys ∧ I xs ys

/-- What the builder reads of a token — text, keyword, keyword type, language, location, and its
    items one by one with their locations — and how it fails: related tokens agree on these up to `f`,
    and the two failures (a crash, a ragged table at a row token's location) are related by `E`. -/
structure ReadsTok (f : LocMap) (E : BErr → BErr → Prop) (T : Token → Token → Prop) : Prop where
  crash : ∀ w, E (.crash w) (.crash w)
  ragged : ∀ {a b}, T a b → ∀ m, E (.ast ⟨.raggedTable, getLocation a, m⟩) (.ast ⟨.raggedTable, getLocation b, m⟩)
  tok : ∀ {a b}, T a b → b.text = a.text ∧ b.keyword = a.keyword ∧ b.ktype = a.ktype ∧
    b.dialect = a.dialect ∧ getLocation b = f.loc (getLocation a)
  items : ∀ {a b}, T a b → All2 (fun it it' : Nat × Str => it'.2 = it.2 ∧
    getLocation b (some it'.1) = f.loc (getLocation a (some it.1))) a.items b.items

/-- … and what it reads of the contents of a node: the items under a key one by one (`read`), of
    free-text lines the texts, of descriptions the first.  With `ReadsTok` this is all the walk of
    `transform_node` uses of the relations `T` on tokens, `I` on item lists and `E` on errors. -/
structure Reads (n : Nat) (f : LocMap) (E : BErr → BErr → Prop) (T : Token → Token → Prop)
    (I : List (Key × Val) → List (Key × Val) → Prop) : Prop extends ReadsTok f E T where
  read : ∀ {xs ys} {k : Key}, I xs ys → readOne k = true → All2 (ValN n f T I) (getItems xs k) (getItems ys k)
  other : ∀ {xs ys}, I xs ys → (getTokens ys .Other).map (·.text) = (getTokens xs .Other).map (·.text)
  descr : ∀ {xs ys}, I xs ys → descOf ys = descOf xs

def idMap : LocMap := ⟨fun n => n, fun _ c => c⟩

theorem idMap_loc (l : Loc) : idMap.loc l = l := by
  cases l with
  | mk line col => cases col <;> rfl

theorem readsTok_eq : ReadsTok idMap Eq Eq where
  crash _ := rfl
  ragged := by rintro a _ rfl m; rfl
  tok := by rintro a _ rfl; exact ⟨rfl, rfl, rfl, rfl, (idMap_loc _).symm⟩
  items := by rintro a _ rfl; exact All2.refl (fun it => ⟨rfl, (idMap_loc _).symm⟩) _

section reads
variable {n : Nat} {f : LocMap} {E : BErr → BErr → Prop} {T : Token → Token → Prop}
  {I : List (Key × Val) → List (Key × Val) → Prop}

theorem Reads.single (h : Reads n f E T I) {xs ys : List (Key × Val)} (hI : I xs ys) {k : Key}
    (hk : readOne k = true) : ValN n f T I (getSingle xs k) (getSingle ys k) := by
  unfold getSingle
  have := h.read hI hk
  revert this
  generalize getItems xs k = vs
  generalize getItems ys k = ws
  intro hvw
  cases hvw with
  | nil => exact rfl
  | cons hv _ => exact hv

theorem Reads.needToken (h : Reads n f E T I) {xs ys : List (Key × Val)} (hI : I xs ys) {k : Kind}
    (hk : readOne (.tok k) = true) : BSimN n E T (needToken xs k) (needToken ys k) := by
  unfold GV.needToken
  have := h.single hI hk
  revert this
  generalize getSingle xs (.tok k) = v
  generalize getSingle ys (.tok k) = w
  intro hvw
  cases v
  case tok a => obtain ⟨b, rfl, hab⟩ := hvw; exact BSimN.pure hab
  case raw rt is => obtain ⟨js, rfl, -⟩ := hvw; exact BSimN.crash h.crash _
  all_goals (cases hvw; exact BSimN.crash h.crash _)

theorem Reads.getDescription (h : Reads n f E T I) {xs ys : List (Key × Val)} (hI : I xs ys) :
    BSimN n E Eq (getDescription xs) (getDescription ys) := by
  intro k
  rw [run_getDescription, run_getDescription, h.descr hI]
  cases descOf xs with
  | none => exact .inr ⟨_, _, k, rfl, rfl, h.crash _⟩
  | some d => exact .inl ⟨d, d, k, rfl, rfl, rfl⟩

theorem filterMap_nat {α} {g : Val → Option α} {m : α → α}
    (hg : ∀ v w, ValN n f T I v w → g w = (g v).map m)
    {vs ws : List Val} (hvw : All2 (ValN n f T I) vs ws) : ws.filterMap g = (vs.filterMap g).map m := by
  induction hvw with
  | nil => rfl
  | cons hv _ ih =>
    simp only [List.filterMap_cons, hg _ _ hv]
    cases g _ with
    | none => exact ih
    | some a => simp only [Option.map_some, List.map_cons, ih]

theorem Reads.getSteps (h : Reads n f E T I) {xs ys : List (Key × Val)} (hI : I xs ys) :
    getSteps ys = ((getSteps xs).map (mapStep f)).map (shiftStep n) := by
  rw [List.map_map]
  unfold GV.getSteps
  refine filterMap_nat (fun v w hvw => ?_) (h.read hI rfl)
  cases v
  case tok a => obtain ⟨b, rfl, -⟩ := hvw; rfl
  case raw rt is => obtain ⟨js, rfl, -⟩ := hvw; rfl
  all_goals (cases hvw; rfl)

theorem Reads.getScenarios (h : Reads n f E T I) {xs ys : List (Key × Val)} (hI : I xs ys) :
    getScenarios ys = ((getScenarios xs).map (mapScenario f)).map (shiftScenario n) := by
  rw [List.map_map]
  unfold GV.getScenarios
  refine filterMap_nat (fun v w hvw => ?_) (h.read hI rfl)
  cases v
  case tok a => obtain ⟨b, rfl, -⟩ := hvw; rfl
  case raw rt is => obtain ⟨js, rfl, -⟩ := hvw; rfl
  all_goals (cases hvw; rfl)

theorem Reads.getExamples (h : Reads n f E T I) {xs ys : List (Key × Val)} (hI : I xs ys) :
    getExamples ys = ((getExamples xs).map (mapExamples f)).map (shiftExamples n) := by
  rw [List.map_map]
  unfold Spec.getExamples
  refine filterMap_nat (fun v w hvw => ?_) (h.read hI rfl)
  cases v
  case tok a => obtain ⟨b, rfl, -⟩ := hvw; rfl
  case raw rt is => obtain ⟨js, rfl, -⟩ := hvw; rfl
  all_goals (cases hvw; rfl)

theorem Reads.getRules (h : Reads n f E T I) {xs ys : List (Key × Val)} (hI : I xs ys) :
    getRules ys = ((getRules xs).map (mapRule f)).map (shiftRule n) := by
  rw [List.map_map]
  unfold Spec.getRules
  refine filterMap_nat (fun v w hvw => ?_) (h.read hI rfl)
  cases v
  case tok a => obtain ⟨b, rfl, -⟩ := hvw; rfl
  case raw rt is => obtain ⟨js, rfl, -⟩ := hvw; rfl
  all_goals (cases hvw; rfl)

theorem Reads.getBackground (h : Reads n f E T I) {xs ys : List (Key × Val)} (hI : I xs ys) :
    getBackground ys = ((getBackground xs).map (mapBackground f)).map (shiftBackground n) := by
  unfold GV.getBackground
  have := h.single hI (k := .rule .Background) rfl
  revert this
  generalize getSingle xs (.rule .Background) = v
  generalize getSingle ys (.rule .Background) = w
  intro hvw
  cases v
  case tok a => obtain ⟨b, rfl, -⟩ := hvw; rfl
  case raw rt is => obtain ⟨js, rfl, -⟩ := hvw; rfl
  all_goals (cases hvw; rfl)

theorem Reads.stepArgOf (h : Reads n f E T I) {xs ys : List (Key × Val)} (hI : I xs ys) :
    stepArgOf ys = shiftStepArg n (mapArg f (stepArgOf xs)) := by
  unfold Spec.stepArgOf
  have h1 := h.single hI (k := .rule .DataTable) rfl
  have h2 := h.single hI (k := .rule .DocString) rfl
  revert h1 h2
  generalize getSingle xs (.rule .DataTable) = v1
  generalize getSingle ys (.rule .DataTable) = w1
  generalize getSingle xs (.rule .DocString) = v2
  generalize getSingle ys (.rule .DocString) = w2
  have key : ∀ v2 w2, ValN n f T I v2 w2 → (match w2 with | .docString d => StepArg.doc d | _ => .none) =
      shiftStepArg n (mapArg f (match v2 with | .docString d => StepArg.doc d | _ => .none)) := by
    intro v2 w2 h2
    cases v2
    case tok a => obtain ⟨b, rfl, -⟩ := h2; rfl
    case raw rt is => obtain ⟨js, rfl, -⟩ := h2; rfl
    all_goals (cases h2; rfl)
  intro h1 h2
  cases v1
  case tok a => obtain ⟨b, rfl, -⟩ := h1; exact key _ _ h2
  case raw rt is => obtain ⟨js, rfl, -⟩ := h1; exact key _ _ h2
  case dataTable d => cases h1; rfl
  all_goals (cases h1; exact key _ _ h2)

theorem Reads.tableOf (h : Reads n f E T I) {xs ys : List (Key × Val)} (hI : I xs ys) :
    tableOf ys = ((tableOf xs).map (mapRow f)).map (shiftRow n) := by
  unfold Spec.tableOf
  have := h.single hI (k := .rule .ExamplesTable) rfl
  revert this
  generalize getSingle xs (.rule .ExamplesTable) = v
  generalize getSingle ys (.rule .ExamplesTable) = w
  intro hvw
  cases v
  case tok a => obtain ⟨b, rfl, -⟩ := hvw; rfl
  case raw rt is => obtain ⟨js, rfl, -⟩ := hvw; rfl
  all_goals (cases hvw; rfl)

theorem Reads.featureOf (h : Reads n f E T I) {xs ys : List (Key × Val)} (hI : I xs ys) :
    featureOf ys = ((featureOf xs).map (mapFeature f)).map (shiftFeature n) := by
  unfold Spec.featureOf
  have := h.single hI (k := .rule .Feature) rfl
  revert this
  generalize getSingle xs (.rule .Feature) = v
  generalize getSingle ys (.rule .Feature) = w
  intro hvw
  cases v
  case tok a => obtain ⟨b, rfl, -⟩ := hvw; rfl
  case raw rt is => obtain ⟨js, rfl, -⟩ := hvw; rfl
  all_goals (cases hvw; rfl)

theorem Reads.tokens (h : Reads n f E T I) {xs ys : List (Key × Val)} (hI : I xs ys) {k : Kind}
    (hk : readOne (.tok k) = true) : All2 T (getTokens xs k) (getTokens ys k) := by
  unfold GV.getTokens
  have := h.read hI hk
  revert this
  generalize getItems xs (.tok k) = vs
  generalize getItems ys (.tok k) = ws
  intro hvw
  induction hvw with
  | nil => exact .nil
  | @cons v w _ _ hv _ ih =>
    cases v
    case tok a => obtain ⟨b, rfl, hab⟩ := hv; exact .cons hab ih
    case raw rt is => obtain ⟨js, rfl, -⟩ := hv; exact ih
    all_goals (cases hv; exact ih)

theorem Reads.getTags (h : Reads n f E T I) {xs ys : List (Key × Val)} (hI : I xs ys) :
    BSimN n E (fun a b => b = (a.map (mapTag f)).map (shiftTag n)) (getTags xs) (getTags ys) := by
  unfold GV.getTags
  have := h.single hI (k := .rule .Tags) rfl
  revert this
  generalize getSingle xs (.rule .Tags) = v
  generalize getSingle ys (.rule .Tags) = w
  intro hvw
  cases v
  case tok a => obtain ⟨b, rfl, -⟩ := hvw; exact .crash h.crash _
  case none => cases hvw; exact .pure rfl
  case raw rt is =>
    obtain ⟨js, rfl, hij⟩ := hvw
    simp only []
    refine .bind (R := All2 fun (a b : List Tag) => b = (a.map (mapTag f)).map (shiftTag n))
      (.mapM' (fun t1 t2 ht => ?_) (h.tokens hij (k := .TagLine) rfl)) fun a b hab => .pure ?_
    · refine (BSimN.mapM' (S := fun (a b : Tag) => b = shiftTag n (mapTag f a)) (fun it it' hit => ?_)
        (h.items ht)).mono fun a b hab => ?_
      · refine .bind .nextId fun i j hij => .pure ?_
        rw [hit.1, hit.2, hij]
        rfl
      · rw [all2_map_eq hab, List.map_map]; rfl
    · rw [all2_map_eq hab, List.map_flatten, List.map_flatten, List.map_map]; rfl
  all_goals (cases hvw; exact .crash h.crash _)

theorem Reads.getCells (h : Reads n f E T I) {a b : Token} (hab : T a b) :
    getCells b = (getCells a).map (mapCell f) := by
  unfold GV.getCells
  have := h.items hab
  revert this
  generalize a.items = as
  generalize b.items = bs
  intro hi
  induction hi with
  | nil => rfl
  | cons hit _ ih => simp only [List.map_cons, ih, hit.1, hit.2]; rfl

theorem raggedRow_map_len (g : Row → Row) (hg : ∀ r, (g r).cells.length = r.cells.length) (rows : List Row) :
    raggedRow (rows.map g) = (raggedRow rows).map g := by
  cases rows with
  | nil => rfl
  | cons r0 rs =>
    show ((r0 :: rs).map g).find? (fun r => r.cells.length != (g r0).cells.length) =
      ((r0 :: rs).find? fun r => r.cells.length != r0.cells.length).map g
    rw [List.find?_map]
    congr 2
    funext r
    simp only [Function.comp, hg]

theorem Reads.getTableRows (h : Reads n f E T I) {xs ys : List (Key × Val)} (hI : I xs ys) :
    BSimN n E (fun a b => b = (a.map (mapRow f)).map (shiftRow n)) (getTableRows xs) (getTableRows ys) := by
  unfold GV.getTableRows
  refine .bind (.mapM' (S := fun (r r' : Row) => r' = shiftRow n (mapRow f r) ∧
      ∀ m, E (.ast ⟨.raggedTable, r.loc, m⟩) (.ast ⟨.raggedTable, r'.loc, m⟩))
    (fun t1 t2 ht => .bind .nextId fun i j hij => .pure ⟨?_, h.ragged ht⟩) (h.tokens hI (k := .TableRow) rfl))
    fun a b hab => ?_
  · rw [hij, (h.tok ht).2.2.2.2, h.getCells ht]; rfl
  · have hb : b = a.map fun r => shiftRow n (mapRow f r) := all2_map_eq (hab.mono fun _ _ h => h.1)
    have hE : ∀ r ∈ a, ∀ m, E (.ast ⟨.raggedTable, r.loc, m⟩)
        (.ast ⟨.raggedTable, (shiftRow n (mapRow f r)).loc, m⟩) := by
      clear hb
      induction hab with
      | nil => intro r hr; cases hr
      | cons hr _ ih =>
        intro r hr'
        rcases List.mem_cons.1 hr' with rfl | hr'
        · exact hr.1 ▸ hr.2
        · exact ih r hr'
    subst hb
    rw [raggedRow_map_len _ (fun r => by simp [shiftRow, mapRow])]
    cases hr : raggedRow a with
    | none => exact .pure (by rw [List.map_map]; rfl)
    | some r =>
      refine .throw (hE r ?_ _)
      unfold raggedRow at hr
      cases a with
      | nil => cases hr
      | cons r0 rs => exact List.mem_of_find?_eq_some hr

theorem transformNode_nat (h : Reads n f E T I) (cs : List Comment) (rt : RuleType)
    {xs ys : List (Key × Val)} (hI : I xs ys) :
    BSimN n E (ValN n f T I) (transformNode cs ⟨rt, xs⟩) (transformNode (cs.map (mapComment f)) ⟨rt, ys⟩) := by
  have need := fun {α} w (o : Option α) => BSimN.need (n := n) h.crash w o
  have title : ∀ {a b}, T a b → b.keyword = a.keyword ∧ b.text = a.text ∧ getLocation b = f.loc (getLocation a) :=
    fun hab => ⟨(h.tok hab).2.1, (h.tok hab).1, (h.tok hab).2.2.2.2⟩
  cases rt <;> simp only [transformNode]
  case Step =>
    refine .bind .nextId fun i j hij => .bind (h.needToken hI rfl) fun a b hab => ?_
    obtain ⟨ht, hk, hkt, -, hl⟩ := h.tok hab
    rw [hk, hkt, ht, hl, hij]
    refine .bind (need _ _) fun _ _ e1 => .bind (need _ _) fun _ _ e2 => .bind (need _ _) fun _ _ e3 => .pure ?_
    subst e1 e2 e3
    show Val.step { arg := stepArgOf ys, .. } = _
    rw [h.stepArgOf hI]
    rfl
  case DocString =>
    have hs := h.tokens hI (k := .DocStringSeparator) rfl
    revert hs
    generalize getTokens xs .DocStringSeparator = l1
    generalize getTokens ys .DocStringSeparator = l2
    intro hs
    cases hs with
    | nil => exact .crash h.crash _
    | cons hab _ =>
      obtain ⟨ht, hk, -, -, hl⟩ := h.tok hab
      simp only []
      rw [ht, hk, hl]
      refine .bind (need _ _) fun _ _ e1 => .bind (need _ _) fun _ _ e2 =>
        .bind (.texts h.crash _ (h.other hI)) fun _ _ e3 => .pure ?_
      subst e1 e2 e3
      rfl
  case DataTable =>
    refine .bind (h.getTableRows hI) fun a b hab => ?_
    subst hab
    cases a with
    | nil => exact .crash h.crash _
    | cons r0 rs => exact .pure rfl
  case Background =>
    refine .bind (h.needToken hI rfl) fun a b hab => ?_
    obtain ⟨hk, ht, hl⟩ := title hab
    rw [hk, ht, hl, h.getSteps hI]
    refine .bind (h.getDescription hI) fun _ _ e0 => .bind .nextId fun i j hij => .bind (need _ _) fun _ _ e1 =>
      .bind (need _ _) fun _ _ e2 => .pure ?_
    subst e0 hij e1 e2
    rfl
  case ScenarioDefinition =>
    refine .bind (h.getTags hI) fun tags tags' htags => ?_
    subst htags
    have h1 := h.single hI (k := .rule .Scenario) rfl
    revert h1
    generalize getSingle xs (.rule .Scenario) = v1
    generalize getSingle ys (.rule .Scenario) = w1
    intro h1
    cases v1
    case tok a => obtain ⟨b, rfl, -⟩ := h1; exact .crash h.crash _
    case raw rt sc =>
      obtain ⟨sc', rfl, hsc⟩ := h1
      simp only []
      refine .bind (h.needToken hsc rfl) fun a b hab => ?_
      obtain ⟨hk, ht, hl⟩ := title hab
      rw [hk, ht, hl, h.getSteps hsc]
      refine .bind (h.getDescription hsc) fun _ _ e0 => .bind .nextId fun i j hij => .bind (need _ _) fun _ _ e1 =>
        .bind (need _ _) fun _ _ e2 => .pure ?_
      subst e0 hij e1 e2
      show Val.scenario { examples := getExamples sc', .. } = _
      rw [h.getExamples hsc]
      rfl
    all_goals (cases h1; exact .crash h.crash _)
  case ExamplesDefinition =>
    refine .bind (h.getTags hI) fun tags tags' htags => ?_
    subst htags
    have h1 := h.single hI (k := .rule .Examples) rfl
    revert h1
    generalize getSingle xs (.rule .Examples) = v1
    generalize getSingle ys (.rule .Examples) = w1
    intro h1
    cases v1
    case tok a => obtain ⟨b, rfl, -⟩ := h1; exact .crash h.crash _
    case raw rt ex =>
      obtain ⟨ex', rfl, hex⟩ := h1
      simp only []
      refine .bind (h.needToken hex rfl) fun a b hab => ?_
      obtain ⟨hk, ht, hl⟩ := title hab
      rw [hk, ht, hl]
      refine .bind (h.getDescription hex) fun _ _ e0 => .bind .nextId fun i j hij => .bind (need _ _) fun _ _ e1 =>
        .bind (need _ _) fun _ _ e2 => .pure ?_
      subst e0 hij e1 e2
      show Val.examples { header := (tableOf ex').head?, body := (tableOf ex').drop 1, .. } = _
      rw [h.tableOf hex, List.head?_map, List.head?_map, ← List.map_drop, ← List.map_drop]
      rfl
    all_goals (cases h1; exact .crash h.crash _)
  case ExamplesTable =>
    exact .bind (h.getTableRows hI) fun a b hab => by subst hab; exact .pure rfl
  case Description =>
    refine .bind (.texts h.crash _ (h.other hI)) fun _ _ e => .pure ?_
    subst e
    rfl
  case Rule =>
    have h1 := h.single hI (k := .rule .RuleHeader) rfl
    revert h1
    generalize getSingle xs (.rule .RuleHeader) = v1
    generalize getSingle ys (.rule .RuleHeader) = w1
    intro h1
    cases v1
    case tok a => obtain ⟨b, rfl, -⟩ := h1; exact .pure rfl
    case raw rt hd =>
      obtain ⟨hd', rfl, hhd⟩ := h1
      simp only []
      refine .bind (h.getTags hhd) fun tags tags' htags => ?_
      subst htags
      have h2 := h.single hhd (k := .tok .RuleLine) rfl
      revert h2
      generalize getSingle hd (.tok .RuleLine) = v2
      generalize getSingle hd' (.tok .RuleLine) = w2
      intro h2
      cases v2
      case raw rt2 is => obtain ⟨js, rfl, -⟩ := h2; exact .pure rfl
      case tok a =>
        obtain ⟨b, rfl, hab⟩ := h2
        simp only []
        obtain ⟨hk, ht, hl⟩ := title hab
        rw [hk, ht, hl]
        refine .bind (h.getDescription hhd) fun _ _ e0 => .bind .nextId fun i j hij =>
          .bind (need _ _) fun _ _ e1 => .bind (need _ _) fun _ _ e2 => .pure ?_
        subst e0 hij e1 e2
        show Val.rule { children := ruleChildren ys, .. } = Val.rule (shiftRule n (mapRule f { children := ruleChildren xs, .. }))
        rw [ruleChildren_eq, ruleChildren_eq, h.getBackground hI, h.getScenarios hI]
        cases getBackground xs <;> simp only [shiftRule, mapRule, List.map_append, List.map_map] <;> rfl
      all_goals (cases h2; exact .pure rfl)
    all_goals (cases h1; exact .pure rfl)
  case Feature =>
    have h1 := h.single hI (k := .rule .FeatureHeader) rfl
    revert h1
    generalize getSingle xs (.rule .FeatureHeader) = v1
    generalize getSingle ys (.rule .FeatureHeader) = w1
    intro h1
    cases v1
    case tok a => obtain ⟨b, rfl, -⟩ := h1; exact .pure rfl
    case raw rt hd =>
      obtain ⟨hd', rfl, hhd⟩ := h1
      simp only []
      refine .bind (h.getTags hhd) fun tags tags' htags => ?_
      subst htags
      have h2 := h.single hhd (k := .tok .FeatureLine) rfl
      revert h2
      generalize getSingle hd (.tok .FeatureLine) = v2
      generalize getSingle hd' (.tok .FeatureLine) = w2
      intro h2
      cases v2
      case raw rt2 is => obtain ⟨js, rfl, -⟩ := h2; exact .pure rfl
      case tok a =>
        obtain ⟨b, rfl, hab⟩ := h2
        simp only []
        obtain ⟨hk, ht, hl⟩ := title hab
        rw [hk, ht, hl, (h.tok hab).2.2.2.1]
        refine .bind (h.getDescription hhd) fun _ _ e0 => .bind (need _ _) fun _ _ e1 =>
          .bind (need _ _) fun _ _ e2 => .pure ?_
        subst e0 e1 e2
        show Val.feature { children := featureChildren ys, .. } =
          Val.feature (shiftFeature n (mapFeature f { children := featureChildren xs, .. }))
        rw [featureChildren_eq, featureChildren_eq, h.getBackground hI, h.getScenarios hI, h.getRules hI]
        cases getBackground xs <;> simp only [shiftFeature, mapFeature, List.map_append, List.map_map] <;> rfl
      all_goals (cases h2; exact .pure rfl)
    all_goals (cases h1; exact .pure rfl)
  case GherkinDocument =>
    refine .pure ?_
    show Val.doc { feature := featureOf ys, .. } = _
    rw [h.featureOf hI]
    rfl
  all_goals exact .pure ⟨ys, rfl, hI⟩

end reads

/-! ### the two trivial cases: no renaming, no shift -/

theorem mapTag_id (t : Tag) : mapTag idMap t = t := by cases t; simp only [mapTag, idMap_loc]
theorem mapCell_id (c : Cell) : mapCell idMap c = c := by cases c; simp only [mapCell, idMap_loc]
theorem mapRow_id (r : Row) : mapRow idMap r = r := by
  cases r; simp only [mapRow, idMap_loc, funext mapCell_id, List.map_id']
theorem mapTable_id (t : DataTable) : mapTable idMap t = t := by
  cases t; simp only [mapTable, idMap_loc, funext mapRow_id, List.map_id']
theorem mapDocString_id (d : DocString) : mapDocString idMap d = d := by cases d; simp only [mapDocString, idMap_loc]
theorem mapArg_id (a : StepArg) : mapArg idMap a = a := by
  cases a <;> simp only [mapArg, mapTable_id, mapDocString_id]
theorem mapStep_id (s : Step) : mapStep idMap s = s := by cases s; simp only [mapStep, idMap_loc, mapArg_id]
theorem mapBackground_id (b : Background) : mapBackground idMap b = b := by
  cases b; simp only [mapBackground, idMap_loc, funext mapStep_id, List.map_id']
theorem mapExamples_id (e : Examples) : mapExamples idMap e = e := by
  cases e; simp only [mapExamples, idMap_loc, funext mapTag_id, funext mapRow_id, List.map_id', Option.map_id']
theorem mapScenario_id (s : Scenario) : mapScenario idMap s = s := by
  cases s; simp only [mapScenario, idMap_loc, funext mapTag_id, funext mapStep_id, funext mapExamples_id, List.map_id']
theorem mapRuleChild_id (c : RuleChild) : mapRuleChild idMap c = c := by
  cases c <;> simp only [mapRuleChild, mapBackground_id, mapScenario_id]
theorem mapRule_id (r : Rule) : mapRule idMap r = r := by
  cases r; simp only [mapRule, idMap_loc, funext mapTag_id, funext mapRuleChild_id, List.map_id']
theorem mapFeatureChild_id (c : FeatureChild) : mapFeatureChild idMap c = c := by
  cases c <;> simp only [mapFeatureChild, mapBackground_id, mapScenario_id, mapRule_id]
theorem mapFeature_id (x : Feature) : mapFeature idMap x = x := by
  cases x; simp only [mapFeature, idMap_loc, funext mapTag_id, funext mapFeatureChild_id, List.map_id']
theorem mapComment_id (c : Comment) : mapComment idMap c = c := by cases c; simp only [mapComment, idMap_loc]
theorem mapDoc_id (d : Doc) : mapDoc idMap d = d := by
  cases d; simp only [mapDoc, funext mapFeature_id, funext mapComment_id, List.map_id', Option.map_id']

theorem shiftTag_zero (t : Tag) : shiftTag 0 t = t := rfl
theorem shiftRow_zero (r : Row) : shiftRow 0 r = r := rfl
theorem shiftDataTable_zero (t : DataTable) : shiftDataTable 0 t = t := by
  cases t; simp only [shiftDataTable, funext shiftRow_zero, List.map_id']
theorem shiftStepArg_zero (a : StepArg) : shiftStepArg 0 a = a := by
  cases a <;> simp only [shiftStepArg, shiftDataTable_zero]
theorem shiftStep_zero (s : Step) : shiftStep 0 s = s := by cases s; simp only [shiftStep, shiftStepArg_zero, Nat.add_zero]
theorem shiftBackground_zero (b : Background) : shiftBackground 0 b = b := by
  cases b; simp only [shiftBackground, funext shiftStep_zero, List.map_id', Nat.add_zero]
theorem shiftExamples_zero (e : Examples) : shiftExamples 0 e = e := by
  cases e; simp only [shiftExamples, funext shiftTag_zero, funext shiftRow_zero, List.map_id', Option.map_id', Nat.add_zero]
theorem shiftScenario_zero (s : Scenario) : shiftScenario 0 s = s := by
  cases s
  simp only [shiftScenario, funext shiftTag_zero, funext shiftStep_zero, funext shiftExamples_zero, List.map_id', Nat.add_zero]
theorem shiftRuleChild_zero (c : RuleChild) : shiftRuleChild 0 c = c := by
  cases c <;> simp only [shiftRuleChild, shiftBackground_zero, shiftScenario_zero]
theorem shiftRule_zero (r : Rule) : shiftRule 0 r = r := by
  cases r; simp only [shiftRule, funext shiftTag_zero, funext shiftRuleChild_zero, List.map_id', Nat.add_zero]
theorem shiftFeatureChild_zero (c : FeatureChild) : shiftFeatureChild 0 c = c := by
  cases c <;> simp only [shiftFeatureChild, shiftBackground_zero, shiftScenario_zero, shiftRule_zero]
theorem shiftFeature_zero (x : Feature) : shiftFeature 0 x = x := by
  cases x; simp only [shiftFeature, funext shiftTag_zero, funext shiftFeatureChild_zero, List.map_id']
theorem shiftDoc_zero (d : Doc) : shiftDoc 0 d = d := by
  cases d; simp only [shiftDoc, funext shiftFeature_zero, Option.map_id']

theorem valN_zero_id {T : Token → Token → Prop} {I : List (Key × Val) → List (Key × Val) → Prop} {v w : Val} :
    ValN 0 idMap T I v w ↔
      match v with
      | .tok a => ∃ b, w = .tok b ∧ T a b
      | .raw rt xs => ∃ ys, w = .raw rt ys ∧ I xs ys
      | v => w = v := by
  cases v <;>
    simp only [ValN, shiftStep_zero, shiftDataTable_zero, shiftBackground_zero, shiftScenario_zero,
      shiftExamples_zero, funext shiftRow_zero, shiftRule_zero, shiftFeature_zero, shiftDoc_zero, mapStep_id,
      mapDocString_id, mapTable_id, mapBackground_id, mapScenario_id, mapExamples_id, funext mapRow_id,
      List.map_id', mapRule_id, mapFeature_id, mapDoc_id]


end Lemmas
end GV
