/-
  The look-ahead queue is first-in-first-out (C18) and the matcher work is linear (C01).  The
  tests of a state are walked once (`tb_tag`, `tb2`, `tb1`, `mt`), with the judgment `RTE`: what
  holds after an imperative run, and the queue-free run of Spec/PureParse.lean from the pure
  context, side by side.  Its imperative half (`RTE.triple`) carries the main loop to
  `reads_in_order`, `calls_linear`, `accepted_sequence`; Lemmas/QueuePureLoop.lean takes both halves
  to `queue_refines_peek`.
-/
import GherkinVerif.Lemmas.QueuePure
import GherkinVerif.Spec.PureParse
namespace GV
namespace Lemmas
open Spec

/-- every run of `m` from a context satisfying `P` ends in `Q` (returned) or `E` (aborted) and is
    matched by the run of `m'` from the pure context: related results (`V`), same abort, pure
    context of the final context -/
def RTE {α α'} (L : List Str) (k : Nat) (P : Ctx → Prop) (m : PM α) (m' : PM α') (V : α → α' → Prop)
    (Q : α → Ctx → Prop) (E : Abort → Ctx → Prop) : Prop :=
  ∀ c, P c → ∀ r c', run m c = (r, c') →
    match r with
    | .ok a => ∃ a', run m' (pureOf L k c) = (.ok a', pureOf L k c') ∧ V a a' ∧ Q a c'
    | .error e => run m' (pureOf L k c) = (.error e, pureOf L k c') ∧ E e c'

/-- the same without an abort postcondition -/
def RT {α α'} (L : List Str) (k : Nat) (P : Ctx → Prop) (m : PM α) (m' : PM α') (V : α → α' → Prop)
    (Q : α → Ctx → Prop) : Prop :=
  ∀ c, P c → ∀ r c', run m c = (r, c') →
    match r with
    | .ok a => ∃ a', run m' (pureOf L k c) = (.ok a', pureOf L k c') ∧ V a a' ∧ Q a c'
    | .error e => run m' (pureOf L k c) = (.error e, pureOf L k c')

section RTE
variable {L : List Str} {k : Nat}

theorem RTE.triple {α α'} {P : Ctx → Prop} {m : PM α} {m' : PM α'} {V : α → α' → Prop} {Q : α → Ctx → Prop} {E}
    (h : RTE L k P m m' V Q E) : Triple P m Q E :=
  Triple.intro fun c r c' hc hr => by
    have := h c hc r c' hr
    cases r with
    | ok a => obtain ⟨_, _, _, hq⟩ := this; exact hq
    | error e => exact this.2

theorem RTE.rt {α α'} {P : Ctx → Prop} {m : PM α} {m' : PM α'} {V : α → α' → Prop} {Q : α → Ctx → Prop} {E}
    (h : RTE L k P m m' V Q E) : RT L k P m m' V Q := by
  intro c hc r c' hr
  have := h c hc r c' hr
  cases r with
  | ok a => exact this
  | error e => exact this.1

theorem RTE.mk {α} {P : Ctx → Prop} {m m' : PM α} {Q : α → Ctx → Prop} {E}
    (hr : ∀ c r c', P c → run m c = (r, c') → run m' (pureOf L k c) = (r, pureOf L k c'))
    (hu : Triple P m Q E) : RTE L k P m m' Eq Q E := by
  intro c hc r c' h
  have h1 := hr c r c' hc h
  have h2 := hu.elim hc h
  cases r with
  | ok a => exact ⟨a, h1, rfl, h2⟩
  | error e => exact ⟨h1, h2⟩

theorem RTE.bind {α α' β β'} {P : Ctx → Prop} {m : PM α} {m' : PM α'} {V : α → α' → Prop} {Q : α → Ctx → Prop} {E}
    {f : α → PM β} {f' : α' → PM β'} {V2 : β → β' → Prop} {Q2 : β → Ctx → Prop}
    (h1 : RTE L k P m m' V Q E) (h2 : ∀ a a', V a a' → RTE L k (Q a) (f a) (f' a') V2 Q2 E) :
    RTE L k P (m >>= f) (m' >>= f') V2 Q2 E := by
  intro c hc r c' h
  rw [prun_bind] at h ⊢
  rcases hr : run m c with ⟨r1, c1⟩
  rw [hr] at h
  have := h1 c hc r1 c1 hr
  cases r1 with
  | ok a =>
    obtain ⟨a', hr', hv, hq⟩ := this
    rw [hr']
    exact h2 a a' hv c1 hq r c' h
  | error e =>
    dsimp only at this h
    rw [this.1]
    cases h
    exact ⟨rfl, this.2⟩

theorem RTE.pure {α α'} {P : Ctx → Prop} {V : α → α' → Prop} {Q : α → Ctx → Prop} {E} (a : α) (a' : α')
    (hv : V a a') (hq : ∀ c, P c → Q a c) : RTE L k P (pure a : PM α) (pure a' : PM α') V Q E := by
  intro c hc r c' h
  rw [prun_pure] at h
  cases h
  exact ⟨a', rfl, hv, hq c hc⟩

theorem RTE.throw {α α'} {P : Ctx → Prop} {V : α → α' → Prop} {Q : α → Ctx → Prop} {E} (e : Abort)
    (he : ∀ c, P c → E e c) : RTE L k P (throw e : PM α) (throw e : PM α') V Q E := by
  intro c hc r c' h
  rw [prun_throw] at h
  cases h
  exact ⟨rfl, he c hc⟩

theorem RTE.assume {α α'} {φ : Prop} {P : Ctx → Prop} {m : PM α} {m' : PM α'} {V : α → α' → Prop} {Q : α → Ctx → Prop}
    {E} (h : φ → RTE L k P m m' V Q E) : RTE L k (fun c => φ ∧ P c) m m' V Q E := fun c hc => h hc.1 c hc.2

theorem RTE.conseq {α α'} {P P' : Ctx → Prop} {m : PM α} {m' : PM α'} {V : α → α' → Prop} {Q Q' : α → Ctx → Prop}
    {E E'} (h : RTE L k P m m' V Q E) (hp : ∀ c, P' c → P c) (hq : ∀ a c, Q a c → Q' a c)
    (he : ∀ e c, E e c → E' e c) : RTE L k P' m m' V Q' E' := by
  intro c hc r c' hr
  have := h c (hp c hc) r c' hr
  cases r with
  | ok a =>
    obtain ⟨a', h1, h2, h3⟩ := this
    exact ⟨a', h1, h2, hq a c' h3⟩
  | error e => exact ⟨this.1, he e c' this.2⟩

theorem RTE.of_forall {α α'} {P : Ctx → Prop} {m : PM α} {m' : PM α'} {V : α → α' → Prop} {Q : α → Ctx → Prop} {E}
    (h : ∀ c0, P c0 → RTE L k (fun c => c = c0) m m' V Q E) : RTE L k P m m' V Q E :=
  fun c hc => h c hc c rfl

theorem RTE.of_frame {α} {P : Ctx → Prop} {m : PM α} {Q : α → Ctx → Prop} {E} (hf : QFrame m)
    (hu : Triple P m Q E) : RTE L k P m m Eq Q E :=
  RTE.mk (fun c r c' _ h => hf c [] (L.drop k) k r c' h) hu

theorem RTE.throw_bind {α α' β β'} {P : Ctx → Prop} {V : β → β' → Prop} {Q : β → Ctx → Prop} {E} (e : Abort)
    (f : α → PM β) (f' : α' → PM β') (he : ∀ c, P c → E e c) :
    RTE L k P ((MonadExcept.throw e : PM α) >>= f) ((MonadExcept.throw e : PM α') >>= f') V Q E :=
  RTE.bind (V := fun _ _ => True) (Q := fun _ _ => False) (RTE.throw e he) fun _ _ _ _ hf => hf.elim

/-- value relation of `matchP` on two tokens of the same line -/
def VP (t t' : Token) (x x' : Bool × Token) : Prop :=
  x.1 = x'.1 ∧ (x.2 = x'.2 ∨ (x.1 = false ∧ x.2 = t ∧ x'.2 = t'))

theorem RTE.matchP {D : List Dialect} {cap : Nat} {stop : Bool} {K : Kind} {t t' : Token} (hk : sameKey t t')
    {P : Ctx → Prop} {Q : Bool × Token → Ctx → Prop} {E} (hu : Triple P (matchP D cap stop K t) Q E) :
    RTE L k P (matchP D cap stop K t) (matchP D cap stop K t') (VP t t') Q E := by
  intro c hc r c' h
  obtain ⟨r', hr', hrel⟩ := matchP_rel D cap stop K hk c [] (L.drop k) k h
  have hu' := hu.elim hc h
  cases r with
  | ok x =>
    cases r' with
    | error e => exact hrel.elim
    | ok x' =>
      obtain ⟨m, u⟩ := x
      obtain ⟨m', u'⟩ := x'
      exact ⟨(m', u'), hr', hrel, hu'⟩
  | error e =>
    cases r' with
    | error e' => cases hrel; exact ⟨hr', hu'⟩
    | ok x => exact hrel.elim

theorem RT.matchP {D : List Dialect} {cap : Nat} {stop : Bool} {K : Kind} {t t' : Token} (hk : sameKey t t')
    {P : Ctx → Prop} {Q : Bool × Token → Ctx → Prop}
    (hu : ∀ c r c', P c → run (matchP D cap stop K t) c = (r, c') → ∀ x, r = .ok x → Q x c') :
    RT L k P (matchP D cap stop K t) (matchP D cap stop K t') (VP t t') Q :=
  (RTE.matchP (E := fun _ _ => True) hk (Triple.intro fun c r c' hc hr => by
    cases r with
    | ok x => exact hu c _ c' hc hr x rfl
    | error e => trivial)).rt

end RTE

theorem QFrame.modify (f : Ctx → Ctx) (hf : ∀ c q ls n, f (rf c q ls n) = rf (f c) q ls n) :
    QFrame (modify f : PM PUnit) := by
  intro c q ls n r c' h
  rw [run_modify] at h ⊢
  cases h
  rw [hf]

theorem QFrame.tail (D : List Dialect) (T : Table) (stop : Bool) (row : StateRow) (t : Token) :
    QFrame (tryBranches D T stop row [] t) := by
  rw [tryBranches]
  refine QFrame.bind (QFrame.modify _ fun _ _ _ _ => rfl) fun _ => ?_
  split
  · exact QFrame.throw _
  · exact QFrame.bind (QFrame.addError _ _) fun _ => QFrame.pure _

theorem tail_pure_eq (D : List Dialect) (T : Table) (stop : Bool) (row : StateRow) {t t' : Token}
    (h1 : t.lineNo = t'.lineNo) (h2 : unexpectedErr row t = unexpectedErr row t') :
    tryBranchesPure D T stop row [] t' = tryBranches D T stop row [] t := by
  rw [tryBranches, tryBranchesPure, h1, h2]

/-- the imperative token `t` (maybe marked by a look-ahead) and the fresh token `t'` of the same
    line: an error tail would report the same, or a test that certainly matches is still to come -/
def TR (bs : List Branch) (t t' : Token) : Prop :=
  sameKey t t' ∧ ((∀ row, unexpectedErr row t = unexpectedErr row t') ∨ ∃ b ∈ bs, sure b.kind t.line)

theorem TR.refl (bs : List Branch) (t : Token) : TR bs t t := ⟨sameKey.refl t, .inl fun _ => rfl⟩

theorem TR.step {b : Branch} {bs : List Branch} {t t' : Token} (h : TR (b :: bs) t t') {m : Bool} {u u' : Token}
    (hu : u = u' ∨ (m = false ∧ u = t ∧ u' = t')) (hm : m = false) (hs : sure b.kind t.line → m = true) :
    TR bs u u' := by
  rcases hu with rfl | ⟨-, rfl, rfl⟩
  · exact TR.refl _ _
  · refine ⟨h.1, ?_⟩
    rcases h.2 with h2 | ⟨b0, hb0, hs0⟩
    · exact .inl h2
    · rcases List.mem_cons.1 hb0 with rfl | hb0
      · rw [hs hs0] at hm; cases hm
      · exact .inr ⟨b0, hb0, hs0⟩

theorem QS.tail {D : List Dialect} {L : List Str} {k : Nat} {c : Ctx} (h : QS D L k c) (es : List PErr) (un : List Nat) :
    QS D L k { c with errors := es, unexpected := un } :=
  ⟨h.reads, h.queue, h.lineNo, h.lines, h.mu, h.builds, h.bound⟩

section
variable {D : List Dialect} {T : Table} {stop : Bool} {L : List Str} {k : Nat}

theorem RTE_tail (row : StateRow) {t t' : Token} (htr : TR [] t t') {P : Ctx → Prop} {Q : Nat → Ctx → Prop} {E}
    (hu : Triple P (tryBranches D T stop row [] t) Q E) :
    RTE L k P (tryBranches D T stop row [] t) (tryBranchesPure D T stop row [] t') Eq Q E := by
  rcases htr.2 with h2 | ⟨b, hb, -⟩
  · rw [tail_pure_eq D T stop row htr.1.2 (h2 row)]
    exact RTE.of_frame (QFrame.tail D T stop row t) hu
  · cases hb

theorem RTE_finish {P : Ctx → Prop} {Q : Nat → Ctx → Prop} {E} (u : Token) (ps : List Prod) (target : Nat)
    (hu : Triple P (runProds T.errorCap stop u ps) (fun _ => Q target) E) :
    RTE L k P (do runProds T.errorCap stop u ps; pure target) (do runProds T.errorCap stop u ps; pure target)
      Eq Q E :=
  RTE.of_frame (QFrame.bind (QFrame.runProds _ _ _ _) fun _ => QFrame.pure _)
    (Triple.bind hu fun _ => Triple.pure _ fun _ h => h)

theorem matchP_sure {K : Kind} {t : Token} {c : Ctx} {r : Except Abort (Bool × Token)} {c' : Ctx} {cap : Nat}
    (h : run (matchP D cap stop K t) c = (r, c')) (x : Bool × Token) (hx : r = .ok x) :
    (sure K t.line → x.1 = true) ∧ x.2.line = t.line ∧ x.2.lineNo = t.lineNo := by
  obtain ⟨-, -, -, hv⟩ := matchP_spec h
  obtain ⟨m, u⟩ := x
  obtain ⟨hm, hl, hn⟩ := hv m u hx
  exact ⟨fun hs => by rw [hm]; exact sure_matched D K c.μ t.line hs, hl, hn⟩

/-! ### a stepped-over token in a tag state: the next state is a tag state, the queue stays -/

/-- what a tag state keeps while it handles one token: the queue, the matcher state, the budget -/
def PA (D : List Dialect) (L : List Str) (k : Nat) (q0 : List Token) (μ0 : MState) (B : Nat) (c : Ctx) : Prop :=
  QS D L k c ∧ c.queue = q0 ∧ c.μ = μ0 ∧ c.calls ≤ B

theorem tb_tag (F : QF D T) (k : Nat) (row : StateRow) (herr : isTag T row.errTarget = true)
    (q0 : List Token) (μ0 : MState) (hμ0 : μ0.dialect ∈ D) (l0 : Option Str)
    (hskip : skipM D (skipList T) μ0 l0 = true) (B : Nat) :
    ∀ (bs : List Branch), (∀ b ∈ bs, b.guard = none ∧ stableKind b.kind = true ∧
        (isSkipKind b.kind = true → isTag T b.target = true)) →
      ∀ t t' : Token, t.line = l0 → (∃ i, key t = srcAt L i) → TR bs t t' →
        RTE L k (fun c => PA D L k q0 μ0 (B - bs.length) c ∧ bs.length ≤ B) (tryBranches D T stop row bs t)
          (tryBranchesPure D T stop row bs t') Eq
          (fun s c => PA D L k q0 μ0 B c ∧ isTag T s = true) (fun _ c => PA D L k q0 μ0 B c) := by
  intro bs
  induction bs with
  | nil =>
    intro _ t t' _ _ htr
    refine RTE_tail row htr (Triple.intro fun c r c' hc hr => ?_)
    obtain ⟨⟨es, un, rfl⟩, hs⟩ := tail_spec D T stop row t hr
    obtain ⟨⟨hqs, hq, hμ, hcalls⟩, -⟩ := hc
    have hp : PA D L k q0 μ0 B { c with errors := es, unexpected := un } :=
      ⟨hqs.tail es un, hq, hμ, by simpa using hcalls⟩
    cases r with
    | ok s => rw [hs s rfl]; exact ⟨hp, herr⟩
    | error e => exact hp
  | cons b bs ih =>
    intro hbs t t' ht hkey htr
    obtain ⟨hguard, hstable, htarget⟩ := hbs b (List.mem_cons_self ..)
    have ih' := ih (fun b' hb' => hbs b' (List.mem_cons_of_mem _ hb'))
    rw [tryBranches, tryBranchesPure]
    refine RTE.bind
      (Q := fun r c => ((sure b.kind t.line → r.1 = true) ∧ r.2.line = l0 ∧ (∃ i, key r.2 = srcAt L i) ∧
          r.1 = mm D b.kind μ0 l0) ∧ (PA D L k q0 μ0 (B - bs.length) c ∧ bs.length ≤ B))
      (RTE.matchP htr.1 (Triple.intro fun c r c' hc hr => ?_)) fun x x' hV => ?_
    · obtain ⟨hf, hμ', hcalls, hv⟩ := matchP_spec hr
      obtain ⟨⟨hqs, hq, hμ, hc1⟩, hlen⟩ := hc
      rw [matchTok_mu_stable D b.kind hstable] at hμ'
      simp only [List.length_cons] at hc1 hlen
      have hp : PA D L k q0 μ0 (B - bs.length) c' :=
        ⟨hqs.footM hf (by rw [hμ']; exact hqs.mu), hf.queue.trans hq, hμ'.trans hμ, by omega⟩
      cases r with
      | error e => exact ⟨hp.1, hp.2.1, hp.2.2.1, by have := hp.2.2.2; omega⟩
      | ok r =>
        obtain ⟨m, u⟩ := r
        obtain ⟨hm, hl, hn⟩ := hv m u rfl
        refine ⟨⟨(matchP_sure hr _ rfl).1, hl.trans ht, ?_, by rw [hm, hμ, ht]⟩, hp, by omega⟩
        obtain ⟨i, hi⟩ := hkey
        exact ⟨i, (key_eq hl hn).trans hi⟩
    · obtain ⟨m, u⟩ := x
      obtain ⟨m', u'⟩ := x'
      obtain ⟨hm', hu⟩ := hV
      dsimp only at hm' hu ⊢
      subst hm'
      refine RTE.assume fun hpure => ?_
      obtain ⟨hs, hl', hkey', hm⟩ := hpure
      cases m with
      | false =>
        simp only [Bool.false_eq_true, if_false]
        exact ih' u u' hl' hkey' (htr.step hu rfl hs)
      | true =>
        have huu : u = u' := by
          rcases hu with h | ⟨h, -⟩
          · exact h
          · cases h
        subst huu
        -- the kind that matched is a skip kind
        have hsk : isSkipKind b.kind = true := by
          cases hk : isSkipKind b.kind with
          | true => rfl
          | false =>
            have htitle : b.kind.isTitle = true := by simpa [stableKind, hk] using hstable
            have := skipM_not_title D D F.plain μ0 hμ0 (skipList T) F.skAll b.kind htitle l0 hskip
            rw [← hm] at this
            cases this
        simp only [if_true, hguard]
        refine RTE.bind (V := Eq) (Q := fun ok c => ok = true ∧ (PA D L k q0 μ0 (B - bs.length) c ∧ bs.length ≤ B))
          (RTE.pure true true rfl fun _ hc => ⟨rfl, hc⟩) fun ok ok' hok => RTE.assume fun hok' => ?_
        subst hok hok'
        simp only [if_true]
        refine RTE_finish u b.prods b.target (Triple.intro fun c r c' hc hr => ?_)
        obtain ⟨⟨hqs, hq, hμ, hc1⟩, hlen⟩ := hc
        obtain ⟨hqs', hq', hμ', hcalls'⟩ := hqs.runProds hkey' hr
        have hp : PA D L k q0 μ0 B c' := ⟨hqs', hq'.trans hq, hμ'.trans hμ, by omega⟩
        cases r with
        | ok _ => exact ⟨hp, htarget hsk⟩
        | error e => exact hp

/-! ### a token read with an empty queue behind it: any state, look-aheads may start -/

theorem acctA {c0 c1 len g X R lc n Lc : Nat} (h0 : c0 + len + (g + 1) * X ≤ R) (h1 : c1 ≤ c0 + lc * n)
    (hlc : lc ≤ Lc) (hX : X = Lc * n) : c1 + len + g * X ≤ R := by
  have : lc * n ≤ Lc * n := Nat.mul_le_mul_right _ hlc
  rw [Nat.add_mul, Nat.one_mul] at h0
  omega

theorem acctB {c0 c1 len g B G lc n Lc : Nat} (h1 : c1 ≤ c0 + lc * n) (h0 : c0 + len ≤ B) (hlc : lc ≤ Lc)
    (hG : g + 1 ≤ G) : c1 + len + g * (Lc * n) ≤ B + G * (Lc * n) := by
  have h2 : lc * n ≤ Lc * n := Nat.mul_le_mul_right _ hlc
  have h3 : (g + 1) * (Lc * n) ≤ G * (Lc * n) := Nat.mul_le_mul_right _ hG
  rw [Nat.add_mul, Nat.one_mul] at h3
  omega

/-- after `match_token` on the token of line `j+1`: the queue continues with line `j+2`; if it is
    not empty the new state is a tag state and all queued tokens but the last are stepped over -/
def PostB (D : List Dialect) (T : Table) (L : List Str) (j B : Nat) (s : Nat) (c : Ctx) : Prop :=
  QS D L (j + 1) c ∧
  (c.queue ≠ [] → isTag T s = true ∧ AllButLast (skipM D (skipList T) c.μ) (c.queue.map (·.line))) ∧
  c.calls ≤ B + maxGuards T * (maxLookaheadTests T * c.queue.length) ∧ QI c

/-- an abort inside `match_token` on the token of line `j+1` -/
def EB (T : Table) (L : List Str) (j B : Nat) (c : Ctx) : Prop :=
  c.reads = List.range' 1 (j + 1) ∧ c.lineNo ≤ L.length + 1 ∧ j + 1 ≤ c.lineNo ∧
  c.calls ≤ B + maxGuards T * (maxLookaheadTests T * (c.lineNo - (j + 1)))

theorem EB.of_QS {j B : Nat} {c : Ctx} (h : QS D L (j + 1) c)
    (hc : c.calls ≤ B + maxGuards T * (maxLookaheadTests T * c.queue.length)) : EB T L j B c := by
  have hl := h.lineNo
  have hsub : c.lineNo - (j + 1) = c.queue.length := by omega
  exact ⟨h.reads, h.bound, by omega, by rw [hsub]; exact hc⟩

/-- between two guarded tests of one state: the queue is what the last look-ahead made, the
    token is a tag line; `len` tests and `g` guarded tests are still to come -/
def S2 (D : List Dialect) (T : Table) (L : List Str) (j B len g : Nat) (l0 : Option Str) (c : Ctx) : Prop :=
  QS D L (j + 1) c ∧ Good (skipM D (skipList T) c.μ) (c.queue.map (·.line)) ∧ mm D .TagLine c.μ l0 = true ∧
  c.calls + len + g * (maxLookaheadTests T * c.queue.length) ≤
    B + maxGuards T * (maxLookaheadTests T * c.queue.length) ∧ QI c

/-- before any look-ahead of this state has run: the queue is empty -/
def S1 (D : List Dialect) (T : Table) (L : List Str) (j B len g : Nat) (c : Ctx) : Prop :=
  QS D L (j + 1) c ∧ c.queue = [] ∧ c.calls + len ≤ B ∧ g ≤ maxGuards T

theorem S2.post {j B len g : Nat} {l0 : Option Str} {c : Ctx} (h : S2 D T L j B len g l0 c) (s : Nat)
    (hs : isTag T s = true) : PostB D T L j B s c :=
  ⟨h.1, fun _ => ⟨hs, h.2.1.allButLast⟩, by have := h.2.2.2.1; omega, h.2.2.2.2⟩

theorem S2.eb {j B len g : Nat} {l0 : Option Str} {c : Ctx} (h : S2 D T L j B len g l0 c) : EB T L j B c :=
  EB.of_QS h.1 (by have := h.2.2.2.1; omega)

theorem S2.runProds {j B len g : Nat} {l0 : Option Str} {c : Ctx} (h : S2 D T L j B len g l0 c)
    {cap : Nat} {t : Token} {ps : List Prod} {r : Except Abort Unit} {c' : Ctx} (ht : ∃ i, key t = srcAt L i)
    (hr : run (runProds cap stop t ps) c = (r, c')) : S2 D T L j B len g l0 c' := by
  obtain ⟨hqs', hq', hμ', hcalls'⟩ := h.1.runProds ht hr
  refine ⟨hqs', ?_, ?_, ?_, ?_⟩
  · rw [hq', hμ']; exact h.2.1
  · rw [hμ']; exact h.2.2.1
  · rw [hq', hcalls']; exact h.2.2.2.1
  · intro x hx; rw [hq'] at hx; exact h.2.2.2.2 x hx

theorem S2.fire {j B len g : Nat} {l0 : Option Str} {u : Token} (hu : key u = srcAt L j) (ps : List Prod) {s : Nat}
    (hs : isTag T s = true) :
    Triple (S2 D T L j B len g l0) (GV.runProds T.errorCap stop u ps) (fun _ => PostB D T L j B s)
      (fun _ => EB T L j B) :=
  Triple.intro fun c r c' hc hr => by
    have := hc.runProds ⟨j, hu⟩ hr
    cases r with
    | ok _ => exact this.post _ hs
    | error e => exact this.eb

theorem S2.lookahead (F : QF D T) {j B len g : Nat} {l0 : Option Str} {i : Nat} {la : LookAhead}
    (hla : T.lookaheads[i]? = some la) :
    Triple (S2 D T L j B len (g + 1) l0) (GV.lookahead D T.errorCap stop la) (fun _ => S2 D T L j B len g l0)
      (fun _ => EB T L j B) :=
  Triple.intro fun c r c' hc hr => by
    obtain ⟨hskipla, hexpla, hcost⟩ := F.la i la hla
    obtain ⟨hqs, hgood, hmm, hacc, hqi⟩ := hc
    have hne : c.queue ≠ [] := by
      intro h0; rw [h0] at hgood; exact hgood.ne_nil rfl
    obtain ⟨hreads, hbd, hge, hcalls, hlineq, hok⟩ :=
      lookahead_spec F.plain hskipla F.skAll hexpla hqs (.inr hgood) hr
    have hl := hqs.lineNo
    have hsub : c'.lineNo - (j + 1) = c.queue.length := by rw [hlineq hne]; omega
    rw [hsub] at hcalls
    cases r with
    | error e =>
      refine ⟨hreads.trans hqs.reads, hbd, hge, ?_⟩
      rw [hsub]
      have := acctA hacc hcalls hcost rfl
      omega
    | ok ok =>
      obtain ⟨hqs', hgood', hμ', hlen⟩ := hok ok rfl
      refine ⟨hqs', hgood', by rw [hμ']; exact hmm, ?_,
        lookahead_tokinv D T.errorCap stop la (stable_of _ (.inl (by rw [hskipla]; exact F.skAll)))
          (stable_of _ (.inr hexpla)) hqi hr⟩
      rw [hlen hne]
      exact acctA hacc hcalls hcost rfl

theorem RTE_lookahead (F : QF D T) {j i : Nat} {la : LookAhead} (hla : T.lookaheads[i]? = some la)
    {P : Ctx → Prop} {Q : Bool → Ctx → Prop} {E} (hpre : ∀ c, P c → QS D L (j + 1) c ∧ j + 1 ≤ L.length)
    (hu : Triple P (lookahead D T.errorCap stop la) Q E) :
    RTE L (j + 1) P (lookahead D T.errorCap stop la) (lookaheadPure D T.errorCap stop la) Eq Q E :=
  RTE.mk (fun c r c' hc h => by
    exact lookahead_rel D D T.errorCap stop la (by rw [(F.la i la hla).1]; exact F.skAll) (hpre c hc).1 (hpre c hc).2 h) hu

theorem tb2 (F : QF D T) (j B : Nat) (row : StateRow) (l0 : Option Str) (hj : j + 1 ≤ L.length) :
    ∀ (bs : List Branch), guardTail T bs = true → tagNext T bs = true →
      ∀ t : Token, t.line = l0 → key t = srcAt L j →
        RTE L (j + 1) (S2 D T L j B bs.length (nG bs) l0) (tryBranches D T stop row bs t)
          (tryBranchesPure D T stop row bs t) Eq (PostB D T L j B) (fun _ => EB T L j B) := by
  intro bs
  induction bs with
  | nil => intro _ h; cases h
  | cons b bs ih =>
    intro hgt hnext t ht hkey
    simp only [tagNext, Bool.and_eq_true, beq_iff_eq] at hnext
    obtain ⟨hkind, htag⟩ := hnext
    simp only [guardTail, Bool.and_eq_true, Bool.or_eq_true, beq_iff_eq] at hgt
    obtain ⟨hhead, hgt'⟩ := hgt
    have hstable : stableKind b.kind = true := by rw [hkind]; rfl
    rw [tryBranches, tryBranchesPure]
    refine RTE.bind
      (Q := fun x c => (x.1 = true ∧ x.2.line = l0 ∧ key x.2 = srcAt L j) ∧
        S2 D T L j B bs.length (nG (b :: bs)) l0 c)
      (RTE.matchP (sameKey.refl t) (Triple.intro fun c r c' hc hr => ?_)) fun x x' hV => ?_
    · obtain ⟨hf, hμ', hcalls, hv⟩ := matchP_spec hr
      obtain ⟨hqs, hgood, hmm, hacc, hqi⟩ := hc
      rw [matchTok_mu_stable D b.kind hstable] at hμ'
      simp only [List.length_cons] at hacc
      have hq' := hf.queue
      have hs2 : S2 D T L j B bs.length (nG (b :: bs)) l0 c' := by
        refine ⟨hqs.footM hf (by rw [hμ']; exact hqs.mu), ?_, ?_, ?_, ?_⟩
        · rw [hq', hμ']; exact hgood
        · rw [hμ']; exact hmm
        · rw [hq']; omega
        · intro y hy; rw [hq'] at hy; exact hqi y hy
      cases r with
      | error e => exact hs2.eb
      | ok r =>
        obtain ⟨m, u⟩ := r
        obtain ⟨hm, hl, hn⟩ := hv m u rfl
        refine ⟨⟨?_, hl.trans ht, (key_eq hl hn).trans hkey⟩, hs2⟩
        show m = true
        rw [hm, hkind, ht]; exact hmm
    · obtain ⟨m, u⟩ := x
      obtain ⟨m', u'⟩ := x'
      obtain ⟨hm, hu⟩ := hV
      dsimp only at hm hu ⊢
      subst hm
      refine RTE.assume fun hpure => ?_
      obtain ⟨hmt, hl', hkey'⟩ := hpure
      subst hmt
      have huu : u = u' := by
        rcases hu with h | ⟨h, -⟩
        · exact h
        · cases h
      subst huu
      simp only [if_true]
      cases hguard : b.guard with
      | none =>
        dsimp only
        rw [nG_cons_none hguard]
        refine RTE.bind (V := Eq) (Q := fun ok c => ok = true ∧ S2 D T L j B bs.length (nG bs) l0 c)
          (RTE.pure true true rfl fun _ hc => ⟨rfl, hc⟩) fun ok ok' hok => RTE.assume fun hok' => ?_
        subst hok hok'
        simp only [if_true]
        exact RTE_finish u b.prods b.target (S2.fire hkey' _ htag)
      | some i =>
        dsimp only
        rw [nG_cons_some hguard]
        have hnext' : tagNext T bs = true := by
          rcases hhead with h | h
          · rw [hguard] at h; cases h
          · exact h.2
        cases hla : T.lookaheads[i]? with
        | none =>
          dsimp only
          exact RTE.throw_bind _ _ _ fun c hc => hc.eb
        | some la =>
          dsimp only
          refine RTE.bind (RTE_lookahead F hla (fun c hc => ⟨hc.1, hj⟩) (S2.lookahead F hla)) fun ok ok' hok => ?_
          subst hok
          cases ok with
          | true =>
            simp only [if_true]
            exact RTE_finish u b.prods b.target (S2.fire hkey' _ htag)
          | false =>
            simp only [Bool.false_eq_true, if_false]
            exact ih hgt' hnext' u hl' hkey'

theorem S1.post {j B len g : Nat} {c : Ctx} (h : S1 D T L j B len g c) (s : Nat) : PostB D T L j B s c :=
  ⟨h.1, fun hne => absurd h.2.1 hne, by have := h.2.2.1; omega, fun t ht => by rw [h.2.1] at ht; cases ht⟩

theorem S1.eb {j B len g : Nat} {c : Ctx} (h : S1 D T L j B len g c) : EB T L j B c :=
  EB.of_QS h.1 (by have := h.2.2.1; omega)

theorem S1.fire {j B len g : Nat} {u : Token} (hu : key u = srcAt L j) (ps : List Prod) (s : Nat) :
    Triple (S1 D T L j B len g) (GV.runProds T.errorCap stop u ps) (fun _ => PostB D T L j B s)
      (fun _ => EB T L j B) :=
  Triple.intro fun c r c' hc hr => by
    obtain ⟨hqs', hq', -, hcalls'⟩ := hc.1.runProds ⟨j, hu⟩ hr
    have : S1 D T L j B len g c' := ⟨hqs', hq'.trans hc.2.1, by rw [hcalls']; exact hc.2.2.1, hc.2.2.2⟩
    cases r with
    | ok _ => exact this.post _
    | error e => exact this.eb

theorem S1.lookahead (F : QF D T) {j B len g : Nat} {l0 : Option Str} (hj : j < L.length) {i : Nat} {la : LookAhead}
    (hla : T.lookaheads[i]? = some la) :
    Triple (fun c => S1 D T L j B len (g + 1) c ∧ mm D .TagLine c.μ l0 = true) (GV.lookahead D T.errorCap stop la)
      (fun _ => S2 D T L j B len g l0) (fun _ => EB T L j B) :=
  Triple.intro fun c r c' hc hr => by
    obtain ⟨hskipla, hexpla, hcost⟩ := F.la i la hla
    obtain ⟨⟨hqs, hq, hacc, hg⟩, hmm⟩ := hc
    obtain ⟨hreads, hbd, hge, hcalls, -, hok⟩ :=
      lookahead_spec F.plain hskipla F.skAll hexpla hqs (.inl ⟨hq, by omega⟩) hr
    cases r with
    | error e =>
      refine ⟨hreads.trans hqs.reads, hbd, hge, ?_⟩
      have := acctB (len := len) hcalls hacc hcost hg
      omega
    | ok ok =>
      obtain ⟨hqs', hgood', hμ', -⟩ := hok ok rfl
      have hl := hqs'.lineNo
      have hsub : c'.lineNo - (j + 1) = c'.queue.length := by omega
      rw [hsub] at hcalls
      exact ⟨hqs', hgood', by rw [hμ']; exact hmm, acctB hcalls hacc hcost hg,
        lookahead_tokinv D T.errorCap stop la (stable_of _ (.inl (by rw [hskipla]; exact F.skAll)))
          (stable_of _ (.inr hexpla)) (fun y hy => by rw [hq] at hy; cases hy) hr⟩

theorem tb1 (F : QF D T) (j B : Nat) (row : StateRow) :
    ∀ (bs : List Branch), guardTail T bs = true →
      ∀ t t' : Token, key t = srcAt L j → TR bs t t' →
        RTE L (j + 1) (S1 D T L j B bs.length (nG bs)) (tryBranches D T stop row bs t)
          (tryBranchesPure D T stop row bs t') Eq (PostB D T L j B) (fun _ => EB T L j B) := by
  intro bs
  induction bs with
  | nil =>
    intro _ t t' _ htr
    refine RTE_tail row htr (Triple.intro fun c r c' hc hr => ?_)
    obtain ⟨⟨es, un, rfl⟩, -⟩ := tail_spec D T stop row t hr
    have hs1 : S1 D T L j B 0 0 { c with errors := es, unexpected := un } :=
      ⟨hc.1.tail es un, hc.2.1, hc.2.2.1, Nat.zero_le _⟩
    cases r with
    | ok s => exact hs1.post s
    | error e => exact hs1.eb
  | cons b bs ih =>
    intro hgt t t' hkey htr
    simp only [guardTail, Bool.and_eq_true, Bool.or_eq_true, beq_iff_eq] at hgt
    obtain ⟨hhead, hgt'⟩ := hgt
    rw [tryBranches, tryBranchesPure]
    refine RTE.bind
      (Q := fun x c => ((sure b.kind t.line → x.1 = true) ∧ x.2.line = t.line ∧ key x.2 = srcAt L j ∧
          (b.kind = .TagLine → x.1 = true → t.line ≠ none)) ∧
        (S1 D T L j B bs.length (nG (b :: bs)) c ∧ (b.kind = .TagLine → x.1 = true → mm D .TagLine c.μ t.line = true)))
      (RTE.matchP htr.1 (Triple.intro fun c r c' hc hr => ?_)) fun x x' hV => ?_
    · obtain ⟨hf, hμ', hcalls, hv⟩ := matchP_spec hr
      obtain ⟨hqs, hq, hacc, hg⟩ := hc
      simp only [List.length_cons] at hacc
      have hs1 : S1 D T L j B bs.length (nG (b :: bs)) c' :=
        ⟨hqs.footM hf (by rw [hμ']; exact matchTok_dialect D b.kind c.μ t hqs.mu), hf.queue.trans hq, by omega, hg⟩
      cases r with
      | error e => exact hs1.eb
      | ok r =>
        obtain ⟨m, u⟩ := r
        obtain ⟨hm, hl, hn⟩ := hv m u rfl
        have hmm : b.kind = .TagLine → m = true → mm D .TagLine c.μ t.line = true := by
          intro hk hmt; rw [← hk, ← hm, hmt]
        refine ⟨⟨(matchP_sure hr _ rfl).1, hl, (key_eq hl hn).trans hkey, fun hk hmt hnone => ?_⟩, hs1,
          fun hk hmt => ?_⟩
        · have := hmm hk hmt
          rw [hnone, mm_tagLine_none] at this
          cases this
        · rw [hμ', hk, matchTok_mu_stable D .TagLine rfl]
          exact hmm hk hmt
    · obtain ⟨m, u⟩ := x
      obtain ⟨m', u'⟩ := x'
      obtain ⟨hm, hu⟩ := hV
      dsimp only at hm hu ⊢
      subst hm
      refine RTE.assume fun hpure => ?_
      obtain ⟨hs, hl', hkey', hline⟩ := hpure
      cases m with
      | false =>
        simp only [Bool.false_eq_true, if_false]
        refine RTE.conseq (ih hgt' u u' hkey' (htr.step hu rfl hs)) (fun c hc => ?_) (fun _ _ h => h) (fun _ _ h => h)
        exact ⟨hc.1.1, hc.1.2.1, hc.1.2.2.1, Nat.le_trans (nG_cons_le b bs) hc.1.2.2.2⟩
      | true =>
        have huu : u = u' := by
          rcases hu with h | ⟨h, -⟩
          · exact h
          · cases h
        subst huu
        simp only [if_true]
        cases hguard : b.guard with
        | none =>
          dsimp only
          refine RTE.bind (V := Eq) (Q := fun ok c => ok = true ∧ S1 D T L j B bs.length (nG (b :: bs)) c)
            (RTE.pure true true rfl fun _ hc => ⟨rfl, hc.1⟩) fun ok ok' hok => RTE.assume fun hok' => ?_
          subst hok hok'
          simp only [if_true]
          exact RTE_finish u b.prods b.target (S1.fire hkey' _ _)
        | some i =>
          dsimp only
          obtain ⟨⟨hkind, htag⟩, hnext⟩ : (b.kind = .TagLine ∧ isTag T b.target = true) ∧ tagNext T bs = true := by
            rcases hhead with h | h
            · rw [hguard] at h; cases h
            · exact h
          have hj : j < L.length := by
            have h1 : t.line = L[j]? := congrArg Prod.fst hkey
            have h2 := hline hkind rfl
            rcases Nat.lt_or_ge j L.length with h | h
            · exact h
            · rw [h1, List.getElem?_eq_none_iff.2 h] at h2; exact absurd rfl h2
          cases hla : T.lookaheads[i]? with
          | none =>
            dsimp only
            exact RTE.throw_bind _ _ _ fun c hc => hc.1.eb
          | some la =>
            dsimp only
            refine RTE.bind (RTE_lookahead F hla (fun c hc => ⟨hc.1.1, hj⟩)
              (Triple.conseq (S1.lookahead F (g := nG bs) (l0 := t.line) hj hla)
                (fun c hc => ⟨by rw [← nG_cons_some hguard]; exact hc.1, hc.2 hkind trivial⟩) (fun _ _ h => h)
                fun _ _ h => h)) fun ok ok' hok => ?_
            subst hok
            cases ok with
            | true =>
              simp only [if_true]
              exact RTE_finish u b.prods b.target (S2.fire hkey' _ htag)
            | false =>
              simp only [Bool.false_eq_true, if_false]
              exact tb2 F j B row t.line hj bs hgt' hnext u hl' hkey'

/-- the matcher-call budget after `n` tokens read with the scanner after line `ln` -/
def budget (T : Table) (n ln : Nat) : Nat := maxTests T * n + maxGuards T * (maxLookaheadTests T * ln)

theorem budget_mono (T : Table) (n : Nat) {a b : Nat} (h : a ≤ b) : budget T n a ≤ budget T n b :=
  Nat.add_le_add_left (Nat.mul_le_mul_left _ (Nat.mul_le_mul_left _ h)) _

theorem budget_merge (T : Table) (j : Nat) {a x : Nat} (h : a ≤ x) :
    budget T j a + maxTests T + maxGuards T * (maxLookaheadTests T * (x - a)) = budget T (j + 1) x := by
  unfold budget
  have h1 : maxGuards T * (maxLookaheadTests T * x) =
      maxGuards T * (maxLookaheadTests T * a) + maxGuards T * (maxLookaheadTests T * (x - a)) := by
    rw [← Nat.mul_add, ← Nat.mul_add]
    congr 2
    omega
  rw [h1, Nat.mul_add, Nat.mul_one]
  omega

/-- what holds of the final context however the parse ends -/
def Fin (T : Table) (L : List Str) (c : Ctx) : Prop :=
  ∃ n, c.reads = List.range' 1 n ∧ n ≤ L.length + 1 ∧ c.lineNo ≤ L.length + 1 ∧ c.calls ≤ budget T n c.lineNo

/-- loop head, `k` tokens read -/
def Head (D : List Dialect) (T : Table) (L : List Str) (k s : Nat) (c : Ctx) : Prop :=
  QS D L k c ∧ k ≤ L.length ∧
  (c.queue ≠ [] → isTag T s = true ∧ AllButLast (skipM D (skipList T) c.μ) (c.queue.map (·.line))) ∧
  c.calls ≤ budget T k c.lineNo ∧ QI c

/-- the token `t` of line `j+1` has been read and recorded -/
def Mid (D : List Dialect) (T : Table) (L : List Str) (j : Nat) (t : Token) (s : Nat) (c : Ctx) : Prop :=
  QS D L (j + 1) c ∧ j ≤ L.length ∧
  (c.queue ≠ [] → isTag T s = true ∧ skipM D (skipList T) c.μ t.line = true ∧
    AllButLast (skipM D (skipList T) c.μ) (c.queue.map (·.line))) ∧
  c.calls ≤ budget T j c.lineNo ∧ QI c

/-- `match_token` done on the token of line `j+1` -/
def PostH (D : List Dialect) (T : Table) (L : List Str) (j s : Nat) (c : Ctx) : Prop :=
  QS D L (j + 1) c ∧
  (c.queue ≠ [] → isTag T s = true ∧ AllButLast (skipM D (skipList T) c.μ) (c.queue.map (·.line))) ∧
  c.calls ≤ budget T (j + 1) c.lineNo ∧ QI c

theorem Head.beta {k s : Nat} {c : Ctx} (h : Head D T L k s c) (β : BState) : Head D T L k s { c with β := β } := by
  obtain ⟨h1, h2, h3, h4⟩ := h
  exact ⟨⟨h1.reads, h1.queue, h1.lineNo, h1.lines, h1.mu, h1.builds, h1.bound⟩, h2, h3, h4⟩

theorem EB.fin {j B : Nat} {c : Ctx} (h : EB T L j B c) (hj : j ≤ L.length)
    (hB : B = budget T j (j + 1) + maxTests T) : Fin T L c := by
  obtain ⟨h1, h2, h3, h4⟩ := h
  refine ⟨j + 1, h1, by omega, h2, ?_⟩
  rw [← budget_merge T j h3, ← hB]
  exact h4

theorem mt (F : QF D T) (j s : Nat) (t t' : Token) (hkey : key t = srcAt L j)
    (htr : ∀ row, T.row? s = some row → TR row.branches t t') :
    RTE L (j + 1) (Mid D T L j t s) (matchToken D T stop s t) (matchTokenPure D T stop s t') Eq
      (PostH D T L j) (fun _ => Fin T L) := by
  refine RTE.of_forall fun c0 hc0 => ?_
  obtain ⟨hqs0, hj, htag0, hcalls0, hqi0⟩ := hc0
  rw [matchToken, matchTokenPure]
  cases hrow : T.row? s with
  | none =>
    refine RTE.throw _ fun c hc => ?_
    subst hc
    refine ⟨j + 1, hqs0.reads, by omega, hqs0.bound, Nat.le_trans hcalls0 ?_⟩
    unfold budget
    rw [Nat.mul_add, Nat.mul_one]
    omega
  | some row =>
    dsimp only
    obtain ⟨hgt, hlen, hng⟩ := F.rows s row hrow
    by_cases hq : c0.queue = []
    · have hl0 := hqs0.lineNo
      rw [hq] at hl0
      simp only [List.length_nil, Nat.add_zero] at hl0
      refine RTE.conseq (tb1 F j (budget T j (j + 1) + maxTests T) row row.branches hgt t t' hkey (htr row hrow))
        (fun c hc => ?_) (fun s' c hc => ?_) (fun _ c hc => hc.fin hj rfl)
      · subst hc
        exact ⟨hqs0, hq, by rw [hl0] at hcalls0; omega, hng⟩
      · obtain ⟨hqs, htag, hcalls, hqi⟩ := hc
        refine ⟨hqs, htag, ?_, hqi⟩
        have hl := hqs.lineNo
        have hsub : c.queue.length = c.lineNo - (j + 1) := by omega
        rw [hsub] at hcalls
        rw [← budget_merge T j (show j + 1 ≤ c.lineNo by omega)]
        exact hcalls
    · obtain ⟨hs, hskip, habl⟩ := htag0 hq
      obtain ⟨hbr, herr⟩ := F.tagRow s row hs hrow
      have hbud : ∀ c : Ctx, c.lineNo = c0.lineNo → c.calls ≤ c0.calls + row.branches.length →
          c.calls ≤ budget T (j + 1) c.lineNo := by
        intro c hl hcalls
        rw [hl]
        unfold budget at hcalls0 ⊢
        rw [Nat.mul_add, Nat.mul_one]
        omega
      have hline : ∀ c : Ctx, QS D L (j + 1) c → c.queue = c0.queue → c.lineNo = c0.lineNo := by
        intro c hqs hq'
        have h1 := hqs.lineNo; have h2 := hqs0.lineNo; rw [hq'] at h1; omega
      refine RTE.conseq
        (tb_tag F (j + 1) row herr c0.queue c0.μ hqs0.mu t.line hskip (c0.calls + row.branches.length)
          row.branches hbr t t' rfl ⟨j, hkey⟩ (htr row hrow))
        (fun c hc => ?_) (fun s' c hc => ?_) (fun _ c hc => ?_)
      · subst hc
        exact ⟨⟨hqs0, rfl, rfl, by omega⟩, Nat.le_add_left _ _⟩
      · obtain ⟨⟨hqs, hq', hμ', hcalls⟩, hs'⟩ := hc
        exact ⟨hqs, fun _ => ⟨hs', by rw [hq', hμ']; exact habl⟩, hbud c (hline c hqs hq') hcalls,
          fun x hx => hqi0 x (by rw [← hq']; exact hx)⟩
      · obtain ⟨hqs, hq', hμ', hcalls⟩ := hc
        exact ⟨j + 1, hqs.reads, by omega, hqs.bound, hbud c (hline c hqs hq') hcalls⟩

theorem allButLast_cons {P : Option Str → Bool} {a b : Option Str} {r : List (Option Str)}
    (h : AllButLast P (a :: b :: r)) : P a = true ∧ AllButLast P (b :: r) := by
  unfold AllButLast at *
  rw [List.dropLast_cons_cons] at h
  exact ⟨h a (List.mem_cons_self ..), fun x hx => h x (List.mem_cons_of_mem _ hx)⟩

theorem read_step (j s : Nat) :
    Triple (Head D T L j s) readToken
      (fun t c => (key t = srcAt L j ∧ TokInv t) ∧ Mid D T L j t s { c with reads := c.reads ++ [t.lineNo] })
      (fun _ => Fin T L) := by
  refine Triple.intro fun c r c' hc hr => ?_
  obtain ⟨hqs, hj, htag, hcalls, hqi⟩ := hc
  have hrange : List.range' 1 j ++ [j + 1] = List.range' 1 (j + 1) := by
    rw [List.range'_1_concat, Nat.add_comm 1 j]
  cases hq : c.queue with
  | nil =>
    rw [run_readToken_nil hq] at hr
    cases hr
    have hl := hqs.lineNo
    rw [hq] at hl
    simp only [List.length_nil, Nat.add_zero] at hl
    have hkey : key ({ line := c.lines.head?, lineNo := c.lineNo + 1 } : Token) = srcAt L j := by
      unfold key srcAt
      dsimp only
      rw [hqs.lines, List.head?_drop, hl]
    refine ⟨⟨hkey, .inl (colOK_fresh _ _)⟩, ⟨?_, ?_, ?_, ?_, hqs.mu, hqs.builds, ?_⟩, hj, fun hne => absurd hq hne, ?_,
      hqi⟩
    · dsimp only; rw [hqs.reads, hl, hrange]
    · dsimp only; rw [hq]; rfl
    · dsimp only; rw [hq, hl]; rfl
    · dsimp only; rw [hqs.lines, List.tail_drop]
    · dsimp only; omega
    · dsimp only
      exact Nat.le_trans hcalls (budget_mono T j (Nat.le_succ _))
  | cons t q =>
    rw [run_readToken_cons hq] at hr
    cases hr
    have hqq := hqs.queue
    rw [hq, List.map_cons, List.length_cons, List.range'_succ, List.map_cons, List.cons.injEq] at hqq
    obtain ⟨hkey, hrest⟩ := hqq
    have hl := hqs.lineNo
    rw [hq, List.length_cons] at hl
    have hn : t.lineNo = j + 1 := congrArg Prod.snd hkey
    refine ⟨⟨hkey, hqi t (by rw [hq]; exact List.mem_cons_self ..)⟩,
      ⟨?_, hrest, ?_, hqs.lines, hqs.mu, hqs.builds, hqs.bound⟩, hj, fun hne => ?_, hcalls,
      fun x hx => hqi x (by rw [hq]; exact List.mem_cons_of_mem _ hx)⟩
    · dsimp only; rw [hqs.reads, hn, hrange]
    · dsimp only; omega
    · dsimp only at hne ⊢
      obtain ⟨hs, habl⟩ := htag (by rw [hq]; exact List.cons_ne_nil _ _)
      rw [hq, List.map_cons] at habl
      cases q with
      | nil => exact absurd rfl hne
      | cons b q =>
        rw [List.map_cons] at habl
        obtain ⟨h1, h2⟩ := allButLast_cons habl
        exact ⟨hs, h1, by rw [List.map_cons]; exact h2⟩

theorem eof_iff {j : Nat} {t : Token} (hkey : key t = srcAt L j) : t.eof = true ↔ L.length ≤ j := by
  have hline : t.line = L[j]? := congrArg Prod.fst hkey
  rw [← List.getElem?_eq_none_iff, ← hline]
  cases h : t.line <;> simp [Token.eof, h]

/-- all tokens read: `|L| + 1` of them, the last being the end-of-file token -/
def Done (D : List Dialect) (T : Table) (L : List Str) (c : Ctx) : Prop :=
  QS D L (L.length + 1) c ∧ c.calls ≤ budget T (L.length + 1) c.lineNo

theorem Done.fin {c : Ctx} (h : Done D T L c) : Fin T L c :=
  ⟨L.length + 1, h.1.reads, Nat.le_refl _, h.1.bound, h.2⟩

theorem PostH.next {j s : Nat} {t : Token} {c : Ctx} (h : PostH D T L j s c) (hkey : key t = srcAt L j) :
    if t.eof then Done D T L c else Head D T L (j + 1) s c := by
  split
  · rename_i heof
    have hjl : j = L.length := by
      have h0 := (eof_iff hkey).1 heof
      have h1 := h.1.lineNo
      have h2 := h.1.bound
      omega
    unfold Done
    rw [← hjl]
    exact ⟨h.1, h.2.2.1⟩
  · rename_i heof
    exact ⟨h.1, Nat.lt_of_not_le fun hle => heof ((eof_iff hkey).2 hle), h.2.1, h.2.2⟩

theorem loop (F : QF D T) : ∀ (fuel j s : Nat),
    Triple (Head D T L j s) (parseLoop D T stop fuel s) (fun _ => Done D T L) (fun _ => Fin T L) := by
  intro fuel
  induction fuel with
  | zero =>
    intro j s
    refine Triple.throw _ fun c hc => ?_
    exact ⟨j, hc.1.reads, by have := hc.2.1; omega, hc.1.bound, hc.2.2.2.1⟩
  | succ fuel ih =>
    intro j s
    unfold parseLoop
    refine Triple.bind (read_step j s) fun t => Triple.assume fun hkey => ?_
    refine Triple.bind (Q := fun _ c => Mid D T L j t s c) (Triple.modify _ fun c hc => hc) fun _ => ?_
    -- the same token on both sides: `TR.refl` needs no fact about the table
    refine Triple.bind (mt F j s t t hkey.1 fun _ _ => TR.refl _ _).triple fun s' => ?_
    split
    · rename_i heof
      exact Triple.pure _ fun c hc => by have := hc.next hkey.1; rwa [if_pos heof] at this
    · rename_i heof
      exact Triple.conseq (ih (j + 1) s') (fun c hc => by have := hc.next hkey.1; rwa [if_neg heof] at this)
        (fun _ _ h => h) (fun _ _ h => h)

theorem body (F : QF D T) (n : Nat) :
    Triple (Head D T L 0 0) (parseBody D T stop n) (fun _ => Done D T L) (fun _ => Fin T L) := by
  unfold parseBody
  refine Triple.bind (Q := fun _ => Head D T L 0 0) (Triple.modify _ fun c hc => hc.beta _) fun _ => ?_
  refine Triple.bind (loop F _ 0 0) fun _ => ?_
  refine Triple.bind (Q := fun _ => Done D T L) (Triple.intro fun c r c' hc hr => ?_) fun _ => ?_
  · have hf := runProd_foot T.errorCap stop default (.end_ T.startRule) (by simp) c r c' hr
    obtain ⟨h, h2⟩ := hc
    have hd : Done D T L c' := by
      obtain ⟨_, _, _, rfl⟩ := hf
      exact ⟨⟨h.reads, h.queue, h.lineNo, h.lines, h.mu, h.builds, h.bound⟩, h2⟩
    cases r with
    | ok _ => exact hd
    | error e => exact hd.fin
  refine Triple.bind Triple.get fun c0 => ?_
  dsimp only
  split
  · exact Triple.throw_bind _ _ fun c hc => hc.2.fin
  · split
    · exact Triple.pure _ fun c hc => hc.2
    · exact Triple.throw _ fun c hc => hc.2.fin
    · exact Triple.throw _ fun c hc => hc.2.fin
    · exact Triple.throw _ fun c hc => hc.2.fin

end

theorem head_ctx0 (D : List Dialect) (T : Table) (μ : MState) (ids : Nat) (src : Str)
    (hμ : (μ.reset D).dialect ∈ D) : Head D T (splitLines src) 0 0 (ctx0 D μ ids src) :=
  ⟨⟨rfl, rfl, rfl, rfl, hμ, (fun t ht => by cases ht), Nat.zero_le _⟩, Nat.zero_le _, fun h => absurd rfl h,
    Nat.zero_le _, fun t ht => by cases ht⟩

theorem parse_fin (D : List Dialect) (T : Table) (F : QF D T) (stop : Bool) (μ : MState) (ids : Nat) (src : Str)
    (hμ : (μ.reset D).dialect ∈ D) :
    Fin T (splitLines src) (parseWith D T stop μ ids src).2 ∧
    ∀ d, (parseWith D T stop μ ids src).1 = .ok d → Done D T (splitLines src) (parseWith D T stop μ ids src).2 := by
  have hb := body (stop := stop) F (splitLines src).length (ctx0 D μ ids src) (head_ctx0 D T μ ids src hμ)
  rw [parseWith_snd, parseWith_eq]
  rcases hr : run (parseBody D T stop (splitLines src).length) (ctx0 D μ ids src) with ⟨r, c⟩
  cases r with
  | ok d => exact ⟨(hb.1 _ _ hr).fin, fun _ _ => hb.1 _ _ hr⟩
  | error e =>
    refine ⟨hb.2 _ _ hr, fun d hd => ?_⟩
    cases e <;> cases hd

theorem reads_in_order (D : List Dialect) (T : Table) (hD : queueDialectFacts D = true) (hT : queueFacts T = true)
    (stop : Bool) (μ : MState) (ids : Nat) (src : Str) (hμ : (μ.reset D).dialect ∈ D) :
    (parseWith D T stop μ ids src).2.reads = List.range' 1 (parseWith D T stop μ ids src).2.reads.length := by
  obtain ⟨n, hn, -⟩ := (parse_fin D T (QF.of_facts hD hT) stop μ ids src hμ).1
  rw [hn, List.length_range']

theorem calls_linear (D : List Dialect) (T : Table) (hD : queueDialectFacts D = true) (hT : queueFacts T = true)
    (stop : Bool) (μ : MState) (ids : Nat) (src : Str) (hμ : (μ.reset D).dialect ∈ D) :
    (parseWith D T stop μ ids src).2.calls ≤ workPerToken T * ((splitLines src).length + 1) := by
  obtain ⟨n, -, hn, hl, hc⟩ := (parse_fin D T (QF.of_facts hD hT) stop μ ids src hμ).1
  refine Nat.le_trans hc ?_
  unfold budget workPerToken
  rw [Nat.add_mul, Nat.mul_assoc]
  exact Nat.add_le_add (Nat.mul_le_mul_left _ hn) (Nat.mul_le_mul_left _ (Nat.mul_le_mul_left _ hl))

theorem map_getElem?_range (L : List Str) :
    (List.range' 1 (L.length + 1)).map (fun n => L[n - 1]?) = L.map some ++ [none] := by
  apply List.ext_getElem (by simp)
  intro i h1 h2
  simp only [List.getElem_map, List.getElem_range', Nat.one_mul, Nat.add_sub_cancel_left]
  by_cases hi : i < L.length
  · rw [List.getElem_append_left (by simpa using hi), List.getElem_map, List.getElem?_eq_getElem hi]
  · have hlen : i = L.length := by simp at h1; omega
    subst hlen
    rw [List.getElem_append_right (by simp)]
    simp

theorem accepted_sequence (D : List Dialect) (T : Table) (hD : queueDialectFacts D = true)
    (hT : queueFacts T = true) (hB : oneBuildLast T = true)
    (stop : Bool) (μ : MState) (ids : Nat) (src : Str) (hμ : (μ.reset D).dialect ∈ D) (d : Doc)
    (h : (parseWith D T stop μ ids src).1 = .ok d) :
    (parseWith D T stop μ ids src).2.builds.map (·.lineNo) = List.range' 1 ((splitLines src).length + 1) ∧
    (parseWith D T stop μ ids src).2.builds.map (·.line) = (splitLines src).map some ++ [none] := by
  obtain ⟨hqs, -⟩ := (parse_fin D T (QF.of_facts hD hT) stop μ ids src hμ).2 d h
  obtain ⟨hbr, -⟩ := accepted_builds_eq_reads D T hB stop μ ids src d h
  have hno : (parseWith D T stop μ ids src).2.builds.map (·.lineNo) = List.range' 1 ((splitLines src).length + 1) := by
    rw [hbr, hqs.reads]
  refine ⟨hno, ?_⟩
  have hline : (parseWith D T stop μ ids src).2.builds.map (·.line) =
      ((parseWith D T stop μ ids src).2.builds.map (·.lineNo)).map (fun n => (splitLines src)[n - 1]?) := by
    rw [List.map_map]
    apply List.map_congr_left
    intro t ht
    obtain ⟨i, hi⟩ := hqs.builds t ht
    have h1 : t.line = (splitLines src)[i]? := congrArg Prod.fst hi
    have h2 : t.lineNo = i + 1 := congrArg Prod.snd hi
    simp only [Function.comp_apply, h1, h2, Nat.add_sub_cancel]
  rw [hline, hno, map_getElem?_range]

/-! ### the dialect hypothesis holds for every matcher state a constructor call or a parse made -/

theorem reset_dialect_mem (D : List Dialect) (μ : MState) (h : μ.dialect ∈ D) : (μ.reset D).dialect ∈ D := by
  unfold MState.reset
  dsimp only
  split
  · split
    · rename_i d hd
      exact List.mem_of_find?_eq_some hd
    · exact h
  · exact h

theorem init_dialect_mem (D : List Dialect) (name : Str) (μ : MState) (h : MState.init D name = some μ) :
    μ.dialect ∈ D := by
  unfold MState.init at h
  cases hd : findDialect D name with
  | none => rw [hd] at h; cases h
  | some d =>
    rw [hd] at h
    cases h
    exact List.mem_of_find?_eq_some hd

end Lemmas
end GV
