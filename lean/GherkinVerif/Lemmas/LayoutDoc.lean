/-
  Lemmas/LayoutDoc.lean — property C16 lifted from single lines to the whole parse: lines and
  tokens that differ in their carriage-return / line-feed tail only.

  `LineRel` relates two physical lines with the same content followed by (possibly different) runs
  of CR/LF, `TokRel` two tokens carrying such lines.  One matcher call on related tokens gives the
  same verdict, the same matcher state and related tokens (`matchTok_tokRel`).  `CtxRel` is what two
  runs of the parser glue (`Model/Parser.lean`, the version with the look-ahead queue) on such
  texts keep: unread lines and queued tokens related pairwise, builder states related by `BSame`
  (Lemmas/LayoutBuilder.lean), tokens handed to the builder related by `TokSame`, everything else
  — error list, matcher state, id counter, number of matcher calls, ghost fields — EQUAL.  The
  lock-step simulation is in Lemmas/LayoutDoc2.lean, for a weaker relation between lines; the
  whole-parse theorem for `LineRel` is its case without modified lines (`parseWith_sim` there).
-/
import GherkinVerif.Lemmas.LayoutBuilder
import GherkinVerif.Lemmas.GlueBase
namespace GV
namespace Lemmas

/-- `run` of Lemmas/GlueRun.lean under the name that `SimS`, `SimU` (Lemmas/LayoutDoc2.lean) and
    `C16_blank_line_parse_step_partial` are stated with -/
def lrun {α} (m : PM α) (c : Ctx) : Except Abort α × Ctx := m.run.run c

theorem lrun_eq {α} (m : PM α) (c : Ctx) : lrun m c = run m c := rfl
theorem lrun_pure {α} (a : α) (c : Ctx) : lrun (pure a : PM α) c = (.ok a, c) := rfl
theorem lrun_get (c : Ctx) : lrun (get : PM Ctx) c = (.ok c, c) := rfl
theorem lrun_set (c' c : Ctx) : lrun (set c' : PM PUnit) c = (.ok ⟨⟩, c') := rfl
theorem lrun_modify (f : Ctx → Ctx) (c : Ctx) : lrun (modify f : PM PUnit) c = (.ok ⟨⟩, f c) := rfl
theorem lrun_throw {α} (e : Abort) (c : Ctx) : lrun (throw e : PM α) c = (.error e, c) := rfl

def LineRel (l1 l2 : Str) : Prop := ∃ s w1 w2, l1 = s ++ w1 ∧ l2 = s ++ w2 ∧ AllEol w1 ∧ AllEol w2

theorem LineRel.refl (l : Str) : LineRel l l := ⟨l, [], [], by simp, by simp, allEol_nil, allEol_nil⟩

def OLineRel : Option Str → Option Str → Prop
  | none, none => True
  | some l1, some l2 => LineRel l1 l2
  | _, _ => False

theorem OLineRel.cases {o1 o2 : Option Str} (h : OLineRel o1 o2) :
    (o1 = none ∧ o2 = none) ∨ ∃ l1 l2, o1 = some l1 ∧ o2 = some l2 ∧ LineRel l1 l2 := by
  cases o1 <;> cases o2
  · exact .inl ⟨rfl, rfl⟩
  · exact h.elim
  · exact h.elim
  · exact .inr ⟨_, _, rfl, rfl, h⟩

def TokRel (t1 t2 : Token) : Prop := TokSame t1 t2 ∧ OLineRel t1.line t2.line

theorem tok_eq_withLine {t1 t2 : Token} {l : Str} (h : TokSame t1 t2) (hl : t2.line = some l) :
    t2 = withLine t1 l := by
  obtain ⟨a0, a1, a2, a3, a4, a5, a6, a7, a8, a9⟩ := t1
  obtain ⟨b0, b1, b2, b3, b4, b5, b6, b7, b8, b9⟩ := t2
  obtain ⟨h1, h2, h3, h4, h5, h6, h7, h8, h9⟩ := h
  simp only at h1 h2 h3 h4 h5 h6 h7 h8 h9 hl
  subst h1 h2 h3 h4 h5 h6 h7 h8 h9 hl
  rfl

def Blank (t : Token) : Prop := ∃ l, t.line = some l ∧ lstrip l = []

/-- the state of the matcher the per-line theorems need -/
def Sane (D : List Dialect) (μ : MState) : Prop := SepOk μ ∧ μ.dialect ∈ D

theorem matchTok_eof_same (D : List Dialect) (k : Kind) (μ : MState) {t1 t2 : Token} (hs : TokSame t1 t2)
    (h1 : t1.line = none) (h2 : t2.line = none) :
    (matchTok D k μ t1).2 = (matchTok D k μ t2).2 ∧ (matchTok D k μ t1).1.res = (matchTok D k μ t2).1.res ∧
    (matchTok D k μ t1).1.μ = μ ∧ (matchTok D k μ t2).1.μ = μ ∧
    TokSame (matchTok D k μ t1).1.tok (matchTok D k μ t2).1.tok := by
  rw [matchTok_of_eof h1, matchTok_of_eof h2]
  split
  · refine ⟨rfl, rfl, rfl, rfl, ?_⟩
    obtain ⟨g1, -⟩ := hs
    simp only [TokSame, setMatched, h1, h2, g1, and_self]
  · exact ⟨rfl, rfl, rfl, rfl, hs⟩

theorem matchTok_tokRel {D : List Dialect} (hD : Spec.stepKeywordsOk D = true) (k : Kind) {μ : MState}
    (hμ : Sane D μ) {t1 t2 : Token} (ht : TokRel t1 t2) :
    (matchTok D k μ t1).2 = (matchTok D k μ t2).2 ∧
    (matchTok D k μ t1).1.res = (matchTok D k μ t2).1.res ∧
    (matchTok D k μ t1).1.μ = (matchTok D k μ t2).1.μ ∧
    TokRel (matchTok D k μ t1).1.tok (matchTok D k μ t2).1.tok ∧
    Sane D (matchTok D k μ t1).1.μ := by
  obtain ⟨hs, hl⟩ := ht
  have hline : OLineRel (matchTok D k μ t1).1.tok.line (matchTok D k μ t2).1.tok.line := by
    rw [(matchTok_tok D k μ t1).1, (matchTok_tok D k μ t2).1]; exact hl
  rcases hl.cases with ⟨h1, h2⟩ | ⟨l1, l2, h1, h2, s, w1, w2, rfl, rfl, hw1, hw2⟩
  · obtain ⟨a, b, c1, c2, d⟩ := matchTok_eof_same D k μ hs h1 h2
    exact ⟨a, b, c1.trans c2.symm, ⟨d, hline⟩, c1.symm ▸ hμ⟩
  · rw [matchTok_line h1, matchTok_line h2] at hline ⊢
    have key := sameMatch_eol2 D k μ t1 s w1 w2 hw1 hw2 (stepKwOk_of_mem hD hμ.2) hμ.1
    rw [← tok_eq_withLine (TokSame.refl t1) h1, ← tok_eq_withLine hs h2] at key
    exact ⟨rfl, key.1, key.2.1, ⟨key.2.2, hline⟩, sane_matchLine D k μ t1 _ hμ⟩

theorem matchTok_blank (D : List Dialect) {k : Kind} (hk : k = .Empty ∨ k = .Other) (μ : MState) {t : Token}
    (hb : Blank t) : (matchTok D k μ t).1.res = .matched := by
  obtain ⟨l, hl, hs⟩ := hb
  rw [matchTok_line hl]
  rcases hk with rfl | rfl
  · rw [matchLine_blank_empty D μ t hs]
  · rfl

structure CtxRel (D : List Dialect) (c1 c2 : Ctx) : Prop where
  lines : All2 LineRel c1.lines c2.lines
  lineNo : c1.lineNo = c2.lineNo
  queue : All2 TokRel c1.queue c2.queue
  errors : c1.errors = c2.errors
  μ : c1.μ = c2.μ
  β : BSame c1.β c2.β
  ids : c1.ids = c2.ids
  calls : c1.calls = c2.calls
  builds : All2 TokSame c1.builds c2.builds
  reads : c1.reads = c2.reads
  unexpected : c1.unexpected = c2.unexpected
  sane : Sane D c1.μ

theorem lines_toCRLF (src : Str) : All2 LineRel (splitLines (toCRLF src)) (splitLines src) := by
  rw [splitLines_toCRLF]
  have key : ∀ ls : List Str, (∀ l ∈ ls, LineRel (toCRLF l) l) → All2 LineRel (ls.map toCRLF) ls := by
    intro ls
    induction ls with
    | nil => intro _; exact .nil
    | cons l ls ih =>
      intro h
      exact .cons (h l (List.mem_cons_self ..)) (ih fun l' hl' => h l' (List.mem_cons_of_mem _ hl'))
  refine key _ fun l hl => ?_
  obtain ⟨b, hb, h | h⟩ := splitLines_line_shape hl
  · subst h
    rw [toCRLF_line hb]
    exact ⟨b, [13, 10], [10], rfl, rfl, allEol_crlf, allEol_lf⟩
  · subst h
    rw [toCRLF_noLF hb]
    exact LineRel.refl _

theorem lines_append_lf {src : Str} (hne : src ≠ []) (hlast : src.getLast? ≠ some 10) :
    All2 LineRel (splitLines (src ++ [10])) (splitLines src) := by
  obtain ⟨init, last, e1, e2⟩ := splitLines_append_lf hne hlast
  rw [e1, e2]
  exact (All2.refl LineRel.refl init).append
    (.cons ⟨last, [10], [], rfl, by simp, allEol_lf, allEol_nil⟩ .nil)

end Lemmas
end GV
