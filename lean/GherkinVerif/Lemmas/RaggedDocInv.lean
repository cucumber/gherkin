/-
  Lemmas/RaggedDocInv.lean — the run invariant behind the document-level ragged-table theorems.

  Abstract interpretation of the builder stack: a state of the parser table is assigned the list
  of rule types of the open nodes (`Spec.RState` = that list plus a flag "a table node has been
  closed since the last built token that is not a row / comment / blank").  `Spec.rProd`
  executes one production on it and refuses what would break the link between a table node and
  the group of row tokens in `builds`: starting a node on top of a table node, building anything
  but rows / comments / blanks into a table node, building a row into a node that is not a table
  node, starting a table node or building a row while a closed table's group is still open.

  `RInvG` is the concrete invariant: the rule types of the stack are the abstract ones; the row
  tokens of a table node on top are exactly `Spec.openRun builds`; with no table on top and no
  pending group `openRun builds = []`; every recorded error is either a ragged-table error at the
  first deviating token of a closed (or pending) group of `builds`, or an error of another sort;
  conversely every closed (or pending) group with a first deviating token has its error recorded
  (up to `add_error`'s de-duplication by message); stop mode records nothing; every built row
  token carries the cells and column of its own physical line.
  `runProd_r`: one production keeps the invariant (`rProd`), aborts satisfy `RAb`.
-/
import GherkinVerif.Lemmas.RaggedDocBase
import GherkinVerif.Lemmas.PureInv
import GherkinVerif.Lemmas.TextParse
namespace GV
namespace Spec

/-- rule types of the open nodes, innermost first; pending flag -/
abbrev RState := List RuleType × Bool

def rProd (k : Kind) (s : RState) (p : Prod) : Option RState :=
  match p with
  | .start r => if topTable s.1 || (isTableRt r && s.2) then none else some (r :: s.1, s.2)
  | .end_ _ =>
    match s.1 with
    | r :: r' :: rest => if isTableRt r' then none else some (r' :: rest, s.2 || isTableRt r)
    | _ => none
  | .build =>
    if k == .TableRow then (if topTable s.1 && !s.2 then some s else none)
    else if k == .Comment || k == .Empty then some s
    else if topTable s.1 then none else some (s.1, false)

def rProds (k : Kind) : RState → List Prod → Option RState
  | s, [] => some s
  | s, p :: ps => (rProd k s p).bind fun s' => rProds k s' ps

def RowTok (t : Token) : Prop :=
  t.mtype = some .TableRow → ∃ l, t.line = some l ∧ t.items = tableCells l ∧ t.col = some (lineIndent l + 1)

end Spec

namespace Lemmas
open Spec

theorem runs_snoc_row {bs : List Token} {t : Token} (h : t.mtype = some .TableRow) :
    closedRuns (bs ++ [t]) = closedRuns bs ∧ openRun (bs ++ [t]) = openRun bs ++ [t] := by
  unfold closedRuns openRun
  rw [runState_snoc]
  simp [runStep, isRowTok, h]

theorem runs_snoc_skip {bs : List Token} {t : Token} (h : t.mtype = some .Comment ∨ t.mtype = some .Empty) :
    closedRuns (bs ++ [t]) = closedRuns bs ∧ openRun (bs ++ [t]) = openRun bs := by
  unfold closedRuns openRun
  rw [runState_snoc]
  rcases h with h | h <;> simp [runStep, isRowTok, isSkipTok, h]

theorem runs_snoc_other {bs : List Token} {t : Token} {k : Kind} (h : t.mtype = some k)
    (h1 : k ≠ .TableRow) (h2 : k ≠ .Comment) (h3 : k ≠ .Empty) :
    closedRuns (bs ++ [t]) = closedRuns bs ++ flushRun (openRun bs) ∧ openRun (bs ++ [t]) = [] := by
  unfold closedRuns openRun
  rw [runState_snoc]
  simp [runStep, isRowTok, isSkipTok, h, h1, h2, h3]

/-- a group that can no longer grow: closed, or (pending) the open group after its table node
    has been closed -/
def Live (p : Bool) (bs : List Token) (run : List Token) : Prop :=
  run ∈ closedRuns bs ∨ (p = true ∧ run = openRun bs ∧ run ≠ [])

theorem Live.mono {p : Bool} {bs : List Token} {run : List Token} (h : Live false bs run) : Live p bs run := by
  rcases h with h | ⟨h, -⟩
  · exact .inl h
  · cases h

theorem Live.mem {p : Bool} {bs : List Token} {run : List Token} (h : Live p bs run) : run ∈ tableRuns bs := by
  rw [mem_tableRuns]
  rcases h with h | ⟨-, h1, h2⟩
  · exact .inl h
  · exact .inr ⟨h1, h1 ▸ h2⟩

def ErrOK (p : Bool) (bs : List Token) (e : PErr) : Prop :=
  (∃ run t, Live p bs run ∧ firstDeviating run = some t ∧ e = raggedErrAt t) ∨ badE e

structure RInvG (extra : List PErr) (stop : Bool) (s : RState) (c : Ctx) : Prop where
  rts : c.β.stack.map (·.rt) = s.1
  top : topTable s.1 = true → s.2 = false ∧ topRows c.β.stack = openRun c.builds
  idle : topTable s.1 = false → s.2 = false → openRun c.builds = []
  err : ∀ e ∈ c.errors, ErrOK s.2 c.builds e
  comp : ∀ run, Live s.2 c.builds run → ∀ t, firstDeviating run = some t →
    ∃ e ∈ c.errors ++ extra, e.message = (raggedErrAt t).message
  stopE : stop = true → c.errors = []
  rows : ∀ t ∈ c.builds, RowTok t

abbrev RInv := RInvG []

/-- what holds of the final context whatever happened -/
structure RFin (c : Ctx) : Prop where
  err : ∀ e ∈ c.errors, (∃ run t, run ∈ tableRuns c.builds ∧ firstDeviating run = some t ∧ e = raggedErrAt t) ∨ badE e
  comp : ∀ run ∈ closedRuns c.builds, ∀ t, firstDeviating run = some t →
    ∃ e ∈ c.errors, e.message = (raggedErrAt t).message
  rows : ∀ t ∈ c.builds, RowTok t

def FinAll (c : Ctx) : Prop :=
  ∀ run ∈ tableRuns c.builds, ∀ t, firstDeviating run = some t → ∃ e ∈ c.errors, e.message = (raggedErrAt t).message

def RAb (cap : Nat) (a : Abort) (c : Ctx) : Prop :=
  match a with
  | .single e => c.errors = [] ∧ RFin c ∧
      ((∃ run t, run ∈ tableRuns c.builds ∧ firstDeviating run = some t ∧ e = raggedErrAt t) ∨ badE e)
  | .composite es => es = c.errors ∧ RFin c ∧ (es.length ≤ cap → FinAll c)
  | .crash _ => True
  | .fuel => True

theorem ErrOK.fin {p : Bool} {bs : List Token} {e : PErr} (h : ErrOK p bs e) :
    (∃ run t, run ∈ tableRuns bs ∧ firstDeviating run = some t ∧ e = raggedErrAt t) ∨ badE e := by
  rcases h with ⟨run, t, h1, h2, h3⟩ | h
  · exact .inl ⟨run, t, h1.mem, h2, h3⟩
  · exact .inr h

theorem RInvG.congr {x : List PErr} {stop : Bool} {s : RState} {c c' : Ctx} (h : RInvG x stop s c)
    (hβ : c'.β = c.β) (hb : c'.builds = c.builds) (he : c'.errors = c.errors) : RInvG x stop s c' :=
  ⟨by rw [hβ]; exact h.rts, by rw [hβ, hb]; exact h.top, by rw [hb]; exact h.idle,
   by rw [he, hb]; exact h.err, by rw [he, hb]; exact h.comp, by rw [he]; exact h.stopE, by rw [hb]; exact h.rows⟩

theorem RInvG.weaken {x : List PErr} {stop : Bool} {s : RState} {c : Ctx} (h : RInvG [] stop s c) : RInvG x stop s c :=
  ⟨h.rts, h.top, h.idle, h.err, fun run hr t ht => (by
      obtain ⟨e, he, hm⟩ := h.comp run hr t ht
      exact ⟨e, List.mem_append_left _ (by simpa using he), hm⟩), h.stopE, h.rows⟩

/-- the part of `RFin` that does not need the completeness clause for a pending group -/
theorem fin_of {s : RState} {c : Ctx}
    (herr : ∀ e ∈ c.errors, ErrOK s.2 c.builds e)
    (hcomp : ∀ run ∈ closedRuns c.builds, ∀ t, firstDeviating run = some t →
      ∃ e ∈ c.errors, e.message = (raggedErrAt t).message)
    (hrows : ∀ t ∈ c.builds, RowTok t) : RFin c :=
  ⟨fun e he => (herr e he).fin, hcomp, hrows⟩

theorem RInvG.fin {stop : Bool} {s : RState} {c : Ctx} (h : RInvG [] stop s c) : RFin c :=
  ⟨fun e he => (h.err e he).fin,
   fun run hr t ht => by
     obtain ⟨e, he, hm⟩ := h.comp run (.inl hr) t ht
     exact ⟨e, by simpa using he, hm⟩,
   h.rows⟩

theorem RInvG.finAll {stop : Bool} {s : RState} {c : Ctx} (h : RInvG [] stop s c) (ht : topTable s.1 = false) :
    FinAll c := by
  intro run hr t hd
  have hl : Live s.2 c.builds run := by
    rcases mem_tableRuns.1 hr with hr | ⟨h1, h2⟩
    · exact .inl hr
    · cases hp : s.2 with
      | true => exact .inr ⟨rfl, h1, h1 ▸ h2⟩
      | false => exact absurd (h.idle ht hp) h2
  obtain ⟨e, he, hm⟩ := h.comp run hl t hd
  exact ⟨e, by simpa using he, hm⟩

/-- `e` may be reported: the invariant holds up to the record of `e`, and `e` is accounted for -/
def MayReport (stop : Bool) (s : RState) (e : PErr) (c : Ctx) : Prop :=
  RInvG [e] stop s c ∧ ErrOK s.2 c.builds e ∧ RFin c

theorem RInvG.bad {stop : Bool} {s : RState} {c c' : Ctx} (hc : RInv stop s c) {e : PErr} (he : badE e)
    (hβ : c'.β = c.β) (hb : c'.builds = c.builds) (hes : c'.errors = c.errors) : MayReport stop s e c' :=
  have hc' := hc.congr hβ hb hes
  ⟨hc'.weaken, .inr he, hc'.fin⟩

theorem report_r (cap : Nat) (stop : Bool) (s : RState) : Report cap stop (MayReport stop s) (RInv stop s) (RAb cap) where
  single := fun hs _ _ h => ⟨h.1.stopE hs, h.2.2, h.2.1.fin⟩
  add := fun hs e => by
    have hadd : ∀ c, MayReport stop s e c → RInvG [] stop s { c with errors := c.errors ++ [e] } :=
      fun c ⟨hc, he, _⟩ =>
        { rts := hc.rts, top := hc.top, idle := hc.idle, rows := hc.rows
          err := fun e' he' => (List.mem_append.1 he').elim (hc.err e') fun h => List.mem_singleton.1 h ▸ he
          comp := fun run hr t ht => by
            obtain ⟨e', he', hm⟩ := hc.comp run hr t ht
            exact ⟨e', by simpa using he', hm⟩
          stopE := fun h' => by rw [hs] at h'; cases h' }
    refine addError_rule e (fun c h hany => ?_) hadd fun c h hlen =>
      ⟨rfl, (hadd c h).fin, fun hle => by rw [List.length_append] at hle; exact absurd hle (Nat.not_le.2 hlen)⟩
    -- an error with the same message is on record already
    obtain ⟨e0, he0, hm0⟩ := hany
    refine { h.1 with comp := fun run hr t ht => ?_ }
    obtain ⟨e', he', hm⟩ := h.1.comp run hr t ht
    rcases List.mem_append.1 he' with he' | he'
    · exact ⟨e', List.mem_append_left _ he', hm⟩
    · rw [List.mem_singleton] at he'; subst he'
      exact ⟨e0, List.mem_append_left _ he0, hm0.trans hm⟩

/-- `build`: what the invariant says of the errors, of completeness and of the built rows only
    needs the groups that can no longer grow to be the same -/
theorem RInvG.build {x : List PErr} {stop : Bool} {a : List RuleType} {p p' : Bool} {c : Ctx} {β' : BState}
    {t : Token} (hc : RInvG x stop (a, p) c) (hrts : β'.stack.map (·.rt) = c.β.stack.map (·.rt)) (hrow : RowTok t)
    (hlive : ∀ run, Live p' (c.builds ++ [t]) run ↔ Live p c.builds run)
    (htop : topTable a = true → p' = false ∧ topRows β'.stack = openRun (c.builds ++ [t]))
    (hidle : topTable a = false → p' = false → openRun (c.builds ++ [t]) = []) :
    RInvG x stop (a, p') { c with β := β', builds := c.builds ++ [t] } :=
  ⟨hrts.trans hc.rts, htop, hidle,
   fun e he => (hc.err e he).imp (fun ⟨run, t', h1, h2, h3⟩ => ⟨run, t', (hlive run).2 h1, h2, h3⟩) id,
   fun run hrun => hc.comp run ((hlive run).1 hrun), hc.stopE,
   fun t' ht' => (List.mem_append.1 ht').elim (hc.rows t') fun h => List.mem_singleton.1 h ▸ hrow⟩

theorem runProd_r {p : Prod} (cap : Nat) (stop : Bool) (k : Kind) (t : Token) (hk : p = .build → t.mtype = some k) (hrow : RowTok t)
    (s s' : RState) (hx : rProd k s p = some s') :
    Triple (RInv stop s) (runProd cap stop t p) (fun _ => RInv stop s') (RAb cap) := by
  refine runProd_rule (report_r cap stop s') t p fun c hc => ?_
  obtain ⟨a, pd⟩ := s
  cases p with
  | start rr =>
    simp only [rProd] at hx
    split at hx
    · cases hx
    · rename_i hcond
      cases hx
      simp only [Bool.or_eq_true, Bool.and_eq_true, not_or, not_and, Bool.not_eq_true] at hcond
      obtain ⟨htop, hpend⟩ := hcond
      show RInv stop (rr :: a, pd) _
      refine ⟨?_, ?_, ?_, hc.err, hc.comp, hc.stopE, hc.rows⟩
      · show (c.β.startRule rr).stack.map (·.rt) = rr :: a
        simp only [BState.startRule, List.map_cons]
        rw [hc.rts]
      · intro hrr
        have hrr' : isTableRt rr = true := hrr
        have hpd : pd = false := hpend hrr'
        exact ⟨hpd, (hc.idle htop hpd).symm⟩
      · intro _ hpd
        exact hc.idle htop hpd
  | build =>
    have hk := hk rfl
    dsimp only
    cases hb : c.β.build t with
    | error e => exact fun _ => trivial
    | ok β' =>
      dsimp only
      obtain ⟨hrts, htoks⟩ := build_cases _ _ _ _ hk hb
      simp only [rProd] at hx
      by_cases hk1 : k = .TableRow
      · subst hk1
        simp only [beq_self_eq_true, if_true] at hx
        split at hx
        · rename_i hcond
          cases hx
          simp only [Bool.and_eq_true, Bool.not_eq_true'] at hcond
          obtain ⟨htop, hpd⟩ := hcond
          try dsimp only at hpd
          subst hpd
          obtain ⟨hcl, hop⟩ := runs_snoc_row (bs := c.builds) hk
          exact hc.build hrts hrow (fun run => by unfold Live; rw [hcl]; simp)
            (fun _ => ⟨rfl, by rw [htoks, if_pos rfl, (hc.top htop).2, hop]⟩)
            fun h => by rw [htop] at h; cases h
        · cases hx
      · have hk1' : (k == Kind.TableRow) = false := by simpa using hk1
        simp only [hk1', Bool.false_eq_true, if_false] at hx
        by_cases hk2 : k = .Comment ∨ k = .Empty
        · have hk2' : (k == Kind.Comment || k == Kind.Empty) = true := by
            rcases hk2 with rfl | rfl <;> rfl
          simp only [hk2', if_true] at hx
          cases hx
          obtain ⟨hcl, hop⟩ := runs_snoc_skip (bs := c.builds) (hk2.imp (· ▸ hk) (· ▸ hk))
          exact hc.build hrts hrow (fun run => by unfold Live; rw [hcl, hop])
            (fun htop => ⟨(hc.top htop).1, by rw [htoks, if_neg hk1, (hc.top htop).2, hop]⟩)
            fun h1 h2 => by rw [hop]; exact hc.idle h1 h2
        · have hk2' : (k == Kind.Comment || k == Kind.Empty) = false := by
            simp only [not_or] at hk2
            simp [hk2.1, hk2.2]
          simp only [hk2', Bool.false_eq_true, if_false] at hx
          split at hx
          · cases hx
          · rename_i htop
            cases hx
            have htop : topTable a = false := by simpa using htop
            simp only [not_or] at hk2
            obtain ⟨hcl, hop⟩ := runs_snoc_other (bs := c.builds) hk hk1 hk2.1 hk2.2
            refine hc.build hrts hrow (fun run => ?_) (fun h => by rw [htop] at h; cases h) fun _ _ => hop
            -- the open group is closed by this token: it was pending, or it is empty
            unfold Live
            rw [hcl, List.mem_append, mem_flushRun]
            constructor
            · rintro (h | ⟨h, -⟩)
              · rcases h with h | ⟨h1, h2⟩
                · exact .inl h
                · cases hp : pd with
                  | true => exact .inr ⟨rfl, h1, h1 ▸ h2⟩
                  | false => exact absurd (hc.idle htop hp) h2
              · cases h
            · rintro (h | ⟨-, h1, h2⟩)
              · exact .inl (.inl h)
              · exact .inl (.inr ⟨h1, h1 ▸ h2⟩)
  | end_ rr =>
    simp only [rProd] at hx
    split at hx
    · rename_i _ r0 r1 arest
      split at hx
      · cases hx
      · rename_i hr1
        cases hx
        have hr1 : isTableRt r1 = false := by simpa using hr1
        obtain ⟨hE1, hE2, hE3⟩ := endRule_cases c.β c.ids
        rw [hc.rts] at hE1 hE2 hE3
        -- the context after the pop, before the error is recorded
        have hbase : ∀ x, (∀ t', isTableRt r0 = true → firstDeviating (openRun c.builds) = some t' →
              ∃ e ∈ c.errors ++ x, e.message = (raggedErrAt t').message) →
            RInvG x stop (r1 :: arest, pd || isTableRt r0)
              { c with β := (c.β.endRule c.ids).2.1, ids := (c.β.endRule c.ids).2.2 } := by
          intro x hnew
          refine ⟨hE1, fun h => ?_, fun _ hp => ?_, ?_, ?_, hc.stopE, hc.rows⟩
          · have h : isTableRt r1 = true := h
            rw [hr1] at h; cases h
          · simp only [Bool.or_eq_false_iff] at hp
            have : topTable (r0 :: r1 :: arest) = false := hp.2
            exact hc.idle this hp.1
          · intro e he
            rcases hc.err e he with ⟨run, t', h1, h2, h3⟩ | hbad
            · refine .inl ⟨run, t', ?_, h2, h3⟩
              rcases h1 with h1 | ⟨h1, h1', h1''⟩
              · exact .inl h1
              · exact .inr ⟨by dsimp only at h1 ⊢; rw [h1]; rfl, h1', h1''⟩
            · exact .inr hbad
          · intro run hrun t' ht'
            rcases hrun with hrun | ⟨hp, h1, h2⟩
            · obtain ⟨e, he, hm⟩ := hc.comp run (.inl hrun) t' ht'
              exact ⟨e, List.mem_append_left _ (by simpa using he), hm⟩
            · cases hpd : pd with
              | true =>
                obtain ⟨e, he, hm⟩ := hc.comp run (.inr ⟨hpd, h1, h2⟩) t' ht'
                exact ⟨e, List.mem_append_left _ (by simpa using he), hm⟩
              | false =>
                dsimp only at hp
                rw [hpd, Bool.false_or] at hp
                subst h1
                exact hnew t' hp ht'
        dsimp only
        cases hres : (c.β.endRule c.ids).1 with
        | ok u =>
          refine hbase [] fun t' htab hd => ?_
          have := hE3 htab t' (by rw [(hc.top htab).2]; exact hd)
          rw [hres] at this
          cases this
        | error be =>
          cases be with
          | crash w => trivial
          | ast e =>
            obtain ⟨htab, t0, hd0, he0⟩ := hE2 e hres
            have htab : isTableRt r0 = true := htab
            have htop : topTable (r0 :: r1 :: arest) = true := htab
            obtain ⟨hpd, htk⟩ := hc.top htop
            rw [htk] at hd0
            have hpre := hbase [e] fun t' _ hd => by
              rw [hd0] at hd
              cases hd
              exact ⟨e, by simp, by rw [he0]⟩
            refine ⟨hpre, .inl ⟨_, t0, .inr ⟨by rw [htab]; simp, rfl, firstDeviating_ne_nil hd0⟩, hd0, he0⟩, ?_⟩
            exact fin_of (s := (r1 :: arest, pd || isTableRt r0))
              (fun e' he' => hpre.err e' he')
              (fun run hrun t' ht' => by
                obtain ⟨e', he', hm⟩ := hc.comp run (.inl hrun) t' ht'
                exact ⟨e', by simpa using he', hm⟩) hpre.rows
    · cases hx

theorem runProds_r (cap : Nat) (stop : Bool) (k : Kind) (t : Token) (hk : t.mtype = some k) (hrow : RowTok t) :
    ∀ (ps : List Prod) (s s' : RState), rProds k s ps = some s' →
      Triple (RInv stop s) (runProds cap stop t ps) (fun _ => RInv stop s') (RAb cap)
  | [], s, s', hx => by
    simp only [rProds, Option.some.injEq] at hx
    subst hx
    exact Triple.pure _ fun _ h => h
  | p :: ps, s, s', hx => by
    simp only [rProds] at hx
    cases h1 : rProd k s p with
    | none => rw [h1] at hx; cases hx
    | some s1 =>
      rw [h1] at hx
      simp only [Option.bind_some] at hx
      unfold GV.runProds
      exact Triple.bind (runProd_r cap stop k t (fun _ => hk) hrow s s1 h1) fun _ => runProds_r cap stop k t hk hrow ps s1 s' hx

end Lemmas
end GV
