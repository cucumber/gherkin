/-
  For C15 (no hidden state).  The matcher state stays `Consistent` with the dialect table through
  any parse (what `MState.reset` needs to restore the default dialect), so a parse depends on the
  earlier ones only through the default dialect name; parser instances stepped one token at a time
  by a schedule do not influence each other (`runSchedule_frame`).
-/
import GherkinVerif.Lemmas.GlueOutcome
namespace GV

/-- The matcher state is consistent with the dialect table: its current dialect is the table's
    entry for its current name, and the default name has an entry. -/
def Consistent (D : List Dialect) (μ : MState) : Prop :=
  findDialect D μ.name = some μ.dialect ∧ (findDialect D μ.defaultName).isSome

def runPM {α} (m : PM α) (c : Ctx) : Except Abort α × Ctx := m.run.run c

def iter {σ} (f : σ → σ) : Nat → σ → σ
  | 0, x => x
  | n + 1, x => iter f n (f x)

/-- A system of components stepped by a schedule: entry `i` of the schedule applies `f` to
    component `i` and leaves every other component alone; out-of-range entries do nothing. -/
def runSchedule {σ} (f : σ → σ) (sched : List Nat) (sys : List σ) : List σ :=
  sched.foldl (fun s i => s.modify i f) sys

/-- where a parser instance is in its `while True` loop -/
inductive PStatus
  | running (state : Nat)
  | done (r : Except Abort Nat)

/-- a parser instance between two token reads: its loop status and its whole context (scanner
    position, queue, errors, its own matcher and builder state, its id counter) -/
structure Inst where
  status : PStatus
  ctx : Ctx

/-- one iteration of the loop of `parse`: read a token, match it; returns the next state and
    whether the token was the end of file -/
def parseIter (D : List Dialect) (T : Table) (stop : Bool) (state : Nat) : PM (Nat × Bool) := do
  let t ← readToken
  modify fun c => { c with reads := c.reads ++ [t.lineNo] }
  let state' ← matchToken D T stop state t
  pure (state', t.eof)

/-- one scheduler step of an instance: one loop iteration, or nothing once the loop has ended -/
def parseStep (D : List Dialect) (T : Table) (stop : Bool) (x : Inst) : Inst :=
  match x.status with
  | .done _ => x
  | .running s =>
    match runPM (parseIter D T stop s) x.ctx with
    | (.ok (s', true), c) => ⟨.done (.ok s'), c⟩
    | (.ok (s', false), c) => ⟨.running s', c⟩
    | (.error e, c) => ⟨.done (.error e), c⟩

def Inst.isDone (x : Inst) : Bool :=
  match x.status with
  | .done _ => true
  | .running _ => false

/-- what the loop returns for an instance (still running = the model's fuel ran out) -/
def Inst.result (x : Inst) : Except Abort Nat × Ctx :=
  match x.status with
  | .done r => (r, x.ctx)
  | .running _ => (.error .fuel, x.ctx)

namespace Lemmas

theorem runPM_pure {α} (a : α) (c : Ctx) : runPM (pure a) c = (.ok a, c) := rfl
theorem runPM_bind {α β} (m : PM α) (f : α → PM β) (c : Ctx) :
    runPM (m >>= f) c = match runPM m c with
      | (.ok a, c') => runPM (f a) c'
      | (.error e, c') => (.error e, c') := prun_bind m f c
theorem runPM_get (c : Ctx) : runPM (get : PM Ctx) c = (.ok c, c) := rfl
theorem runPM_set (c' c : Ctx) : runPM (set c' : PM PUnit) c = (.ok ⟨⟩, c') := rfl
theorem runPM_modify (g : Ctx → Ctx) (c : Ctx) : runPM (modify g : PM PUnit) c = (.ok ⟨⟩, g c) := rfl
theorem runPM_throw {α} (e : Abort) (c : Ctx) : runPM (throw e : PM α) c = (.error e, c) := rfl

section
variable {Q : MState → Prop} {D : List Dialect} (hQ : ∀ k μ t, Q μ → Q (matchTok D k μ t).1.μ)
include hQ

theorem mu_prims (T : Table) (stop : Bool) : Prims D T stop (fun c => Q c.μ) (fun _ c => Q c.μ) where
  readToken := Inv.of_run fun c r c' hr hc => by
    rw [run_readToken] at hr
    split at hr
    · cases hr; exact hc
    · split at hr <;> (cases hr; exact hc)
  matchP k t := Inv.of_run fun c r c' hr hc => by
    obtain ⟨es, rfl⟩ := matchP_state hr
    exact hQ k c.μ t hc
  modQ _ _ h := h
  fuel _ h := h
  runProd t p := Inv.of_run fun c r c' hr hc => by
    obtain ⟨_, _, _, _, rfl⟩ := runProd_foot' _ _ _ _ _ _ _ hr
    exact hc
  modR _ _ h := h
  crash _ _ h := h
  tail row t := Inv.of_run fun c r c' hr hc => by
    obtain ⟨⟨_, _, rfl⟩, -⟩ := tail_spec D T stop row t hr
    exact hc

theorem parseWith_pres (T : Table) (stop : Bool) (μ : MState) (ids : Nat) (src : Str)
    (h : Q (μ.reset D)) : Q (parseWith D T stop μ ids src).2.μ :=
  Triple.parseWith_snd ((mu_prims hQ T stop).parseBody (fun _ _ h => h) (fun _ h _ => h) _) h
    (fun _ _ h => h.1) fun _ _ h => h
end

def MInv (D : List Dialect) (dn : Str) (μ : MState) : Prop := Consistent D μ ∧ μ.defaultName = dn

theorem init_consistent (D : List Dialect) (name : Str) (μ : MState) (h : MState.init D name = some μ) :
    Consistent D μ ∧ μ.defaultName = name ∧ μ.name = name ∧ μ.indentToRemove = 0 ∧ μ.activeSep = none := by
  simp only [MState.init, Option.map_eq_some_iff] at h
  obtain ⟨d, hd, rfl⟩ := h
  simp [Consistent, hd]

theorem minv_of_same {D : List Dialect} {dn : Str} {μ μ' : MState} (h : MInv D dn μ)
    (hs : μ'.name = μ.name ∧ μ'.dialect = μ.dialect ∧ μ'.defaultName = μ.defaultName) : MInv D dn μ' := by
  obtain ⟨⟨h1, h2⟩, h3⟩ := h
  obtain ⟨s1, s2, s3⟩ := hs
  subst h3
  simp [MInv, Consistent, s1, s2, s3, h1, h2]

theorem matchLine_minv (D : List Dialect) (dn : Str) (k : Kind) (μ : MState) (t : Token) (l : Str)
    (h : MInv D dn μ) : MInv D dn (matchLine D k μ t l).μ := by
  rw [matchLine_eq]
  rcases lineDec_cases D k μ l with hd | hd
  · rw [hd]; exact h
  · generalize lineDec D k μ l = d at hd
    cases hd with
    | language _ hf => exact ⟨⟨hf, h.1.2⟩, h.2⟩
    | sepOpen => exact minv_of_same h ⟨rfl, rfl, rfl⟩
    | sepClose => exact minv_of_same h ⟨rfl, rfl, rfl⟩
    | _ => exact h

theorem matchTok_minv (D : List Dialect) (dn : Str) (k : Kind) (μ : MState) (t : Token)
    (h : MInv D dn μ) : MInv D dn (matchTok D k μ t).1.μ := by
  unfold matchTok
  split
  · split <;> exact h
  · exact matchLine_minv D dn k μ t _ h

theorem reset_minv (D : List Dialect) (dn : Str) (μ : MState) (h : MInv D dn μ) : MInv D dn (μ.reset D) := by
  obtain ⟨⟨h1, h2⟩, h3⟩ := h
  subst h3
  unfold MState.reset
  split
  · split
    · rename_i d hd
      simp [MInv, Consistent, hd]
    · simp [MInv, Consistent, h1, h2]
  · simp [MInv, Consistent, h1, h2]

theorem reset_eq (D : List Dialect) (μ : MState) (h : Consistent D μ) (d : Dialect)
    (hd : findDialect D μ.defaultName = some d) :
    μ.reset D = { defaultName := μ.defaultName, name := μ.defaultName, dialect := d } := by
  obtain ⟨h1, h2⟩ := h
  unfold MState.reset
  by_cases hn : μ.name = μ.defaultName
  · have : d = μ.dialect := by
      rw [hn, hd] at h1
      exact Option.some.inj h1
    cases μ
    simp_all
  · simp [hn, hd]


theorem parseWith_minv (D : List Dialect) (T : Table) (stop : Bool) (dn : Str) (μ : MState) (ids : Nat)
    (src : Str) (h : MInv D dn μ) : MInv D dn (parseWith D T stop μ ids src).2.μ :=
  parseWith_pres (Q := MInv D dn) (fun k μ t hμ => matchTok_minv D dn k μ t hμ) T stop μ ids src
    (reset_minv D dn μ h)

theorem parseWith_consistent (D : List Dialect) (T : Table) (stop : Bool) (μ : MState) (ids : Nat)
    (src : Str) (h : Consistent D μ) :
    Consistent D (parseWith D T stop μ ids src).2.μ ∧
      (parseWith D T stop μ ids src).2.μ.defaultName = μ.defaultName :=
  parseWith_minv D T stop μ.defaultName μ ids src ⟨h, rfl⟩

theorem reset_eq_of_consistent (D : List Dialect) (μ₁ μ₂ : MState) (h₁ : Consistent D μ₁)
    (h₂ : Consistent D μ₂) (hd : μ₁.defaultName = μ₂.defaultName) : μ₁.reset D = μ₂.reset D := by
  obtain ⟨d, hfd⟩ := Option.isSome_iff_exists.mp h₁.2
  rw [reset_eq D μ₁ h₁ d hfd, reset_eq D μ₂ h₂ d (hd ▸ hfd), hd]

theorem parseWith_history_independent (D : List Dialect) (T : Table) (stop : Bool) (μ₁ μ₂ : MState)
    (ids : Nat) (src : Str) (h₁ : Consistent D μ₁) (h₂ : Consistent D μ₂)
    (hd : μ₁.defaultName = μ₂.defaultName) :
    parseWith D T stop μ₁ ids src = parseWith D T stop μ₂ ids src := by
  unfold parseWith
  rw [reset_eq_of_consistent D μ₁ μ₂ h₁ h₂ hd]

/-- the matcher state after a history of parses (each with its own error mode, counter and text) -/
def afterHistory (D : List Dialect) (T : Table) (μ : MState) : List (Bool × Nat × Str) → MState
  | [] => μ
  | (stop, ids, src) :: rest => afterHistory D T (parseWith D T stop μ ids src).2.μ rest

theorem afterHistory_minv (D : List Dialect) (T : Table) (dn : Str) (μ : MState)
    (hist : List (Bool × Nat × Str)) (h : MInv D dn μ) : MInv D dn (afterHistory D T μ hist) := by
  induction hist generalizing μ with
  | nil => exact h
  | cons x rest ih =>
    obtain ⟨stop, ids, src⟩ := x
    exact ih _ (parseWith_minv D T stop dn μ ids src h)

theorem parseWith_after_history (D : List Dialect) (T : Table) (name : Str) (μ₀ : MState)
    (h₀ : MState.init D name = some μ₀) (hist : List (Bool × Nat × Str)) (stop : Bool) (ids : Nat)
    (src : Str) :
    parseWith D T stop (afterHistory D T μ₀ hist) ids src = parseWith D T stop μ₀ ids src := by
  have hi := init_consistent D name μ₀ h₀
  have h := afterHistory_minv D T name μ₀ hist ⟨hi.1, hi.2.1⟩
  exact parseWith_history_independent D T stop _ _ ids src h.1 hi.1 (h.2.trans hi.2.1.symm)

/-- a parse starts from the builder's reset state and an empty queue and error list, whatever
    happened before: the initial context mentions the incoming matcher only through `reset`. -/
theorem parseWith_eq_run (D : List Dialect) (T : Table) (stop : Bool) (μ : MState) (ids : Nat) (src : Str) :
    parseWith D T stop μ ids src =
      (match runPM (parseBody D T stop (splitLines src).length)
          { lines := splitLines src, lineNo := 0, queue := [], errors := [], μ := μ.reset D,
            β := BState.reset, ids := ids, calls := 0, builds := [], reads := [], unexpected := [] } with
       | (.ok d, ctx) => (.ok d, ctx)
       | (.error (.single e), ctx) => (.rejected [e] false, ctx)
       | (.error (.composite es), ctx) => (.rejected es true, ctx)
       | (.error (.crash w), ctx) => (.crash w, ctx)
       | (.error .fuel, ctx) => (.fuel, ctx)) := rfl

theorem iter_add {σ} (f : σ → σ) (m n : Nat) (x : σ) : iter f (m + n) x = iter f n (iter f m x) := by
  induction m generalizing x with
  | zero => simp [iter]
  | succ m ih =>
    rw [Nat.add_right_comm]
    exact ih (f x)

theorem iter_succ' {σ} (f : σ → σ) (n : Nat) (x : σ) : iter f (n + 1) x = f (iter f n x) := by
  rw [iter_add]
  rfl

theorem iter_fixed {σ} (f : σ → σ) (n : Nat) (x : σ) (h : f x = x) : iter f n x = x := by
  induction n with
  | zero => rfl
  | succ n ih => simp only [iter, h, ih]

theorem runSchedule_frame {σ} (f : σ → σ) (sched : List Nat) (sys : List σ) (i : Nat) :
    (runSchedule f sched sys)[i]? = sys[i]?.map (iter f (sched.count i)) := by
  induction sched generalizing sys with
  | nil =>
    show sys[i]? = _
    cases sys[i]? <;> rfl
  | cons j rest ih =>
    show (runSchedule f rest (sys.modify j f))[i]? = _
    rw [ih, List.getElem?_modify, List.count_cons]
    by_cases hji : j = i
    · subst hji
      cases sys[j]? with
      | none => rfl
      | some a => simp [iter]
    · cases sys[i]? with
      | none => rfl
      | some a => simp [hji]

theorem runSchedule_length {σ} (f : σ → σ) (sched : List Nat) (sys : List σ) :
    (runSchedule f sched sys).length = sys.length := by
  induction sched generalizing sys with
  | nil => rfl
  | cons j rest ih =>
    show (runSchedule f rest (sys.modify j f)).length = _
    rw [ih, List.length_modify]

theorem parseLoop_succ (D : List Dialect) (T : Table) (stop : Bool) (fuel state : Nat) :
    parseLoop D T stop (fuel + 1) state =
      parseIter D T stop state >>= fun r => if r.2 then pure r.1 else parseLoop D T stop fuel r.1 := by
  simp only [parseLoop, parseIter, bind_assoc, pure_bind]

theorem parseStep_done (D : List Dialect) (T : Table) (stop : Bool) (x : Inst) (h : x.isDone = true) :
    parseStep D T stop x = x := by
  unfold parseStep
  unfold Inst.isDone at h
  split
  · rfl
  · simp_all

theorem iter_parseStep_done (D : List Dialect) (T : Table) (stop : Bool) (n : Nat) (x : Inst)
    (h : x.isDone = true) : iter (parseStep D T stop) n x = x :=
  iter_fixed _ n x (parseStep_done D T stop x h)

theorem parseStep_running (D : List Dialect) (T : Table) (stop : Bool) (s : Nat) (c : Ctx) :
    parseStep D T stop ⟨.running s, c⟩ =
      match runPM (parseIter D T stop s) c with
      | (.ok (s', true), c) => ⟨.done (.ok s'), c⟩
      | (.ok (s', false), c) => ⟨.running s', c⟩
      | (.error e, c) => ⟨.done (.error e), c⟩ := rfl

theorem parseLoop_eq_iter (D : List Dialect) (T : Table) (stop : Bool) (fuel state : Nat) (c : Ctx) :
    runPM (parseLoop D T stop fuel state) c =
      (iter (parseStep D T stop) fuel ⟨.running state, c⟩).result := by
  induction fuel generalizing state c with
  | zero => rfl
  | succ fuel ih =>
    rw [parseLoop_succ, runPM_bind]
    simp only [iter]
    rw [parseStep_running]
    generalize runPM (parseIter D T stop state) c = r
    obtain ⟨r, c'⟩ := r
    cases r with
    | error e =>
      simp only
      rw [iter_parseStep_done _ _ _ _ _ rfl]
      rfl
    | ok a =>
      obtain ⟨s', eof⟩ := a
      cases eof with
      | true =>
        simp only [if_true]
        rw [iter_parseStep_done _ _ _ _ _ rfl]
        rfl
      | false =>
        simp only [Bool.false_eq_true, if_false]
        exact ih s' c'

theorem isDone_of_result (x : Inst) (h : x.result.1 ≠ .error .fuel) : x.isDone = true := by
  unfold Inst.result at h
  unfold Inst.isDone
  split
  · rfl
  · simp_all

theorem iter_parseStep_ge (D : List Dialect) (T : Table) (stop : Bool) (n m : Nat) (x : Inst)
    (h : (iter (parseStep D T stop) n x).isDone = true) (hm : n ≤ m) :
    iter (parseStep D T stop) m x = iter (parseStep D T stop) n x := by
  obtain ⟨k, rfl⟩ := Nat.exists_eq_add_of_le hm
  rw [iter_add, iter_parseStep_done _ _ _ _ _ h]

theorem interleave_inst (D : List Dialect) (T : Table) (stop : Bool) (sys : List Inst) (sched : List Nat)
    (i : Nat) (x : Inst) (hx : sys[i]? = some x) (n : Nat)
    (hdone : (iter (parseStep D T stop) n x).isDone = true) (hn : n ≤ sched.count i) :
    (runSchedule (parseStep D T stop) sched sys)[i]? = some (iter (parseStep D T stop) n x) := by
  rw [runSchedule_frame, hx, Option.map_some, iter_parseStep_ge D T stop n _ x hdone hn]

theorem interleave_parseLoop (D : List Dialect) (T : Table) (stop : Bool) (sys : List Inst)
    (sched : List Nat) (i state : Nat) (c : Ctx) (hx : sys[i]? = some ⟨.running state, c⟩) (fuel : Nat)
    (hfuel : (runPM (parseLoop D T stop fuel state) c).1 ≠ .error .fuel) (hn : fuel ≤ sched.count i) :
    ((runSchedule (parseStep D T stop) sched sys)[i]?).map Inst.result =
      some (runPM (parseLoop D T stop fuel state) c) := by
  rw [parseLoop_eq_iter] at hfuel ⊢
  rw [interleave_inst D T stop sys sched i _ hx fuel (isDone_of_result _ hfuel) hn]
  rfl

end Lemmas
end GV
