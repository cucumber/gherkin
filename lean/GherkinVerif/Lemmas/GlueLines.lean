/-
  Every reported error lies within the document (C01_error_lines).

  Invariants: the tokens in the queue and in the builder carry line numbers between 1 and
  (number of lines + 1); the scanner makes the end-of-file token only once as long as the main
  loop has not consumed it (a look-ahead stops at it and re-queues it); the errors of the matcher,
  of the error tail and of the builder are located at such tokens.
-/
import GherkinVerif.Lemmas.GlueTerm
import GherkinVerif.Lemmas.GlueBuilder
namespace GV
namespace Lemmas

/-- a line number within a document of `nL` lines (the end-of-file token is on line `nL + 1`) -/
def InR (nL x : Nat) : Prop := 1 ≤ x ∧ x ≤ nL + 1

def ErrsOK (nL : Nat) (c : Ctx) : Prop := ∀ e ∈ c.errors, InR nL e.loc.line

def ThrownOK (nL : Nat) (a : Abort) : Prop :=
  match a with
  | .single e => InR nL e.loc.line
  | .composite es => ∀ e ∈ es, InR nL e.loc.line
  | .crash _ => True
  | .fuel => True

/-- weak token condition: line tokens are in range (an end-of-file token never raises) -/
def TokW (nL : Nat) (t : Token) : Prop := t.line ≠ none → InR nL t.lineNo

/-- always true of the scanner: queued line tokens are in range, unread lines are counted -/
def ScanW (nL : Nat) (q : List Token) (c : Ctx) : Prop :=
  (∀ t ∈ q, TokW nL t) ∧ (c.lines = [] ∨ c.lineNo + c.lines.length = nL)

/-- true until the main loop consumes the end-of-file token: all queued tokens are in range and
    the scanner has made at most one end-of-file token, which is still around -/
def ScanK (nL : Nat) (q : List Token) (c : Ctx) : Prop :=
  (∀ t ∈ q, InR nL t.lineNo) ∧
  (c.lineNo + c.lines.length = nL ∨ (c.lines = [] ∧ c.lineNo = nL + 1 ∧ ∃ t ∈ q, t.line = none))

/-- the invariant, for the tokens `q` (queue plus what a look-ahead holds in hand) -/
def LIq (nL : Nat) (s : Prop) (q : List Token) (c : Ctx) : Prop :=
  ErrsOK nL c ∧ StackOK (fun t => InR nL t.lineNo) c.β.stack ∧ ScanW nL q c ∧ (s → ScanK nL q c)

def LI (nL : Nat) (s : Prop) (c : Ctx) : Prop := LIq nL s c.queue c

theorem LI.weaken {nL : Nat} {s : Prop} {c : Ctx} (h : LI nL s c) : LI nL False c :=
  ⟨h.1, h.2.1, h.2.2.1, fun hf => hf.elim⟩

theorem addError_errs (nL cap : Nat) (e : PErr) (he : InR nL e.loc.line) :
    Inv (ErrsOK nL) (fun a _ => ThrownOK nL a) (addError cap e) := by
  refine Triple.intro fun c r c' hc hr => ?_
  have hall : ∀ x ∈ c.errors ++ [e], InR nL x.loc.line := by
    intro x hx
    rcases List.mem_append.1 hx with hx | hx
    · exact hc x hx
    · rw [List.mem_singleton] at hx; subst hx; exact he
  rcases addError_cases hr with ⟨rfl, rfl, -⟩ | ⟨rfl, -, ⟨rfl, -⟩ | ⟨rfl, -⟩⟩
  · exact hc
  · exact hall
  · exact hall

theorem TokKeep.tokW {nL : Nat} {t : Token} {r : Bool × Token} (h : TokKeep t r) (ht : TokW nL t) : TokW nL r.2 := by
  intro hl
  rw [h.2]
  exact ht (by rw [← h.1]; exact hl)

theorem matchP_errs (nL : Nat) (D : List Dialect) (cap : Nat) (stop : Bool) (k : Kind) (t : Token) :
    Triple (fun c => TokW nL t ∧ ErrsOK nL c) (matchP D cap stop k t)
      (fun r c => TokW nL r.2 ∧ ErrsOK nL c) (fun a _ => ThrownOK nL a) := by
  refine Triple.intro fun c r c' hc hr => ?_
  have hin : ∀ e, (matchTok D k c.μ t).1.res = .raised e → InR nL e.loc.line := fun e he => by
    obtain ⟨hline, hloc⟩ := matchTok_raised D k c.μ t e he
    rw [hloc]; exact hc.1 hline
  have htok : ∀ a, r = .ok a → TokW nL a.2 := fun a ha => by
    subst ha; exact (matchP_tok D cap stop k t _ _ _ hr).tokW hc.1
  obtain ⟨c1, hc1, hcase⟩ := matchP_cases hr
  have he1 : ErrsOK nL c1 := by rw [hc1]; exact hc.2
  rcases hcase with ⟨m, -, rfl, rfl⟩ | ⟨e, he, ⟨-, rfl, rfl⟩ | ⟨-, r2, h2, rfl⟩⟩
  · exact ⟨htok _ rfl, he1⟩
  · exact hin e he
  · have := (addError_errs nL cap e (hin e he)).elim he1 h2
    cases r2 with
    | ok _ => exact ⟨htok _ rfl, this⟩
    | error a => exact this

theorem LIq.footM {nL : Nat} {s : Prop} {q : List Token} {c c' : Ctx} (h : LIq nL s q c) (hf : FootM c c')
    (he : ErrsOK nL c') : LIq nL s q c' := by
  obtain ⟨_, _, _, rfl⟩ := hf
  exact ⟨he, h.2.1, h.2.2.1, h.2.2.2⟩

theorem unexpectedErr_line (row : StateRow) (t : Token) : (unexpectedErr row t).loc.line = t.lineNo := by
  unfold unexpectedErr
  split
  · rfl
  · dsimp only
    split
    · split <;> rfl
    · rfl

theorem li_read_step (nL : Nat) (s : Prop) (c c1 : Ctx) (t : Token) (acc : List Token)
    (hacc : ∀ x ∈ acc, x.line ≠ none) (h : LIq nL s (c.queue ++ acc) c)
    (hread : (∃ q, c.queue = t :: q ∧ c1 = { c with queue := q }) ∨
     (c.queue = [] ∧ t = { line := c.lines.head?, lineNo := c.lineNo + 1 } ∧
      c1 = { c with lines := c.lines.tail, lineNo := c.lineNo + 1 })) :
    TokW nL t ∧ ErrsOK nL c1 ∧
    ∀ t2 : Token, t2.line = t.line → t2.lineNo = t.lineNo → ∀ c3, FootM c1 c3 → ErrsOK nL c3 →
      LIq nL s (c3.queue ++ (acc ++ [t2])) c3 := by
  obtain ⟨herr, hst, ⟨hw1, hw2⟩, hk⟩ := h
  rcases hread with ⟨q, hq, rfl⟩ | ⟨hq, rfl, rfl⟩
  · rw [hq] at hw1 hk
    have htw : TokW nL t := hw1 t (by simp)
    refine ⟨htw, herr, ?_⟩
    intro t2 hl2 hn2 c3 hf he3
    obtain ⟨_, _, _, rfl⟩ := hf
    dsimp only
    have hmem : ∀ x ∈ q ++ (acc ++ [t2]), x = t2 ∨ x ∈ (t :: q) ++ acc := by
      intro x hx
      simp only [List.mem_append, List.mem_cons, List.not_mem_nil, or_false] at hx ⊢
      rcases hx with hx | hx | hx
      · exact .inr (.inl (.inr hx))
      · exact .inr (.inr hx)
      · exact .inl hx
    refine ⟨he3, hst, ⟨?_, hw2⟩, fun hs => ?_⟩
    · intro x hx
      rcases hmem x hx with rfl | hx
      · intro hl; rw [hn2]; exact htw (by rw [← hl2]; exact hl)
      · exact hw1 x hx
    · obtain ⟨hk1, hk2⟩ := hk hs
      refine ⟨?_, ?_⟩
      · intro x hx
        rcases hmem x hx with rfl | hx
        · rw [hn2]; exact hk1 t (by simp)
        · exact hk1 x hx
      · rcases hk2 with hk2 | ⟨h1, h2, x, hx, hxl⟩
        · exact .inl hk2
        · refine .inr ⟨h1, h2, ?_⟩
          simp only [List.mem_append, List.mem_cons] at hx
          rcases hx with (rfl | hx) | hx
          · exact ⟨t2, by simp, by rw [hl2]; exact hxl⟩
          · exact ⟨x, by simp [hx], hxl⟩
          · exact ⟨x, by simp [hx], hxl⟩
  · rw [hq] at hw1 hk
    simp only [List.nil_append] at hw1 hk
    have htw : TokW nL { line := c.lines.head?, lineNo := c.lineNo + 1 } := by
      intro hl
      dsimp only at hl ⊢
      cases hls : c.lines with
      | nil => rw [hls] at hl; exact absurd rfl hl
      | cons l ls =>
        rw [hls] at hw2
        rcases hw2 with hw2 | hw2
        · cases hw2
        · simp only [List.length_cons] at hw2
          exact ⟨by omega, by omega⟩
    refine ⟨htw, herr, ?_⟩
    intro t2 hl2 hn2 c3 hf he3
    obtain ⟨_, _, _, rfl⟩ := hf
    dsimp only at hl2 hn2 ⊢
    rw [hq]
    simp only [List.nil_append]
    have hw2' : c.lines.tail = [] ∨ c.lineNo + 1 + c.lines.tail.length = nL := by
      cases hls : c.lines with
      | nil => exact .inl rfl
      | cons l ls =>
        rw [hls] at hw2
        rcases hw2 with hw2 | hw2
        · cases hw2
        · simp only [List.length_cons] at hw2
          right; simp only [List.tail_cons]; omega
    refine ⟨he3, hst, ⟨?_, hw2'⟩, fun hs => ?_⟩
    · intro x hx
      rcases List.mem_append.1 hx with hx | hx
      · exact hw1 x hx
      · simp only [List.mem_singleton] at hx
        subst hx
        intro hl; rw [hn2]; exact htw (by rw [← hl2]; exact hl)
    · obtain ⟨hk1, hk2⟩ := hk hs
      have hk2 : c.lineNo + c.lines.length = nL := by
        rcases hk2 with hk2 | ⟨_, _, x, hx, hxl⟩
        · exact hk2
        · exact absurd hxl (hacc x hx)
      refine ⟨?_, ?_⟩
      · intro x hx
        rcases List.mem_append.1 hx with hx | hx
        · exact hk1 x hx
        · simp only [List.mem_singleton] at hx
          subst hx
          rw [hn2]; exact ⟨by omega, by omega⟩
      · cases hls : c.lines with
        | nil =>
          rw [hls] at hk2 hl2
          simp only [List.length_nil, Nat.add_zero] at hk2
          refine .inr ⟨rfl, (by show c.lineNo + 1 = nL + 1; omega), t2, by simp, ?_⟩
          rw [hl2]; rfl
        | cons l ls =>
          rw [hls] at hk2
          simp only [List.length_cons] at hk2
          left; simp only [List.tail_cons]; omega

theorem lookaheadLoop_lines (nL : Nat) (s : Prop) (D : List Dialect) (cap : Nat) (stop : Bool) (la : LookAhead)
    (h2 : Kind.EOF ∉ la.skip) :
    ∀ (fuel : Nat) (acc : List Token) (c : Ctx), (∀ x ∈ acc, x.line ≠ none) →
      LIq nL s (c.queue ++ acc) c →
      ∀ r c', run (lookaheadLoop D cap stop la fuel acc) c = (r, c') →
        match r with
        | .ok (_, read) => LIq nL s (c'.queue ++ read) c'
        | .error a => ThrownOK nL a := by
  intro fuel
  induction fuel with
  | zero => intro acc c _ _ r c' h; rw [lookaheadLoop, prun_throw] at h; cases h; trivial
  | succ n ih =>
    intro acc c hacc hli r c' h
    obtain ⟨t, c1, r1, c2, hr0, hr1, hcase⟩ := lookaheadLoop_step h
    obtain ⟨htw, he1, hstep⟩ := li_read_step nL s c c1 t acc hacc hli (readToken_eq hr0)
    have hE1 := (Triple.matchAny (matchP_errs nL D cap stop) la.expected t).elim ⟨htw, he1⟩ hr1
    have hf1 := matchAny_foot D cap stop _ _ _ _ _ hr1
    rcases hcase with ⟨e, rfl, rfl, rfl⟩ | ⟨t1, rfl, rfl, rfl⟩ | ⟨t1, r2, c3, rfl, hr2, hcase⟩
    · exact hE1
    · have hts1 := matchAny_tok D cap stop _ _ _ _ _ hr1
      exact hstep t1 hts1.1 hts1.2 _ hf1 hE1.2
    · have hts1 := matchAny_tok D cap stop _ _ _ _ _ hr1
      have hE2 := (Triple.matchAny (matchP_errs nL D cap stop) la.skip t1).elim hE1 hr2
      have hf2 := hf1.trans (matchAny_foot D cap stop _ _ _ _ _ hr2)
      rcases hcase with ⟨e, rfl, rfl, rfl⟩ | ⟨t2, rfl, rfl, rfl⟩ | ⟨t2, rfl, hrec⟩
      · exact hE2
      · have hts2 := matchAny_tok D cap stop _ _ _ _ _ hr2
        exact hstep t2 (hts2.1.trans hts1.1) (hts2.2.trans hts1.2) _ hf2 hE2.2
      · have hts2 := matchAny_tok D cap stop _ _ _ _ _ hr2
        have hline : t2.line ≠ none := by
          intro hnone
          obtain ⟨_, he⟩ := matchAny_eof D cap stop la.skip h2 t1 (by rw [← hts2.1]; exact hnone) c2
          rw [hr2] at he
          cases he
        refine ih (acc ++ [t2]) c3 ?_ (hstep t2 (hts2.1.trans hts1.1) (hts2.2.trans hts1.2) _ hf2 hE2.2) r c' hrec
        intro x hx
        rcases List.mem_append.1 hx with hx | hx
        · exact hacc x hx
        · rw [List.mem_singleton] at hx; subst hx; exact hline

theorem lookahead_lines (nL : Nat) (s : Prop) (D : List Dialect) (cap : Nat) (stop : Bool) (la : LookAhead)
    (h2 : Kind.EOF ∉ la.skip) :
    Inv (LI nL s) (fun a _ => ThrownOK nL a) (lookahead D cap stop la) := by
  refine Triple.intro fun c r c' hc hr => ?_
  rw [run_lookahead] at hr
  rcases hl : run (lookaheadLoop D cap stop la (c.queue.length + c.lines.length + 2) []) c with ⟨r1, c1⟩
  rw [hl] at hr
  have := lookaheadLoop_lines nL s D cap stop la h2 _ [] c (fun _ hx => by cases hx)
    (by rw [List.append_nil]; exact hc) _ _ hl
  cases r1 with
  | error e => cases hr; exact this
  | ok r1 => cases hr; exact this

theorem LI.of_errs {α} {nL : Nat} {s : Prop} {m : PM α} (hf : ∀ c r c', run m c = (r, c') → FootE c c')
    (h : Inv (ErrsOK nL) (fun a _ => ThrownOK nL a) m) : Inv (LI nL s) (fun a _ => ThrownOK nL a) m := by
  refine Triple.intro fun c r c' hc hr => ?_
  have := h.elim hc.1 hr
  obtain ⟨es, rfl⟩ := hf _ _ _ hr
  cases r with
  | ok _ => exact ⟨this, hc.2⟩
  | error a => exact this

theorem liftB_lines (nL : Nat) (s : Prop) (cap : Nat) (stop : Bool) (x : Except BErr Unit)
    (hx : ∀ e, x = .error (.ast e) → InR nL e.loc.line) :
    Inv (LI nL s) (fun a _ => ThrownOK nL a) (liftB cap stop x) := by
  unfold liftB
  split
  · exact Inv.pure _
  · exact Triple.throw _ fun _ _ => trivial
  · split
    · exact Triple.throw _ fun _ _ => hx _ rfl
    · exact LI.of_errs (addError_foot _ _) (addError_errs nL cap _ (hx _ rfl))

theorem runProd_lines (nL : Nat) (s : Prop) (cap : Nat) (stop : Bool) (t : Token) (p : Prod)
    (ht : p = .build → InR nL t.lineNo) :
    Inv (LI nL s) (fun a _ => ThrownOK nL a) (runProd cap stop t p) := by
  refine Triple.intro fun c r c' hc hr => ?_
  rw [run_runProd] at hr
  split at hr
  · cases hr
    exact ⟨hc.1, hc.2.1.startRule _, hc.2.2.1, hc.2.2.2⟩
  · have hend := hc.2.1.endRule c.ids
    have hc1 : LI nL s { c with β := (c.β.endRule c.ids).2.1, ids := (c.β.endRule c.ids).2.2 } :=
      ⟨hc.1, hend.1, hc.2.2.1, hc.2.2.2⟩
    have := liftB_lines nL s cap stop (c.β.endRule c.ids).1
      (fun e he => by obtain ⟨t', ht', hl⟩ := hend.2 e he; rw [hl]; exact ht') _ hc1
    cases r with
    | ok a => exact this.1 _ _ hr
    | error a => exact this.2 _ _ hr
  · split at hr
    · rename_i β' hb
      cases hr
      exact ⟨hc.1, hc.2.1.build (ht rfl) hb, hc.2.2.1, hc.2.2.2⟩
    · rename_i e hb
      obtain ⟨w, rfl⟩ := build_error _ _ _ hb
      rw [run_liftB] at hr
      cases hr
      trivial

theorem matchP_lines (nL : Nat) (s : Prop) (D : List Dialect) (cap : Nat) (stop : Bool) (k : Kind) (t : Token) :
    Triple (fun c => InR nL t.lineNo ∧ LI nL s c) (matchP D cap stop k t)
      (fun r c => InR nL r.2.lineNo ∧ LI nL s c) (fun a _ => ThrownOK nL a) := by
  refine Triple.intro fun c r c' hc hr => ?_
  have hE := (matchP_errs nL D cap stop k t).elim ⟨fun _ => hc.1, hc.2.1⟩ hr
  have hf := matchP_foot D cap stop k t _ _ _ hr
  cases r with
  | ok a =>
    refine ⟨?_, LIq.footM (by obtain ⟨_, _, _, rfl⟩ := hf; exact hc.2) hf hE.2⟩
    rw [(matchP_tok D cap stop k t _ _ _ hr).2]; exact hc.1
  | error a => exact hE

theorem li_main_read (nL : Nat) (c c1 : Ctx) (t : Token) (h : LI nL True c)
    (hread : (∃ q, c.queue = t :: q ∧ c1 = { c with queue := q }) ∨
     (c.queue = [] ∧ t = { line := c.lines.head?, lineNo := c.lineNo + 1 } ∧
      c1 = { c with lines := c.lines.tail, lineNo := c.lineNo + 1 })) :
    InR nL t.lineNo ∧ LI nL (t.line ≠ none) c1 := by
  obtain ⟨herr, hst, ⟨hw1, hw2⟩, hk⟩ := h
  obtain ⟨hk1, hk2⟩ := hk trivial
  rcases hread with ⟨q, hq, rfl⟩ | ⟨hq, rfl, rfl⟩
  · rw [hq] at hw1 hk1 hk2
    refine ⟨hk1 t (by simp), herr, hst, ⟨fun x hx => hw1 x (by simp [hx]), hw2⟩, fun hs => ?_⟩
    refine ⟨fun x hx => hk1 x (by simp [hx]), ?_⟩
    rcases hk2 with hk2 | ⟨h1, h2, x, hx, hxl⟩
    · exact .inl hk2
    · refine .inr ⟨h1, h2, x, ?_, hxl⟩
      rcases List.mem_cons.1 hx with rfl | hx
      · exact absurd hxl hs
      · exact hx
  · rw [hq] at hk2
    have hk2 : c.lineNo + c.lines.length = nL := by
      rcases hk2 with hk2 | ⟨_, _, x, hx, _⟩
      · exact hk2
      · cases hx
    refine ⟨⟨by dsimp only; omega, by dsimp only; omega⟩, herr, hst, ?_, fun hs => ?_⟩
    · dsimp only [LI]
      rw [hq]
      refine ⟨fun x hx => (by cases hx), ?_⟩
      cases hls : c.lines with
      | nil => exact .inl rfl
      | cons l ls =>
        rw [hls] at hk2
        simp only [List.length_cons] at hk2
        right; simp only [List.tail_cons]; omega
    · dsimp only at hs ⊢
      rw [hq]
      refine ⟨fun x hx => (by cases hx), ?_⟩
      cases hls : c.lines with
      | nil => rw [hls] at hs; exact absurd rfl hs
      | cons l ls =>
        rw [hls] at hk2
        simp only [List.length_cons] at hk2
        left; simp only [List.tail_cons]; omega

section
variable (nL : Nat) (D : List Dialect) (T : Table) (hT : Spec.lookaheadsStopAtEOF T = true) (stop : Bool)
include hT

theorem matchToken_lines (s : Prop) (state : Nat) (t : Token) :
    Triple (fun c => InR nL t.lineNo ∧ LI nL s c) (matchToken D T stop state t) (fun _ => LI nL s)
      (fun a _ => ThrownOK nL a) := by
  unfold matchToken
  split
  · rename_i row _
    rw [tryBranches_eq_X]
    refine Triple.tryBranches (I := fun t c => InR nL t.lineNo ∧ LI nL s c) (Post := fun _ => LI nL s) (matchP_lines nL s D T.errorCap stop)
      (fun i la t hla => Triple.frame (lookahead_lines nL s D _ stop la (lookaheads_noEOF T hT i la hla).2))
      (fun _ _ _ _ => trivial) row (fun t => Triple.assume fun ht => ?_) row.branches
      (fun b _ t => Triple.assume fun ht => Inv.runProds _ fun p _ => runProd_lines nL s _ stop t p fun _ => ht) t
    unfold tryBranches
    have hin : InR nL (unexpectedErr row t).loc.line := by rw [unexpectedErr_line]; exact ht
    refine Triple.bind (Q := fun _ => LI nL s) (Triple.modify _ fun c hc => hc) fun _ => ?_
    split
    · exact Triple.throw _ fun _ _ => hin
    · exact Inv.bind (LI.of_errs (addError_foot _ _) (addError_errs nL _ _ hin)) fun _ => Inv.pure _
  · exact Triple.throw _ fun _ _ => trivial

theorem parseBody_lines (n : Nat) :
    Triple (LI nL True) (parseBody D T stop n) (fun _ _ => True) (fun a _ => ThrownOK nL a) := by
  refine Triple.conseq (Triple.parseBody (L := LI nL True) (Done := LI nL False) (Fin := LI nL False)
    (fun c hc => ⟨hc.1, hc.2.1.startRule _, hc.2.2.1, hc.2.2.2⟩) ?_
    (runProd_lines nL False _ stop _ _ fun h => by cases h) (fun _ hc _ => hc.1) fun _ _ _ => trivial)
    (fun _ h => h) (fun _ _ _ => trivial) fun _ _ h => h
  -- until the end-of-file token has been read the scanner has made it at most once
  refine Triple.parseLoop (H := fun _ _ => LI nL True)
    (M := fun _ _ t c => InR nL t.lineNo ∧ LI nL (t.line ≠ none) c) (fun _ _ _ => trivial)
    (fun _ _ => Triple.intro fun c r c' hc hr => ?_) (fun _ s t => ?_) _ _
  · obtain ⟨t, c1, hr0, hread⟩ := readToken_cases c
    rw [hr0] at hr; cases hr
    exact li_main_read nL c c' t hc hread
  · refine Triple.conseq (matchToken_lines nL D T hT stop _ s t) (fun _ h => h) (fun _ c h => ?_) fun _ _ h => h
    split
    · exact h.weaken
    · rename_i heof
      exact ⟨h.1, h.2.1, h.2.2.1, fun _ => h.2.2.2 fun hl => heof (by simp [Token.eof, hl])⟩

end

theorem li_ctx0 (D : List Dialect) (μ : MState) (ids : Nat) (src : Str) :
    LI (splitLines src).length True (ctx0 D μ ids src) := by
  refine ⟨fun e he => (by cases he), ?_, ⟨fun x hx => (by cases hx), .inr (by simp [ctx0])⟩,
    fun _ => ⟨fun x hx => (by cases hx), .inl (by simp [ctx0])⟩⟩
  intro node hn k t hm
  simp only [ctx0, BState.reset, List.mem_singleton] at hn
  subst hn
  cases hm

theorem parse_error_lines (D : List Dialect) (T : Table) (hT : Spec.lookaheadsStopAtEOF T = true)
    (stop : Bool) (μ : MState) (ids : Nat) (src : Str) (es : List PErr) (comp : Bool)
    (h : (parseWith D T stop μ ids src).1 = .rejected es comp) :
    ∀ e ∈ es, 1 ≤ e.loc.line ∧ e.loc.line ≤ (splitLines src).length + 1 := by
  have hb := Triple.parseWith (parseBody_lines (splitLines src).length D T hT stop _) (li_ctx0 D μ ids src)
  rw [h] at hb
  rcases hb with ⟨-, ha⟩ | ⟨e, rfl, -, ha⟩
  · exact ha
  · intro e' he'
    rw [List.mem_singleton] at he'
    subst he'
    exact ha

end Lemmas
end GV
