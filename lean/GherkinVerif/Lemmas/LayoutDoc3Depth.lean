/-
  Lemmas/LayoutDoc3Depth.lean — unary facts about the queue-free parse that the layout simulations
  share: which computations leave the builder alone (`KeepsB`), invariants of the prefix run
  (`prefix_invariant`; the number of open nodes is the depth `Spec.depthsOk` assigns to the state,
  so the builder always has an open node).
-/
import GherkinVerif.Lemmas.PureInv
import GherkinVerif.Lemmas.BuilderOps
import GherkinVerif.Spec.PrefixRun
import GherkinVerif.Spec.StackDepth
namespace GV

/-- `!a || b`, once `simp` has split the `||`, read as the implication -/
theorem not_or_imp {a : Bool} {P : Prop} : ((!a) = true ∨ P) ↔ (a = true → P) := by cases a <;> simp

namespace Layout3
open Lemmas Spec

def KeepsB {α} (m : PM α) : Prop := ∀ c, (run m c).2.β = c.β

theorem KeepsB.pure {α} (a : α) : KeepsB (pure a : PM α) := fun _ => rfl
theorem KeepsB.throw {α} (e : Abort) : KeepsB (throw e : PM α) := fun _ => rfl
theorem KeepsB.modify {f : Ctx → Ctx} (h : ∀ c, (f c).β = c.β) : KeepsB (modify f : PM PUnit) := fun c => h c

theorem KeepsB.bind {α β} {m : PM α} {f : α → PM β} (h1 : KeepsB m) (h2 : ∀ a, KeepsB (f a)) : KeepsB (m >>= f) := by
  intro c
  rw [prun_bind]
  have e1 := h1 c
  rcases hr : run m c with ⟨r, c'⟩
  rw [hr] at e1
  cases r with
  | error e => exact e1
  | ok a => exact (h2 a c').trans e1

theorem run_beta {α} {m : PM α} (hk : KeepsB m) {c c' : Ctx} {r : Except Abort α} (h : run m c = (r, c')) :
    c'.β = c.β := by
  have := hk c
  rw [h] at this
  exact this

theorem keepsB_addError (cap : Nat) (e : PErr) : KeepsB (addError cap e) := by
  intro c
  rw [run_addError]
  split
  · rfl
  · split <;> rfl

theorem keepsB_matchP (D : List Dialect) (cap : Nat) (stop : Bool) (k : Kind) (t : Token) :
    KeepsB (matchP D cap stop k t) := by
  intro c
  rcases hr : run (matchP D cap stop k t) c with ⟨r, c'⟩
  obtain ⟨es, h⟩ := matchP_state hr
  rw [h]

theorem KeepsB.inv {α} {m : PM α} (h : KeepsB m) (β0 : BState) :
    Inv (fun c => c.β = β0) (fun _ c => c.β = β0) m :=
  Inv.of_run fun _ _ _ hr hc => (run_beta h hr).trans hc

theorem KeepsB.of_inv {α} {m : PM α} (h : ∀ β0, Inv (fun c => c.β = β0) (fun _ c => c.β = β0) m) : KeepsB m := by
  intro c
  rcases hr : run m c with ⟨r, c'⟩
  cases r with
  | ok a => exact (h c.β c rfl).1 a c' hr
  | error e => exact (h c.β c rfl).2 e c' hr

theorem keepsB_lookaheadPure (D : List Dialect) (cap : Nat) (stop : Bool) (la : LookAhead) :
    KeepsB (lookaheadPure D cap stop la) :=
  .of_inv fun β0 => lookaheadPure_rule (Tk := fun _ => True) (fun _ _ _ _ _ => trivial)
    (fun k u _ => (keepsB_matchP D cap stop k u).inv β0) la fun _ _ _ _ => trivial

theorem keepsB_liftB (cap : Nat) (stop : Bool) (r : Except BErr Unit) : KeepsB (liftB cap stop r) := by
  intro c
  rw [run_liftB]
  split
  · rfl
  · rfl
  · split
    · rfl
    · exact keepsB_addError cap _ c

/-- the number of open nodes after a computation that returns -/
def DepthTo {α} (m : PM α) (g : α → Nat → Nat) : Prop :=
  ∀ c a c', run m c = (.ok a, c') → c'.β.stack.length = g a c.β.stack.length

theorem KeepsB.depthTo {α} {m : PM α} (h : KeepsB m) : DepthTo m fun _ d => d :=
  fun _ _ _ hr => congrArg (fun β => β.stack.length) (run_beta h hr)

theorem DepthTo.bind {α β} {m : PM α} {f : α → PM β} {g1 : α → Nat → Nat} {g2 : β → Nat → Nat}
    {g : β → Nat → Nat} (h1 : DepthTo m g1) (h2 : ∀ a, DepthTo (f a) g2)
    (hg : ∀ a b d, g2 b (g1 a d) = g b d) : DepthTo (m >>= f) g := by
  intro c b c' hr
  rw [prun_bind] at hr
  rcases hm : run m c with ⟨r, c1⟩
  rw [hm] at hr
  cases r with
  | error e => cases hr
  | ok a =>
    simp only at hr
    rw [h2 a c1 b c' hr, h1 c a c1 hm, hg]

theorem endRule_depth (β : BState) (n : Nat) :
    (β.endRule n).2.1.stack.length = β.stack.length - 1 ∨ ∃ w, (β.endRule n).1 = .error (.crash w) := by
  rcases endRule_eq β n with ⟨-, he⟩ | ⟨_, _, _, _, hs, -, he⟩ | ⟨_, _, _, _, _, hs, -, he⟩ | ⟨_, _, _, -, -, he⟩ <;> rw [he]
  · exact .inr ⟨_, rfl⟩
  · exact .inl (by rw [hs]; rfl)
  · exact .inl (by rw [hs]; rfl)
  · exact .inr ⟨_, rfl⟩

theorem build_depth (β β' : BState) (t : Token) (h : β.build t = .ok β') : β'.stack.length = β.stack.length := by
  rcases build_ok h with ⟨_, -, -, rfl⟩ | ⟨_, _, _, -, -, hs, rfl⟩
  · rfl
  · rw [hs]; rfl

theorem depthTo_runProd (cap : Nat) (stop : Bool) (t : Token) (p : Prod) :
    DepthTo (runProd cap stop t p) fun _ d => applyProd p d := by
  intro c a c' hr
  rw [run_runProd] at hr
  cases p with
  | start r => cases hr; simp [BState.startRule, applyProd]
  | end_ r =>
    simp only [] at hr
    have hk := keepsB_liftB cap stop (c.β.endRule c.ids).1
      { c with β := (c.β.endRule c.ids).2.1, ids := (c.β.endRule c.ids).2.2 }
    rw [hr] at hk
    simp only at hk
    rcases endRule_depth c.β c.ids with h | ⟨w, h⟩
    · rw [hk, h]; rfl
    · rw [h, run_liftB] at hr
      cases hr
  | build =>
    simp only [] at hr
    cases hb : c.β.build t with
    | ok β' =>
      rw [hb] at hr
      cases hr
      exact build_depth _ _ _ hb
    | error e =>
      rw [hb] at hr
      simp only [] at hr
      have hk := keepsB_liftB cap stop (.error e) c
      rw [hr] at hk
      simp only at hk
      rw [hk]; rfl

theorem depthTo_runProds (cap : Nat) (stop : Bool) (t : Token) (ps : List Prod) :
    DepthTo (runProds cap stop t ps) fun _ d => applyProds ps d := by
  induction ps with
  | nil => exact (KeepsB.pure _).depthTo
  | cons p ps ih =>
    unfold runProds
    exact DepthTo.bind (depthTo_runProd cap stop t p) (fun _ => ih) fun _ _ _ => rfl

theorem trace_tryBranchesPure (D : List Dialect) (T : Table) (stop : Bool) (row : StateRow) (bs : List Branch) (t : Token) :
    ∀ c s' c', run (tryBranchesPure D T stop row bs t) c = (.ok s', c') →
      (∃ b ∈ bs, ∃ (t' : Token) (c0 : Ctx) (u : Unit), c0.β = c.β ∧
        run (runProds T.errorCap stop t' b.prods) c0 = (.ok u, c') ∧ s' = b.target) ∨
      (s' = row.errTarget ∧ c'.β = c.β) := by
  intro c s' c' hr
  -- between the tests the builder state is the one on entry; the branches still to be tried are among `bs`
  have keep : ∀ {α} {m : PM α}, KeepsB m → Inv (fun d => d.β = c.β) (fun _ _ => True) m :=
    fun h => (h.inv c.β).conseq (fun _ h => h) (fun _ _ h => h) fun _ _ _ => trivial
  have R : Report T.errorCap stop (fun _ d => d.β = c.β) (fun d => d.β = c.β) (fun _ _ => True) :=
    ⟨fun _ _ _ _ => trivial, fun _ e => keep (keepsB_addError T.errorCap e)⟩
  have h := branches_rule (D := D) (look := lookaheadPure D T.errorCap stop) (P := fun d => d.β = c.β)
    (Tk := fun bs' _ => ∀ b ∈ bs', b ∈ bs) (Pm := fun _ _ d => d.β = c.β)
    (Q := fun s' c' => (∃ b ∈ bs, ∃ (t' : Token) (c0 : Ctx) (u : Unit), c0.β = c.β ∧
        run (runProds T.errorCap stop t' b.prods) c0 = (.ok u, c') ∧ s' = b.target) ∨
      (s' = row.errTarget ∧ c'.β = c.β)) row R
    (fun b bs' _ ht _ _ hd _ => ⟨hd, fun _ b' hb' => ht b' (List.mem_cons_of_mem _ hb')⟩)
    (fun b bs' _ ht _ _ hd _ => ⟨hd, fun b' hb' => ht b' (List.mem_cons_of_mem _ hb')⟩)
    (fun _ _ _ _ _ _ _ hd _ => hd)
    (fun _ _ _ _ _ la _ _ _ =>
      (keep (keepsB_lookaheadPure D T.errorCap stop la)).post fun ok _ hd => by cases ok <;> exact hd)
    (fun _ _ _ _ _ _ _ _ _ _ _ => trivial)
    (fun b _ _ t' ht => Triple.intro fun d r d' hd hr => by
      cases r with
      | ok u => exact .inl ⟨b, ht b List.mem_cons_self, t', d, u, hd, hr, rfl⟩
      | error e => trivial)
    (fun t _ => tail_rule (R.mono fun _ hd => .inr ⟨rfl, hd⟩) t fun _ hd => hd)
    bs t (fun _ hb => hb)
  rw [tryBranchesPure_eq_X] at hr
  exact (h c rfl).1 s' c' hr

theorem depthsOk_row {T : Table} {ds : List (Nat × Nat)} (h : depthsOk T ds = true) {s : Nat} {row : StateRow}
    (hrow : T.row? s = some row) :
    1 ≤ depthAt ds s ∧ depthAt ds row.errTarget = depthAt ds s ∧
    ∀ b ∈ row.branches, depthAt ds b.target = applyProds b.prods (depthAt ds s) := by
  have hmem : row ∈ T.rows := List.mem_of_find?_eq_some hrow
  have hid : row.id = s := by
    have := List.find?_some hrow
    simpa using this
  unfold depthsOk at h
  simp only [Bool.and_eq_true, beq_iff_eq, List.all_eq_true, decide_eq_true_eq] at h
  obtain ⟨⟨h1, h2⟩, h3⟩ := h.2 row hmem
  rw [hid] at h1 h2 h3
  exact ⟨h1, h2, h3⟩

theorem depth_matchTokenPure (D : List Dialect) {T : Table} {ds : List (Nat × Nat)} (h : depthsOk T ds = true)
    (stop : Bool) (s : Nat) (t : Token) (c : Ctx) (s' : Nat) (c' : Ctx)
    (hd : c.β.stack.length = depthAt ds s) (hr : run (matchTokenPure D T stop s t) c = (.ok s', c')) :
    c'.β.stack.length = depthAt ds s' := by
  unfold matchTokenPure at hr
  cases hrow : T.row? s with
  | none => rw [hrow] at hr; cases hr
  | some row =>
    rw [hrow] at hr
    simp only [] at hr
    obtain ⟨-, h2, h3⟩ := depthsOk_row h hrow
    rcases trace_tryBranchesPure D T stop row _ t c s' c' hr with ⟨b, hb, t', c0, u, e0, e1, e2⟩ | ⟨e1, e2⟩
    · rw [e2, depthTo_runProds _ _ _ _ c0 u c' e1, e0, h3 b hb, hd]
    · rw [e1, e2, h2, hd]

theorem prefix_invariant {D : List Dialect} {T : Table} {stop : Bool} {I : Nat → BState → Prop}
    (hstep : ∀ s t c s' c', I s c.β → run (matchTokenPure D T stop s t) c = (.ok s', c') → I s' c'.β) :
    ∀ (j s : Nat) (c : Ctx) (r : Nat × Bool) (c' : Ctx), I s c.β →
      run (parsePrefixPure D T stop j s) c = (.ok r, c') → I r.1 c'.β := by
  intro j
  induction j with
  | zero =>
    intro s c r c' hd hr
    cases hr
    exact hd
  | succ j ih =>
    intro s c r c' hd hr
    rw [prefix_step, prun_bind] at hr
    rcases hm : run (matchTokenPure D T stop s (nextTok c)) (taken c) with ⟨x, c1⟩
    rw [hm] at hr
    cases x with
    | error e => cases hr
    | ok s1 =>
      have h1 := hstep s _ (taken c) s1 c1 hd hm
      dsimp only at hr
      split at hr
      · cases hr; exact h1
      · exact ih s1 c1 r c' h1 hr

theorem runAfter_eq_some {D : List Dialect} {T : Table} {stop : Bool} {μ : MState} {ids : Nat} {src : Str}
    {k s : Nat} {c : Ctx} :
    runAfter D T stop μ ids src k = some (s, c) ↔
      ∃ fl, run (parsePrefixPure D T stop k 0) (startCtx D T μ ids src) = (.ok (s, fl), c) := by
  unfold runAfter run
  rcases (parsePrefixPure D T stop k 0).run.run (startCtx D T μ ids src) with ⟨_ | ⟨s', fl⟩, c'⟩
  · simp
  · simp only [Option.some.injEq, Prod.mk.injEq, Except.ok.injEq]
    exact ⟨fun ⟨h1, h2⟩ => ⟨fl, ⟨h1, rfl⟩, h2⟩, fun ⟨_, ⟨h1, _⟩, h2⟩ => ⟨h1, h2⟩⟩

theorem runAfter_of_prefix {D : List Dialect} {T : Table} {stop : Bool} {μ : MState} {ids : Nat} {src : Str}
    {k s : Nat} {flag : Bool} {c : Ctx}
    (h : run (parsePrefixPure D T stop k 0) (startCtx D T μ ids src) = (.ok (s, flag), c)) :
    runAfter D T stop μ ids src k = some (s, c) :=
  runAfter_eq_some.2 ⟨flag, h⟩

theorem runAfter_invariant {D : List Dialect} {T : Table} {stop : Bool} {I : Nat → BState → Prop}
    (hstep : ∀ s t c s' c', I s c.β → run (matchTokenPure D T stop s t) c = (.ok s', c') → I s' c'.β)
    (h0 : I 0 (BState.reset.startRule T.startRule)) {μ : MState} {ids : Nat} {src : Str} {k s : Nat} {c : Ctx}
    (hr : runAfter D T stop μ ids src k = some (s, c)) : I s c.β := by
  unfold runAfter at hr
  rcases hp : (parsePrefixPure D T stop k 0).run.run (startCtx D T μ ids src) with ⟨x, c'⟩
  rw [hp] at hr
  cases x with
  | error e => cases hr
  | ok r =>
    simp only [Option.some.injEq, Prod.mk.injEq] at hr
    obtain ⟨rfl, rfl⟩ := hr
    exact prefix_invariant hstep k 0 (startCtx D T μ ids src) r c' h0 hp

theorem depthsOk_start {T : Table} {ds : List (Nat × Nat)} (h : depthsOk T ds = true) : depthAt ds 0 = 2 := by
  unfold depthsOk at h
  simp only [Bool.and_eq_true, beq_iff_eq] at h
  exact h.1

theorem stack_ne_nil_of_depths {D : List Dialect} {T : Table} {ds : List (Nat × Nat)} (h : depthsOk T ds = true)
    (stop : Bool) (μ : MState) (ids : Nat) (src : Str) (k s : Nat) (c : Ctx)
    (hr : runAfter D T stop μ ids src k = some (s, c)) (hs : (T.row? s).isSome = true) : c.β.stack ≠ [] := by
  have hd : c.β.stack.length = depthAt ds s :=
    runAfter_invariant (I := fun s β => β.stack.length = depthAt ds s)
      (fun s t c s' c' hd hr => depth_matchTokenPure D h stop s t c s' c' hd hr)
      (by rw [depthsOk_start h]; rfl) hr
  cases hrow : T.row? s with
  | none => rw [hrow] at hs; cases hs
  | some row =>
    have := (depthsOk_row h hrow).1
    intro hnil
    rw [hnil] at hd
    simp at hd
    omega

end Layout3
end GV
