/-
  Lemmas/BuilderOps.lean — what `build` and `end_rule` do to the builder state, case by case.
  (`layBuild_other`, `build_token`, `build_comment`, `endRule_ok`, `endRule_error` of Lemmas/Builder.lean
  are the equations read forwards; these are the inversions: every case, with the state it leaves.)
-/
import GherkinVerif.Lemmas.Builder
namespace GV
namespace Lemmas

theorem build_ok {β β' : BState} {t : Token} (h : β.build t = .ok β') :
    (∃ tx, t.mtype = some .Comment ∧ t.text = some tx ∧
      β' = { β with comments := β.comments ++ [{ loc := getLocation t, text := tx }] }) ∨
    ∃ k top rest, t.mtype = some k ∧ k ≠ .Comment ∧ β.stack = top :: rest ∧
      β' = { β with stack := ⟨top.rt, top.items ++ [(.tok k, .tok t)]⟩ :: rest } := by
  cases hm : t.mtype with
  | none => simp only [BState.build, hm] at h; cases h
  | some k =>
    by_cases hc : k = .Comment
    · subst hc
      cases ht : t.text with
      | none => simp only [BState.build, hm, ht] at h; cases h
      | some tx => rw [build_comment β t tx hm ht] at h; cases h; exact .inl ⟨tx, rfl, rfl, rfl⟩
    · rw [layBuild_other β t k hc hm] at h
      cases hs : β.stack with
      | nil => rw [hs] at h; cases h
      | cons top rest => rw [hs] at h; cases h; exact .inr ⟨k, top, rest, rfl, hc, rfl, rfl⟩

/-- nothing to pop; `transform_node` raised and the node is dropped; the value goes to the node
    below; there is no node below (the node is popped all the same) -/
theorem endRule_eq (β : BState) (n : Nat) :
    (β.stack = [] ∧ β.endRule n = (.error (.crash "IndexError: pop from empty list"), β, n)) ∨
    (∃ node rest e n', β.stack = node :: rest ∧ (transformNode β.comments node).run.run n = (.error e, n') ∧
      β.endRule n = (.error e, { β with stack := rest }, n')) ∨
    (∃ node parent rest v n', β.stack = node :: parent :: rest ∧
      (transformNode β.comments node).run.run n = (.ok v, n') ∧
      β.endRule n = (.ok (), { β with stack := ⟨parent.rt, parent.items ++ [(.rule node.rt, v)]⟩ :: rest }, n')) ∨
    (∃ node v n', β.stack = [node] ∧ (transformNode β.comments node).run.run n = (.ok v, n') ∧
      β.endRule n = (.error (.crash "IndexError: current_node of empty stack"), { β with stack := [] }, n')) := by
  cases hs : β.stack with
  | nil => exact .inl ⟨rfl, by simp only [BState.endRule, hs]⟩
  | cons node rest =>
    rcases hr : (transformNode β.comments node).run.run n with ⟨_ | v, n'⟩
    · exact .inr (.inl ⟨node, rest, _, n', rfl, hr, endRule_error β node rest n n' _ hs hr⟩)
    · cases rest with
      | nil => exact .inr (.inr (.inr ⟨node, v, n', rfl, hr, by simp only [BState.endRule, hs, hr, addToTop_nil]⟩))
      | cons parent rest => exact .inr (.inr (.inl ⟨node, parent, rest, v, n', rfl, hr, endRule_ok β node parent rest n n' v hs hr⟩))

end Lemmas
end GV
