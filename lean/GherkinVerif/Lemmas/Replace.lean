/-
  Lemmas/Replace.lean — helper lemmas for property C09 (literal placeholder replacement):
  `replaceAll` (the model of `str.replace`) and `interp` (the model of `_interpolate`).
-/
import GherkinVerif.Model.Compiler
import GherkinVerif.Lemmas.PyStr
namespace GV

def OccursAt (p t : Str) (k : Nat) : Prop := startsWith p (t.drop k) = true ∧ k + p.length ≤ t.length

/-- `<h>` -/
def placeholder (h : Str) : Str := [60] ++ h ++ [62]

namespace Lemmas

theorem occursAt_zero (p t : Str) (h : startsWith p t = true) : OccursAt p t 0 := by
  refine ⟨by simpa using h, ?_⟩
  have := startsWith_length p t h
  omega

theorem occursAt_succ (p : Str) (c : Nat) (t : Str) (k : Nat) :
    OccursAt p (c :: t) (k + 1) ↔ OccursAt p t k := by
  simp only [OccursAt, List.drop_succ_cons, List.length_cons]
  constructor <;> rintro ⟨h1, h2⟩ <;> exact ⟨h1, by omega⟩

theorem replaceAux_no_occurrence (p v : Str) :
    ∀ t : Str, (∀ k, ¬ OccursAt p t k) → replaceAux p v t 0 = t
  | [], _ => by simp [replaceAux]
  | c :: cs, h => by
    have h0 : ¬ (startsWith p (c :: cs) = true ∧ p ≠ []) := fun hc => h 0 (occursAt_zero p _ hc.1)
    have ih := replaceAux_no_occurrence p v cs (fun k hk => h (k + 1) ((occursAt_succ p c cs k).2 hk))
    simp only [replaceAux, h0, if_false, ih]

theorem replaceAll_no_occurrence (p v t : Str) (h : ∀ k, ¬ OccursAt p t k) : replaceAll p v t = t :=
  replaceAux_no_occurrence p v t h

/-- the `skip` counter drops exactly the rest of the matched occurrence -/
theorem replaceAux_skip (p v : Str) : ∀ (x b : Str), replaceAux p v (x ++ b) x.length = replaceAux p v b 0
  | [], b => by simp
  | c :: x, b => by
    simp only [List.cons_append, List.length_cons, replaceAux]
    exact replaceAux_skip p v x b

theorem replaceAux_at_occurrence (p v b : Str) (hp : p ≠ []) :
    replaceAux p v (p ++ b) 0 = v ++ replaceAux p v b 0 := by
  have hs := startsWith_append p b
  cases p with
  | nil => exact absurd rfl hp
  | cons c p' =>
    simp only [List.cons_append] at hs ⊢
    simp only [replaceAux, hs, true_and]
    simp only [ne_eq, reduceCtorEq, not_false_eq_true, if_true, List.length_cons, Nat.add_sub_cancel]
    rw [replaceAux_skip]

theorem replaceAll_first_occurrence (p v : Str) : ∀ (a b : Str), p ≠ [] →
    (∀ k, k < a.length → ¬ OccursAt p (a ++ p ++ b) k) →
    replaceAll p v (a ++ p ++ b) = a ++ v ++ replaceAll p v b
  | [], b, hp, _ => by
    simp only [replaceAll, List.nil_append]
    exact replaceAux_at_occurrence p v b hp
  | c :: a, b, hp, h => by
    have h0 : ¬ (startsWith p (c :: (a ++ p ++ b)) = true ∧ p ≠ []) :=
      fun hc => h 0 (by simp) (by simpa using occursAt_zero p _ hc.1)
    have ih := replaceAll_first_occurrence p v a b hp (fun k hk hocc =>
      h (k + 1) (by simp only [List.length_cons]; omega)
        (by simpa using (occursAt_succ p c (a ++ p ++ b) k).2 hocc))
    simp only [replaceAll] at ih ⊢
    simp only [List.cons_append, replaceAux, h0, if_false, ih]

theorem interp_short : ∀ (t : Str) (hs vs : List Str), vs.length < hs.length → interp t hs vs = none
  | _, [], _, h => by simp at h
  | _, _ :: _, [], _ => by simp [interp]
  | t, x :: hs, v :: vs, h => by
    simp only [interp]
    exact interp_short _ hs vs (by simpa using h)

theorem interp_no_placeholder : ∀ (t : Str) (hs vs : List Str), hs.length ≤ vs.length →
    (∀ hd ∈ hs, ∀ k, ¬ OccursAt (placeholder hd) t k) → interp t hs vs = some t
  | _, [], _, _, _ => by simp [interp]
  | _, _ :: _, [], hl, _ => by simp at hl
  | t, x :: hs, v :: vs, hl, h => by
    have hx := replaceAll_no_occurrence (placeholder x) v t (h x (by simp))
    simp only [placeholder] at hx
    simp only [interp, hx]
    exact interp_no_placeholder t hs vs (by simpa using hl) (fun hd hm => h hd (by simp [hm]))

end Lemmas
end GV
