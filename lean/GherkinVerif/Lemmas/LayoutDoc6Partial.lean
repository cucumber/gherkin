/-
  Lemmas/LayoutDoc6Partial.lean — property C16 WITHOUT the table facts `descStacksOk`,
  `descRowsOk`: a comment line inserted in a description-opening state `s`, where
  the original run goes on INTO THE DESCRIPTION STATE with the next line.  Then that line has passed
  a `Comment`/`Other` test of `s` (`Spec.rowsMatch`, part of `Spec.commentOpensDescription`: no other
  test and not the error tail lead there), whose productions open the description and build; the
  second run, already in the description state with the `Description` node open, passes the same
  test and only builds (`follow_tryBranches`): afterwards the builder states of the middle and the second
  run are EQUAL, and the lock step of Lemmas/LayoutDoc4.lean goes on.
-/
import GherkinVerif.Lemmas.LayoutDoc6Doc
namespace GV
namespace Layout6
open Lemmas Spec Layout3 Layout4 Layout5

/-- the second run does what the first does on its way to the value `a`: if `m1` returns `a`, so does
    `m2`, in `Q`-related contexts (what `m2` does when `m1` ends otherwise is left open) -/
def Fol {α} (R : Ctx → Ctx → Prop) (a : α) (Q : Ctx → Ctx → Prop) (m1 m2 : PM α) : Prop :=
  ∀ c c', R c c' → ∀ d, run m1 c = (.ok a, d) → ∃ d', run m2 c' = (.ok a, d') ∧ Q d d'

theorem Fol.bind {α β} {R R' Q : Ctx → Ctx → Prop} {a : α} {m1 m2 : PM β} {f1 f2 : β → PM α}
    (h1 : SimG R (fun _ d d' => R' d d') m1 m2) (h2 : ∀ b, Fol R' a Q (f1 b) (f2 b)) :
    Fol R a Q (m1 >>= f1) (m2 >>= f2) := by
  intro c c' hr d hrun
  have h := h1 c c' hr
  rw [prun_bind] at hrun ⊢
  rcases hm : run m1 c with ⟨r1, d1⟩
  rw [hm] at hrun h
  cases r1 with
  | error e => cases hrun
  | ok b =>
    obtain ⟨d1', hr2, hq⟩ := h.of_ok_left
    rw [hr2]
    exact h2 b d1 d1' hq d hrun

theorem Fol.of_ne {α} {R Q : Ctx → Ctx → Prop} {a : α} {m1 m2 : PM α}
    (h : ∀ c d, run m1 c ≠ (.ok a, d)) : Fol R a Q m1 m2 := fun c _ _ d hrun => absurd hrun (h c d)

theorem run_then_pure {α β} (m : PM α) (b a : β) (c d : Ctx) (h : run (m >>= fun _ => (Pure.pure b : PM β)) c = (.ok a, d)) :
    a = b := by
  rw [prun_bind] at h
  rcases hm : run m c with ⟨r, c'⟩
  rw [hm] at h
  cases r with
  | error e => cases h
  | ok u => simp only [prun_pure] at h; cases h; rfl

def R2' (c c' : Ctx) : Prop := CtxE c c' ∧ c'.β = c.β.startRule .Description

theorem Indep.simR2' {α} {m : PM α} (h : Indep m) : SimG R2' (fun _ d d' => R2' d d') m m :=
  h.simG (fun _ _ hr => hr.1) fun _ _ _ _ hr hE h1 h2 => ⟨hE, by rw [h1, h2]; exact hr.2⟩

section
variable {D : List Dialect}

theorem matchP_empty_cases (cap : Nat) (stop : Bool) (t : Token) (c : Ctx) :
    (∃ t' c', run (matchP D cap stop .Empty t) c = (.ok (true, t'), c')) ∨
    (∃ j, run (matchP D cap stop .Empty t) c = (.ok (false, t), { c with calls := j })) := by
  rw [run_matchP]
  unfold matchTok
  cases hl : t.line with
  | none => exact .inr ⟨_, rfl⟩
  | some l =>
    cases he : lineIsEmpty l with
    | false => simp only [matchLine, he, Bool.false_eq_true, ↓reduceIte]; exact .inr ⟨_, rfl⟩
    | true => simp only [matchLine, he, ↓reduceIte]; exact .inl ⟨_, _, rfl⟩

theorem follow_tryBranches (T : Table) (stop : Bool) (row1 row2 : StateRow) (s' : Nat) (herr : row1.errTarget ≠ s') :
    ∀ (bs1 bs2 : List Branch), rowsMatch s' bs1 bs2 = true → ∀ (t : Token),
      Fol R2' s' RE (tryBranchesPure D T stop row1 bs1 t) (tryBranchesPure D T stop row2 bs2 t) := by
  intro bs1
  induction bs1 with
  | nil =>
    intro bs2 _ t
    refine Fol.of_ne fun c d h => herr ?_
    unfold tryBranchesPure at h
    rw [prun_bind, run_modify] at h
    cases stop with
    | true => cases h
    | false =>
      simp only [Bool.false_eq_true, ↓reduceIte] at h
      exact (run_then_pure _ _ _ _ _ h).symm
  | cons b1 r1 ih =>
    intro bs2 hm t
    unfold rowsMatch at hm
    by_cases hE : (b1.kind == .Empty) = true
    · -- the first run's `Empty` test: taken, it does not lead to `s'`; not taken, it changes nothing
      rw [if_pos hE] at hm
      simp only [Bool.and_eq_true, Option.isNone_iff_eq_none, bne_iff_ne, ne_eq] at hm
      obtain ⟨⟨hg, htg⟩, hrec⟩ := hm
      intro c c' hr d hrun
      rw [tryBranchesPure, eq_of_beq hE, prun_bind] at hrun
      rcases matchP_empty_cases (D := D) T.errorCap stop t c with ⟨t', c'', he⟩ | ⟨j, he⟩
      · rw [he, hg] at hrun
        simp only [↓reduceIte, pure_bind] at hrun
        exact absurd (run_then_pure _ _ _ _ _ hrun).symm htg
      · rw [he] at hrun
        simp only [Bool.false_eq_true, ↓reduceIte] at hrun
        exact ih bs2 hrec t { c with calls := j } c'
          ⟨⟨hr.1.lines, hr.1.lineNo, hr.1.errors, hr.1.μ, hr.1.ids, hr.1.unexpected⟩, hr.2⟩ d hrun
    · rw [if_neg hE] at hm
      cases bs2 with
      | nil => cases hm
      | cons b2 r2 =>
        simp only [Bool.and_eq_true, beq_iff_eq] at hm
        obtain ⟨⟨⟨hk, hg⟩, hbr⟩, hrec⟩ := hm
        unfold tryBranchesPure
        rw [← hk, ← hg]
        refine Fol.bind (indep_matchP D T.errorCap stop b1.kind t).simR2' fun mt => ?_
        obtain ⟨m, t'⟩ := mt
        dsimp only
        -- the branch is taken: a `Comment`/`Other` test opens the description, its counterpart only builds
        have take : Fol R2' s' RE (do runProds T.errorCap stop t' b1.prods; Pure.pure b1.target : PM Nat)
            (do runProds T.errorCap stop t' b2.prods; Pure.pure b2.target : PM Nat) := by
          by_cases hCO : (b1.kind == .Comment || b1.kind == .Other) = true
          · rw [if_pos hCO] at hbr
            simp only [Bool.and_eq_true, beq_iff_eq] at hbr
            obtain ⟨⟨⟨⟨-, hp1⟩, hp2⟩, ht1⟩, ht2⟩ := hbr
            rw [hp1, hp2, ht1, ht2]
            intro c c' hr d hrun
            have e1 : run (do runProds T.errorCap stop t' [.start .Description, .build]; Pure.pure s' : PM Nat) c =
                run (do runProds T.errorCap stop t' [.build]; Pure.pure s' : PM Nat)
                  { c with β := c.β.startRule .Description } := by
              simp only [runProds, prun_bind, run_runProd]
            rw [e1] at hrun
            exact Fol.bind (R' := RE) (build_RE T.errorCap stop t') (fun _ c c' h d hd => ⟨c', prun_pure _ _,
              by rw [prun_pure] at hd; cases hd; exact h⟩) { c with β := c.β.startRule .Description } c'
              ⟨⟨hr.1.lines, hr.1.lineNo, hr.1.errors, hr.1.μ, hr.1.ids, hr.1.unexpected⟩, hr.2⟩ d hrun
          · rw [if_neg hCO] at hbr
            simp only [bne_iff_ne, ne_eq] at hbr
            exact Fol.of_ne fun c d h => hbr (run_then_pure _ _ _ _ _ h).symm
        have cont : ∀ ok : Bool, Fol R2' s' RE
            (if ok = true then (do runProds T.errorCap stop t' b1.prods; Pure.pure b1.target : PM Nat)
              else tryBranchesPure D T stop row1 r1 t')
            (if ok = true then (do runProds T.errorCap stop t' b2.prods; Pure.pure b2.target : PM Nat)
              else tryBranchesPure D T stop row2 r2 t') := by
          intro ok
          cases ok with
          | false => exact ih r2 hrec t'
          | true => exact take
        cases m with
        | false => exact ih r2 hrec t'
        | true =>
          simp only [↓reduceIte]
          cases b1.guard with
          | none => exact Fol.bind (SimG.pure true fun _ _ h => h) cont
          | some i =>
            simp only []
            cases T.lookaheads[i]? with
            | none => exact Fol.bind (SimG.throw _ fun _ _ h => h.1) cont
            | some la => exact Fol.bind (indep_lookaheadPure D T.errorCap stop la).simR2' cont

theorem follow_matchToken {T : Table} (stop : Bool) {s : Nat} (hs : commentOpensDescription T s = true) (t : Token) :
    Fol R2' (descTarget T s) RE (matchTokenPure D T stop s t) (matchTokenPure D T stop (descTarget T s) t) := by
  obtain ⟨row1, b0, row2, hrow, hfind, hrow2, htgt, -⟩ := commentOpensDescription_spec hs
  have hs' := hs
  unfold commentOpensDescription at hs'
  rw [hrow] at hs'
  simp only [hfind, hrow2, Bool.and_eq_true, bne_iff_ne, ne_eq] at hs'
  rw [htgt]
  unfold matchTokenPure
  rw [hrow, hrow2]
  exact follow_tryBranches T stop row1 row2 b0.target hs'.2.1.2 row1.branches row2.branches hs'.2.1.1 t

end

section doc
variable {D : List Dialect} {b : Str} {k : Nat} {T : Table} {ds : List (Nat × Nat)}

/-- the first run's next `match_token` leads from `s` into the description state -/
def GoesIn (D : List Dialect) (T : Table) (stop : Bool) (s : Nat) (c : Ctx) : Prop :=
  ∃ d, run (matchTokenPure D T stop s (nextTok c)) (taken c) = (.ok (descTarget T s), d)

/-- the two runs behind the inserted comment `x`: in lock step (`Layout4.JC1`), or — directly
    behind it — the first still in the description-opening state `s1` and about to go into the
    description state, where the second is already, with the `Description` node open that the
    middle run (builder `β2x`) lacks -/
def JB (D : List Dialect) (T : Table) (stop : Bool) (ds : List (Nat × Nat)) (k : Nat) (x : Comment)
    (s1 s2 : Nat) (c1 c2 : Ctx) : Prop :=
  JC1 D ds k x s1 s2 c1 c2 ∨
  (commentOpensDescription T s1 = true ∧ s2 = descTarget T s1 ∧ GoesIn D T stop s1 c1 ∧
    ∃ β2x, JC1 D ds k x s1 s1 c1 (withB c2 β2x) ∧ c2.β = β2x.startRule .Description)

theorem stepB (hD : Spec.stepKeywordsOk D = true) (hP : Spec.keywordsPlainStart D = true) (hT : TableOkC T ds)
    {r : Str} (hb : trimmed b = 35 :: r) (stop : Bool) (x : Comment) {s1 s2 : Nat} {c1 c2 : Ctx}
    (h : JB D T stop ds k x s1 s2 c1 c2) :
    PostR (JC1 D ds k x) (EX k) (Escaped fun _ => False)
      (run (matchTokenPure D T stop s1 (nextTok c1)) (taken c1)) (run (matchTokenPure D T stop s2 (nextTok c2)) (taken c2)) := by
  have h12 := fun {s2 : Nat} {cm : Ctx} (hj : JC1 D ds k x s1 s2 c1 cm) => csim_step1 hD hP hT hb stop hj
  rcases h with hj | ⟨hs, rfl, ⟨d, hgo⟩, β2x, hj, hβ⟩
  · exact (h12 hj).monoE fun _ _ _ _ _ h => EC.obs CtxR.obs h
  · rcases h12 hj with ⟨a1, a2, d1, dm, r1, rm, hj'⟩ | ⟨_, _, _, _, r1, -⟩ | ⟨_, _, hx⟩
    · rw [hgo] at r1
      cases r1
      obtain ⟨rfl, hc, hls, hn, hk, hd⟩ := hj'
      obtain ⟨d2, r2, hE, hβ2⟩ := follow_matchToken (D := D) stop hs (nextTok c2) (taken (withB c2 β2x)) (taken c2)
        ⟨⟨rfl, rfl, rfl, rfl, rfl, rfl⟩, hβ⟩ dm rm
      refine .inl ⟨_, _, d, d2, hgo, r2, rfl, ?_, by rw [hE.lines, hls], by rw [hE.lineNo, hn], hk, hd⟩
      exact ⟨by rw [hE.errors]; exact hc.errors, by rw [hE.μ]; exact hc.μ, by rw [hβ2]; exact hc.β,
        by rw [hE.ids]; exact hc.ids, by rw [hE.unexpected]; exact hc.unexpected, hc.sane⟩
    · rw [hgo] at r1; cases r1
    · exact hx.elim

theorem csim_linesB (hD : Spec.stepKeywordsOk D = true) (hP : Spec.keywordsPlainStart D = true) (hT : TableOkC T ds)
    {r : Str} (hb : trimmed b = 35 :: r)
    (stop : Bool) (pre post : List Str) {c1 c2 : Ctx} (hc : CtxR D pre.length none c1 c2)
    (h1 : c1.lines = pre ++ post) (h2 : c2.lines = pre ++ b :: post) (hn1 : c1.lineNo = 0) (hn2 : c2.lineNo = 0)
    (hd : c1.β.stack.length = depthAt ds 0)
    (hst : ∀ s flag c, run (parsePrefixPure D T stop pre.length 0) c1 = (.ok (s, flag), c) →
      (Spec.languageTested T s = true → languageRe (lineText b none) = none) ∧
      Spec.commentOpensDescription T s = true ∧ GoesIn D T stop s c) :
    PostR (JC1 D ds pre.length ⟨⟨pre.length + 1, some 1⟩, rstripCRLF b⟩) (EX pre.length) (Escaped fun _ => False)
      (run (parseLinesPure D T stop ((pre ++ post).length + 2) 0) c1)
      (run (parseLinesPure D T stop ((pre ++ b :: post).length + 2) 0) c2) := by
  refine (insert_lines (J0 := JC0 D ds b pre.length post) (J1 := JB D T stop ds pre.length _)
    (E0 := ECR D pre.length none) ⟨hc, h1, h2, by rw [hn1, hn2], by rw [hn1]; simp, hd⟩
    (fun l p s c1 c2 h => ⟨by rw [h.2.1]; rfl, by rw [h.2.2.1]; rfl⟩) (fun l p s c1 c2 h => csim_step0 hD hP hT hb stop h)
    (fun s f d1 d2 r1 _ hj => ?_) (fun _ _ _ _ h => .inl h) (fun s1 s2 c1 c2 h => ?_)
    (fun s1 s2 c1 c2 h => stepB hD hP hT hb stop _ h) (fun s1 s2 c1 c2 h => ?_)
    (fun k1 k2 => Sticky.abort2 (fun _ _ => False) k1 k2)).monoE fun _ _ _ _ _ h => h.elim id fun h => EC.obs CtxR.obs h.1
  · obtain ⟨hc', hl1, hl2, hn, hk', hd'⟩ := hj
    simp only [List.nil_append, List.length_nil, Nat.add_zero] at hl1 hl2 hk'
    obtain ⟨hlang, hs, hgo⟩ := hst s f d1 r1
    obtain ⟨c2a, β2x, hrun, hβ, hβx, he, hμ, hi, hu, hla, hna⟩ :=
      comment_open hD hP hb stop hs hlang hc' post (by rw [hn, hk'])
    have htok : nextTok d2 = { line := some b, lineNo := d2.lineNo + 1 } := by simp only [nextTok, hl2, List.head?_cons]
    have htk : taken d2 = { d2 with lines := post, lineNo := d2.lineNo + 1, reads := d2.reads ++ [d2.lineNo + 1] } := by
      simp only [taken, hl2, List.tail_cons]
    rw [htok, htk]
    exact ⟨by rw [hl2]; rfl, .inl ⟨_, c2a, hrun, .inr ⟨hs, rfl, hgo, β2x,
      ⟨rfl, ⟨by simp only [withB]; rw [he]; exact hc'.errors, by simp only [withB]; rw [hμ]; exact hc'.μ, hβx,
        by simp only [withB]; rw [hi]; exact hc'.ids, by simp only [withB]; rw [hu]; exact hc'.unexpected, hc'.sane⟩,
        by simp only [withB]; rw [hla, hl1], by simp only [withB]; rw [hna, hn], by omega, hd'⟩, hβ⟩⟩⟩
  · rcases h with hj | ⟨-, -, -, β2x, hj, -⟩
    · exact hj.eof
    · exact hj.eof
  · rcases h with hj | ⟨-, -, -, β2x, hj, -⟩
    · exact ⟨rfl, hj.2.1.obs⟩
    · have h := hj.2.1.obs
      exact ⟨rfl, h.errors, h.μ, h.ids, h.unexpected⟩

end doc

theorem prefix_one (D : List Dialect) (T : Table) (stop : Bool) (s : Nat) (c : Ctx) :
    run (parsePrefixPure D T stop 1 s) c =
      match run (matchTokenPure D T stop s (nextTok c)) (taken c) with
      | (.ok s', c') => (.ok (s', c.lines.head?.isNone), c')
      | (.error e, c') => (.error e, c') := by
  rw [prefix_step, prun_bind]
  rcases run (matchTokenPure D T stop s (nextTok c)) (taken c) with ⟨r, c'⟩
  cases r with
  | error e => rfl
  | ok s' => dsimp only; cases c.lines.head?.isNone <;> rfl

theorem stateAfter_succ {D : List Dialect} {T : Table} {stop : Bool} {μ : MState} {ids : Nat} {src : Str} {k s s' : Nat}
    {c : Ctx} (hra : runAfter D T stop μ ids src k = some (s, c))
    (hnext : stateAfter D T stop μ ids src (k + 1) = some s') :
    s' = s ∨ ∃ d, run (matchTokenPure D T stop s (nextTok c)) (taken c) = (.ok s', d) := by
  unfold runAfter at hra
  unfold stateAfter runAfter at hnext
  have hps := prefix_succ D T stop k 0 (startCtx D T μ ids src)
  unfold run at hps
  rw [hps] at hnext
  rcases hp : (parsePrefixPure D T stop k 0).run.run (startCtx D T μ ids src) with ⟨x, c0⟩
  rw [hp] at hra hnext
  cases x with
  | error e => cases hra
  | ok sf =>
    obtain ⟨s0, fl⟩ := sf
    simp only [Option.some.injEq, Prod.mk.injEq] at hra
    obtain ⟨rfl, rfl⟩ := hra
    cases fl with
    | true => exact .inl (by simpa using hnext.symm)
    | false =>
      simp only [] at hnext
      have h1 := prefix_one D T stop s0 c0
      unfold run at h1
      rw [h1] at hnext
      rcases hm : (matchTokenPure D T stop s0 (nextTok c0)).run.run (taken c0) with ⟨x, d⟩
      rw [hm] at hnext
      cases x with
      | error e => cases hnext
      | ok s1 => exact .inr ⟨d, by unfold run; rw [hm]; simp at hnext; rw [hnext]⟩

theorem parseWithPure_commentB {D : List Dialect} (hD : Spec.stepKeywordsOk D = true)
    (hP : Spec.keywordsPlainStart D = true) {T : Table} {ds : List (Nat × Nat)} (hT : TableOkC T ds)
    {b : Str} (hb : lineStartsWith b [35] = true) (stop : Bool) (μ : MState) (ids : Nat) {src src' : Str}
    (pre post : List Str) (h1 : splitLines src = pre ++ post) (h2 : splitLines src' = pre ++ b :: post)
    (hμ : (μ.reset D).dialect ∈ D)
    (hst : ∀ s c, Spec.runAfter D T stop μ ids src pre.length = some (s, c) →
      (Spec.languageTested T s = true → languageRe (lineText b none) = none) ∧
      (Spec.commentSelfLoop T s = true ∨ (Spec.commentOpensDescription T s = true ∧ GoesIn D T stop s c))) :
    (parseWithPure D T stop μ ids src').1 =
      insertComment pre.length ⟨⟨pre.length + 1, some 1⟩, rstripCRLF b⟩
        (mapOutcome (insertMap pre.length) (parseWithPure D T stop μ ids src).1) ∧
    CtxObs (insertMap pre.length) (parseWithPure D T stop μ ids src).2 (parseWithPure D T stop μ ids src').2 := by
  cases hra : Spec.runAfter D T stop μ ids src pre.length with
  | none =>
    exact parseWithPure_comment hD hP hT hb stop μ ids pre post h1 h2 hμ fun s c hr => by rw [hra] at hr; cases hr
  | some sc =>
    obtain ⟨s, c⟩ := sc
    obtain ⟨hlang, hpos⟩ := hst s c hra
    rcases hpos with hself | ⟨hs, hgo⟩
    · refine parseWithPure_comment hD hP hT hb stop μ ids pre post h1 h2 hμ fun s' c' hr => ?_
      rw [hra] at hr
      cases hr
      exact ⟨hself, hlang⟩
    · obtain ⟨r, hbr⟩ := (startsWith_iff _ _).1 (show startsWith [35] (trimmed b) = true from hb)
      rw [parseWithPure_lines, parseWithPure_lines]
      refine PostD.outcome <| insert_parseWithPure h1 h2
        (csim_linesB hD hP hT hbr stop pre post (CtxR.start hμ ids src src') h1 h2 rfl rfl
          (by rw [depthsOk_start hT.depths]; rfl) fun s' _ c' hrun => ?_)
        (fun _ _ _ _ h => tail_csim stop h.2.1) (Sticky.abort2 (fun _ _ => False) _ _)
      have hr := runAfter_of_prefix hrun
      rw [hra] at hr
      cases hr
      exact ⟨hlang, hs, hgo⟩

theorem comment_line_parseWithB {D : List Dialect} {T : Table} (hD : Spec.stepKeywordsOk D = true)
    (hQD : Spec.queueDialectFacts D = true) (hQT : Spec.queueFacts T = true)
    (hCB : Spec.commentBlankTested T = true) {ds : List (Nat × Nat)} (hT : TableOkC T ds)
    {b : Str} (hb : lineStartsWith b [35] = true) (stop : Bool) (μ : MState) (ids : Nat)
    {src src' : Str} (pre post : List Str)
    (h1 : splitLines src = pre ++ post) (h2 : splitLines src' = pre ++ b :: post)
    (hμ : (μ.reset D).dialect ∈ D)
    (hst : ∀ s, Spec.stateAfter D T stop μ ids src pre.length = some s →
      (Spec.languageTested T s = true → languageRe (lineText b none) = none) ∧
      (Spec.commentSelfLoop T s = true ∨
        (Spec.commentOpensDescription T s = true ∧ Spec.moreLines D T stop μ ids src pre.length = true ∧
          Spec.stateAfter D T stop μ ids src (pre.length + 1) = some (Spec.descTarget T s)))) :
    (parseWith D T stop μ ids src').1 =
      insertComment pre.length ⟨⟨pre.length + 1, some 1⟩, rstripCRLF b⟩
        (mapOutcome (insertMap pre.length) (parseWith D T stop μ ids src).1) ∧
    CtxObs (insertMap pre.length) (parseWith D T stop μ ids src).2 (parseWith D T stop μ ids src').2 :=
  parseWith_of_pure hQD hQT hCB stop μ ids src src' hμ
    (g := fun o => insertComment pre.length ⟨⟨pre.length + 1, some 1⟩, rstripCRLF b⟩ (mapOutcome (insertMap pre.length) o))
    (parseWithPure_commentB hD hQD hT hb stop μ ids pre post h1 h2 hμ fun s c hr => by
      obtain ⟨hl, hp⟩ := hst s (by unfold Spec.stateAfter; rw [hr]; rfl)
      refine ⟨hl, hp.imp id fun ⟨hs, _, hnext⟩ => ⟨hs, ?_⟩⟩
      rcases stateAfter_succ hr hnext with h | h
      · obtain ⟨_, b0, _, -, -, -, htgt, -, -, -, hne⟩ := commentOpensDescription_spec hs
        rw [htgt] at h
        exact absurd h hne
      · exact h)

end Layout6
end GV
