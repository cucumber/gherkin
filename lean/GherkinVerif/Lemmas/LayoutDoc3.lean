/-
  Lemmas/LayoutDoc3.lean — property C16, whole document: inserting a whitespace-only line changes
  only line numbers.

  A lock-step simulation of two runs of the QUEUE-FREE parse (`Spec.parseWithPure`): on the text
  with the lines `pre ++ post` and on `pre ++ b :: post`.  The simulation of `match_token` (`SimX`,
  `simX_matchTokenPure`) is generic in the relation between the two contexts (`ScanRel`), the map
  between the aborts, an escape of the second run and the relation between the unread lines; it asks
  that the look-aheads and the productions of every branch are simulated.  While the inserted line
  is ahead (`LinesIns`) a look-ahead is simulated if it skips `b` (`SkipsLine`).
  Lemmas/LayoutDoc4.lean uses this for a comment line, Lemmas/Recover2Sim.lean for the unexpected
  line of C14.

  Here `b` is blank and the contexts are related by `CtxRest` (everything of the second run is the
  `insertMap pre.length`-image of the first); the second run reads `b` as `Empty` in the state in
  which the first stands after `pre` and comes back to it (`emptyFirst`, `emptySelfLoop`); the two
  main loops then end alike by `insert_lines` (Lemmas/RelLoop.lean, through `simX_insert`).
  `queue_refines_peek` (C18) carries the result to `parseWith`.
-/
import GherkinVerif.Lemmas.LayoutDoc3Builder
import GherkinVerif.Lemmas.QueuePureLoop
import GherkinVerif.Spec.PrefixRun
import GherkinVerif.Lemmas.LayoutDoc3Depth
import GherkinVerif.Lemmas.RelLoop
import GherkinVerif.Lemmas.ErrMessage
namespace GV
namespace Layout3
open Lemmas Spec

def reNo (n : Nat) (t : Token) : Token := { t with lineNo := n }

def reRes (n : Nat) : MRes → MRes
  | .raised e => .raised { e with loc := ⟨n, e.loc.col⟩ }
  | r => r

def reOut (n : Nat) (o : MOut) : MOut := ⟨reNo n o.tok, o.μ, reRes n o.res⟩

theorem setMatched_reNo (n : Nat) (μ : MState) (t : Token) (ty : Kind) (text keyword : Option Str)
    (ktype : Option KType) (indent : Option Nat) (items : List (Nat × Str)) :
    setMatched μ (reNo n t) ty text keyword ktype indent items =
      reNo n (setMatched μ t ty text keyword ktype indent items) := rfl

theorem matchLine_reNo (D : List Dialect) (k : Kind) (μ : MState) (t : Token) (l : Str) (n : Nat) :
    matchLine D k μ (reNo n t) l = reOut n (matchLine D k μ t l) := by
  rw [matchLine_eq, matchLine_eq]
  cases lineDec D k μ l <;> rfl

theorem matchTok_reNo (D : List Dialect) (k : Kind) (μ : MState) (t : Token) (n : Nat) :
    matchTok D k μ (reNo n t) = (reOut n (matchTok D k μ t).1, (matchTok D k μ t).2) := by
  unfold matchTok
  cases hl : t.line with
  | none =>
    have : (reNo n t).line = none := hl
    simp only [this]
    split <;> rfl
  | some l =>
    have : (reNo n t).line = some l := hl
    simp only [this, matchLine_reNo]

theorem setMatched_col0 (μ : MState) (t : Token) (ty : Kind) (text keyword : Option Str)
    (ktype : Option KType) (indent : Option Nat) (items : List (Nat × Str)) :
    (setMatched μ t ty text keyword ktype indent items).col ≠ some 0 := by
  simp [setMatched]

theorem matchLine_matched_col0 (D : List Dialect) (k : Kind) (μ : MState) (t : Token) (l : Str)
    (h : (matchLine D k μ t l).res = .matched) : (matchLine D k μ t l).tok.col ≠ some 0 := by
  rw [matchLine_eq] at h ⊢
  generalize lineDec D k μ l = d at h ⊢
  cases d with
  | hit => exact setMatched_col0 _ _ _ _ _ _ _ _
  | _ => cases h

theorem matchTok_matched_col0 (D : List Dialect) (k : Kind) (μ : MState) (t : Token)
    (h : (matchTok D k μ t).1.res = .matched) : (matchTok D k μ t).1.tok.col ≠ some 0 := by
  unfold matchTok at h ⊢
  split
  · split
    · exact setMatched_col0 _ _ _ _ _ _ _ _
    · rename_i hl hk
      rw [hl] at h
      simp only [hk, Bool.false_eq_true, ↓reduceIte] at h
      cases h
  · rename_i l hl
    rw [hl] at h
    exact matchLine_matched_col0 D k μ t l h

theorem matchTok_raised_line (D : List Dialect) (k : Kind) (μ : MState) (t : Token) (e : PErr)
    (h : (matchTok D k μ t).1.res = .raised e) : e.loc.line = t.lineNo :=
  (matchTok_raised D k μ t e h).2

theorem insertMap_loc (k : Nat) (l : Loc) : (insertMap k).loc l = ⟨(insertMap k).ln l.line, l.col⟩ := by
  unfold LocMap.loc insertMap
  cases l.col <;> rfl

theorem insertMap_ln_inj (k : Nat) {a b : Nat} (h : (insertMap k).ln a = (insertMap k).ln b) : a = b := by
  simp only [insertMap] at h
  split at h <;> split at h <;> omega

theorem insertMap_ln_le (k : Nat) {a : Nat} (h : a ≤ k) : (insertMap k).ln a = a := by
  simp only [insertMap]; split <;> omega

theorem insertMap_ln_gt (k : Nat) {a : Nat} (h : k < a) : (insertMap k).ln a = a + 1 := by
  simp only [insertMap]; split <;> omega

/-- de-duplication of errors by message is insensitive to the renaming -/
theorem insertMap_msg (k : Nat) (e e' : PErr) :
    ((mapErr (insertMap k) e').message == (mapErr (insertMap k) e).message) = (e'.message == e.message) := by
  have key : (mapErr (insertMap k) e').message = (mapErr (insertMap k) e).message ↔ e'.message = e.message := by
    rw [message_eq_iff, message_eq_iff]
    simp only [mapErr, insertMap_loc]
    constructor
    · rintro ⟨h1, h2, h3⟩; exact ⟨insertMap_ln_inj k h1, h2, h3⟩
    · rintro ⟨h1, h2, h3⟩; exact ⟨by rw [h1], h2, h3⟩
  by_cases h : e'.message = e.message
  · rw [beq_iff_eq.2 h, beq_iff_eq.2 (key.2 h)]
  · rw [beq_eq_false_iff_ne.2 h, beq_eq_false_iff_ne.2 (fun h' => h (key.1 h'))]

/-- an in-flight token of the second run: the token of the first run with its line renumbered -/
def TokIns (k : Nat) (t1 t2 : Token) : Prop := t2 = reNo ((insertMap k).ln t1.lineNo) t1

theorem TokIns.tokMap {k : Nat} {t1 t2 : Token} (h : TokIns k t1 t2) (hcol : t1.col ≠ some 0) :
    TokMap (insertMap k) t1 t2 := by
  subst h
  refine ⟨rfl, ?_, rfl, rfl, rfl, rfl, rfl, ?_, fun _ _ => rfl, hcol⟩
  · show t1.col = t1.col.map fun c => c
    cases t1.col <;> rfl
  · show t1.items = t1.items.map fun it => (it.1, it.2)
    simp

theorem reRes_raised {k : Nat} {t : Token} {D : List Dialect} {K : Kind} {μ : MState} {e : PErr}
    (h : (matchTok D K μ t).1.res = .raised e) :
    reRes ((insertMap k).ln t.lineNo) (.raised e) = .raised (mapErr (insertMap k) e) := by
  have := matchTok_raised_line D K μ t e h
  simp only [reRes, mapErr, insertMap_loc, this]

def mapAbort (f : LocMap) : Abort → Abort
  | .single e => .single (mapErr f e)
  | .composite es => .composite (es.map (mapErr f))
  | .crash w => .crash w
  | .fuel => .fuel

theorem run_addError_ins (cap k : Nat) (e : PErr) {c1 c2 : Ctx}
    (h : c2.errors = c1.errors.map (mapErr (insertMap k))) :
    run (addError cap (mapErr (insertMap k) e)) c2 =
      if c1.errors.any (fun e' => e'.message == e.message) then (.ok (), c2)
      else if (c1.errors ++ [e]).length > cap then
        (.error (mapAbort (insertMap k) (.composite (c1.errors ++ [e]))),
          { c2 with errors := (c1.errors ++ [e]).map (mapErr (insertMap k)) })
      else (.ok (), { c2 with errors := (c1.errors ++ [e]).map (mapErr (insertMap k)) }) := by
  have hany : (c1.errors.map (mapErr (insertMap k))).any
      (fun e' => e'.message == (mapErr (insertMap k) e).message) =
      c1.errors.any (fun e' => e'.message == e.message) := by
    rw [List.any_map]
    exact congrArg c1.errors.any (funext fun e' => insertMap_msg k e e')
  have happ : c1.errors.map (mapErr (insertMap k)) ++ [mapErr (insertMap k) e] =
      (c1.errors ++ [e]).map (mapErr (insertMap k)) := by
    rw [List.map_append]; rfl
  have hlen : ((c1.errors ++ [e]).map (mapErr (insertMap k))).length = (c1.errors ++ [e]).length :=
    List.length_map _
  rw [run_addError, h, hany, happ, hlen]
  rfl

/-- the state of the matcher the per-line lemmas need -/
def Sane (D : List Dialect) (μ : MState) : Prop := SepOk μ ∧ μ.dialect ∈ D

theorem sane_matchTok (D : List Dialect) (K : Kind) (μ : MState) (t : Token) (h : Sane D μ) :
    Sane D (matchTok D K μ t).1.μ := by
  unfold matchTok
  split
  · split <;> exact h
  · exact sane_matchLine D K μ t _ h

theorem sane_start {D : List Dialect} {μ : MState} (hμ : (μ.reset D).dialect ∈ D) : Sane D (μ.reset D) :=
  ⟨fun sep hsep => (by unfold MState.reset at hsep; cases hsep), hμ⟩


section aux
variable {D : List Dialect} {k : Nat}

theorem matchTok_lineNo' (K : Kind) (μ : MState) (t : Token) : (matchTok D K μ t).1.tok.lineNo = t.lineNo :=
  (matchTok_tok D K μ t).2

theorem unexpectedErr_ins (row : StateRow) {t1 t2 : Token} (ht : TokIns k t1 t2) :
    unexpectedErr row t2 = mapErr (insertMap k) (unexpectedErr row t1) := by
  subst ht
  obtain ⟨line, lineNo, col, a3, a4, a5, a6, a7, a8, a9⟩ := t1
  unfold unexpectedErr
  simp only [reNo, Token.loc]
  cases line with
  | none => simp only [mapErr, insertMap_loc]
  | some l =>
    simp only [mapErr, insertMap_loc]
    cases col with
    | none => rfl
    | some c => by_cases hc : (c == 0) = true <;> simp [hc]

theorem kw_ne_nil (hD : Spec.stepKeywordsOk D = true) {μ : MState} (hμ : Sane D μ) :
    ∀ kw ∈ μ.dialect.stepKeywords, kw ≠ [] := fun kw hkw =>
  ((stepKeywordOk_iff kw).1 (stepKwOk_of_mem hD hμ.2 kw hkw)).1

theorem run_lines_cons (T : Table) (stop : Bool) (j s : Nat) (c : Ctx) {l : Str} {ls : List Str} (hl : c.lines = l :: ls) :
    run (parseLinesPure D T stop (j + 1) s) c =
      match run (matchTokenPure D T stop s { line := some l, lineNo := c.lineNo + 1 })
          { c with lines := ls, lineNo := c.lineNo + 1, reads := c.reads ++ [c.lineNo + 1] } with
      | (.ok s', c') => run (parseLinesPure D T stop j s') c'
      | (.error e, c') => (.error e, c') := by
  rw [pure_step, hl, prun_bind, List.head?_cons, List.tail_cons]
  rcases run (matchTokenPure D T stop s { line := some l, lineNo := c.lineNo + 1 }) _ with ⟨r, c'⟩
  cases r <;> rfl

theorem run_lines_nil (T : Table) (stop : Bool) (j s : Nat) (c : Ctx) (hl : c.lines = []) :
    run (parseLinesPure D T stop (j + 1) s) c =
      run (matchTokenPure D T stop s { line := none, lineNo := c.lineNo + 1 })
          { c with lineNo := c.lineNo + 1, reads := c.reads ++ [c.lineNo + 1] } := by
  rw [pure_step, hl, prun_bind, List.head?_nil, List.tail_nil]
  rcases run (matchTokenPure D T stop s { line := none, lineNo := c.lineNo + 1 }) _ with ⟨r, c'⟩
  cases r <;> rfl

theorem tryBranchesPure_first (T : Table) (stop : Bool) (row : StateRow) (μ : MState) {t tok : Token}
    (pass : Branch → Bool) :
    ∀ (bs : List Branch) (b0 : Branch), bs.find? pass = some b0 →
      (∀ br ∈ bs, pass br = false → matchTok D br.kind μ t = (⟨t, μ, .no⟩, true)) →
      matchTok D b0.kind μ t = (⟨tok, μ, .matched⟩, true) → b0.guard = none → ∀ c : Ctx, c.μ = μ →
      ∃ n, run (tryBranchesPure D T stop row bs t) c =
        run (do runProds T.errorCap stop tok b0.prods; Pure.pure b0.target : PM Nat)
          { c with calls := c.calls + (n + 1) } := by
  intro bs
  induction bs with
  | nil => intro b0 hf; cases hf
  | cons br bs ih =>
    intro b0 hf hno hyes hg c hμ
    simp only [List.find?] at hf
    cases he : pass br with
    | true =>
      rw [he] at hf
      cases hf
      have e : matchTok D br.kind c.μ t = (⟨tok, μ, .matched⟩, true) := by rw [hμ]; exact hyes
      refine ⟨0, ?_⟩
      conv => lhs; unfold tryBranchesPure
      rw [prun_bind, run_matchP]
      simp only [e, hg, ↓reduceIte, prun_bind, prun_pure]
      have ec : ({ c with μ := μ, calls := c.calls + 1 } : Ctx) = { c with calls := c.calls + (0 + 1) } := by
        rw [← hμ]
      rw [ec]
    | false =>
      rw [he] at hf
      have e : matchTok D br.kind c.μ t = (⟨t, μ, .no⟩, true) := by
        rw [hμ]; exact hno br List.mem_cons_self he
      obtain ⟨n, hn⟩ := ih b0 hf (fun b' hb' => hno b' (List.mem_cons_of_mem _ hb')) hyes hg
        { c with calls := c.calls + 1 } hμ
      refine ⟨n + 1, ?_⟩
      conv => lhs; unfold tryBranchesPure
      rw [prun_bind, run_matchP]
      simp only [e, ↓reduceIte, Bool.false_eq_true]
      have ec : ({ c with μ := μ, calls := c.calls + 1 } : Ctx) = { c with calls := c.calls + 1 } := by
        rw [← hμ]
      rw [ec, hn]
      have ec2 : ({ c with calls := c.calls + 1 + (n + 1) } : Ctx) = { c with calls := c.calls + (n + 1 + 1) } := by
        have : c.calls + 1 + (n + 1) = c.calls + (n + 1 + 1) := by omega
        rw [this]
      show run _ { c with calls := c.calls + 1 + (n + 1) } = _
      rw [ec2]

theorem matchP_mm {cap : Nat} {stop : Bool} {K : Kind} {t t' : Token} {c c' : Ctx}
    (h : run (matchP D cap stop K t) c = (.ok (true, t'), c')) : mm D K c.μ t.line = true := by
  rw [← matchTok_isMatched]
  obtain ⟨c1, -, ⟨m, hm, hr, -⟩ | ⟨e, -, ⟨-, hr, -⟩ | ⟨-, r2, -, hr⟩⟩⟩ := matchP_cases h
  · rcases hm with ⟨hres, -⟩ | ⟨-, rfl⟩
    · rw [hres]; rfl
    · cases hr
  · cases hr
  · cases r2 <;> cases hr

theorem matchAny_mm {cap : Nat} {stop : Bool} {ks : List Kind} {t t' : Token} {c c' : Ctx}
    (h : run (matchAny D cap stop ks t) c = (.ok (true, t'), c')) : ∃ K ∈ ks, ∃ μ, mm D K μ t.line = true := by
  induction ks generalizing t c with
  | nil => rw [matchAny, prun_pure] at h; cases h
  | cons K ks ih =>
    rw [matchAny, prun_bind] at h
    rcases hr : run (matchP D cap stop K t) c with ⟨r1, c1⟩
    rw [hr] at h
    cases r1 with
    | error e => cases h
    | ok x =>
      obtain ⟨m1, t1⟩ := x
      dsimp only at h
      cases m1 with
      | true => exact ⟨K, List.mem_cons_self, c.μ, matchP_mm hr⟩
      | false =>
        simp only [Bool.false_eq_true, ↓reduceIte] at h
        obtain ⟨K', hK', μ, hμ⟩ := ih h
        exact ⟨K', List.mem_cons_of_mem _ hK', μ, (matchP_tok _ _ _ _ _ _ _ _ hr).1 ▸ hμ⟩

end aux

/-- unread lines of the two runs (`n` = number of lines read): the inserted line `b` is still ahead,
    as line `k + 1` of the second text, or has been read by the second run -/
def LinesIns (b : Str) (k : Nat) (ls1 : List Str) (n1 : Nat) (ls2 : List Str) (n2 : Nat) : Prop :=
  (n2 = n1 ∧ ∃ p q, ls1 = p ++ q ∧ ls2 = p ++ b :: q ∧ n1 + p.length = k) ∨
  (n2 = n1 + 1 ∧ k ≤ n1 ∧ ls2 = ls1)

/-- the computation has not touched the scanner -/
def Frame (c c' : Ctx) : Prop := c'.lines = c.lines ∧ c'.lineNo = c.lineNo

theorem Frame.refl (c : Ctx) : Frame c c := ⟨rfl, rfl⟩
theorem Frame.trans {a b c : Ctx} (h1 : Frame a b) (h2 : Frame b c) : Frame a c :=
  ⟨h2.1.trans h1.1, h2.2.trans h1.2⟩

/-! ### lock-step simulation, generic in the relation between the contexts

  The simulations of this file, of Lemmas/LayoutDoc4.lean and of Lemmas/Recover2Sim.lean relate the
  contexts of the two runs by `CtxRest`, `Layout4.CtxR`, `Recover.CtxU`.  These differ in the relation
  between the builder states and in that between the two error lists; what looks at neither is
  proved once, for any relation `C` with the properties `ScanRel`. -/

/-- what is observable of two final contexts: error list and reported lines renamed, matcher state
    and id counter equal -/
structure CtxObs (f : LocMap) (c1 c2 : Ctx) : Prop where
  errors : c2.errors = c1.errors.map (mapErr f)
  μ : c2.μ = c1.μ
  ids : c2.ids = c1.ids
  unexpected : c2.unexpected = c1.unexpected.map f.ln

/-- both runs abort, in related contexts; `am` makes the second run's abort of the first's -/
def EC (C : Ctx → Ctx → Prop) (am : Abort → Abort) (e1 e2 : Abort) (d1 d2 : Ctx) : Prop := e2 = am e1 ∧ C d1 d2

abbrev Escaped (Esc : Ctx → Prop) (_ x2 : Option Abort × Ctx) : Prop := ∃ e, x2.1 = some e ∧ Esc x2.2

/-- both runs end the same way — both return, with related results, without having touched the
    scanner; or both abort — or the second has taken the escape (a `PostR`, Lemmas/Rel.lean) -/
abbrev PostX (C : Ctx → Ctx → Prop) (am : Abort → Abort) (Esc : Ctx → Prop) {α} (R : α → α → Prop) (c1 c2 : Ctx)
    (x1 x2 : Except Abort α × Ctx) : Prop :=
  PostR (fun a1 a2 d1 d2 => R a1 a2 ∧ C d1 d2 ∧ Frame c1 d1 ∧ Frame c2 d2) (EC C am) (Escaped Esc) x1 x2

/-- `C` relates the contexts of two runs, the second on a text with a line inserted after line `k`:
    equal and sane matcher states, and apart from them `C` looks at neither the scanner nor the
    counters (`scan`); `add_error` of an error and of its renamed copy keeps `C`, or the second run
    escapes (`addErr`; `Esc cap` is the escape under the error cap `cap`); so does reporting a line
    and its renamed copy unexpected (`unexp`) -/
structure ScanRel (D : List Dialect) (k : Nat) (C : Ctx → Ctx → Prop) (am : Abort → Abort) (Esc : Nat → Ctx → Prop) :
    Prop where
  μ : ∀ {c1 c2}, C c1 c2 → c2.μ = c1.μ
  sane : ∀ {c1 c2}, C c1 c2 → Sane D c1.μ
  scan : ∀ {c1 c2}, C c1 c2 → ∀ {μ1 μ2 : MState}, μ2 = μ1 → Sane D μ1 →
    ∀ (l1 l2 : List Str) (n1 n2 : Nat) (r1 r2 : List Nat) (k1 k2 : Nat),
    C { c1 with lines := l1, lineNo := n1, reads := r1, calls := k1, μ := μ1 }
      { c2 with lines := l2, lineNo := n2, reads := r2, calls := k2, μ := μ2 }
  single : ∀ e, am (.single e) = .single (mapErr (insertMap k) e)
  crash : ∀ w, am (.crash w) = .crash w
  addErr : ∀ (cap : Nat) (e : PErr) {c1 c2}, C c1 c2 →
    PostX C am (Esc cap) (fun _ _ => True) c1 c2 (run (addError cap e) c1)
      (run (addError cap (mapErr (insertMap k) e)) c2)
  unexp : ∀ (n : Nat) {c1 c2}, C c1 c2 → C { c1 with unexpected := c1.unexpected ++ [n] }
    { c2 with unexpected := c2.unexpected ++ [(insertMap k).ln n] }

/-- lock-step simulation of computations that do not consume lines; `L` relates the unread lines and
    their numbering -/
def SimX (C : Ctx → Ctx → Prop) (am : Abort → Abort) (Esc : Ctx → Prop) (L : List Str → Nat → List Str → Nat → Prop)
    {α} (R : α → α → Prop) (m1 m2 : PM α) : Prop :=
  ∀ c1 c2, C c1 c2 → L c1.lines c1.lineNo c2.lines c2.lineNo → PostX C am Esc R c1 c2 (run m1 c1) (run m2 c2)

section simx
variable {D : List Dialect} {k : Nat} {C : Ctx → Ctx → Prop} {am : Abort → Abort} {Esc : Ctx → Prop}
  {L : List Str → Nat → List Str → Nat → Prop}

theorem Escaped.aborted {α} {x1 : Option Abort × Ctx} {x2 : Except Abort α × Ctx} (h : Escaped Esc x1 (erase x2)) :
    ∃ e d, x2 = (.error e, d) ∧ Esc d := by
  obtain ⟨r, d⟩ := x2
  obtain ⟨e, he, hd⟩ := h
  cases r with
  | ok a => cases he
  | error e' => exact ⟨e', d, rfl, hd⟩

/-- the start contexts of a `PostX` serve its frame clause only -/
theorem PostX.frames {α : Type} {R : α → α → Prop} {c1 c2 c1' c2' : Ctx} {x1 x2 : Except Abort α × Ctx}
    (h : PostX C am Esc R c1' c2' x1 x2) (f1 : Frame c1 c1') (f2 : Frame c2 c2') : PostX C am Esc R c1 c2 x1 x2 :=
  h.mono fun _ _ _ _ _ _ ⟨hr, hc, g1, g2⟩ => ⟨hr, hc, f1.trans g1, f2.trans g2⟩

theorem SimX.pure {α} {R : α → α → Prop} {a1 a2 : α} (h : R a1 a2) : SimX C am Esc L R (pure a1) (pure a2) :=
  fun _ _ hc _ => .ok ⟨h, hc, Frame.refl _, Frame.refl _⟩

theorem SimX.throw {α} {R : α → α → Prop} (e : Abort) : SimX C am Esc L R (throw e : PM α) (throw (am e)) :=
  fun _ _ hc _ => .err ⟨rfl, hc⟩

theorem Frame.lines {c1 c2 c1' c2' : Ctx} (fr1 : Frame c1 c1') (fr2 : Frame c2 c2')
    (hl : L c1.lines c1.lineNo c2.lines c2.lineNo) : L c1'.lines c1'.lineNo c2'.lines c2'.lineNo := by
  rw [fr1.1, fr1.2, fr2.1, fr2.2]; exact hl

/-- what follows may use that the first value has been returned by a run of `m1` -/
theorem SimX.bind_run {α β} {R : α → α → Prop} {S : β → β → Prop} {m1 m2 : PM α} {f1 f2 : α → PM β}
    (h1 : SimX C am Esc L R m1 m2)
    (h2 : ∀ a1 a2, R a1 a2 → (∃ c d, run m1 c = (.ok a1, d)) → SimX C am Esc L S (f1 a1) (f2 a2)) :
    SimX C am Esc L S (m1 >>= f1) (m2 >>= f2) := fun c1 c2 hc hl =>
  PostR.bind (h1 c1 c2 hc hl) (fun a1 a2 d1 d2 r1 _ ⟨hr, hc', g1, g2⟩ =>
    (h2 a1 a2 hr ⟨c1, d1, r1⟩ d1 d2 hc' (g1.lines g2 hl)).frames g1 g2) (Sticky.abort2 (fun _ c => Esc c) _ _)

theorem SimX.bind {α β} {R : α → α → Prop} {S : β → β → Prop} {m1 m2 : PM α} {f1 f2 : α → PM β}
    (h1 : SimX C am Esc L R m1 m2) (h2 : ∀ a1 a2, R a1 a2 → SimX C am Esc L S (f1 a1) (f2 a2)) :
    SimX C am Esc L S (m1 >>= f1) (m2 >>= f2) := h1.bind_run fun a1 a2 hr _ => h2 a1 a2 hr

def MatchRel (k : Nat) (r1 r2 : Bool × Token) : Prop :=
  r1.1 = r2.1 ∧ TokIns k r1.2 r2.2 ∧ (r1.1 = true → r1.2.col ≠ some 0)

def AnyRel (k : Nat) (r1 r2 : Bool × Token) : Prop := r1.1 = r2.1 ∧ TokIns k r1.2 r2.2

variable {EscN : Nat → Ctx → Prop} (hS : ScanRel D k C am EscN)
include hS

theorem simX_addError (cap : Nat) (e : PErr) :
    SimX C am (EscN cap) L (fun _ _ => True) (addError cap e) (addError cap (mapErr (insertMap k) e)) :=
  fun _ _ hc _ => hS.addErr cap e hc

theorem simX_matchP (cap : Nat) (stop : Bool) (K : Kind) {t1 t2 : Token} (ht : TokIns k t1 t2) :
    SimX C am (EscN cap) L (MatchRel k) (matchP D cap stop K t1) (matchP D cap stop K t2) := by
  intro c1 c2 hc _
  rw [run_matchP, run_matchP, hS.μ hc, ht, matchTok_reNo]
  simp only [reOut]
  have htok : TokIns k (matchTok D K c1.μ t1).1.tok (reNo ((insertMap k).ln t1.lineNo) (matchTok D K c1.μ t1).1.tok) := by
    unfold TokIns; rw [matchTok_lineNo']
  have hc' : C
      { c1 with μ := (matchTok D K c1.μ t1).1.μ, calls := c1.calls + (if (matchTok D K c1.μ t1).2 then 1 else 0) }
      { c2 with μ := (matchTok D K c1.μ t1).1.μ, calls := c2.calls + (if (matchTok D K c1.μ t1).2 then 1 else 0) } :=
    hS.scan hc rfl (sane_matchTok D K c1.μ t1 (hS.sane hc)) _ _ _ _ _ _ _ _
  cases hr : (matchTok D K c1.μ t1).1.res with
  | matched => exact .ok ⟨⟨rfl, htok, fun _ => matchTok_matched_col0 D K c1.μ t1 hr⟩, hc', ⟨rfl, rfl⟩, ⟨rfl, rfl⟩⟩
  | no => exact .ok ⟨⟨rfl, htok, fun h => by cases h⟩, hc', ⟨rfl, rfl⟩, ⟨rfl, rfl⟩⟩
  | raised e =>
    rw [reRes_raised hr]
    simp only []
    cases stop with
    | true =>
      exact .err ⟨(hS.single e).symm, hc'⟩
    | false =>
      simp only [Bool.false_eq_true, ↓reduceIte]
      rcases hS.addErr cap e hc' with ⟨_, _, d1, d2, e1, e2, -, hc'', g1, g2⟩ | ⟨a, _, d1, d2, e1, e2, rfl, hc''⟩ | hx
      · rw [e1, e2]
        exact .ok ⟨⟨rfl, htok, fun h => by cases h⟩, hc'', g1, g2⟩
      · rw [e1, e2]
        exact .err ⟨rfl, hc''⟩
      · obtain ⟨e', d2, e2, hesc⟩ := hx.aborted
        rw [e2]
        exact .esc ⟨e', rfl, hesc⟩

theorem simX_matchAny (cap : Nat) (stop : Bool) (ks : List Kind) {t1 t2 : Token} (ht : TokIns k t1 t2) :
    SimX C am (EscN cap) L (AnyRel k) (matchAny D cap stop ks t1) (matchAny D cap stop ks t2) := by
  induction ks generalizing t1 t2 with
  | nil => exact SimX.pure ⟨rfl, ht⟩
  | cons K ks ih =>
    unfold matchAny
    refine SimX.bind (simX_matchP hS cap stop K ht) fun r1 r2 hr => ?_
    obtain ⟨m1, t1'⟩ := r1
    obtain ⟨m2, t2'⟩ := r2
    obtain ⟨hm, ht', -⟩ := hr
    simp only at hm ht'
    subst hm
    dsimp only
    split
    · exact SimX.pure ⟨rfl, ht'⟩
    · exact ih ht'

theorem simX_peek_cons (cap : Nat) (stop : Bool) (la : LookAhead) {l : Str} {ls1 ls2 : List Str} {n1 n2 : Nat}
    (ht : TokIns k { line := some l, lineNo := n1 } { line := some l, lineNo := n2 })
    (hrest : (∃ K ∈ la.skip, ∃ μ, mm D K μ (some l) = true) →
      SimX C am (EscN cap) L Eq (peekLoop D cap stop la ls1 (n1 + 1)) (peekLoop D cap stop la ls2 (n2 + 1))) :
    SimX C am (EscN cap) L Eq (peekLoop D cap stop la (l :: ls1) n1) (peekLoop D cap stop la (l :: ls2) n2) := by
  unfold peekLoop
  refine SimX.bind_run (simX_matchAny hS cap stop _ ht) fun r1 r2 hr ⟨c, d, hrun⟩ => ?_
  obtain ⟨m1, t1'⟩ := r1
  obtain ⟨m2, t2'⟩ := r2
  obtain ⟨hm, ht'⟩ := hr
  simp only at hm ht'
  subst hm
  have hline : t1'.line = some l := (matchAny_tok _ _ _ _ _ _ _ _ hrun).1
  dsimp only
  split
  · exact SimX.pure rfl
  · refine SimX.bind_run (simX_matchAny hS cap stop _ ht') fun r1 r2 hr ⟨c, d, hrun⟩ => ?_
    obtain ⟨s1, t1''⟩ := r1
    obtain ⟨s2, t2''⟩ := r2
    obtain ⟨hs, -⟩ := hr
    simp only at hs
    subst hs
    dsimp only
    split
    · rename_i hs1
      subst hs1
      exact hrest (by rw [← hline]; exact matchAny_mm hrun)
    · exact SimX.pure rfl

theorem simX_peek_after (cap : Nat) (stop : Bool) (la : LookAhead) :
    ∀ (ls : List Str) (n : Nat), k < n →
      SimX C am (EscN cap) L Eq (peekLoop D cap stop la ls n) (peekLoop D cap stop la ls (n + 1)) := by
  intro ls
  induction ls with
  | nil =>
    intro n hn
    unfold peekLoop
    have ht : TokIns k { line := none, lineNo := n } { line := none, lineNo := n + 1 } := by
      unfold TokIns reNo; simp only [insertMap_ln_gt k hn]
    refine SimX.bind (simX_matchAny hS cap stop _ ht) fun r1 r2 hr => ?_
    obtain ⟨m1, t1'⟩ := r1
    obtain ⟨m2, t2'⟩ := r2
    obtain ⟨hm, ht'⟩ := hr
    simp only at hm ht'
    subst hm
    dsimp only
    split
    · exact SimX.pure rfl
    · exact SimX.bind (simX_matchAny hS cap stop _ ht') fun _ _ _ => SimX.pure rfl
  | cons l ls ih =>
    intro n hn
    refine simX_peek_cons hS cap stop la ?_ fun _ => ih (n + 1) (by omega)
    unfold TokIns reNo; simp only [insertMap_ln_gt k hn]

omit L in
theorem postX_liftB (cap : Nat) (stop : Bool) (r : Except BErr Unit) {c1 c2 : Ctx} (hc : C c1 c2) :
    PostX C am (EscN cap) (fun _ _ => True) c1 c2 (run (liftB cap stop r) c1)
      (run (liftB cap stop (r.mapError (mapBErr (insertMap k)))) c2) := by
  rw [run_liftB, run_liftB]
  rcases r with (w | e) | u
  · exact .err ⟨(hS.crash w).symm, hc⟩
  · simp only [Except.mapError, mapBErr]
    cases stop with
    | true => exact .err ⟨(hS.single e).symm, hc⟩
    | false => exact hS.addErr cap e hc
  · exact .ok ⟨trivial, hc, Frame.refl _, Frame.refl _⟩

/-- `match_token` in a row, from `branches_rel`, given the simulation of the look-aheads of its
    guarded branches (for a branch whose test has matched the line `ln` of the token) and of the
    productions of its branches — from contexts whose first builder state is the one on entry (`β0`)
    and for tokens of the line on entry (`n`): tests and look-aheads change neither -/
theorem simX_tryBranchesPure {T : Table} {stop : Bool} (row : StateRow) (β0 : BState) (n : Nat) (ln : Option Str)
    (bs : List Branch)
    (hLA : ∀ br ∈ bs, ∀ (i : Nat) (la : LookAhead), br.guard = some i → T.lookaheads[i]? = some la →
      (∃ μ, mm D br.kind μ ln = true) →
      SimX C am (EscN T.errorCap) L Eq (lookaheadPure D T.errorCap stop la) (lookaheadPure D T.errorCap stop la))
    (hbs : ∀ br ∈ bs, ∀ (t1 t2 : Token), TokIns k t1 t2 → t1.col ≠ some 0 → t1.lineNo = n → ∀ c1 c2, C c1 c2 →
      L c1.lines c1.lineNo c2.lines c2.lineNo → c1.β = β0 →
      PostX C am (EscN T.errorCap) (fun _ _ => True) c1 c2 (run (runProds T.errorCap stop t1 br.prods) c1)
        (run (runProds T.errorCap stop t2 br.prods) c2))
    {t1 t2 : Token} (ht : TokIns k t1 t2) (hn : t1.lineNo = n) (hln : t1.line = ln) (c1 c2 : Ctx) (hc : C c1 c2)
    (hl : L c1.lines c1.lineNo c2.lines c2.lineNo) (hβ : c1.β = β0) :
    PostX C am (EscN T.errorCap) Eq c1 c2 (run (tryBranchesPure D T stop row bs t1) c1)
      (run (tryBranchesPure D T stop row bs t2) c2) := by
  -- between tests: related contexts that have left the scanner and the first builder alone
  let P : Ctx → Ctx → Prop := fun d1 d2 => C d1 d2 ∧ Frame c1 d1 ∧ Frame c2 d2 ∧ d1.β = β0
  have hlines : ∀ {d1 d2}, P d1 d2 → L d1.lines d1.lineNo d2.lines d2.lineNo :=
    fun h => h.2.1.lines h.2.2.1 hl
  have keep : ∀ {α} {R : α → α → Prop} {m1 m2 : PM α} {d1 d2 : Ctx}, KeepsB m1 → P d1 d2 →
      PostX C am (EscN T.errorCap) R d1 d2 (run m1 d1) (run m2 d2) →
      PostR (fun a1 a2 e1 e2 => R a1 a2 ∧ P e1 e2) (EC C am) (Escaped (EscN T.errorCap)) (run m1 d1) (run m2 d2) :=
    fun hk hp h => PostR.mono h fun a1 a2 e1 e2 r1 _ ⟨hr, hc', f1, f2⟩ =>
      ⟨hr, hc', hp.2.1.trans f1, hp.2.2.1.trans f2, (run_beta hk r1).trans hp.2.2.2⟩
  refine branches_rel (P := P)
    (Tk := fun bs1 bs2 t1 t2 => bs2 = bs1 ∧ (∀ br ∈ bs1, br ∈ bs) ∧ TokIns k t1 t2 ∧ t1.lineNo = n ∧ t1.line = ln)
    (Pm := fun b1 b2 t1 t2 d1 d2 => b2 = b1 ∧ b1 ∈ bs ∧ P d1 d2 ∧ TokIns k t1 t2 ∧ t1.col ≠ some 0 ∧ t1.lineNo = n ∧
      ∃ μ, mm D b1.kind μ ln = true)
    (Q := fun s1 s2 d1 d2 => s1 = s2 ∧ C d1 d2 ∧ Frame c1 d1 ∧ Frame c2 d2) row row
    (fun b1 bs1 bs2 t1 t2 h => ⟨b1, bs1, h.1, rfl⟩) ?_ ?_ (fun _ _ _ _ w _ _ h => ⟨(hS.crash w).symm, h.2.2.1.1⟩) ?_ ?_
    (fun k1 k2 => Sticky.abort2 (fun _ c => EscN T.errorCap c) k1 k2) bs bs t1 t2 c1 c2
    ⟨rfl, fun _ h => h, ht, hn, hln⟩ ⟨hc, Frame.refl _, Frame.refl _, hβ⟩
  · rintro b1 bs1 b2 bs2 t1 t2 d1 d2 ⟨hb, hmem, ht, hn, hln⟩ hp
    cases hb
    refine PostR.mono (keep (keepsB_matchP D T.errorCap stop b1.kind t1) hp
      (simX_matchP hS T.errorCap stop b1.kind ht d1 d2 hp.1 (hlines hp))) fun r1 r2 e1 e2 hr _ ⟨⟨hm, ht', hcol⟩, hp'⟩ => ?_
    obtain ⟨hline, hno⟩ := matchP_tok _ _ _ _ _ _ _ _ hr
    have hmem' : ∀ br ∈ bs1, br ∈ bs := fun br h => hmem br (List.mem_cons_of_mem _ h)
    have htk : bs1 = bs1 ∧ (∀ br ∈ bs1, br ∈ bs) ∧ TokIns k r1.2 r2.2 ∧ r1.2.lineNo = n ∧ r1.2.line = ln :=
      ⟨rfl, hmem', ht', hno.trans hn, hline.trans hln⟩
    refine ⟨hm.symm, fun h => ⟨⟨rfl, hmem _ List.mem_cons_self, hp', ht', hcol h, hno.trans hn, d1.μ, ?_⟩, fun _ => htk⟩,
      fun _ => ⟨hp', htk⟩⟩
    obtain ⟨m, t'⟩ := r1
    cases h
    have hmm := matchP_mm hr
    rwa [hln] at hmm
  · rintro b1 b2 t1' t2' i la d1 d2 hg hla ⟨hb, hmem, hp, htm, hcol, hno, hmm⟩
    exact PostR.mono (keep (keepsB_lookaheadPure D T.errorCap stop la) hp
      (hLA b1 hmem i la hg hla hmm d1 d2 hp.1 (hlines hp))) fun o1 o2 e1 e2 _ _ ⟨ho, hp'⟩ =>
        ⟨ho.symm, fun _ => ⟨hb, hmem, hp', htm, hcol, hno, hmm⟩, fun _ => hp'⟩
  · rintro b1 b2 t1' t2' d1 d2 ⟨hb, hmem, hp, htm, hcol, hno, -⟩
    cases hb
    exact PostR.mono (hbs b1 hmem t1' t2' htm hcol hno d1 d2 hp.1 (hlines hp) hp.2.2.2)
      fun _ _ e1 e2 _ _ ⟨_, hc', f1, f2⟩ => ⟨rfl, hc', hp.2.1.trans f1, hp.2.2.1.trans f2⟩
  · rintro bs2 t1 t2 d1 d2 ⟨hb, -, ht, -, -⟩ hp
    cases hb
    have key : SimX C am (EscN T.errorCap) L Eq (tryBranchesPure D T stop row [] t1) (tryBranchesPure D T stop row [] t2) := by
      unfold tryBranchesPure
      rw [unexpectedErr_ins row ht]
      have hno : t2.lineNo = (insertMap k).ln t1.lineNo := by rw [ht]; rfl
      rw [hno]
      refine SimX.bind (R := fun _ _ => True) (fun c1 c2 hc _ => ?_) fun _ _ _ => ?_
      · rw [run_modify, run_modify]
        exact .ok ⟨trivial, hS.unexp _ hc, ⟨rfl, rfl⟩, ⟨rfl, rfl⟩⟩
      · cases stop with
        | true =>
          have h := SimX.throw (C := C) (am := am) (Esc := EscN T.errorCap) (L := L) (R := @Eq Nat) (.single (unexpectedErr row t1))
          rw [hS.single] at h
          exact h
        | false =>
          simp only [Bool.false_eq_true, ↓reduceIte]
          exact SimX.bind (simX_addError hS _ _) fun _ _ _ => SimX.pure rfl
    exact PostR.mono (key d1 d2 hp.1 (hlines hp))
      fun _ _ e1 e2 _ _ ⟨hr, hc', f1, f2⟩ => ⟨hr, hc', hp.2.1.trans f1, hp.2.2.1.trans f2⟩

theorem simX_matchTokenPure {T : Table} {stop : Bool} (state : Nat) {t1 t2 : Token} (ht : TokIns k t1 t2)
    (c1 c2 : Ctx) (hc : C c1 c2) (hl : L c1.lines c1.lineNo c2.lines c2.lineNo)
    (hLA : ∀ row, T.row? state = some row → ∀ br ∈ row.branches, ∀ (i : Nat) (la : LookAhead), br.guard = some i →
      T.lookaheads[i]? = some la → (∃ μ, mm D br.kind μ t1.line = true) →
      SimX C am (EscN T.errorCap) L Eq (lookaheadPure D T.errorCap stop la) (lookaheadPure D T.errorCap stop la))
    (hprods : ∀ row, T.row? state = some row → ∀ br ∈ row.branches, ∀ (u1 u2 : Token),
      TokIns k u1 u2 → u1.col ≠ some 0 → u1.lineNo = t1.lineNo → ∀ d1 d2, C d1 d2 →
      L d1.lines d1.lineNo d2.lines d2.lineNo → d1.β = c1.β →
      PostX C am (EscN T.errorCap) (fun _ _ => True) d1 d2 (run (runProds T.errorCap stop u1 br.prods) d1)
        (run (runProds T.errorCap stop u2 br.prods) d2)) :
    PostX C am (EscN T.errorCap) Eq c1 c2 (run (matchTokenPure D T stop state t1) c1)
      (run (matchTokenPure D T stop state t2) c2) := by
  unfold matchTokenPure
  cases hrow : T.row? state with
  | none =>
    have h := SimX.throw (C := C) (am := am) (Esc := EscN T.errorCap) (L := L) (R := @Eq Nat)
      (.crash s!"RuntimeError: Unknown state: {state}") c1 c2 hc hl
    rw [hS.crash] at h
    exact h
  | some row =>
    exact simX_tryBranchesPure hS row c1.β t1.lineNo t1.line row.branches (hLA row hrow) (hprods row hrow) ht rfl rfl
      c1 c2 hc hl rfl

end simx

/-- a look-ahead of the second run that comes across the inserted line `b` skips it -/
def SkipsLine (D : List Dialect) (cap : Nat) (stop : Bool) (b : Str) (la : LookAhead) : Prop :=
  ∀ (ls : List Str) (n : Nat) (c : Ctx), Sane D c.μ →
    ∃ j, run (peekLoop D cap stop la (b :: ls) n) c =
      run (peekLoop D cap stop la ls (n + 1)) { c with calls := c.calls + j }

section ins
variable {D : List Dialect} {b : Str} {k : Nat} {C : Ctx → Ctx → Prop} {am : Abort → Abort} {EscN : Nat → Ctx → Prop}
  (hS : ScanRel D k C am EscN)
include hS

theorem simX_peek_before (cap : Nat) (stop : Bool) {la : LookAhead} (hla : SkipsLine D cap stop b la)
    (q : List Str) :
    ∀ (p : List Str) (n : Nat), n + p.length = k + 1 →
      SimX C am (EscN cap) (LinesIns b k) Eq (peekLoop D cap stop la (p ++ q) n) (peekLoop D cap stop la (p ++ b :: q) n) := by
  intro p
  induction p with
  | nil =>
    intro n hn c1 c2 hc hl
    simp only [List.nil_append]
    obtain ⟨j, hj⟩ := hla q n c2 (hS.μ hc ▸ hS.sane hc)
    rw [hj]
    exact (simX_peek_after hS cap stop la q n (by simp at hn; omega) c1 { c2 with calls := c2.calls + j }
      (hS.scan hc (hS.μ hc) (hS.sane hc) _ _ _ _ _ _ _ _) hl).frames ⟨rfl, rfl⟩ ⟨rfl, rfl⟩
  | cons l p ih =>
    intro n hn
    simp only [List.cons_append]
    refine simX_peek_cons hS cap stop la ?_ fun _ => ih (n + 1) (by simp at hn ⊢; omega)
    unfold TokIns reNo; simp only [insertMap_ln_le k (show n ≤ k by simp at hn; omega)]

theorem simX_lookaheadPure (cap : Nat) (stop : Bool) {la : LookAhead} (hla : SkipsLine D cap stop b la) :
    SimX C am (EscN cap) (LinesIns b k) Eq (lookaheadPure D cap stop la) (lookaheadPure D cap stop la) := by
  intro c1 c2 hc hl
  unfold lookaheadPure
  rw [prun_bind, prun_bind, run_get, run_get]
  simp only []
  rcases hl with ⟨hn, p, q, h1, h2, hk⟩ | ⟨hn, hk, hls⟩
  · rw [h1, h2, hn]
    exact simX_peek_before hS cap stop hla q p _ (by omega) c1 c2 hc (.inl ⟨hn, p, q, h1, h2, hk⟩)
  · rw [hls, hn]
    exact simX_peek_after (L := LinesIns b k) hS cap stop la _ _ (by omega) c1 c2 hc (.inr ⟨hn, hk, hls⟩)

end ins

/-- the two runs before the insertion point: both in state `s`, the lines `p` to go before the
    inserted line `b`, and `q` behind it; `I`: what else holds there -/
def JX0 (C : Ctx → Ctx → Prop) (I : List Str → Nat → Ctx → Ctx → Prop) (b : Str) (k : Nat) (q p : List Str) (s : Nat)
    (c1 c2 : Ctx) : Prop :=
  C c1 c2 ∧ c1.lines = p ++ q ∧ c2.lines = p ++ b :: q ∧ c2.lineNo = c1.lineNo ∧ c1.lineNo + p.length = k ∧ I p s c1 c2

/-- … and behind it: the second run is one line ahead in the numbering -/
def JX1 (C : Ctx → Ctx → Prop) (I : Nat → Ctx → Prop) (k : Nat) (s1 s2 : Nat) (c1 c2 : Ctx) : Prop :=
  s2 = s1 ∧ C c1 c2 ∧ c2.lines = c1.lines ∧ c2.lineNo = c1.lineNo + 1 ∧ k ≤ c1.lineNo ∧ I s1 c1

/-- two aborts of the whole parse side by side: the second is the first with the positions behind
    line `k` renumbered -/
def EX (k : Nat) (e1 e2 : Abort) (d1 d2 : Ctx) : Prop :=
  e2 = mapAbort (insertMap k) e1 ∧ CtxObs (insertMap k) d1 d2

section loops
variable {D : List Dialect} {b : Str} {k : Nat} {C : Ctx → Ctx → Prop} {am : Abort → Abort} {Esc : Ctx → Prop}
  {EscN : Nat → Ctx → Prop} {I0 : List Str → Nat → Ctx → Ctx → Prop} {I1 : Nat → Ctx → Prop}
  {q p : List Str} {l : Str} {s s1 s2 : Nat} {c1 c2 : Ctx}

theorem JX0.tok (h : JX0 C I0 b k q (l :: p) s c1 c2) :
    TokIns k (nextTok c1) (nextTok c2) ∧ (nextTok c1).lineNo ≤ k ∧ (nextTok c1).line = some l := by
  obtain ⟨-, h1, h2, hn, hk, -⟩ := h
  simp only [List.length_cons] at hk
  have hle : c1.lineNo + 1 ≤ k := by omega
  refine ⟨?_, hle, by simp only [h1, List.cons_append, List.head?_cons]⟩
  unfold TokIns reNo nextTok
  simp only [insertMap_ln_le k hle, h1, h2, hn, List.cons_append, List.head?_cons]

theorem JX0.next (hS : ScanRel D k C am EscN) (h : JX0 C I0 b k q p s c1 c2) : C (taken c1) (taken c2) :=
  hS.scan h.1 (hS.μ h.1) (hS.sane h.1) _ _ _ _ _ _ _ _

theorem JX0.next2 (hS : ScanRel D k C am EscN) (h : JX0 C I0 b k q p s c1 c2) : C c1 (taken c2) :=
  hS.scan h.1 (hS.μ h.1) (hS.sane h.1) _ _ _ _ _ _ _ _

theorem JX0.linesIns (h : JX0 C I0 b k q (l :: p) s c1 c2) :
    LinesIns b k (taken c1).lines (taken c1).lineNo (taken c2).lines (taken c2).lineNo := by
  obtain ⟨-, h1, h2, hn, hk, -⟩ := h
  simp only [List.length_cons] at hk
  exact .inl ⟨by simp only [hn], p, q, by simp only [h1, List.cons_append, List.tail_cons],
    by simp only [h2, List.cons_append, List.tail_cons], by simp only; omega⟩

theorem JX0.step (h : JX0 C I0 b k q (l :: p) s c1 c2) {x1 x2 : Except Abort Nat × Ctx}
    (hx : PostX C am Esc Eq (taken c1) (taken c2) x1 x2)
    (hI : ∀ s' d1 d2, x1 = (.ok s', d1) → x2 = (.ok s', d2) → I0 p s' d1 d2) :
    PostR (fun s1 s2 d1 d2 => s2 = s1 ∧ JX0 C I0 b k q p s1 d1 d2) (EC C am) (Escaped Esc) x1 x2 := by
  obtain ⟨-, h1, h2, hn, hk, -⟩ := h
  simp only [List.length_cons, List.cons_append] at hk h1 h2
  refine PostR.mono hx fun a1 a2 d1 d2 r1 r2 ⟨ha, hc', f1, f2⟩ => ?_
  cases ha
  exact ⟨rfl, hc', by rw [f1.1]; simp only [h1, List.tail_cons], by rw [f2.1]; simp only [h2, List.tail_cons],
    by rw [f1.2, f2.2]; simp only [hn], by rw [f1.2]; simp only; omega, hI _ _ _ r1 r2⟩

theorem JX1.tok (h : JX1 C I1 k s1 s2 c1 c2) : TokIns k (nextTok c1) (nextTok c2) ∧ k < (nextTok c1).lineNo := by
  obtain ⟨-, -, hls, hn, hk, -⟩ := h
  have hlt : k < c1.lineNo + 1 := by omega
  refine ⟨?_, hlt⟩
  unfold TokIns reNo nextTok
  simp only [insertMap_ln_gt k hlt, hls, hn]

theorem JX1.next (hS : ScanRel D k C am EscN) (h : JX1 C I1 k s1 s2 c1 c2) : C (taken c1) (taken c2) :=
  hS.scan h.2.1 (hS.μ h.2.1) (hS.sane h.2.1) _ _ _ _ _ _ _ _

theorem JX1.linesIns (h : JX1 C I1 k s1 s2 c1 c2) :
    LinesIns b k (taken c1).lines (taken c1).lineNo (taken c2).lines (taken c2).lineNo :=
  .inr ⟨by simp only [h.2.2.2.1], by have := h.2.2.2.2.1; simp only; omega, by simp only [h.2.2.1]⟩

theorem JX1.step (h : JX1 C I1 k s1 s2 c1 c2) {x1 x2 : Except Abort Nat × Ctx}
    (hx : PostX C am Esc Eq (taken c1) (taken c2) x1 x2)
    (hI : ∀ s' d1, x1 = (.ok s', d1) → I1 s' d1) :
    PostR (JX1 C I1 k) (EC C am) (Escaped Esc) x1 x2 := by
  obtain ⟨-, -, hls, hn, hk, -⟩ := h
  refine PostR.mono hx fun a1 a2 d1 d2 r1 _ ⟨ha, hc', f1, f2⟩ => ?_
  cases ha
  exact ⟨rfl, hc', by rw [f1.1, f2.1]; simp only [hls], by rw [f1.2, f2.2]; simp only [hn],
    by rw [f1.2]; simp only; omega, hI _ _ r1⟩

theorem JX1.eof (h : JX1 C I1 k s1 s2 c1 c2) : c2.lines.head?.isNone = c1.lines.head?.isNone := by rw [h.2.2.1]

end loops

/-- `C0` relates the contexts while the inserted line `b` is ahead, `C1` once the second run has read
    it; the second run's step on `b` (`hextra`) leads back into the same state, from `C0` to `C1`, or
    into the escape. -/
theorem simX_insert {D : List Dialect} {T : Table} {stop : Bool} {b : Str} {k : Nat} {C0 C1 : Ctx → Ctx → Prop}
    {am0 am1 : Abort → Abort} {Esc : Ctx → Prop} {I0 : List Str → Nat → Ctx → Ctx → Prop} {I1 : Nat → Ctx → Prop}
    (hfuel : am1 .fuel = .fuel) (pre post : List Str) {c1 c2 : Ctx}
    (h0 : JX0 C0 I0 b k post pre 0 c1 c2)
    (hstep0 : ∀ l p s c1 c2, JX0 C0 I0 b k post (l :: p) s c1 c2 →
      PostR (fun s1 s2 d1 d2 => s2 = s1 ∧ JX0 C0 I0 b k post p s1 d1 d2) (EC C0 am0) (Escaped Esc)
        (run (matchTokenPure D T stop s (nextTok c1)) (taken c1)) (run (matchTokenPure D T stop s (nextTok c2)) (taken c2)))
    (hextra : ∀ s f d1 d2, run (parsePrefixPure D T stop pre.length 0) c1 = (.ok (s, f), d1) →
      run (parsePrefixPure D T stop pre.length 0) c2 = (.ok (s, f), d2) → JX0 C0 I0 b k post [] s d1 d2 →
      (∃ d2', run (matchTokenPure D T stop s { line := some b, lineNo := k + 1 }) (taken d2) = (.ok s, d2') ∧
        C1 d1 d2' ∧ Frame (taken d2) d2' ∧ I1 s d1) ∨
      (∃ e d2', run (matchTokenPure D T stop s { line := some b, lineNo := k + 1 }) (taken d2) = (.error e, d2') ∧ Esc d2'))
    (hstep1 : ∀ s1 s2 c1 c2, JX1 C1 I1 k s1 s2 c1 c2 →
      PostR (JX1 C1 I1 k) (EC C1 am1) (Escaped Esc)
        (run (matchTokenPure D T stop s1 (nextTok c1)) (taken c1)) (run (matchTokenPure D T stop s2 (nextTok c2)) (taken c2))) :
    PostR (JX1 C1 I1 k) (fun e1 e2 d1 d2 => EC C1 am1 e1 e2 d1 d2 ∨
        (EC C0 am0 e1 e2 d1 d2 ∧ run (parsePrefixPure D T stop pre.length 0) c2 = (.error e2, d2))) (Escaped Esc)
      (run (parseLinesPure D T stop ((pre ++ post).length + 2) 0) c1)
      (run (parseLinesPure D T stop ((pre ++ b :: post).length + 2) 0) c2) := by
  refine insert_lines (J0 := JX0 C0 I0 b k post) (J1 := JX1 C1 I1 k) (J1' := JX1 C1 I1 k) h0
    (fun l p s c1 c2 h => ⟨by rw [h.2.1]; rfl, by rw [h.2.2.1]; rfl⟩) hstep0 (fun s f d1 d2 r1 r2 hj => ?_)
    (fun _ _ _ _ h => h) (fun _ _ _ _ h => h.eof) hstep1 (fun _ _ _ _ h => ⟨hfuel.symm, h.2.1⟩)
    (fun k1 k2 => Sticky.abort2 (fun _ c => Esc c) k1 k2)
  obtain ⟨-, hl1, hl2, hn, hk', -⟩ := id hj
  simp only [List.nil_append, List.length_nil, Nat.add_zero] at hl1 hl2 hk'
  have htok : nextTok d2 = { line := some b, lineNo := k + 1 } := by simp only [nextTok, hl2, hn, hk', List.head?_cons]
  rw [htok]
  refine ⟨by rw [hl2]; rfl, ?_⟩
  rcases hextra s f d1 d2 r1 r2 hj with ⟨d2', hr, hc1, fr, hi⟩ | ⟨e, d2', hr, hesc⟩
  · exact .inl ⟨s, d2', hr, rfl, hc1, by rw [fr.1, hl1]; simp only [hl2, List.tail_cons], by rw [fr.2]; simp only [hn],
      by omega, hi⟩
  · exact .inr ⟨e, d2', hr, fun _ => ⟨e, rfl, hesc⟩⟩

/-- `ScanRel`, `PostX`, `SimX` where aborts are renamed and there is no escape -/
abbrev ScanIns (D : List Dialect) (k : Nat) (C : Ctx → Ctx → Prop) : Prop :=
  ScanRel D k C (mapAbort (insertMap k)) (fun _ _ => False)
abbrev PostIns (C : Ctx → Ctx → Prop) (k : Nat) {α} (R : α → α → Prop) (c1 c2 : Ctx)
    (x1 x2 : Except Abort α × Ctx) : Prop := PostX C (mapAbort (insertMap k)) (fun _ => False) R c1 c2 x1 x2
abbrev SimIns (C : Ctx → Ctx → Prop) (b : Str) (k : Nat) {α} (R : α → α → Prop) (m1 m2 : PM α) : Prop :=
  SimX C (mapAbort (insertMap k)) (fun _ => False) (LinesIns b k) R m1 m2

theorem addErr_of_map {k : Nat} {C : Ctx → Ctx → Prop}
    (herr : ∀ {c1 c2}, C c1 c2 → c2.errors = c1.errors.map (mapErr (insertMap k)))
    (hset : ∀ {c1 c2}, C c1 c2 → ∀ es, C { c1 with errors := es } { c2 with errors := es.map (mapErr (insertMap k)) })
    (cap : Nat) (e : PErr) {c1 c2 : Ctx} (hc : C c1 c2) :
    PostIns C k (fun _ _ => True) c1 c2 (run (addError cap e) c1) (run (addError cap (mapErr (insertMap k) e)) c2) := by
  rw [run_addError, run_addError_ins cap k e (herr hc)]
  split
  · exact .ok ⟨trivial, hc, Frame.refl _, Frame.refl _⟩
  · split
    · exact .err ⟨rfl, hset hc _⟩
    · exact .ok ⟨trivial, hset hc _, ⟨rfl, rfl⟩, ⟨rfl, rfl⟩⟩

theorem CtxObs.scanRel {D : List Dialect} {k : Nat} :
    ScanIns D k (fun c1 c2 => CtxObs (insertMap k) c1 c2 ∧ Sane D c1.μ) where
  μ h := h.1.μ
  sane h := h.2
  scan h _ _ hm hs _ _ _ _ _ _ _ _ := ⟨⟨h.1.errors, hm, h.1.ids, h.1.unexpected⟩, hs⟩
  single _ := rfl
  crash _ := rfl
  addErr cap e _ _ hc :=
    addErr_of_map (fun h => h.1.errors) (fun h _ => ⟨⟨rfl, h.1.μ, h.1.ids, h.1.unexpected⟩, h.2⟩) cap e hc
  unexp n _ _ h := ⟨⟨h.1.errors, h.1.μ, h.1.ids, by simp [h.1.unexpected]⟩, h.2⟩

theorem EC.obs {k : Nat} {C : Ctx → Ctx → Prop} (hobs : ∀ {c1 c2}, C c1 c2 → CtxObs (insertMap k) c1 c2)
    {e1 e2 : Abort} {d1 d2 : Ctx} (h : EC C (mapAbort (insertMap k)) e1 e2 d1 d2) : EX k e1 e2 d1 d2 :=
  ⟨h.1, hobs h.2⟩

/-- the two contexts apart from scanner and counters: errors, builder state and `unexpected` of the
    second are the images of those of the first -/
structure CtxRest (D : List Dialect) (k : Nat) (c1 c2 : Ctx) : Prop where
  errors : c2.errors = c1.errors.map (mapErr (insertMap k))
  μ : c2.μ = c1.μ
  β : BMap (insertMap k) c1.β c2.β
  ids : c2.ids = c1.ids
  unexpected : c2.unexpected = c1.unexpected.map (insertMap k).ln
  sane : Sane D c1.μ

/-- the two ways `PostIns (CtxRest D k) k` holds, spelt out -/
def Post (D : List Dialect) (k : Nat) {α} (R : α → α → Prop) (c1 c2 : Ctx)
    (x1 x2 : Except Abort α × Ctx) : Prop :=
  (∃ a1 a2 c1' c2', x1 = (.ok a1, c1') ∧ x2 = (.ok a2, c2') ∧ R a1 a2 ∧ CtxRest D k c1' c2' ∧
    Frame c1 c1' ∧ Frame c2 c2') ∨
  (∃ e c1' c2', x1 = (.error e, c1') ∧ x2 = (.error (mapAbort (insertMap k) e), c2') ∧ CtxRest D k c1' c2')

/-- … and `SimIns (CtxRest D k) b k` -/
def SimF (D : List Dialect) (b : Str) (k : Nat) {α} (R : α → α → Prop) (m1 m2 : PM α) : Prop :=
  ∀ c1 c2, CtxRest D k c1 c2 → LinesIns b k c1.lines c1.lineNo c2.lines c2.lineNo →
    Post D k R c1 c2 (run m1 c1) (run m2 c2)

section sim
variable {D : List Dialect} {b : Str} {k : Nat}

theorem CtxRest.scanRel : ScanIns D k (CtxRest D k) where
  μ h := h.μ
  sane h := h.sane
  scan h _ _ hm hs _ _ _ _ _ _ _ _ := ⟨h.errors, hm, h.β, h.ids, h.unexpected, hs⟩
  single _ := rfl
  crash _ := rfl
  addErr cap e _ _ hc := addErr_of_map CtxRest.errors (fun h _ => ⟨rfl, h.μ, h.β, h.ids, h.unexpected, h.sane⟩) cap e hc
  unexp n _ _ h := ⟨h.errors, h.μ, h.β, h.ids, by simp [h.unexpected], h.sane⟩

theorem CtxRest.obs {c1 c2 : Ctx} (h : CtxRest D k c1 c2) : CtxObs (insertMap k) c1 c2 :=
  ⟨h.errors, h.μ, h.ids, h.unexpected⟩

theorem SimF.mono {α} {R S : α → α → Prop} {m1 m2 : PM α} (h : SimF D b k R m1 m2)
    (hRS : ∀ a b, R a b → S a b) : SimF D b k S m1 m2 := by
  intro c1 c2 hc hl
  rcases h c1 c2 hc hl with ⟨a1, a2, c1', c2', e1, e2, hr, rest⟩ | h
  · exact .inl ⟨a1, a2, c1', c2', e1, e2, hRS _ _ hr, rest⟩
  · exact .inr h

/-- the kinds a whitespace-only line is matched as -/
def emptyTestK (K : Kind) : Bool := K == .Empty || K == .Other

theorem blank_matchAny (cap : Nat) (stop : Bool) {l : Str} (hb : lstrip l = []) :
    ∀ (ks : List Kind) (t : Token) (c : Ctx), t.line = some l →
      (∀ kw ∈ c.μ.dialect.stepKeywords, kw ≠ []) →
      ∃ t' j, run (matchAny D cap stop ks t) c = (.ok (ks.any emptyTestK, t'), { c with calls := c.calls + j }) ∧
        (ks.any emptyTestK = false → t' = t) := by
  intro ks
  induction ks with
  | nil => intro t c hl _; exact ⟨t, 0, rfl, fun _ => rfl⟩
  | cons K ks ih =>
    intro t c hl hkw
    unfold matchAny
    rw [prun_bind, run_matchP]
    have e : matchTok D K c.μ t = (matchLine D K c.μ t l, true) := by unfold matchTok; rw [hl]
    by_cases hK : emptyTestK K = true
    · have hm : (matchLine D K c.μ t l).res = .matched ∧ (matchLine D K c.μ t l).μ = c.μ := by
        unfold emptyTestK at hK
        simp only [Bool.or_eq_true, beq_iff_eq] at hK
        rcases hK with rfl | rfl
        · rw [matchLine_blank_empty D c.μ t hb]; exact ⟨rfl, rfl⟩
        · exact ⟨rfl, rfl⟩
      simp only [e, hm.1, hm.2, ↓reduceIte, prun_pure, List.any_cons, hK, Bool.true_or]
      exact ⟨_, 1, rfl, fun h => by cases h⟩
    · have hne : K ≠ .Empty ∧ K ≠ .Other := by
        unfold emptyTestK at hK
        simp only [Bool.or_eq_true, beq_iff_eq, not_or] at hK
        exact hK
      have hno := matchLine_blank_no D K c.μ t hb hne (fun _ => hkw)
      simp only [e, hno, ↓reduceIte, Bool.false_eq_true, List.any_cons]
      obtain ⟨t', j, hr, hl'⟩ := ih t { c with calls := c.calls + 1 } hl hkw
      have hKf : emptyTestK K = false := by simpa using hK
      refine ⟨t', 1 + j, ?_, ?_⟩
      rotate_left
      · rw [hKf, Bool.false_or]; exact hl'
      rw [hKf, Bool.false_or]
      have ec : ({ c with μ := c.μ, calls := c.calls + 1 } : Ctx) = { c with calls := c.calls + 1 } := rfl
      rw [ec, hr]
      simp only [Nat.add_assoc]

/-- a look-ahead skips blank lines and does not expect one -/
def LaOk (la : LookAhead) : Prop := la.expected.any emptyTestK = false ∧ la.skip.any emptyTestK = true

theorem peek_blank (hD : Spec.stepKeywordsOk D = true) (cap : Nat) (stop : Bool) {la : LookAhead} (hla : LaOk la)
    (hb : lstrip b = []) : SkipsLine D cap stop b la := by
  intro ls n c hμ
  have hkw := kw_ne_nil hD hμ
  obtain ⟨t1, j1, h1, ht1⟩ := blank_matchAny (D := D) cap stop hb la.expected
    { line := some b, lineNo := n } c rfl hkw
  rw [hla.1] at h1
  have e1 := ht1 hla.1
  subst e1
  obtain ⟨t2, j2, h2, -⟩ := blank_matchAny (D := D) cap stop hb la.skip
    { line := some b, lineNo := n } { c with calls := c.calls + j1 } rfl hkw
  rw [hla.2] at h2
  refine ⟨j1 + j2, ?_⟩
  conv => lhs; unfold peekLoop
  rw [prun_bind, h1]
  simp only [Bool.false_eq_true, ↓reduceIte]
  rw [prun_bind, h2]
  simp only [↓reduceIte, Nat.add_assoc]

theorem sim_runProd (cap : Nat) (stop : Bool) {t1 t2 : Token} (p : Prod)
    (ht : p = .build → TokMap (insertMap k) t1 t2) {c1 c2 : Ctx} (hc : CtxRest D k c1 c2) :
    PostIns (CtxRest D k) k (fun _ _ => True) c1 c2 (run (runProd cap stop t1 p) c1) (run (runProd cap stop t2 p) c2) := by
  rw [run_runProd, run_runProd]
  cases p with
  | start r =>
    exact .ok ⟨trivial, ⟨hc.errors, hc.μ, hc.β.startRule r, hc.ids, hc.unexpected, hc.sane⟩, ⟨rfl, rfl⟩, ⟨rfl, rfl⟩⟩
  | end_ r =>
    simp only []
    rw [hc.ids]
    obtain ⟨h1, h2, h3, -⟩ := hc.β.endRule c1.ids
    rw [h1, h3]
    have hc' : CtxRest D k { c1 with β := (c1.β.endRule c1.ids).2.1, ids := (c1.β.endRule c1.ids).2.2 }
        { c2 with β := (c2.β.endRule c1.ids).2.1, ids := (c1.β.endRule c1.ids).2.2 } :=
      ⟨hc.errors, hc.μ, h2, rfl, hc.unexpected, hc.sane⟩
    exact (postX_liftB CtxRest.scanRel cap stop _ hc').frames ⟨rfl, rfl⟩ ⟨rfl, rfl⟩
  | build =>
    simp only []
    rcases hc.β.build (ht rfl) with ⟨w, e1, e2⟩ | ⟨β1, β2, e1, e2, hβ⟩
    · rw [e1, e2]
      exact postX_liftB CtxRest.scanRel cap stop (.error (.crash w)) hc
    · rw [e1, e2]
      exact .ok ⟨trivial, ⟨hc.errors, hc.μ, hβ, hc.ids, hc.unexpected, hc.sane⟩, ⟨rfl, rfl⟩, ⟨rfl, rfl⟩⟩

theorem sim_runProds (cap : Nat) (stop : Bool) {t1 t2 : Token} (ht : TokMap (insertMap k) t1 t2) (ps : List Prod) :
    SimIns (CtxRest D k) b k (fun _ _ => True) (runProds cap stop t1 ps) (runProds cap stop t2 ps) := by
  induction ps with
  | nil => exact SimX.pure trivial
  | cons p ps ih =>
    unfold runProds
    exact SimX.bind (fun _ _ hc _ => sim_runProd cap stop p (fun _ => ht) hc) fun _ _ _ => ih

theorem sim_matchTokenPure (hD : Spec.stepKeywordsOk D = true) {T : Table}
    (hL : ∀ (i : Nat) (la : LookAhead), T.lookaheads[i]? = some la → LaOk la) (hb : lstrip b = []) (stop : Bool) (state : Nat)
    {t1 t2 : Token} (ht : TokIns k t1 t2) :
    SimIns (CtxRest D k) b k Eq (matchTokenPure D T stop state t1) (matchTokenPure D T stop state t2) :=
  fun c1 c2 hc hl =>
    simX_matchTokenPure CtxRest.scanRel state ht c1 c2 hc hl
      (fun _ _ _ _ i la _ h _ => simX_lookaheadPure CtxRest.scanRel T.errorCap stop (peek_blank hD T.errorCap stop (hL i la h) hb))
      fun _ _ br _ _ _ hu hcol _ d1 d2 hd hdl _ => sim_runProds T.errorCap stop (hu.tokMap hcol) br.prods d1 d2 hd hdl

theorem tryBranchesPure_blank (T : Table) (stop : Bool) (row : StateRow) (μ : MState)
    {t : Token} {l : Str} (hl : t.line = some l) (hb : lstrip l = [])
    (hkw : ∀ kw ∈ μ.dialect.stepKeywords, kw ≠ []) (bs : List Branch) (b0 : Branch)
    (hf : bs.find? Spec.emptyTest = some b0) (hk : b0.kind = .Empty) (hg : b0.guard = none) (c : Ctx) (hμ : c.μ = μ) :
    ∃ n, run (tryBranchesPure D T stop row bs t) c =
      run (do runProds T.errorCap stop (emptyTok μ t) b0.prods; Pure.pure b0.target : PM Nat)
        { c with calls := c.calls + (n + 1) } := by
  refine tryBranchesPure_first T stop row μ Spec.emptyTest bs b0 hf (fun br _ he => ?_) ?_ hg c hμ
  · have hne : br.kind ≠ .Empty ∧ br.kind ≠ .Other := by
      unfold Spec.emptyTest at he
      simp only [Bool.or_eq_false_iff, beq_eq_false_iff_ne, ne_eq] at he
      exact he
    unfold matchTok; rw [hl]; simp only []
    rw [matchLine_blank_no D br.kind μ t hb hne (fun _ => hkw)]
  · unfold matchTok; rw [hl, hk]; simp only []; rw [matchLine_blank_empty D μ t hb]; rfl

theorem matchTokenPure_blank (T : Table) (hE : Spec.emptySelfLoop T = true) (stop : Bool)
    {s : Nat} (hs : Spec.emptyFirst T s = true) {t : Token} {l : Str} (hl : t.line = some l) (hb : lstrip l = [])
    (c : Ctx) (hkw : ∀ kw ∈ c.μ.dialect.stepKeywords, kw ≠ []) :
    ∃ n, run (matchTokenPure D T stop s t) c =
      match run (runProd T.errorCap stop (emptyTok c.μ t) .build) { c with calls := c.calls + (n + 1) } with
      | (.ok _, c') => (.ok s, c')
      | (.error e, c') => (.error e, c') := by
  obtain ⟨row, b0, hrow, hfind, hk, htg, hp, hg⟩ := emptyFirst_spec hE hs
  unfold matchTokenPure
  rw [hrow]
  obtain ⟨n, hn⟩ := tryBranchesPure_blank (D := D) T stop row c.μ hl hb hkw row.branches b0 hfind hk hg c rfl
  refine ⟨n, ?_⟩
  rw [hn, hp, htg]
  simp only [runProds, prun_bind, prun_pure]
  rcases run (runProd T.errorCap stop (emptyTok c.μ t) Prod.build) _ with ⟨x, c'⟩
  cases x <;> rfl

/-- the second run reads the inserted line in a state that reads it as `Empty` first: it comes back
    to that state with one blank-line token more in the open node -/
theorem blank_step (hD : Spec.stepKeywordsOk D = true) {T : Table} (hE : Spec.emptySelfLoop T = true)
    (hb : lstrip b = []) (stop : Bool) {s : Nat} (hs : Spec.emptyFirst T s = true) (n : Nat)
    {c1 c2 : Ctx} (hc : CtxRest D k c1 c2) (hst : c1.β.stack ≠ []) :
    ∃ c2', run (matchTokenPure D T stop s { line := some b, lineNo := n }) c2 = (.ok s, c2') ∧
      CtxRest D k c1 c2' ∧ Frame c2 c2' := by
  have hkw := kw_ne_nil hD (hc.μ ▸ hc.sane : Sane D c2.μ)
  obtain ⟨m, hn⟩ := matchTokenPure_blank (D := D) T hE stop hs (t := { line := some b, lineNo := n }) rfl hb c2 hkw
  rw [hn, run_runProd]
  simp only []
  rcases hc.β.build_extra (t := emptyTok c2.μ { line := some b, lineNo := n }) rfl with ⟨e1, _⟩ | ⟨β2', e2, hβ⟩
  · exact absurd e1 hst
  · rw [e2]
    exact ⟨_, rfl, ⟨hc.errors, hc.μ, hβ, hc.ids, hc.unexpected, hc.sane⟩, rfl, rfl⟩

/-- what the blank-line theorem asks of the table -/
structure TableOkI (T : Table) : Prop where
  la : Spec.lookaheadsSkipEmpty T = true
  loop : Spec.emptySelfLoop T = true

theorem TableOkI.laOk {T : Table} (h : TableOkI T) (i : Nat) (la : LookAhead) (hla : T.lookaheads[i]? = some la) :
    LaOk la := by
  have hmem : la ∈ T.lookaheads := List.mem_of_getElem? hla
  have := h.la
  unfold Spec.lookaheadsSkipEmpty at this
  rw [List.all_eq_true] at this
  have h0 := this la hmem
  simp only [Bool.and_eq_true, Bool.not_eq_true', List.contains_eq_mem, decide_eq_true_eq,
    decide_eq_false_iff_not] at h0
  obtain ⟨⟨h1, h2⟩, h3⟩ := h0
  constructor
  · rw [List.any_eq_false]
    intro K hK hKe
    unfold emptyTestK at hKe
    simp only [Bool.or_eq_true, beq_iff_eq] at hKe
    rcases hKe with rfl | rfl
    · exact h2 hK
    · exact h3 hK
  · rw [List.any_eq_true]
    exact ⟨.Empty, h1, rfl⟩

theorem sim_lines (hD : Spec.stepKeywordsOk D = true) {T : Table} (hT : TableOkI T) (hb : lstrip b = [])
    (stop : Bool) (pre post : List Str) {c1 c2 : Ctx} (hc : CtxRest D pre.length c1 c2)
    (h1 : c1.lines = pre ++ post) (h2 : c2.lines = pre ++ b :: post) (hn1 : c1.lineNo = 0) (hn2 : c2.lineNo = 0)
    (hst : ∀ s flag c, run (parsePrefixPure D T stop pre.length 0) c1 = (.ok (s, flag), c) →
      Spec.emptyFirst T s = true ∧ c.β.stack ≠ []) :
    PostR (JX1 (CtxRest D pre.length) (fun _ _ => True) pre.length) (EX pre.length) (Escaped fun _ => False)
      (run (parseLinesPure D T stop ((pre ++ post).length + 2) 0) c1)
      (run (parseLinesPure D T stop ((pre ++ b :: post).length + 2) 0) c2) := by
  have hstep := fun s {t1 t2 : Token} (ht : TokIns pre.length t1 t2) =>
    sim_matchTokenPure (b := b) hD hT.laOk hb stop s ht
  refine PostR.monoE (simX_insert (I0 := fun _ _ _ _ => True) (I1 := fun _ _ => True) rfl pre post
    ⟨hc, h1, h2, by rw [hn1, hn2], by rw [hn1]; simp, trivial⟩ (fun l p s c1 c2 h => ?_)
    (fun s flag d1 d2 r1 _ hj => ?_) (fun s1 s2 c1 c2 h => ?_))
    fun _ _ _ _ _ h => h.elim (EC.obs CtxRest.obs) fun h => EC.obs CtxRest.obs h.1
  · exact h.step (hstep s h.tok.1 _ _ (h.next CtxRest.scanRel) h.linesIns) fun _ _ _ _ _ => trivial
  · obtain ⟨hs, hstk⟩ := hst s flag d1 r1
    obtain ⟨d2', hr, hc', fr⟩ := blank_step hD hT.loop hb stop hs (pre.length + 1) (hj.next2 CtxRest.scanRel) hstk
    exact .inl ⟨d2', hr, hc', fr, trivial⟩
  · obtain rfl : s2 = s1 := h.1
    exact h.step (hstep s2 h.tok.1 _ _ (h.next CtxRest.scanRel) h.linesIns) fun _ _ _ => trivial

/-- renamed errors and a renamed builder result make a renamed report -/
theorem bodyResult_map {f : LocMap} {C : Ctx → Ctx → Prop} {X : Option Abort × Ctx → Option Abort × Ctx → Prop}
    {d1 d2 : Ctx} (he : d2.errors = d1.errors.map (mapErr f))
    (hr : d2.β.result = d1.β.result.map (Option.map (mapDoc f))) (hc : C d1 d2) :
    PostR (fun a1 a2 d1 d2 => a2 = mapDoc f a1 ∧ C d1 d2) (EC C (mapAbort f)) X
      (bodyResult d1, d1) (bodyResult d2, d2) := by
  unfold bodyResult
  rw [he, hr, List.isEmpty_map]
  split
  · exact .err ⟨rfl, hc⟩
  · cases hres : d1.β.result with
    | error e =>
      cases e with
      | crash w => exact .err ⟨rfl, hc⟩
      | ast e => exact absurd hres (result_not_ast _ _)
    | ok o =>
      cases o with
      | none => exact .err ⟨rfl, hc⟩
      | some d => exact .ok ⟨rfl, hc⟩

/-- renamed documents and aborts make a renamed outcome -/
theorem mapOutcome_of_post {f : LocMap} {C : Ctx → Ctx → Prop} {X : Option Abort × Ctx → Option Abort × Ctx → Prop}
    {y1 y2 : Except Abort Doc × Ctx}
    (h : PostR (fun a1 a2 d1 d2 => a2 = mapDoc f a1 ∧ C d1 d2) (EC C (mapAbort f)) X y1 y2) :
    ((toOutcome y2).1 = mapOutcome f (toOutcome y1).1 ∧ C (toOutcome y1).2 (toOutcome y2).2) ∨
      X (erase y1) (erase y2) := by
  rcases h with ⟨_, _, _, _, rfl, rfl, rfl, hc⟩ | ⟨e, _, _, _, rfl, rfl, rfl, hc⟩ | h
  · exact .inl ⟨rfl, hc⟩
  · cases e <;> exact .inl ⟨rfl, hc⟩
  · exact .inr h

theorem tail_sim {T : Table} (stop : Bool) {c1' c2' : Ctx} (hc' : CtxRest D k c1' c2') :
    PostR (fun a1 a2 d1 d2 => a2 = mapDoc (insertMap k) a1 ∧ CtxObs (insertMap k) d1 d2) (EX k)
      (Escaped fun _ => False) (run (bodyTail T stop) c1') (run (bodyTail T stop) c2') :=
  bodyTail_rel
    ((sim_runProd T.errorCap stop (t1 := default) (t2 := default) (.end_ T.startRule) (fun h => by cases h) hc').monoE
      fun _ _ _ _ _ h => EC.obs CtxRest.obs h)
    (fun _ _ ⟨_, hc, _, _⟩ => bodyResult_map hc.errors hc.β.result hc.obs)
    fun _ _ => Sticky.abort2 (fun _ _ => False) _ _

/-- That the builder has an open node where the blank line is stored (`hst`) is always the case:
    `stack_ne_nil_of_depths`, used in `blank_line_parseWith`. -/
theorem parseWithPure_blank {D : List Dialect} (hD : Spec.stepKeywordsOk D = true) {T : Table} (hT : TableOkI T)
    {b : Str} (hb : AllSpace b) (stop : Bool) (μ : MState) (ids : Nat) {src src' : Str} (pre post : List Str)
    (h1 : splitLines src = pre ++ post) (h2 : splitLines src' = pre ++ b :: post)
    (hμ : (μ.reset D).dialect ∈ D)
    (hst : ∀ s c, Spec.runAfter D T stop μ ids src pre.length = some (s, c) →
      Spec.emptyFirst T s = true ∧ c.β.stack ≠ []) :
    (parseWithPure D T stop μ ids src').1 =
      mapOutcome (insertMap pre.length) (parseWithPure D T stop μ ids src).1 ∧
    CtxObs (insertMap pre.length) (parseWithPure D T stop μ ids src).2 (parseWithPure D T stop μ ids src').2 := by
  have hc0 : CtxRest D pre.length (startCtx D T μ ids src) (startCtx D T μ ids src') :=
    ⟨rfl, rfl, BMap.reset.startRule _, rfl, rfl, sane_start hμ⟩
  rw [parseWithPure_lines, parseWithPure_lines]
  refine (mapOutcome_of_post <| insert_parseWithPure h1 h2
    (sim_lines hD hT (lstrip_ws _ hb) stop pre post hc0 h1 h2 rfl rfl
      fun s _ c hrun => hst s c (runAfter_of_prefix hrun))
    (fun _ _ _ _ h => tail_sim stop h.2.1) (Sticky.abort2 (fun _ _ => False) _ _)).resolve_right fun ⟨_, _, h⟩ => h

end sim

theorem parseWith_of_pure {D : List Dialect} {T : Table} (hQD : Spec.queueDialectFacts D = true)
    (hQT : Spec.queueFacts T = true) (hCB : Spec.commentBlankTested T = true) (stop : Bool) (μ : MState) (ids : Nat)
    (src src' : Str) (hμ : (μ.reset D).dialect ∈ D) {f : LocMap} {g : Outcome → Outcome}
    (h : (parseWithPure D T stop μ ids src').1 = g (parseWithPure D T stop μ ids src).1 ∧
      CtxObs f (parseWithPure D T stop μ ids src).2 (parseWithPure D T stop μ ids src').2) :
    (parseWith D T stop μ ids src').1 = g (parseWith D T stop μ ids src).1 ∧
    CtxObs f (parseWith D T stop μ ids src).2 (parseWith D T stop μ ids src').2 := by
  have q1 := queue_refines_peek D T hQD hQT hCB stop μ ids src hμ
  have q2 := queue_refines_peek D T hQD hQT hCB stop μ ids src' hμ
  simp only [Spec.observe, Spec.Observed.mk.injEq] at q1 q2
  obtain ⟨o1, -, u1, -, e1, m1, i1, -⟩ := q1
  obtain ⟨o2, -, u2, -, e2, m2, i2, -⟩ := q2
  refine ⟨by rw [o1, o2]; exact h.1, ?_, ?_, ?_, ?_⟩
  · rw [e1, e2]; exact h.2.errors
  · rw [m1, m2]; exact h.2.μ
  · rw [i1, i2]; exact h.2.ids
  · rw [u1, u2]; exact h.2.unexpected

theorem blank_line_parseWith {D : List Dialect} {T : Table} (hD : Spec.stepKeywordsOk D = true)
    (hQD : Spec.queueDialectFacts D = true) (hQT : Spec.queueFacts T = true)
    (hCB : Spec.commentBlankTested T = true) (hT : TableOkI T) {ds : List (Nat × Nat)}
    (hds : Spec.depthsOk T ds = true) {b : Str} (hb : AllSpace b) (stop : Bool) (μ : MState) (ids : Nat)
    {src src' : Str} (pre post : List Str)
    (h1 : splitLines src = pre ++ post) (h2 : splitLines src' = pre ++ b :: post)
    (hμ : (μ.reset D).dialect ∈ D)
    (hst : ∀ s, Spec.stateAfter D T stop μ ids src pre.length = some s → Spec.emptyFirst T s = true) :
    (parseWith D T stop μ ids src').1 = mapOutcome (insertMap pre.length) (parseWith D T stop μ ids src).1 ∧
    CtxObs (insertMap pre.length) (parseWith D T stop μ ids src).2 (parseWith D T stop μ ids src').2 := by
  have hst' : ∀ s c, Spec.runAfter D T stop μ ids src pre.length = some (s, c) →
      Spec.emptyFirst T s = true ∧ c.β.stack ≠ [] := by
    intro s c hr
    have hs : Spec.emptyFirst T s = true := hst s (by unfold Spec.stateAfter; rw [hr]; rfl)
    refine ⟨hs, stack_ne_nil_of_depths hds stop μ ids src pre.length s c hr ?_⟩
    unfold Spec.emptyFirst at hs
    cases hrow : T.row? s with
    | none => rw [hrow] at hs; cases hs
    | some row => rfl
  obtain ⟨ho, hc⟩ := parseWithPure_blank hD hT hb stop μ ids pre post h1 h2 hμ hst'
  exact parseWith_of_pure hQD hQT hCB stop μ ids src src' hμ ⟨ho, hc⟩

end Layout3
end GV
