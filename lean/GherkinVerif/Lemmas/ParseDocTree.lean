/-
  Lemmas/ParseDocTree.lean — property C13 at document level, tree form: in the token tree of an
  accepted document every `DocString` node has as children exactly the leaves

      opening separator, content lines …, closing separator, then blank / comment lines …

  (the last group: lines after the closing separator that are read while the `DocString` node is
  still open), with the token facts of `C13_open`, `C13_content_line`, `C13_only_own_delimiter`,
  `C13_resume`.  (The value of such a node: `docNode_value`, Lemmas/ParseDocNode.lean.)

  Route: along a `Trace` the calls after a `start_rule(DocString)` are `build`s up to the next
  `end_rule` (`trace_docOps`; table facts `Spec.docBodyFacts`, `Spec.docStartFacts`); the rebuilt tree
  then has the `DocString` nodes described (`ttreeOf_lineNodes` of Lemmas/ParseTree.lean).
-/
import GherkinVerif.Lemmas.ParseDocString
namespace GV
namespace Spec

/-- the states entered by the closing separator of a doc string -/
def afterClose (T : Table) : List Nat :=
  (T.rows.filter isContentRow).flatMap fun r =>
    (r.branches.filter (·.kind == .DocStringSeparator)).map (·.target)

def isEndProd : Option Prod → Bool
  | some (.end_ _) => true
  | _ => false

/-- in a state entered by a closing separator every test either starts with an `end_rule` (of the
    `DocString` node) or is a `Comment` / `Empty` test that only builds and stays -/
def docBodyFacts (T : Table) : Bool :=
  T.rows.all fun r => !(afterClose T).contains r.id ||
    r.branches.all fun b => isEndProd b.prods.head? ||
      (b.prods == [.build] && b.target == r.id && (b.kind == .Comment || b.kind == .Empty))

/-- every `start DocString` in a production list is followed by exactly `build`, which ends the list -/
def startsDocLast : List Prod → Bool
  | [] => true
  | p :: rest => (p != .start .DocString || rest == [.build]) && startsDocLast rest

def docStartFacts (T : Table) : Bool := T.rows.all fun r => r.branches.all fun b => startsDocLast b.prods

/-- the text of a content line `lx` of a doc string with delimiter `sep` opened on a line indented
    by `ind` (`C13_content_line`) -/
def docLineText (sep : Str) (ind : Nat) (lx : Str) : Str :=
  rstripCRLF (unescapeDoc (some sep) (lx.drop (min ind (lineIndent lx))))

/-- `o` is the token of an opening separator line `lo` with delimiter `sep` -/
def DocOpen (o : Token) (sep lo : Str) : Prop :=
  o.line = some lo ∧ (sep = dq3 ∨ sep = bt3) ∧ startsWith sep (trimmed lo) = true ∧
  o.mtype = some .DocStringSeparator ∧ o.keyword = some sep ∧
  o.text = some (rstripCRLF (strip ((trimmed lo).drop 3))) ∧ WellMatched o

/-- `x` is the token of a content line: read as `Other`, not starting with the delimiter -/
def DocLine (sep : Str) (ind : Nat) (x : Token) : Prop :=
  ∃ lx, x.line = some lx ∧ startsWith sep (trimmed lx) = false ∧ x.mtype = some .Other ∧
    x.text = some (docLineText sep ind lx) ∧ WellMatched x

/-- `c` is the token of the closing separator line -/
def DocClose (sep : Str) (c : Token) : Prop :=
  (∃ lc, c.line = some lc ∧ startsWith sep (trimmed lc) = true) ∧ c.mtype = some .DocStringSeparator ∧
  c.text = none ∧ c.keyword = some sep ∧ WellMatched c

/-- `y` is a blank or comment line read after the closing separator -/
def DocTrail (y : Token) : Prop := (y.mtype = some .Comment ∨ y.mtype = some .Empty) ∧ WellMatched y

/-- the tokens of one doc string, in order -/
def DocSeq (bs : List Token) : Prop :=
  ∃ (o : Token) (xs : List Token) (c : Token) (ys : List Token) (sep lo : Str),
    bs = o :: (xs ++ c :: ys) ∧ DocOpen o sep lo ∧ (∀ x ∈ xs, DocLine sep (lineIndent lo) x) ∧
    DocClose sep c ∧ ∀ y ∈ ys, DocTrail y

mutual
/-- every `DocString` node of the tree has only leaves as children, and their tokens satisfy `P` -/
def docNodesP (P : List Token → Prop) : TTree → Prop
  | .leaf _ => True
  | .node r ch => (r = .DocString → ∃ bs, ch = bs.map .leaf ∧ P bs) ∧ docNodesListP P ch
def docNodesListP (P : List Token → Prop) : List TTree → Prop
  | [] => True
  | c :: cs => docNodesP P c ∧ docNodesListP P cs
end

end Spec

namespace Lemmas
open Spec

theorem docNodes_lineNodes (P : List Token → Prop) : LineNodes .DocString P (docNodesP P) (docNodesListP P) :=
  ⟨fun _ => trivial, fun _ _ => Iff.rfl, trivial, fun _ _ => Iff.rfl⟩

theorem docNodesListP_leaves (P : List Token → Prop) (bs : List Token) : docNodesListP P (bs.map .leaf) := by
  induction bs with
  | nil => trivial
  | cons b bs ih => exact ⟨trivial, ih⟩

theorem startsDocLast_eq (ps : List Prod) : startsDocLast ps = startsLast .DocString ps := by
  induction ps with
  | nil => rfl
  | cons p ps ih => rw [startsDocLast, startsLast, ih]

theorem mem_afterClose {T : Table} {row : StateRow} {b : Branch} (hmem : row ∈ T.rows)
    (hr : isContentRow row = true) (hb : b ∈ row.branches) (hk : b.kind = .DocStringSeparator) :
    (afterClose T).contains b.target = true := by
  rw [List.contains_iff_mem]
  unfold afterClose
  exact List.mem_flatMap.2 ⟨row, List.mem_filter.2 ⟨hmem, hr⟩,
    List.mem_map.2 ⟨b, List.mem_filter.2 ⟨hb, by simp [hk]⟩, rfl⟩⟩

/-- generic in `S`, `k₁`, `k₂`: `hBF` is `docBodyFacts`, and `descBodyFacts` of Lemmas/ParseElems.lean -/
theorem loop_branch {T : Table} {S : List Nat} {k₁ k₂ : Kind}
    (hBF : (T.rows.all fun r => !S.contains r.id || r.branches.all fun b => isEndProd b.prods.head? ||
      (b.prods == [.build] && b.target == r.id && (b.kind == k₁ || b.kind == k₂))) = true)
    {p : Nat} {row : StateRow} (hrow : T.row? p = some row) (hp : S.contains p = true) {b : Branch}
    (hb : b ∈ row.branches) :
    (∃ x ps, b.prods = .end_ x :: ps) ∨ (b.prods = [.build] ∧ b.target = p ∧ (b.kind = k₁ ∨ b.kind = k₂)) := by
  obtain ⟨hid, hmem⟩ := row_id_of_row? hrow
  simp only [List.all_eq_true, Bool.or_eq_true, Bool.not_eq_true', Bool.and_eq_true, beq_iff_eq] at hBF
  rcases hBF row hmem with h | h
  · rw [hid, hp] at h; cases h
  · rcases h b hb with h | ⟨⟨h1, h2⟩, h3⟩
    · left
      cases hps : b.prods with
      | nil => rw [hps] at h; cases h
      | cons q ps =>
        rw [hps] at h
        cases q with
        | end_ x => exact ⟨x, ps, rfl⟩
        | start x => cases h
        | build => cases h
    · exact .inr ⟨h1, h2.trans hid, h3⟩

theorem trace_loop {D : List Dialect} {T : Table} {S : List Nat} {k₁ k₂ : Kind}
    (hBF : (T.rows.all fun r => !S.contains r.id || r.branches.all fun b => isEndProd b.prods.head? ||
      (b.prods == [.build] && b.target == r.id && (b.kind == k₁ || b.kind == k₂))) = true)
    (h₁ : k₁ ≠ .EOF) (h₂ : k₂ ≠ .EOF) (Inv : MState → Prop) (Q : Token → Prop)
    (hstep : ∀ μ l K t0, Inv μ → K = k₁ ∨ K = k₂ → t0.line = some l → (matchTok D K μ t0).1.res = .matched →
      Inv (muAfter D μ l K) ∧ Q (matchTok D K μ t0).1.tok)
    {p : Nat} {μ : MState} {ls : List Str} {sf : Nat} {steps : List (Branch × Token)}
    (h : Trace D T p μ ls sf steps) (hp : S.contains p = true) (hI : Inv μ) :
    ∃ (ys : List Token) (rest' : List BOp), stepsOps steps = ys.map .build ++ .end_ :: rest' ∧ ∀ y ∈ ys, Q y := by
  induction h with
  | @eof s μ row b t0 hrow hpick ht0 hres =>
    obtain ⟨hbm, hpass, -⟩ := pick_mem hpick
    rcases loop_branch hBF hrow hp hbm with ⟨x, ps, hps⟩ | ⟨-, -, hk⟩
    · exact ⟨[], prodOps (matchTok D b.kind μ t0).1.tok ps ++ [], by simp [stepsOps, hps, prodOps], fun y hy => by cases hy⟩
    · rw [passes_EOF, beq_iff_eq] at hpass
      rcases hk with hk | hk
      · exact absurd (hk ▸ hpass) h₁
      · exact absurd (hk ▸ hpass) h₂
  | @line s μ l ls row b t0 sf rest hrow hpick ht0 hres _ ih =>
    obtain ⟨hbm, -, -⟩ := pick_mem hpick
    rcases loop_branch hBF hrow hp hbm with ⟨x, ps, hps⟩ | ⟨hps, htgt, hk⟩
    · exact ⟨[], prodOps (matchTok D b.kind μ t0).1.tok ps ++ stepsOps rest, by simp [stepsOps, hps, prodOps], fun y hy => by cases hy⟩
    · obtain ⟨hI', hq⟩ := hstep μ l b.kind t0 hI hk ht0 hres
      obtain ⟨ys, rest', hops, hys⟩ := ih (by rw [htgt]; exact hp) hI'
      refine ⟨(matchTok D b.kind μ t0).1.tok :: ys, rest', ?_, ?_⟩
      · simp only [stepsOps, List.flatMap_cons, hps, prodOps, List.map_cons, List.cons_append, List.nil_append]
        simp only [stepsOps] at hops
        rw [hops]
      · intro y hy
        rcases List.mem_cons.1 hy with rfl | hy
        · exact hq
        · exact hys y hy

theorem trace_afterClose {D : List Dialect} {T : Table} (hBF : docBodyFacts T = true)
    {p : Nat} {μ : MState} {ls : List Str} {sf : Nat} {steps : List (Branch × Token)}
    (h : Trace D T p μ ls sf steps) (hp : (afterClose T).contains p = true) :
    ∃ (ys : List Token) (rest' : List BOp), stepsOps steps = ys.map .build ++ .end_ :: rest' ∧ ∀ y ∈ ys, DocTrail y :=
  trace_loop hBF (by decide) (by decide) (fun _ => True) DocTrail
    (fun μ l K t0 _ hk _ hres => by
      obtain ⟨hmt, hwm⟩ := matchTok_well_matched D _ _ _ hres
      exact ⟨trivial, by rw [hmt]; rcases hk with hk | hk <;> simp [hk], hwm⟩) h hp trivial

theorem trace_body {D : List Dialect} {T : Table} (hf : textDialectFacts D = true)
    (hCR : ((contentStates T).all fun s => (T.row? s).any isContentRow) = true) (hBF : docBodyFacts T = true)
    {s : Nat} {μ : MState} {ls : List Str} {sf : Nat} {steps : List (Branch × Token)}
    (h : Trace D T s μ ls sf steps) (hμ : MuOK D μ) (hs : (contentStates T).contains s = true)
    (sep : Str) (hsep : μ.activeSep = some sep) (hne : sep ≠ []) :
    ∃ (xs : List Token) (c : Token) (ys : List Token) (rest' : List BOp),
      stepsOps steps = (xs ++ c :: ys).map .build ++ .end_ :: rest' ∧
      (∀ x ∈ xs, DocLine sep μ.indentToRemove x) ∧ DocClose sep c ∧ ∀ y ∈ ys, DocTrail y := by
  induction h with
  | @eof s μ row b t0 hrow hpick ht0 hres =>
    exfalso
    have hpass := (pick_mem hpick).2.1
    rw [passes_EOF] at hpass
    rcases (content_pick (content_row_of hCR hrow hs) hpick).2 with h1 | ⟨h1, -, -⟩ <;>
      (rw [h1] at hpass; cases hpass)
  | @line s μ l ls row b t0 sf rest hrow hpick ht0 hres htail ih =>
    have hcr := content_row_of hCR hrow hs
    obtain ⟨hid, hmem⟩ := row_id_of_row? hrow
    obtain ⟨hbm, -, -⟩ := pick_mem hpick
    obtain ⟨hps, hcase⟩ := content_pick hcr hpick
    obtain ⟨hmt, hwm⟩ := matchTok_well_matched D _ _ _ hres
    have hline : (matchTok D b.kind μ t0).1.tok.line = some l := by
      rw [(matchTok_tok D b.kind μ t0).1]; exact ht0
    rcases hcase with hk | ⟨hk, htgt, hnp⟩
    · -- the closing separator
      obtain ⟨ys, rest', hops, hys⟩ := trace_afterClose hBF htail (mem_afterClose hmem hcr hbm hk)
      have hres' : (matchLine D .DocStringSeparator μ t0 l).res = .matched := by
        have := hres; rw [matchTok_line ht0, hk] at this; exact this
      have htok : (matchTok D b.kind μ t0).1.tok = (matchLine D .DocStringSeparator μ t0 l).tok := by
        rw [matchTok_line ht0, hk]
      obtain ⟨-, h2, h3, h4⟩ := docsep_close D μ t0 l sep hsep hne hres'
      refine ⟨[], (matchTok D b.kind μ t0).1.tok, ys, rest', ?_, (fun x hx => by cases hx), ?_, hys⟩
      · simp only [stepsOps, List.flatMap_cons, hps, prodOps, List.nil_append, List.map_cons, List.cons_append]
        simp only [stepsOps] at hops
        rw [hops]
      · refine ⟨⟨l, hline, (docsep_active_iff D μ t0 l sep hsep hne).1 hres'⟩, ?_, ?_, ?_, hwm⟩
        · rw [htok]; exact h4
        · rw [htok]; exact h2
        · rw [htok]; exact h3
    · -- a content line
      have hmu : muAfter D μ l b.kind = μ := by rw [hk]; rfl
      rw [hmu, htgt, hid] at htail ih
      obtain ⟨xs, c, ys, rest', hops, hxs, hc, hys⟩ := ih hμ hs hsep
      have htok : (matchTok D b.kind μ t0).1.tok = (matchLine D .Other μ t0 l).tok := by
        rw [matchTok_line ht0, hk]
      have hns := not_startsWith_sep hsep hne (by rw [kind_unique hf D μ hμ.1 hμ.2 l]; exact hnp)
      refine ⟨(matchTok D b.kind μ t0).1.tok :: xs, c, ys, rest', ?_, ?_, hc, hys⟩
      · simp only [stepsOps, List.flatMap_cons, hps, prodOps, List.nil_append, List.map_cons, List.cons_append]
        simp only [stepsOps] at hops
        rw [hops]
      · intro x hx
        rcases List.mem_cons.1 hx with rfl | hx
        · refine ⟨l, hline, hns, by rw [hmt, hk], ?_, hwm⟩
          rw [htok, other_text, hsep]; rfl
        · exact hxs x hx

structure DocFacts (D : List Dialect) (T : Table) : Prop where
  dialects : textDialectFacts D = true
  content : contentEntry T = true
  contentRows : ((contentStates T).all fun s => (T.row? s).any isContentRow) = true
  docOpens : docStringOpens T = true
  body : docBodyFacts T = true
  startLast : docStartFacts T = true

theorem trace_docOps {D : List Dialect} {T : Table} (F : DocFacts D T)
    {s : Nat} {μ : MState} {ls : List Str} {sf : Nat} {steps : List (Branch × Token)}
    (h : Trace D T s μ ls sf steps) (hμ : MuOK D μ)
    (hinv : μ.inDocString = (contentStates T).contains s) : lineOps .DocString DocSeq (stepsOps steps) := by
  have hDS := F.docOpens
  simp only [docStringOpens, Bool.and_eq_true, List.all_eq_true, Bool.or_eq_true, Bool.not_eq_true',
    beq_iff_eq] at hDS
  obtain ⟨-, hDS⟩ := hDS
  have hSL := F.startLast
  simp only [docStartFacts, List.all_eq_true] at hSL
  have hCE := F.content
  simp only [contentEntry, List.all_eq_true] at hCE
  induction h with
  | @eof s μ row b t0 hrow hpick ht0 hres =>
    obtain ⟨hid, hmem⟩ := row_id_of_row? hrow
    obtain ⟨hbm, hpass, -⟩ := pick_mem hpick
    simp only [stepsOps, List.flatMap_cons, List.flatMap_nil]
    refine lineOps_prodOps _ _ _ (startsDocLast_eq _ ▸ hSL row hmem b hbm) trivial fun hm => ?_
    exfalso
    rcases (hDS row hmem b hbm).2 with hds | hds
    · rw [List.contains_iff_mem.2 hm] at hds; cases hds
    · rw [passes_EOF, hds.1] at hpass; cases hpass
  | @line s μ l ls row b t0 sf rest hrow hpick ht0 hres htail ih =>
    obtain ⟨hid, hmem⟩ := row_id_of_row? hrow
    obtain ⟨hbm, hpass, -⟩ := pick_mem hpick
    have hμ' := muAfter_ok D μ hμ l b.kind
    have hinv' := inDocString_next F.dialects F.content hrow hbm hμ hpass hinv
    simp only [stepsOps, List.flatMap_cons]
    refine lineOps_prodOps _ _ _ (startsDocLast_eq _ ▸ hSL row hmem b hbm) (ih hμ' hinv') fun hm => ?_
    rcases (hDS row hmem b hbm).2 with hds | hds
    · rw [List.contains_iff_mem.2 hm] at hds; cases hds
    · obtain ⟨hk, hnc⟩ := hds
      rw [hid] at hnc
      have hin : μ.inDocString = false := by rw [hinv]; exact hnc
      have hnone := sepOK_notInDoc hμ.2 hin
      have hres' : (matchLine D .DocStringSeparator μ t0 l).res = .matched := by
        have := hres; rw [matchTok_line ht0, hk] at this; exact this
      have htok : (matchTok D b.kind μ t0).1.tok = (matchLine D .DocStringSeparator μ t0 l).tok := by
        rw [matchTok_line ht0, hk]
      obtain ⟨sep, hsepc, hst, hμo, htext, hkw, hmt⟩ := docsep_open D μ t0 l (.inl hnone) hres'
      have hmu : muAfter D μ l b.kind = { μ with activeSep := some sep, indentToRemove := lineIndent l } := by
        rw [hk, ← hμo]
        exact ((matchLine_indep D .DocStringSeparator μ t0 (probe l) l).1).symm
      have hne : sep ≠ [] := by rcases hsepc with rfl | rfl <;> decide
      have hct : (contentStates T).contains b.target = true := by
        have hce := hCE row hmem b hbm
        rw [hid, hnc] at hce
        simp only [Bool.false_eq_true, if_false, hk, beq_self_eq_true, beq_iff_eq] at hce
        exact hce.symm
      obtain ⟨xs, c, ys, rest', hops, hxs, hc, hys⟩ :=
        trace_body F.dialects F.contentRows F.body htail hμ' hct sep (by rw [hmu]) hne
      rw [hmu] at hxs
      obtain ⟨-, hwm⟩ := matchTok_well_matched D _ _ _ hres
      refine ⟨xs ++ c :: ys, rest', hops, _, xs, c, ys, sep, l, rfl, ?_, hxs, hc, hys⟩
      refine ⟨?_, hsepc, hst, ?_, ?_, ?_, hwm⟩
      · rw [(matchTok_tok D b.kind μ t0).1]; exact ht0
      · rw [htok]; exact hmt
      · rw [htok]; exact hkw
      · rw [htok]; exact htext

end Lemmas
end GV
