/-
  Stop-at-first-error mode against collecting mode (second half of C14).

  A simulation between the two runs of the same glue code (`stop = true` / `stop = false`) from
  the same context with an empty error list:
    * either both runs do exactly the same thing (same result, same context, error list still
      empty, and if they abort it is with `crash`/`fuel`),
    * or the stop run aborts with `.single e` and the collecting run has put `e` at the head of
      its error list.
  After its first error the collecting run only ever appends to the list (`Hd e` is an invariant
  of every glue operation), so whatever composite it finally raises starts with `e`.
-/
import GherkinVerif.Lemmas.GlueOutcome
import GherkinVerif.Lemmas.GlueTerm
import GherkinVerif.Lemmas.RelWalk
namespace GV
namespace Lemmas

def Hd (e : PErr) (c : Ctx) : Prop := ∃ tl, c.errors = e :: tl

/-- what an abort of the collecting run looks like once `e` heads the list -/
def EHd (e : PErr) (a : Abort) (c : Ctx) : Prop :=
  Hd e c ∧ match a with
    | .single _ => False
    | .composite es => ∃ tl, es = e :: tl
    | .crash _ => True
    | .fuel => True

theorem addError_hd (cap : Nat) (e e' : PErr) : Inv (Hd e) (EHd e) (addError cap e') := by
  refine Triple.intro fun c r c' hc hr => ?_
  obtain ⟨tl, htl⟩ := hc
  have hd : Hd e { c with errors := c.errors ++ [e'] } := ⟨tl ++ [e'], by rw [htl]; rfl⟩
  rcases addError_cases hr with ⟨rfl, rfl, -⟩ | ⟨rfl, -, ⟨rfl, -⟩ | ⟨rfl, -⟩⟩
  · exact ⟨tl, htl⟩
  · exact hd
  · exact ⟨hd, hd⟩

theorem hd_prims (D : List Dialect) (T : Table) (e : PErr) : Prims D T false (Hd e) (EHd e) := by
  refine Prims.of_errOnly (fun c c' h1 _ h => ?_) (fun _ e' => addError_hd _ e e') (fun hs => by cases hs)
    (fun _ _ h => ⟨h, trivial⟩) (fun _ h => ⟨h, trivial⟩) (fun row t => ?_)
  · obtain ⟨tl, h⟩ := h
    exact ⟨tl, h1.trans h⟩
  · unfold GV.tryBranches
    refine Triple.bind (Q := fun _ => Hd e) (Triple.modify _ fun c hc => hc) fun _ => ?_
    exact Inv.bind (addError_hd _ _ _) fun _ => Inv.pure _

/-- `m` keeps any first error at the head of the list -/
def Keeps {α} (m : PM α) : Prop := ∀ e, Inv (Hd e) (EHd e) m

/-- state of the collecting run at a point where the stop run has already raised `e` -/
def After {α} (e : PErr) (x : Except Abort α × Ctx) : Prop :=
  match x.1 with
  | .ok _ => Hd e x.2
  | .error a => EHd e a x.2

theorem After.ok {α} {e : PErr} {a : α} {c : Ctx} (h : Hd e c) : After e ((.ok a : Except Abort α), c) := h
theorem After.error {α} {e : PErr} {a : Abort} {c : Ctx} (h : EHd e a c) :
    After e ((.error a : Except Abort α), c) := h

theorem Keeps.after {α} {m : PM α} (h : Keeps m) {e : PErr} {c : Ctx} (hc : Hd e c) : After e (run m c) := by
  rcases hr : run m c with ⟨r, c'⟩
  cases r with
  | ok a => exact (h e c hc).1 _ _ hr
  | error a => exact (h e c hc).2 _ _ hr

theorem After.bind {α β} {m : PM α} {f : α → PM β} {e : PErr} {c : Ctx} (h : After e (run m c))
    (hk : ∀ a, Keeps (f a)) : After e (run (m >>= f) c) := by
  rw [prun_bind]
  rcases hr : run m c with ⟨r, c'⟩
  rw [hr] at h
  cases r with
  | ok a => exact (hk a).after h
  | error a => exact h

theorem addError_first (cap : Nat) (e : PErr) (c : Ctx) (hc : c.errors = []) :
    After e (run (addError cap e) c) := by
  rw [run_addError]
  have hany : c.errors.any (fun e' => e'.message == e.message) = false := by rw [hc]; rfl
  rw [hany]
  simp only [Bool.false_eq_true, if_false]
  split
  · exact After.error ⟨⟨[], by simp [hc]⟩, ⟨[], by simp [hc]⟩⟩
  · exact After.ok ⟨[], by simp [hc]⟩

/-- both runs in lock step: nothing reported, and an abort is a `crash` or `fuel` -/
def Quiet {α} (x : Except Abort α × Ctx) : Prop :=
  x.2.errors = [] ∧ match x.1 with
    | .error (.single _) => False
    | .error (.composite _) => False
    | _ => True

theorem Quiet.ok {α} {a : α} {c : Ctx} (h : c.errors = []) : Quiet ((.ok a : Except Abort α), c) := ⟨h, trivial⟩
theorem Quiet.crash {α} {w : String} {c : Ctx} (h : c.errors = []) :
    Quiet ((.error (.crash w) : Except Abort α), c) := ⟨h, trivial⟩

/-- stop run `ms` against collecting run `mc`, both from `c` -/
def SimAt {α} (c : Ctx) (ms mc : PM α) : Prop :=
  (run ms c = run mc c ∧ Quiet (run mc c)) ∨
  (∃ e cs, run ms c = (.error (.single e), cs) ∧ After e (run mc c))

theorem SimAt.same {α} {m : PM α} {c : Ctx} (h : Quiet (run m c)) : SimAt c m m := .inl ⟨rfl, h⟩

theorem SimAt.of_run_eq {α} {c c' : Ctx} {ms mc ms' mc' : PM α} (h1 : run ms c = run ms' c')
    (h2 : run mc c = run mc' c') (h : SimAt c' ms' mc') : SimAt c ms mc := by
  unfold SimAt
  rw [h1, h2]
  exact h

def Lock (c1 c2 : Ctx) : Prop := c1 = c2 ∧ c1.errors = []

/-- the stop run has raised `e`, the collecting run goes on with `e` at the head of its list -/
def Raised (x1 x2 : Option Abort × Ctx) : Prop :=
  ∃ e, x1.1 = some (.single e) ∧ match x2.1 with
    | none => Hd e x2.2
    | some a => EHd e a x2.2

/-- Stop run against collecting run (Lemmas/RelWalk.lean): a common abort is a `crash` or `fuel`;
    the escape `Raised` survives whatever the collecting run goes on to do as long as that keeps a
    first error at the head of the list. -/
def stopWalk : Walk where
  J := Lock
  A a c1 c2 := Lock c1 c2 ∧ match a with
    | .crash _ => True
    | .fuel => True
    | _ => False
  X := Raised
  K1 _ := True
  K2 := Keeps

theorem keeps_harmless : Harmless Keeps where
  pure a _ := Inv.pure a
  crash _ _ := Triple.throw _ fun _ h => ⟨h, trivial⟩
  fuel _ := Triple.throw _ fun _ h => ⟨h, trivial⟩
  get _ := Triple.conseq Triple.get (fun _ h => h) (fun _ _ h => h.2) fun _ _ h => h
  bind h1 h2 e := Inv.bind (h1 e) fun a => h2 a e

theorem raised_iff {α β} {x1 : Except Abort α × Ctx} {x2 : Except Abort β × Ctx} :
    Raised (erase x1) (erase x2) ↔ ∃ e cs, x1 = (.error (.single e), cs) ∧ After e x2 := by
  obtain ⟨r1, c1⟩ := x1
  obtain ⟨r2, c2⟩ := x2
  constructor
  · rintro ⟨e, h1, h2⟩
    cases r1 with
    | ok a => cases h1
    | error a =>
      cases h1
      exact ⟨e, c1, rfl, by cases r2 <;> exact h2⟩
  · rintro ⟨e, cs, h1, h2⟩
    cases h1
    exact ⟨e, rfl, by cases r2 <;> exact h2⟩

theorem stopWalk_ok : stopWalk.OK where
  k1 := ⟨fun _ => trivial, fun _ => trivial, trivial, trivial, fun _ _ => trivial⟩
  k2 := keeps_harmless
  sticky := fun _ hk m1 m2 c1 c2 h => by
    obtain ⟨e, cs, h1, h2⟩ := raised_iff.1 h
    exact raised_iff.2 ⟨e, cs, by rw [prun_bind, h1], h2.bind hk⟩
  crash _ _ _ h := ⟨h, trivial⟩
  fuel _ _ h := ⟨h, trivial⟩
  len _ _ h := by rw [h.1]

/-- the simulation from every error-free context -/
abbrev Sim {α} (ms mc : PM α) : Prop := SimJ stopWalk ms mc

theorem Sim.intro {α} {ms mc : PM α} (h : ∀ c, c.errors = [] → SimAt c ms mc) (k : Keeps mc) : Sim ms mc := by
  refine ⟨fun c1 c2 hc => ?_, trivial, k⟩
  obtain ⟨rfl, hc⟩ := hc
  rcases h c1 hc with ⟨heq, hq⟩ | hx
  · rw [heq]
    rcases hr : run mc c1 with ⟨r, c'⟩
    rw [hr] at hq
    cases r with
    | ok a => exact .ok ⟨rfl, rfl, hq.1⟩
    | error a =>
      exact .err ⟨rfl, ⟨rfl, hq.1⟩, by cases a <;> first | exact hq.2 | trivial⟩
  · exact .esc (raised_iff.2 hx)

theorem Sim.simAt {α} {ms mc : PM α} (h : Sim ms mc) {c : Ctx} (hc : c.errors = []) : SimAt c ms mc := by
  rcases h.rel c c ⟨rfl, hc⟩ with ⟨a1, a2, c1', c2', e1, e2, rfl, rfl, he⟩ |
    ⟨a, _, c1', c2', e1, e2, rfl, ⟨rfl, he⟩, ha⟩ | hx
  · exact .inl ⟨e1.trans e2.symm, by rw [e2]; exact Quiet.ok he⟩
  · exact .inl ⟨e1.trans e2.symm, by rw [e2]; exact ⟨he, by cases a <;> first | exact ha | trivial⟩⟩
  · exact .inr (raised_iff.1 hx)

theorem Sim.modify (f : Ctx → Ctx) (hf : ∀ c, (f c).errors = c.errors) : Sim (modify f : PM PUnit) (modify f) :=
  Sim.intro (fun c hc => SimAt.same (Quiet.ok ((hf c).trans hc)))
    fun _ => Triple.modify _ fun c ⟨tl, h⟩ => ⟨tl, (hf c).trans h⟩

theorem Sim.readToken : Sim readToken readToken := by
  refine Sim.intro (fun c hc => SimAt.same ?_) fun e => (hd_prims [] default e).readToken
  rw [run_readToken]
  split
  · exact Quiet.ok hc
  · split <;> exact Quiet.ok hc

section glue
variable (D : List Dialect) (T : Table)

theorem matchP_sim (k : Kind) (t : Token) :
    Sim (matchP D T.errorCap true k t) (matchP D T.errorCap false k t) := by
  refine Sim.intro (fun c hc => ?_) fun e => (hd_prims D T e).matchP k t
  unfold SimAt
  rw [run_matchP, run_matchP]
  dsimp only
  cases (matchTok D k c.μ t).1.res with
  | matched => exact .inl ⟨rfl, Quiet.ok hc⟩
  | no => exact .inl ⟨rfl, Quiet.ok hc⟩
  | raised e =>
    refine .inr ⟨e, _, rfl, ?_⟩
    have h1 := addError_first T.errorCap e
      { c with μ := (matchTok D k c.μ t).1.μ,
               calls := c.calls + (if (matchTok D k c.μ t).2 then 1 else 0) } hc
    dsimp only
    rcases hr : run (addError T.errorCap e) _ with ⟨r2, c2⟩
    rw [hr] at h1
    cases r2 <;> exact h1

theorem liftB_sim (r : Except BErr Unit) : Sim (liftB T.errorCap true r) (liftB T.errorCap false r) := by
  refine Sim.intro (fun c hc => ?_) fun e => ?_
  · unfold SimAt
    rw [run_liftB, run_liftB]
    split
    · exact .inl ⟨rfl, Quiet.ok hc⟩
    · exact .inl ⟨rfl, Quiet.crash hc⟩
    · exact .inr ⟨_, _, rfl, addError_first _ _ _ hc⟩
  · unfold liftB
    split
    · exact Inv.pure _
    · exact Triple.throw _ fun _ h => ⟨h, trivial⟩
    · exact addError_hd _ _ _

theorem runProd_sim (t : Token) (p : Prod) :
    Sim (runProd T.errorCap true t p) (runProd T.errorCap false t p) := by
  refine Sim.intro (fun c hc => ?_) fun e => (hd_prims [] T e).runProd t p
  cases p with
  | start r =>
    refine .inl ?_
    rw [run_runProd, run_runProd]
    exact ⟨rfl, Quiet.ok hc⟩
  | end_ r =>
    exact SimAt.of_run_eq (run_runProd ..) (run_runProd ..) ((liftB_sim T _).simAt hc)
  | build =>
    cases hb : c.β.build t with
    | ok β' =>
      refine .inl ?_
      rw [run_runProd, run_runProd]
      simp only [hb]
      exact ⟨trivial, Quiet.ok hc⟩
    | error e' =>
      refine SimAt.of_run_eq (ms' := liftB T.errorCap true (.error e')) (mc' := liftB T.errorCap false (.error e'))
        (c' := c) ?_ ?_ ((liftB_sim T _).simAt hc)
      · rw [run_runProd]; simp only [hb]
      · rw [run_runProd]; simp only [hb]

theorem tail_sim (row : StateRow) (t : Token) :
    Sim (tryBranches D T true row [] t) (tryBranches D T false row [] t) := by
  unfold GV.tryBranches
  refine SimR.bind stopWalk_ok (Sim.modify _ fun _ => rfl) fun _ => Sim.intro (fun c hc => ?_) fun e => ?_
  · exact .inr ⟨_, c, rfl, (addError_first _ _ c hc).bind fun _ => keeps_harmless.pure _⟩
  · exact Inv.bind (addError_hd _ _ _) fun _ => Inv.pure _

theorem lookahead_sim (la : LookAhead) :
    Sim (lookahead D T.errorCap true la) (lookahead D T.errorCap false la) :=
  SimJ.lookahead stopWalk_ok la Sim.readToken (fun k _ => matchP_sim D T k) fun _ => Sim.modify _ fun _ => rfl

theorem tryBranches_sim (row : StateRow) (bs : List Branch) (t : Token) :
    Sim (tryBranches D T true row bs t) (tryBranches D T false row bs t) := by
  rw [tryBranches_eq_X, tryBranches_eq_X]
  exact SimJ.tryBranchesX stopWalk_ok (matchP_sim D T) (lookahead_sim D T) (runProd_sim T) (tail_sim D T row) bs t

theorem parseLoop_sim (fuel state : Nat) :
    Sim (parseLoop D T true fuel state) (parseLoop D T false fuel state) := by
  rw [parseLoop_eq_X, parseLoop_eq_X]
  refine SimJ.loopX stopWalk_ok Sim.readToken (fun _ => Sim.modify _ fun _ => rfl) (fun s t => ?_) fuel state
  exact SimJ.matchRow stopWalk_ok s _ fun row => tryBranches_sim D T row _ t

theorem parseBody_sim (n : Nat) : Sim (parseBody D T true n) (parseBody D T false n) := by
  rw [parseBody_eq_X, parseBody_eq_X]
  refine SimR.bodyX stopWalk_ok (Sim.modify (fun c => { c with β := c.β.startRule T.startRule }) fun _ => rfl)
    (parseLoop_sim D T _ _) (runProd_sim T _ _)
    (SimR.finishX (fun c1 c2 h => ⟨by rw [h.1], fun hne => absurd h.2 hne⟩) (fun c1 c2 h _ => ?_) trivial fun e => ?_)
  · obtain ⟨rfl, hc⟩ := h
    unfold astResult
    split
    · exact .ok ⟨rfl, rfl, hc⟩
    · exact .err ⟨rfl, ⟨rfl, hc⟩, trivial⟩
    · exact .err ⟨rfl, ⟨rfl, hc⟩, trivial⟩
    · next e' he' => exact absurd he' (result_not_ast _ _)
  · -- with `e` on the list the composite is raised, and it starts with `e`
    unfold finishX
    refine Triple.bind Triple.get fun c0 => ?_
    dsimp only
    split
    · refine Triple.bind (Q := fun _ _ => False) (Triple.throw _ fun c hc => ?_) fun _ _ hf => hf.elim
      obtain ⟨rfl, hc⟩ := hc
      exact ⟨hc, hc⟩
    · rename_i hne
      intro c hc
      obtain ⟨rfl, tl, htl⟩ := hc
      simp [htl] at hne

end glue

theorem parse_sim (D : List Dialect) (T : Table) (μ : MState) (ids : Nat) (src : Str) :
    SimAt (ctx0 D μ ids src) (parseBody D T true (splitLines src).length)
      (parseBody D T false (splitLines src).length) :=
  (parseBody_sim D T _).simAt rfl

theorem parseBody_ok_errors (D : List Dialect) (T : Table) (stop : Bool) (μ : MState) (ids : Nat) (src : Str)
    (d : Doc) (c' : Ctx)
    (h : run (parseBody D T stop (splitLines src).length) (ctx0 D μ ids src) = (.ok d, c')) :
    c'.errors = [] :=
  ((parseBody_einv D T stop _ _ (einv_ctx0 D μ ids src stop _)).1 d c' h).2

theorem parse_modes (D : List Dialect) (T : Table) (μ : MState) (ids : Nat) (src : Str) :
    (parseWith D T true μ ids src = parseWith D T false μ ids src ∧
      ((∃ d, (parseWith D T false μ ids src).1 = .ok d) ∨ (∃ w, (parseWith D T false μ ids src).1 = .crash w) ∨
        (parseWith D T false μ ids src).1 = .fuel)) ∨
    (∃ e, (parseWith D T true μ ids src).1 = .rejected [e] false ∧
      ((∃ rest, (parseWith D T false μ ids src).1 = .rejected (e :: rest) true) ∨
        (∃ w, (parseWith D T false μ ids src).1 = .crash w) ∨ (parseWith D T false μ ids src).1 = .fuel)) := by
  rw [parseWith_eq, parseWith_eq]
  rcases parse_sim D T μ ids src with ⟨heq, hq⟩ | ⟨e, cs, hs, ha⟩
  · refine .inl ?_
    rw [heq]
    refine ⟨rfl, ?_⟩
    rcases hr : run (parseBody D T false (splitLines src).length) (ctx0 D μ ids src) with ⟨r, c⟩
    rw [hr] at hq
    cases r with
    | ok d => exact .inl ⟨d, rfl⟩
    | error a =>
      cases a with
      | single _ => exact (hq.2 : False).elim
      | composite _ => exact (hq.2 : False).elim
      | crash w => exact .inr (.inl ⟨w, rfl⟩)
      | fuel => exact .inr (.inr rfl)
  · refine .inr ⟨e, ?_, ?_⟩
    · rw [hs]; rfl
    · rcases hr : run (parseBody D T false (splitLines src).length) (ctx0 D μ ids src) with ⟨r, c⟩
      rw [hr] at ha
      cases r with
      | ok d =>
        obtain ⟨tl, htl⟩ : Hd e c := ha
        rw [parseBody_ok_errors D T false μ ids src d c hr] at htl
        cases htl
      | error a =>
        cases a with
        | single e1 =>
          have ha' : EHd e (.single e1) c := ha
          exact ha'.2.elim
        | composite es =>
          have ha' : EHd e (.composite es) c := ha
          obtain ⟨tl, rfl⟩ := ha'.2
          exact .inl ⟨tl, rfl⟩
        | crash w => exact .inr (.inl ⟨w, rfl⟩)
        | fuel => exact .inr (.inr rfl)

theorem stop_is_first (D : List Dialect) (T : Table) (μ : MState) (ids : Nat) (src : Str)
    (e : PErr) (rest : List PErr) (comp : Bool)
    (h : (parseWith D T false μ ids src).1 = .rejected (e :: rest) comp) :
    (parseWith D T true μ ids src).1 = .rejected [e] false := by
  rcases parse_modes D T μ ids src with ⟨_, ⟨d, hd⟩ | ⟨w, hw⟩ | hf⟩ | ⟨e', hs, ⟨tl, hr⟩ | ⟨w, hw⟩ | hf⟩
  · rw [hd] at h; cases h
  · rw [hw] at h; cases h
  · rw [hf] at h; cases h
  · rw [hr] at h; cases h; exact hs
  · rw [hw] at h; cases h
  · rw [hf] at h; cases h

theorem stop_rejects (D : List Dialect) (T : Table) (μ : MState) (ids : Nat) (src : Str)
    (e : PErr) (comp : Bool) (h : (parseWith D T true μ ids src).1 = .rejected [e] comp) :
    (∃ rest, (parseWith D T false μ ids src).1 = .rejected (e :: rest) true) ∨
    (∃ w, (parseWith D T false μ ids src).1 = .crash w) ∨ (parseWith D T false μ ids src).1 = .fuel := by
  rcases parse_modes D T μ ids src with ⟨heq, ⟨d, hd⟩ | ⟨w, hw⟩ | hf⟩ | ⟨e', hs, hc⟩
  · rw [heq, hd] at h; cases h
  · rw [heq, hw] at h; cases h
  · rw [heq, hf] at h; cases h
  · rw [hs] at h; cases h; exact hc

theorem stop_rejects_term (D : List Dialect) (T : Table) (hT : Spec.lookaheadsStopAtEOF T = true)
    (μ : MState) (ids : Nat) (src : Str)
    (e : PErr) (comp : Bool) (h : (parseWith D T true μ ids src).1 = .rejected [e] comp) :
    (∃ rest, (parseWith D T false μ ids src).1 = .rejected (e :: rest) true) ∨
    (∃ w, (parseWith D T false μ ids src).1 = .crash w) := by
  rcases stop_rejects D T μ ids src e comp h with h1 | h1 | h1
  · exact .inl h1
  · exact .inr h1
  · exact absurd h1 (parse_terminates D T hT false μ ids src)

theorem accept_same_run (D : List Dialect) (T : Table) (μ : MState) (ids : Nat) (src : Str) (d : Doc)
    (h : (parseWith D T true μ ids src).1 = .ok d ∨ (parseWith D T false μ ids src).1 = .ok d) :
    parseWith D T true μ ids src = parseWith D T false μ ids src := by
  rcases parse_modes D T μ ids src with ⟨heq, _⟩ | ⟨e', hs, ⟨tl, hr⟩ | ⟨w, hw⟩ | hf⟩
  · exact heq
  · rcases h with h | h
    · rw [hs] at h; cases h
    · rw [hr] at h; cases h
  · rcases h with h | h
    · rw [hs] at h; cases h
    · rw [hw] at h; cases h
  · rcases h with h | h
    · rw [hs] at h; cases h
    · rw [hf] at h; cases h

theorem accept_same (D : List Dialect) (T : Table) (μ : MState) (ids : Nat) (src : Str) (d : Doc) :
    (parseWith D T true μ ids src).1 = .ok d ↔ (parseWith D T false μ ids src).1 = .ok d := by
  constructor
  · intro h; rw [← accept_same_run D T μ ids src d (.inl h)]; exact h
  · intro h; rw [accept_same_run D T μ ids src d (.inr h)]; exact h

end Lemmas
end GV
