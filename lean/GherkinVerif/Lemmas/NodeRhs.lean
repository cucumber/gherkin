/-
  Lemmas/NodeRhs.lean — the right-hand side of a node's rule in kernel-evaluable form (`rhsOf`),
  the symbols of a regular expression and those that can stand before a given one (`RE.syms`,
  `RE.before`), and lists of valid trees with ignorable leaves dropped.  What the checks on the
  grammar's right-hand sides share (typed stack, tag attachment, node shapes, crash freedom).
-/
import GherkinVerif.Spec.Tree
import GherkinVerif.Lemmas.Regex
namespace GV.Lemmas

open GV.Spec
open GV.Spec.RE (Lang nullable deriv)

/-- `Spec.nodeRhs.expand` with the recursive call abstracted: structural recursion, so that the
    kernel can evaluate it (`Spec.nodeRhs` is a mutual definition compiled by well-founded
    recursion) -/
def expandK (G : Grammar) (f : RuleType → Spec.RE Sym) : Spec.RE Sym → Spec.RE Sym
  | .emp => .emp
  | .eps => .eps
  | .sym (.tok k) => .sym (.tok k)
  | .sym (.rule x) =>
    match G.rule? x with
    | some gx => if gx.bang then .sym (.rule x) else f x
    | none => .emp
  | .cat a b => .cat (expandK G f a) (expandK G f b)
  | .alt a b => .alt (expandK G f a) (expandK G f b)
  | .star a => .star (expandK G f a)

def nodeRhsK (G : Grammar) : Nat → RuleType → Spec.RE Sym
  | 0, _ => .emp
  | n + 1, r =>
    match G.rule? r with
    | none => .emp
    | some g => expandK G (nodeRhsK G n) g.rhs

theorem expandK_eq (G : Grammar) (n : Nat) (f : RuleType → Spec.RE Sym) (hf : ∀ x, f x = nodeRhs G n x)
    (r : Spec.RE Sym) : expandK G f r = nodeRhs.expand G n r := by
  induction r with
  | emp => simp [expandK, nodeRhs.expand]
  | eps => simp [expandK, nodeRhs.expand]
  | sym a =>
    cases a with
    | tok k => simp [expandK, nodeRhs.expand]
    | rule x => simp only [expandK, nodeRhs.expand, hf]; cases G.rule? x <;> rfl
  | cat a b iha ihb => simp [expandK, nodeRhs.expand, iha, ihb]
  | alt a b iha ihb => simp [expandK, nodeRhs.expand, iha, ihb]
  | star a iha => simp [expandK, nodeRhs.expand, iha]

theorem nodeRhsK_eq (G : Grammar) (n : Nat) (x : RuleType) : nodeRhsK G n x = nodeRhs G n x := by
  induction n generalizing x with
  | zero => simp [nodeRhsK, nodeRhs]
  | succ n ih =>
    simp only [nodeRhsK, nodeRhs]
    cases G.rule? x with
    | none => rfl
    | some g => exact expandK_eq G n _ ih g.rhs

/-- the right-hand side of a node's rule, as used by `Spec.ValidNode` (kernel-evaluable form) -/
def rhsOf (G : Grammar) (x : RuleType) : Spec.RE Sym := nodeRhsK G G.rules.length x

theorem rhsOf_eq (G : Grammar) (x : RuleType) : rhsOf G x = nodeRhs G G.rules.length x :=
  nodeRhsK_eq G _ x

theorem validList_append {G : Grammar} {xs ys : List Tree} (hx : ValidList G xs) (hy : ValidList G ys) :
    ValidList G (xs ++ ys) := by
  induction xs with
  | nil => exact hy
  | cons t ts ih =>
    cases hx with
    | cons ht hts => exact ValidList.cons ht (ih hts)

theorem validList_snoc {G : Grammar} {xs : List Tree} {t : Tree} (hx : ValidList G xs) (ht : ValidNode G t) :
    ValidList G (xs ++ [t]) :=
  validList_append hx (ValidList.cons ht ValidList.nil)

theorem validList_mem {G : Grammar} {xs : List Tree} (hx : ValidList G xs) {t : Tree} (ht : t ∈ xs) :
    ValidNode G t := by
  induction xs with
  | nil => cases ht
  | cons a as ih =>
    cases hx with
    | cons ha has =>
      cases ht with
      | head => exact ha
      | tail _ h => exact ih has h

theorem dropIgnored_append {G : Grammar} {a b c d : List Tree} (h1 : DropIgnored G a b) (h2 : DropIgnored G c d) :
    DropIgnored G (a ++ c) (b ++ d) := by
  induction h1 with
  | nil => exact h2
  | keep t _ ih => exact DropIgnored.keep t ih
  | drop k hk _ ih => exact DropIgnored.drop k hk ih

namespace RE
variable {α : Type} [DecidableEq α]

def syms : Spec.RE α → List α
  | .emp => []
  | .eps => []
  | .sym a => [a]
  | .cat r s => syms r ++ syms s
  | .alt r s => syms r ++ syms s
  | .star r => syms r

omit [DecidableEq α] in
theorem syms_of_lang {r : Spec.RE α} {w : List α} (h : Lang r w) : ∀ y ∈ w, y ∈ syms r := by
  induction h with
  | eps => intro y hy; cases hy
  | sym a => intro y hy; simpa [syms] using hy
  | cat _ _ ih1 ih2 =>
    intro y hy
    simp only [List.mem_append] at hy
    simp only [syms, List.mem_append]
    exact hy.imp (ih1 y) (ih2 y)
  | altL _ ih => intro y hy; simp only [syms, List.mem_append]; exact Or.inl (ih y hy)
  | altR _ ih => intro y hy; simp only [syms, List.mem_append]; exact Or.inr (ih y hy)
  | starNil => intro y hy; cases hy
  | starCons _ _ ih1 ih2 =>
    intro y hy
    simp only [List.mem_append] at hy
    cases hy with
    | inl h => simpa [syms] using ih1 y h
    | inr h => exact ih2 y h

omit [DecidableEq α] in
theorem one_split {w1 w2 u v : List α} {x : α} (e : w1 ++ w2 = u ++ x :: v) :
    (∃ c, w1 = u ++ x :: c ∧ v = c ++ w2) ∨ (∃ a, u = w1 ++ a ∧ w2 = a ++ x :: v) := by
  rcases List.append_eq_append_iff.1 e with ⟨a', hu, hw2⟩ | ⟨c', hw1, hc⟩
  · exact Or.inr ⟨a', hu, hw2⟩
  · cases c' with
    | nil => exact Or.inr ⟨[], by simpa using hw1.symm, by simpa using hc.symm⟩
    | cons z c'' =>
      simp only [List.cons_append, List.cons.injEq] at hc
      obtain ⟨rfl, rfl⟩ := hc
      exact Or.inl ⟨c'', hw1, rfl⟩

/-- over-approximation of the symbols that can stand anywhere before an `x` in a word of `r` -/
def before (x : α) : Spec.RE α → List α
  | .emp => []
  | .eps => []
  | .sym _ => []
  | .cat r s => before x r ++ before x s ++ (if (syms s).contains x = true then syms r else [])
  | .alt r s => before x r ++ before x s
  | .star r => if (syms r).contains x = true then syms r else []

theorem before_of_lang {x : α} {r : Spec.RE α} {w : List α} (h : Lang r w) :
    ∀ u v, w = u ++ x :: v → ∀ y ∈ u, y ∈ before x r := by
  induction h with
  | eps => intro u v e; simp at e
  | sym a =>
    intro u v e y hy
    cases u with
    | nil => cases hy
    | cons b u' => simp at e
  | @cat r s w1 w2 h1 h2 ih1 ih2 =>
    intro u v e y hy
    simp only [before, List.mem_append]
    rcases one_split e with ⟨c, hw1, -⟩ | ⟨a, rfl, hw2⟩
    · left; left; exact ih1 u c hw1 y hy
    · have hx : (syms s).contains x = true :=
        List.contains_iff_mem.2 (syms_of_lang h2 x (by rw [hw2]; simp))
      rcases List.mem_append.1 hy with hy1 | hy2
      · right; simp only [hx, if_true]; exact syms_of_lang h1 y hy1
      · left; right; exact ih2 a v hw2 y hy2
  | altL _ ih => intro u v e y hy; simp only [before, List.mem_append]; exact Or.inl (ih u v e y hy)
  | altR _ ih => intro u v e y hy; simp only [before, List.mem_append]; exact Or.inr (ih u v e y hy)
  | starNil => intro u v e; simp at e
  | @starCons r w1 w2 h1 h2 _ _ =>
    intro u v e y hy
    have hall := syms_of_lang (Lang.starCons h1 h2)
    have hx : (syms r).contains x = true :=
      List.contains_iff_mem.2 (by simpa [syms] using hall x (by rw [e]; simp))
    simp only [before, hx, if_true]
    simpa [syms] using hall y (by rw [e]; simp [hy])

end RE

theorem dropIgnored_split {G : Grammar} {p : List Tree} {t : Tree} {q : List Tree}
    (ht : ∀ k, t = .leaf k → G.ignored.contains k = false) :
    ∀ {kept : List Tree}, DropIgnored G (p ++ t :: q) kept →
      ∃ p' q', kept = p' ++ t :: q' ∧ DropIgnored G p p' ∧ DropIgnored G q q' := by
  induction p with
  | nil =>
    intro kept h
    simp only [List.nil_append] at h
    cases h with
    | keep _ h' => exact ⟨[], _, rfl, DropIgnored.nil, h'⟩
    | drop k hk _ => rw [ht k rfl] at hk; cases hk
  | cons a p ih =>
    intro kept h
    simp only [List.cons_append] at h
    cases h with
    | keep _ h' =>
      obtain ⟨p', q', rfl, hp, hq⟩ := ih h'
      exact ⟨a :: p', q', rfl, DropIgnored.keep a hp, hq⟩
    | drop k hk h' =>
      obtain ⟨p', q', rfl, hp, hq⟩ := ih h'
      exact ⟨p', q', rfl, DropIgnored.drop k hk hp, hq⟩

theorem dropIgnored_mem {G : Grammar} {p p' : List Tree} (h : DropIgnored G p p') :
    ∀ y ∈ p, y ∈ p' ∨ IgnorableLeaf G y := by
  induction h with
  | nil => intro y hy; cases hy
  | keep t _ ih =>
    intro y hy
    cases hy with
    | head => exact Or.inl List.mem_cons_self
    | tail _ hy' => exact (ih y hy').imp (List.mem_cons_of_mem _) id
  | drop k hk _ ih =>
    intro y hy
    cases hy with
    | head => exact Or.inr ⟨k, rfl, hk⟩
    | tail _ hy' => exact ih y hy'

theorem dropIgnored_cons {G : Grammar} {q : List Tree} : ∀ {nxt : Tree} {q'' : List Tree},
    DropIgnored G q (nxt :: q'') →
    ∃ ign post', q = ign ++ nxt :: post' ∧ (∀ c ∈ ign, IgnorableLeaf G c) := by
  induction q with
  | nil => intro nxt q'' h; cases h
  | cons a q ih =>
    intro nxt q'' h
    cases h with
    | keep _ h' => exact ⟨[], q, rfl, fun c hc => by cases hc⟩
    | drop k hk h' =>
      obtain ⟨ign, post', rfl, hign⟩ := ih h'
      refine ⟨.leaf k :: ign, post', rfl, ?_⟩
      intro c hc
      cases hc with
      | head => exact ⟨k, rfl, hk⟩
      | tail _ hc' => exact hign c hc'

theorem rule?_some {G : Grammar} {r : RuleType} {g : GRule} (h : G.rule? r = some g) :
    g ∈ G.rules ∧ g.name = r := by
  unfold Grammar.rule? at h
  exact ⟨List.mem_of_find?_eq_some h, by simpa using List.find?_some h⟩

theorem rhsOf_none {G : Grammar} {r : RuleType} (h : G.rule? r = none) : rhsOf G r = .emp := by
  unfold rhsOf
  cases G.rules.length with
  | zero => rfl
  | succ n => simp only [nodeRhsK, h]

end GV.Lemmas
