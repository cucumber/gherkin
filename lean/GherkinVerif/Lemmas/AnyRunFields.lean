/-
  What `Spec.LineTok` (Lemmas/AnyRun.lean) says about the fields of a built token (cells and column
  of its own physical line, by the per-line theorems of Lemmas/Locations.lean), and the list
  arithmetic that turns "built and reported line numbers partition `1 … n`" into order and
  disjointness statements.
-/
import GherkinVerif.Lemmas.AnyRun
import GherkinVerif.Lemmas.Locations
namespace GV
namespace AnyRun
open Lemmas Spec

theorem lineTok_fields {D : List Dialect} {L : List Str} {t : Token} (h : LineTok D L t) :
    ∃ l, L[t.lineNo - 1]? = some l ∧ t.line = some l ∧
      (t.mtype = some .TableRow → t.items = tableCells l ∧ t.col = some (lineIndent l + 1)) ∧
      (t.mtype = some .TagLine → lineTags l = .ok t.items ∧ t.col = some (lineIndent l + 1)) ∧
      (t.mtype = some .StepLine ∨ t.mtype = some .DocStringSeparator ∨ t.mtype = some .FeatureLine ∨
        t.mtype = some .RuleLine ∨ t.mtype = some .BackgroundLine ∨ t.mtype = some .ScenarioLine ∨
        t.mtype = some .ExamplesLine → t.col = some (lineIndent l + 1)) ∧
      (t.mtype = some .Comment ∨ t.mtype = some .Empty ∨ t.mtype = some .Other → t.col = some 1) := by
  obtain ⟨l, hL, -, hl, K, μi, -, hres, ht, hK⟩ := h
  refine ⟨l, hL, hl, ?_⟩
  generalize t.lineNo = n at hres ht
  subst ht
  have hfl : (freshTok l n).line = some l := rfl
  have hKeq : ∀ K', (matchLine D K μi (freshTok l n) l).tok.mtype = some K' → K = K' := by
    intro K' h'
    rw [hK] at h'
    exact Option.some.inj h'
  have title : ∀ kws, (K, kws) ∈ [(Kind.FeatureLine, μi.dialect.feature), (.RuleLine, μi.dialect.rule),
      (.BackgroundLine, μi.dialect.background), (.ScenarioLine, μi.dialect.scenario ++ μi.dialect.scenarioOutline),
      (.ExamplesLine, μi.dialect.examples)] →
      (matchLine D K μi (freshTok l n) l).tok.col = some (lineIndent l + 1) := by
    intro kws hk
    obtain ⟨kw, c, -, -, hc, hce, -⟩ := title_col_list D K kws μi (freshTok l n) l hfl hk hres
    rw [hc, hce]
  refine ⟨fun hm => ?_, fun hm => ?_, fun hm => ?_, fun hm => ?_⟩
  · have := hKeq _ hm; subst this
    obtain ⟨h1, -, h3⟩ := row_col D μi (freshTok l n) l hfl hres
    exact ⟨h3, h1⟩
  · have := hKeq _ hm; subst this
    obtain ⟨-, h2, h3⟩ := tagline_tok D μi (freshTok l n) l hfl hres
    exact ⟨h2, h3⟩
  · rcases hm with hm | hm | hm | hm | hm | hm | hm <;> (have := hKeq _ hm; subst this)
    · obtain ⟨kw, -, -, -, h, -⟩ := step_col D μi (freshTok l n) l hfl hres
      exact h
    · obtain ⟨sep, -, -, -, h⟩ := docsep_col D μi (freshTok l n) l hfl hres
      exact h
    · exact title μi.dialect.feature (by simp)
    · exact title μi.dialect.rule (by simp)
    · exact title μi.dialect.background (by simp)
    · exact title (μi.dialect.scenario ++ μi.dialect.scenarioOutline) (by simp)
    · exact title μi.dialect.examples (by simp)
  · rcases hm with hm | hm | hm <;> (have := hKeq _ hm; subst this)
    · exact (comment_col D μi (freshTok l n) l hres).1
    · exact empty_col D μi (freshTok l n) l hres
    · exact other_col D μi (freshTok l n) l

theorem order_of_partition {bl un reads : List Nat} {n : Nat} (hr : reads = List.range' 1 n)
    (hp : (bl ++ un).Perm reads ∨ (bl ++ un).Perm reads.dropLast) (hs1 : bl.Sublist reads)
    (hs2 : un.Sublist reads) :
    bl.Pairwise (· < ·) ∧ un.Pairwise (· < ·) ∧ (∀ k ∈ bl, k ∉ un) ∧ (∀ k ∈ bl ++ un, 1 ≤ k ∧ k ≤ n) := by
  have hpw : reads.Pairwise (· < ·) := by rw [hr]; exact List.pairwise_lt_range'
  have hnd : reads.Nodup := by rw [hr]; exact List.nodup_range'
  have hnd' : (bl ++ un).Nodup := by
    rcases hp with hp | hp
    · exact hp.nodup_iff.2 hnd
    · exact hp.nodup_iff.2 ((List.dropLast_sublist reads).nodup hnd)
  refine ⟨hpw.sublist hs1, hpw.sublist hs2, fun k hk hk' => ?_, fun k hk => ?_⟩
  · exact (List.nodup_append.1 hnd').2.2 k hk k hk' rfl
  · have hm : k ∈ reads := by
      rcases List.mem_append.1 hk with h | h
      · exact hs1.subset h
      · exact hs2.subset h
    rw [hr, List.mem_range'_1] at hm
    omega

theorem xor_of_full {bl un : List Nat} {n : Nat} (hp : (bl ++ un).Perm (List.range' 1 n))
    (hdis : ∀ k ∈ bl, k ∉ un) (k : Nat) (h1 : 1 ≤ k) (h2 : k ≤ n) :
    (k ∈ bl ∧ k ∉ un) ∨ (k ∉ bl ∧ k ∈ un) := by
  have hm : k ∈ bl ++ un := hp.mem_iff.2 (by rw [List.mem_range'_1]; omega)
  rcases List.mem_append.1 hm with h | h
  · exact .inl ⟨h, hdis k h⟩
  · exact .inr ⟨fun hb => hdis k hb h, h⟩

end AnyRun
end GV
