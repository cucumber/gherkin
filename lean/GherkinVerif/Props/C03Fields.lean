/-
  Props/C03Fields.lean — property C03 "with exact text": the CONTENTS of the elements.  The AST
  carries every feature, rule, background, scenario, examples block, step, table row with its
  cells, doc string and tag of the source exactly once, in source order, with the keyword as
  written, the name / step text as the rest of the line with surrounding whitespace removed, the
  cells of the two-phase reading of the row; and nothing that is not in the source.
  Proofs are in Lemmas/AstElems.lean (tree level; the locations of Lemmas/AstLocs.lean are its
  image) and Lemmas/ParseElems.lean (document level: composition with what `Lemmas.parse_accepted`
  says of an accepted document — the tree of the link `C03_parse_is_astOf`, the tokens
  `C03_parse_tokens` — and the matcher theorems of C04, C05, C12, C13).

  Vocabulary (Spec/AstElems.lean, Lemmas/ParseDoc.lean, Lemmas/ParseElems.lean):
  * `Spec.Elem`: an element with its fields: `keywordLine kind loc keyword name`,
    `step loc keyword ktype text`, `tag loc name`, `row loc cells`, `docString loc delimiter mediaType`.
  * `Spec.srcElems d`: the elements of the typed AST in source order (the order of `Spec.srcLocs`).
  * `Spec.leafElems tk`: the elements ONE matched line carries, read off its token;
    `Spec.elemsOfTree t`: those of the lines of a token tree, in line order, of the two separators
    of a doc string only the first (the order and multiplicity of `Spec.elemLocs`);
    `Spec.lineElems tk`: `leafElems tk`, except that a closing doc-string separator carries nothing.
  * `Spec.stateAt D μ lines toks i`: the matcher state in force when line `i` is reached (from `μ`,
    moved on by `Spec.muAfter` with the kind each earlier line was read as).  Its `dialect` is the
    dialect in force, its `name` is `Spec.nameAt` (the last `# language:` header, `C03_state_name`).
  * `Spec.ElemFromLine μ l n e`: `e` is an element of the physical line `l`, the `n`-th line, read
    under matcher state `μ` — per kind of element, in terms of the TEXT of the line
    (`C03_from_line_keywordLine` … `C03_from_line_docString` spell the five cases out).

  * `Spec.srcTexts d` / `Spec.textsOfTree t`: the FREE TEXT — the description of every feature, rule,
    background, scenario and examples block and the content of every doc string, each with the
    location of its owner, in source order; on the tree side what each node owns (`Spec.ownTexts`):
    the texts of the `Other` lines of its first `Description` child, trailing whitespace-only lines
    dropped (`trimDescLines`), joined by line feeds — the empty string without such a child; for a
    `DocString` node the texts of its `Other` lines joined by line feeds.

  * `Spec.descNodesP t` / `Spec.DescTok`: every `Description` node of the tree has only lines as children,
    each a comment line or a free-text line read OUTSIDE a doc string, whose text is the physical
    line verbatim minus its line break.  (`Spec.docNodesP DocSeqNo t` is the corresponding statement
    for `DocString` nodes, `C13_in_document`.)  It rests on two Boolean table facts evaluated here,
    `Spec.descStartFacts` and `Spec.descBodyFacts`.
-/
import GherkinVerif.Lemmas.ParseElems
import GherkinVerif.Props.C03Doc
import GherkinVerif.KDecide
import GherkinVerif.Lemmas.Lit
namespace GV
open Spec

/-- **Elements once, in order, with exact fields.**  For a grammar-shaped token tree `t` whose fold
    is the document `d`: the elements of `d` read off in source order, each with its keyword /
    name / text / keyword type / tag name / cells / delimiter / media type, are exactly the
    elements carried by the lines of `t`, line by line: same number, same order, same fields. -/
theorem C03_elems_once_in_order (t : TTree) (hs : GrammarShaped t) (cs : List Comment) (n n' : Nat) (d : Doc)
    (h : (astOf cs t).run.run n = (.ok (.doc d), n')) : srcElems d = elemsOfTree t :=
  Lemmas.elems_once_in_order t hs cs n n' d h

theorem C03_elems_once_accepted (t : TTree) (hv : ValidTree Gen.grammar .GherkinDocument t.kinds)
    (cs : List Comment) (n n' : Nat) (d : Doc) (h : (astOf cs t).run.run n = (.ok (.doc d), n')) :
    srcElems d = elemsOfTree t :=
  Lemmas.elems_once_in_order t (Lemmas.shaped_of_valid_gen t hv) cs n n' d h

/-- The element lists refine the location lists of `C03_leaves_once_in_order`: same order, same
    multiplicity, on both sides. -/
theorem C03_elems_refine_locs (d : Doc) (t : TTree) :
    srcLocs d = (srcElems d).map Elem.loc ∧ elemLocs t = (elemsOfTree t).map Elem.loc :=
  ⟨Lemmas.srcLocs_eq_map d, Lemmas.elemLocs_eq_map t⟩

/-- What one token carries: a keyword line its keyword and text; a step line keyword, keyword type
    and text; a table row its items as cells; an (opening) separator delimiter and media type; a
    tag line one tag per item; any other line nothing. -/
theorem C03_leaf_elems (t : Token) (kw tx dl : Str) (kt : KType) (k : Kind) :
    (k ∈ [Kind.FeatureLine, .RuleLine, .BackgroundLine, .ScenarioLine, .ExamplesLine] → t.mtype = some k →
      t.keyword = some kw → t.text = some tx → leafElems t = [.keywordLine k t.loc kw tx]) ∧
    (t.mtype = some .StepLine → t.keyword = some kw → t.ktype = some kt → t.text = some tx →
      leafElems t = [.step t.loc kw kt tx]) ∧
    (t.mtype = some .TableRow → leafElems t = [.row t.loc (itemPairs t)]) ∧
    (t.mtype = some .DocStringSeparator → t.keyword = some dl → t.text = some tx →
      leafElems t = [.docString t.loc dl (mediaOf tx)]) ∧
    (t.mtype = some .TagLine → leafElems t = t.items.map fun it => .tag (getLocation t (some it.1)) it.2) ∧
    (t.mtype = some k → k ∉ elemKinds → leafElems t = []) :=
  ⟨fun hk hm h1 h2 => Lemmas.leafElems_title t k kw tx hk hm h1 h2,
   fun hm h1 h2 h3 => Lemmas.leafElems_step t kw tx kt hm h1 h2 h3,
   Lemmas.leafElems_row t, fun hm h1 h2 => Lemmas.leafElems_docSep t dl tx hm h1 h2,
   Lemmas.leafElems_tagLine t, Lemmas.leafElems_nonElem t k⟩

/-- For every accepted document there is a token tree over the tokens handed to the builder,
    projecting to a derivation tree of the grammar, whose elements are those of the AST. -/
theorem C03_parse_elems_once (μ : MState) (ids : Nat) (src : Str)
    (hμ : (μ.reset Gen.dialects).dialect ∈ Gen.dialects) (d : Doc)
    (h : (parseWith Gen.dialects Gen.parserTable false μ ids src).1 = .ok d) :
    ∃ t : TTree, leaves t = (parseWith Gen.dialects Gen.parserTable false μ ids src).2.builds ∧
      ValidTree Gen.grammar .GherkinDocument t.kinds ∧ srcElems d = elemsOfTree t := by
  obtain ⟨t, -, hl, hv, -, -, -, hast⟩ := C03_parse_is_astOf μ ids src hμ d h
  exact ⟨t, hl, hv, C03_elems_once_accepted t hv _ _ _ d hast⟩

/-- **Fields, in the document.**  For every accepted document, with `toks ++ [eof]` the tokens handed
    to the builder (`LineToks`: token `i` is the matcher's output on physical line `i` under the
    matcher state in force there): every element `el` of the AST comes from a physical line
    `l = lines[i]`, under the matcher state `μᵢ = stateAt … i` in force at that line, whose dialect is
    one of the table: `ElemFromLine μᵢ l (i + 1) el` — location line `i + 1`, and
    * a keyword line: the keyword is one of `μᵢ.dialect`'s keywords for the role, the line after its
      indentation reads the keyword + `:`, the name is the rest of the line stripped;
    * a step: the keyword is the FIRST step keyword of `μᵢ.dialect` prefixing the line after its
      indentation, the text is the rest stripped, the keyword type `stepKType μᵢ.dialect kw`;
    * a tag: name `@` + the stripped text after the `@` at its column;
    * a row: the cells of `Spec.cells l`, each at its column;
    * a doc string: delimiter and media type of an opening separator line.
    Nothing that is not in the source appears in the AST. -/
theorem C03_fields_in_document (μ : MState) (ids : Nat) (src : Str)
    (hμ : (μ.reset Gen.dialects).dialect ∈ Gen.dialects) (d : Doc)
    (h : (parseWith Gen.dialects Gen.parserTable false μ ids src).1 = .ok d) :
    ∃ toks e μf, (parseWith Gen.dialects Gen.parserTable false μ ids src).2.builds = toks ++ [e] ∧
      LineToks Gen.dialects (μ.reset Gen.dialects) 1 (splitLines src) toks μf ∧
      ∀ el ∈ srcElems d, ∃ (i : Nat) (l : Str), (splitLines src)[i]? = some l ∧
        (stateAt Gen.dialects (μ.reset Gen.dialects) (splitLines src) toks i).dialect ∈ Gen.dialects ∧
        ElemFromLine (stateAt Gen.dialects (μ.reset Gen.dialects) (splitLines src) toks i) l (i + 1) el :=
  Lemmas.fields_in_document C03P_facts C03P_fact_builds C03D_fact_content_rows μ ids src hμ d h

/-- **Fields, line by line** (the exact form of "once, in order, nothing else").  For every accepted
    document the elements of the AST in source order are the concatenation, physical line by
    physical line, of the elements of each line's token (`lineElems`: what the token carries; a
    closing doc-string separator nothing); token `i` is the matcher's output for the kind `K` the
    line was read as, on the fresh token of line `i`, under the state in force; and its elements are
    read off the text of the line (`ElemFromLine`). -/
theorem C03_fields_line_by_line (μ : MState) (ids : Nat) (src : Str)
    (hμ : (μ.reset Gen.dialects).dialect ∈ Gen.dialects) (d : Doc)
    (h : (parseWith Gen.dialects Gen.parserTable false μ ids src).1 = .ok d) :
    ∃ toks e μf, (parseWith Gen.dialects Gen.parserTable false μ ids src).2.builds = toks ++ [e] ∧
      LineToks Gen.dialects (μ.reset Gen.dialects) 1 (splitLines src) toks μf ∧
      srcElems d = toks.flatMap lineElems ∧
      ∀ (i : Nat) (l : Str) (tk : Token), (splitLines src)[i]? = some l → toks[i]? = some tk →
        (stateAt Gen.dialects (μ.reset Gen.dialects) (splitLines src) toks i).dialect ∈ Gen.dialects ∧
        ∃ K, tk.mtype = some K ∧
          tk = (matchLine Gen.dialects K (stateAt Gen.dialects (μ.reset Gen.dialects) (splitLines src) toks i)
                  (freshTok l (i + 1)) l).tok ∧
          ∀ el ∈ lineElems tk,
            ElemFromLine (stateAt Gen.dialects (μ.reset Gen.dialects) (splitLines src) toks i) l (i + 1) el :=
  Lemmas.fields_line_by_line C03P_facts C03D_doc_facts C03P_fact_builds μ ids src hμ d h

theorem C03_fields_in_document_generic (D : List Dialect) (T : Table) (G : Grammar) (fuel : Nat)
    (L : Lemmas.LinkFacts D T G fuel) (hB : Spec.oneBuildLast T = true)
    (hCR : ((Spec.contentStates T).all fun s => (T.row? s).any Spec.isContentRow) = true)
    (μ : MState) (ids : Nat) (src : Str) (hμ : (μ.reset D).dialect ∈ D) (d : Doc)
    (h : (parseWith D T false μ ids src).1 = .ok d) :
    ∃ toks e μf, (parseWith D T false μ ids src).2.builds = toks ++ [e] ∧
      LineToks D (μ.reset D) 1 (splitLines src) toks μf ∧
      ∀ el ∈ srcElems d, ∃ (i : Nat) (l : Str), (splitLines src)[i]? = some l ∧
        (stateAt D (μ.reset D) (splitLines src) toks i).dialect ∈ D ∧
        ElemFromLine (stateAt D (μ.reset D) (splitLines src) toks i) l (i + 1) el :=
  Lemmas.fields_in_document L hB hCR μ ids src hμ d h

/-- The matcher state in force at line `i` is the one `LineToks` threads: token `i` is the output of
    a successful `match_<K>` on the fresh token of line `i` under `stateAt … i`, a state the matcher
    can be in, and `K` is in the fallback chain of the line's intrinsic kind under it. -/
theorem C03_state_in_force (D : List Dialect) (μ μf : MState) (n : Nat) (ls : List Str) (toks : List Token)
    (h : LineToks D μ n ls toks μf) (i : Nat) (l : Str) (hi : ls[i]? = some l) :
    ∃ K, (stateAt D μ ls toks i).dialect ∈ D ∧ sepOK (stateAt D μ ls toks i) = true ∧
      (matchLine D K (stateAt D μ ls toks i) (freshTok l (n + i)) l).res = .matched ∧
      toks[i]? = some (matchLine D K (stateAt D μ ls toks i) (freshTok l (n + i)) l).tok ∧
      passes (intrinsicKind D (stateAt D μ ls toks i) l) K = true ∧
      (matchLine D K (stateAt D μ ls toks i) (freshTok l (n + i)) l).tok.mtype = some K :=
  Lemmas.LineToks.atState h i l hi

/-- … and its dialect name is the one in force by the language headers read so far (`Spec.nameAt`,
    cf. `C05_feature_language`). -/
theorem C03_state_name (D : List Dialect) (μ μf : MState) (n : Nat) (ls : List Str) (toks : List Token)
    (h : LineToks D μ n ls toks μf) (i : Nat) (hi : i < ls.length) :
    (stateAt D μ ls toks i).name = nameAt μ.name ls toks i :=
  Lemmas.LineToks.stateAt_name h i hi

/-- keyword lines: "keywords are reported as written, names are the remainder of the line with
    surrounding whitespace removed" -/
theorem C03_from_line_keywordLine (μ : MState) (l : Str) (n : Nat) (K : Kind) (loc : Loc) (kw name : Str) :
    ElemFromLine μ l n (.keywordLine K loc kw name) ↔
      K.isTitle = true ∧ kw ∈ μ.dialect.roleKeywords K ∧ startsWith (kw ++ [58]) (trimmed l) = true ∧
      name = restTrimmed l (kw.length + 1) ∧ loc = ⟨n, some (lineIndent l + 1)⟩ := by
  constructor
  · intro h; cases h with | keywordLine _ _ a b c => exact ⟨a, b, c, rfl, rfl⟩
  · rintro ⟨a, b, c, rfl, rfl⟩; exact .keywordLine K kw a b c

/-- … and the keyword is THE keyword written: in a dialect of the shipped table at most one keyword
    followed by `:` starts the line (no title keyword contains `:`). -/
theorem C03_keyword_as_written (d : Dialect) (hd : d ∈ Gen.dialects) (K K' : Kind) (kw kw' s : Str)
    (hk : kw ∈ d.roleKeywords K) (hk' : kw' ∈ d.roleKeywords K')
    (hs : startsWith (kw ++ [58]) s = true) (hs' : startsWith (kw' ++ [58]) s = true) : kw = kw' := by
  have hf := C03P_fact_dialects
  simp only [textDialectFacts, Bool.and_eq_true] at hf
  have hcf := (Lemmas.keywordFacts_spec hf.1).2.2.1
  exact Lemmas.title_keyword_unique
    (Lemmas.titleColonFree_spec hcf hd (Lemmas.mem_titleKeywords_of_role d K kw hk))
    (Lemmas.titleColonFree_spec hcf hd (Lemmas.mem_titleKeywords_of_role d K' kw' hk')) hs hs'

/-- steps: the first prefixing step keyword, the stripped rest, the dialect's keyword type -/
theorem C03_from_line_step (μ : MState) (l : Str) (n : Nat) (loc : Loc) (kw text : Str) (kt : KType) :
    ElemFromLine μ l n (.step loc kw kt text) ↔
      (∃ pre post, μ.dialect.stepKeywords = pre ++ kw :: post ∧ startsWith kw (trimmed l) = true ∧
        ∀ k' ∈ pre, startsWith k' (trimmed l) = false) ∧
      text = restTrimmed l kw.length ∧ kt = stepKType μ.dialect kw ∧ loc = ⟨n, some (lineIndent l + 1)⟩ := by
  constructor
  · intro h; cases h with | step pre _ post a b c => exact ⟨⟨pre, post, a, b, c⟩, rfl, rfl, rfl⟩
  · rintro ⟨⟨pre, post, a, b, c⟩, rfl, rfl, rfl⟩; exact .step pre kw post a b c

/-- tags: `@` + the stripped text that follows the `@` at the tag's column (`C04_tag_name_stripped`) -/
theorem C03_from_line_tag (μ : MState) (l : Str) (n : Nat) (loc : Loc) (name : Str) :
    ElemFromLine μ l n (.tag loc name) ↔
      ∃ c item, lineStartsWith l [64] = true ∧ lineIndent l + 1 ≤ c ∧ (64 :: item) <+: l.drop (c - 1) ∧
        name = 64 :: strip item ∧ loc = ⟨n, some c⟩ := by
  constructor
  · intro h; cases h with | tag c item a b d => exact ⟨c, item, a, b, d, rfl, rfl⟩
  · rintro ⟨c, item, a, b, d, rfl, rfl⟩; exact .tag c item a b d

/-- rows: the cells of the two-phase reading of the line (`C12_split_eq_spec`), each at its column -/
theorem C03_from_line_row (μ : MState) (l : Str) (n : Nat) (loc : Loc) (cells : List (Loc × Str)) :
    ElemFromLine μ l n (.row loc cells) ↔
      lineStartsWith l [124] = true ∧ cells = (Spec.cells l).map (fun p => (⟨n, some p.1⟩, p.2)) ∧
      loc = ⟨n, some (lineIndent l + 1)⟩ := by
  constructor
  · intro h; cases h with | row a => exact ⟨a, rfl, rfl⟩
  · rintro ⟨a, rfl, rfl⟩; exact .row a

/-- doc strings: an opening separator (`C13_open`): the delimiter the line starts with, the rest of
    the line stripped as media type, absent when empty -/
theorem C03_from_line_docString (μ : MState) (l : Str) (n : Nat) (loc : Loc) (dl : Str) (media : Option Str) :
    ElemFromLine μ l n (.docString loc dl media) ↔
      (dl = dq3 ∨ dl = bt3) ∧ μ.inDocString = false ∧ startsWith dl (trimmed l) = true ∧
      media = (if (restTrimmed l 3).length > 0 then some (restTrimmed l 3) else none) ∧
      loc = ⟨n, some (lineIndent l + 1)⟩ := by
  constructor
  · intro h; cases h with | docString _ a b c => exact ⟨a, b, c, rfl, rfl⟩
  · rintro ⟨a, b, c, rfl, rfl⟩; exact .docString dl a b c

/-- what one matched line carries, for ANY matcher state and line: if `match_<K>` succeeds on the
    fresh token of `l`, the elements of its token (`lineElems`) are `ElemFromLine` -/
theorem C03_matched_line_elems (D : List Dialect) (K : Kind) (μ : MState) (l : Str) (n : Nat)
    (hm : (matchLine D K μ (freshTok l n) l).res = .matched) :
    ∀ e ∈ lineElems (matchLine D K μ (freshTok l n) l).tok, ElemFromLine μ l n e :=
  Lemmas.matched_lineElems D K μ l n hm

/-- **Free text once, in order.**  For a grammar-shaped token tree `t` whose fold is the document
    `d`: the descriptions of the features, rules, backgrounds, scenarios and examples blocks of `d`
    and the contents of its doc strings, in source order, each with the location of its owner, are
    exactly what the nodes of `t` own: description = `joinWith [10] (trimDescLines texts)` of the
    texts of the `Other` lines of the node's first `Description` child (the empty string if it has
    none); doc-string content = `joinWith [10] texts` of the `Other` lines between the separators.
    (Comment lines are not stored in nodes, so they are left out; `C03_description_trim`
    characterises `trimDescLines`: trailing whitespace-only lines dropped, nothing else.) -/
theorem C03_texts_once_in_order (t : TTree) (hs : GrammarShaped t) (cs : List Comment) (n n' : Nat) (d : Doc)
    (h : (astOf cs t).run.run n = (.ok (.doc d), n')) : srcTexts d = textsOfTree t :=
  Lemmas.texts_once_in_order t hs cs n n' d h

theorem C03_texts_once_accepted (t : TTree) (hv : ValidTree Gen.grammar .GherkinDocument t.kinds)
    (cs : List Comment) (n n' : Nat) (d : Doc) (h : (astOf cs t).run.run n = (.ok (.doc d), n')) :
    srcTexts d = textsOfTree t :=
  Lemmas.texts_once_in_order t (Lemmas.shaped_of_valid_gen t hv) cs n n' d h

/-- what a node owns, spelled out for the two kinds of owner: a node with keyword line `line`
    (kind `k`) owns its first description string (the empty string if none) at `line`'s location; a
    `DocString` node owns the texts of its `Other` lines, joined, at its first separator -/
theorem C03_own_texts (toks : Kind → List Token) (descrs : List Str) (line sep : Token) (rest : List Token) :
    (∀ r k, (r, k) ∈ [(RuleType.Background, Kind.BackgroundLine), (.Scenario, .ScenarioLine), (.Examples, .ExamplesLine),
        (.RuleHeader, .RuleLine), (.FeatureHeader, .FeatureLine)] → toks k = [line] →
      ownTexts r toks descrs = [(line.loc, descrs.headD [])]) ∧
    (toks .DocStringSeparator = sep :: rest →
      ownTexts .DocString toks descrs = [(sep.loc, joinWith [10] ((toks .Other).map fun t => t.text.getD []))]) :=
  ⟨fun r k h ht => Lemmas.ownTexts_key r k h toks descrs line ht, fun h => by simp only [ownTexts, h]⟩

/-- `start_rule(Description)` ends its production list with `build`, in `Other` / `Comment` tests between
    states that are not doc-string content states -/
theorem C03F_fact_desc_start : Spec.descStartFacts Gen.parserTable = true := by kdecide
/-- inside a `Description` node every test starts with an `end_rule` or is a build-only `Other` /
    `Comment` self-loop -/
theorem C03F_fact_desc_body : Spec.descBodyFacts Gen.parserTable = true := by kdecide

theorem C03F_desc_facts : Lemmas.DescFacts Gen.parserTable := ⟨C03F_fact_desc_start, C03F_fact_desc_body⟩

/-- **Free text, in the document.**  For every accepted document there is a token tree `t` over the
    built tokens `toks ++ [eof]` (`LineToks`), projecting to a derivation tree of the grammar, in which
    * every `DocString` node holds exactly the lines of one doc string (`DocSeqNo`: `C13_in_document`),
    * every `Description` node holds only comment lines and free-text lines read outside a doc string,
      the text of such a line being the physical line VERBATIM minus its line break (`descNodesP`),
    such that the free text (`srcTexts`: descriptions, doc-string contents) and the elements of the
    AST are those of `t`.  So a description is: the free-text lines of the node's `Description`
    child — from the first comment or text line after the keyword line up to the next line the
    grammar reads as something else —, verbatim, comment lines left out, trailing whitespace-only
    lines dropped, joined by line feeds.  And for every physical line `l` read as free text
    (`Other`), under the matcher state `μᵢ` in force: its text is `l` without its line break, minus
    `min μᵢ.indentToRemove indent` leading code points and with the active delimiter unescaped
    (`C13_content_line`) — `l` verbatim minus its line break when `μᵢ` is outside a doc string. -/
theorem C03_texts_in_document (μ : MState) (ids : Nat) (src : Str)
    (hμ : (μ.reset Gen.dialects).dialect ∈ Gen.dialects) (d : Doc)
    (h : (parseWith Gen.dialects Gen.parserTable false μ ids src).1 = .ok d) :
    ∃ (t : TTree) (toks : List Token) (e : Token) (μf : MState),
      (parseWith Gen.dialects Gen.parserTable false μ ids src).2.builds = toks ++ [e] ∧ leaves t = toks ++ [e] ∧
      LineToks Gen.dialects (μ.reset Gen.dialects) 1 (splitLines src) toks μf ∧
      ValidTree Gen.grammar .GherkinDocument t.kinds ∧ docNodesP DocSeqNo t ∧ descNodesP t ∧
      srcTexts d = textsOfTree t ∧ srcElems d = elemsOfTree t ∧
      ∀ (i : Nat) (l : Str) (tk : Token), (splitLines src)[i]? = some l → toks[i]? = some tk →
        tk.mtype = some .Other →
        tk.text = some (rstripCRLF (unescapeDoc
          (stateAt Gen.dialects (μ.reset Gen.dialects) (splitLines src) toks i).activeSep
          (l.drop (min (stateAt Gen.dialects (μ.reset Gen.dialects) (splitLines src) toks i).indentToRemove
            (lineIndent l))))) ∧
        ((stateAt Gen.dialects (μ.reset Gen.dialects) (splitLines src) toks i).inDocString = false →
          tk.text = some (rstripCRLF l)) :=
  Lemmas.texts_in_document C03P_facts C03D_doc_facts C03F_desc_facts C03P_fact_builds μ ids src hμ d h

/-- every `Description` node anywhere in such a tree: its children are lines, each a comment line or
    a free-text line carrying the physical line verbatim minus its line break … -/
theorem C03_description_at (t : TTree) (ht : descNodesP t) (ch : List TTree)
    (h : SubT (.node .Description ch) t) : ∃ bs : List Token, ch = bs.map .leaf ∧ ∀ b ∈ bs, DescTok b :=
  Lemmas.descNodesP_at ht h

/-- … so the texts `Spec.ownTexts` / `Spec.childDescrs` read off such a node (`otherTexts`) are the
    physical lines read as `Other`, in order, each verbatim minus its line break. -/
theorem C03_description_lines_verbatim (bs : List Token) (h : ∀ b ∈ bs, DescTok b) :
    otherTexts (bs.map .leaf) =
      (bs.filter fun b => decide (b.mtype = some .Other)).map fun b => rstripCRLF (b.line.getD []) :=
  Lemmas.otherTexts_descLines bs h

theorem C03_texts_in_document_generic (D : List Dialect) (T : Table) (G : Grammar) (fuel : Nat)
    (L : Lemmas.LinkFacts D T G fuel) (F : Lemmas.DocFacts D T) (F' : Lemmas.DescFacts T)
    (hB : Spec.oneBuildLast T = true)
    (μ : MState) (ids : Nat) (src : Str) (hμ : (μ.reset D).dialect ∈ D) (d : Doc)
    (h : (parseWith D T false μ ids src).1 = .ok d) :
    ∃ t, Lemmas.LinkTree D T G (μ.reset D) (splitLines src) d (parseWith D T false μ ids src).2.builds ids
      (parseWith D T false μ ids src).2.ids t ∧ docNodesP DocSeqNo t ∧ descNodesP t :=
  let ⟨t, _, _, _, A⟩ := Lemmas.parse_accepted L hB F.contentRows μ ids src hμ d h
  ⟨t, A.tree, A.docNodes L.start F, A.descNodes L.start L.dialects L.content F' (Lemmas.reset_indOK D μ)⟩

section examples

/-- the elements of the demo of Props/C03Parse.lean (French, language header, doc string with media
    type whose content looks like a step, data table, a tag / blank run before `Exemples:`), with
    their fields, in source order: computed from the AST … -/
example : (MState.init Gen.dialects (lit "en")).map (fun μ =>
      match (parseWith Gen.dialects Gen.parserTable false μ 5 C03P_demo).1 with
      | .ok d => srcElems d
      | _ => []) =
    some [.keywordLine .FeatureLine ⟨3, some 1⟩ (lit "Fonctionnalité") (lit "f"),
      .keywordLine .ScenarioLine ⟨4, some 3⟩ (lit "Scénario") (lit "s"),
      .step ⟨5, some 5⟩ (lit "Soit ") .Context (lit "x"),
      .docString ⟨6, some 7⟩ (lit "\"\"\"") (some (lit "json")),
      .step ⟨9, some 5⟩ (lit "Et ") .Conjunction (lit "z"),
      .row ⟨10, some 7⟩ [(⟨10, some 9⟩, lit "p"), (⟨10, some 13⟩, lit "q")],
      .tag ⟨11, some 5⟩ (lit "@t"), .tag ⟨11, some 8⟩ (lit "@u"),
      .keywordLine .ExamplesLine ⟨13, some 5⟩ (lit "Exemples") [],
      .row ⟨14, some 7⟩ [(⟨14, some 9⟩, lit "a")],
      .row ⟨15, some 7⟩ [(⟨15, some 9⟩, lit "1")]] := by
  rw [C03P_demo]
  lit_lists
  kdecide

/-- … and they are the concatenation of the elements of the built tokens, line by line (the
    closing separator on line 8 and the content line `Given y` contribute nothing) -/
example : (MState.init Gen.dialects (lit "en")).map (fun μ =>
      let r := parseWith Gen.dialects Gen.parserTable false μ 5 C03P_demo
      match r.1 with
      | .ok d => decide (srcElems d = r.2.builds.dropLast.flatMap lineElems)
      | _ => false) = some true := by
  rw [C03P_demo]
  lit_lists
  kdecide

/-- the state in force at the feature line (line index 2) of the demo is the French one although
    the matcher was made for `en`: the header on line 1 switched it -/
example : (MState.init Gen.dialects (lit "en")).map (fun μ =>
      let r := parseWith Gen.dialects Gen.parserTable false μ 5 C03P_demo
      let μ2 := stateAt Gen.dialects (μ.reset Gen.dialects) (splitLines C03P_demo) r.2.builds.dropLast 2
      (μ2.name, μ2.dialect.name, (stateAt Gen.dialects (μ.reset Gen.dialects) (splitLines C03P_demo)
        r.2.builds.dropLast 6).activeSep)) =
    some (lit "fr", lit "fr", some dq3) := by
  rw [C03P_demo]
  lit_lists
  kdecide

/-- `ElemFromLine` on a concrete line: Slovak lists `"A "` before `"A tiež "`, so the step is reported
    with the shorter keyword and the text starts with `tiež` (cf. `C05_step_first_prefix`) -/
example : (MState.init Gen.dialects (lit "sk")).map (fun μ =>
      lineElems (matchLine Gen.dialects .StepLine μ (freshTok (lit "  A tiež niečo \r\n") 7) (lit "  A tiež niečo \r\n")).tok) =
    some [.step ⟨7, some 3⟩ (lit "A ") .Conjunction (lit "tiež niečo")] := by
  lit_lists
  kdecide

/-- a document with a two-line description followed by a blank line and a comment, a scenario
    without description, a doc string whose content is indented more than its delimiter and holds an
    escaped delimiter, and an examples block with a description -/
def C03F_demo : Str :=
  lit "Feature: f\n  free text\n   more \n\n  # c\n  Scenario: s\n    Given x\n      \"\"\"\n       a\n      \\\"\\\"\\\"\n      \"\"\"\n  Examples:\n  e\n"

/-- its free text: the description lines verbatim (indentation and trailing blank of `more ` kept,
    the trailing blank line dropped, the comment left out); the empty description; the doc string's
    content minus the delimiter's indentation, delimiter unescaped; the examples description -/
example : (MState.init Gen.dialects (lit "en")).map (fun μ =>
      match (parseWith Gen.dialects Gen.parserTable false μ 0 C03F_demo).1 with
      | .ok d => srcTexts d
      | _ => []) =
    some [(⟨1, some 1⟩, lit "  free text\n   more "), (⟨6, some 3⟩, []),
      (⟨8, some 7⟩, lit " a\n\"\"\""), (⟨12, some 3⟩, lit "  e")] := by
  rw [C03F_demo]
  lit_lists
  kdecide

end examples

end GV
