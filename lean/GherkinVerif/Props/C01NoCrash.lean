/-
  Props/C01NoCrash.lean — property C01, "no other exception type ever escapes", builder side:
  on the token tree of an accepted document the AST builder never ends in a Python run-time
  error (`AttributeError` on a missing token, `IndexError`, a `None` field — the model's explicit
  outcome `BErr.crash`); the only error it can raise is the `AstBuilderException` for a ragged
  table.  Property theorems only; proofs are in Lemmas/NoCrash.lean.

  The notions of the statements (Lemmas/NoCrash.lean, namespace `Spec`; trees, `astOf`, `opsOf`,
  `applyOps` are those of Spec/AstOf.lean):

  * `Spec.WellMatched tk`: the token is matched, `mtype = some K`, and carries the fields the
    builder dereferences for kind `K` (`Spec.fieldsRead`): `StepLine`: keyword, keyword type and
    text; the five title lines: keyword and text; `DocStringSeparator`: keyword; `Comment` and
    `Other`: text; nothing for `TagLine`, `TableRow` (their items are a list), `Empty`,
    `Language`, `EOF`.  Every successful `match_<K>` leaves such a token
    (`C01_match_well_matched`).  Since a well-matched token is matched, the tree's projection to
    line kinds `t.kinds` (which reads an unmatched token as free text) shows each leaf under its
    own kind (`C01_kinds_of_well_matched`).
  * `Spec.leaves t`: the tokens at the leaves of `t`, in order.
  * `Spec.Complete t`: every node has the children the builder reads unconditionally
    (`Spec.required`): a `Step` its `StepLine`, a `Background` / `Scenario` / `Examples` node its
    keyword line, a `ScenarioDefinition` / `ExamplesDefinition` its `Scenario` / `Examples` node, a
    `DataTable` a row, a `DocString` a separator.  It follows from the grammar
    (`C01_complete_of_valid`).  `Spec.GrammarShaped` (Spec/AstOf.lean) does not say this
    — it constrains order and multiplicity, not presence, except for the headers — and is not
    needed here: first example below.
  * `Spec.DocStringsOpened t`: in every `DocString` node the first `DocStringSeparator` line has
    its text set.  `match_DocStringSeparator` sets the text of an OPENING separator (the media
    type, possibly empty) and leaves the text of a CLOSING separator `None`; which of the two a
    line is depends on the matcher's state (`C01_docsep_text`).  That the first separator of a
    `DocString` node of an accepted run is an opening one is a fact about the matcher state
    along the run, not about the tree; it is kept as an explicit hypothesis.
-/
import GherkinVerif.Lemmas.NoCrash
import GherkinVerif.Props.C03Tree
import GherkinVerif.KDecide
namespace GV
open Spec

/-- Every successful `match_<K>` on a line — all thirteen line kinds; `match_EOF` never matches a
    line — leaves a token with `mtype = some K` that carries the fields the builder reads for
    `K`. -/
theorem C01_match_well_matched (D : List Dialect) (K : Kind) (μ : MState) (t : Token) (l : Str)
    (h : (matchLine D K μ t l).res = .matched) :
    (matchLine D K μ t l).tok.mtype = some K ∧ WellMatched (matchLine D K μ t l).tok :=
  Lemmas.match_well_matched D K μ t l h

/-- For any token, line or end of file (`match_EOF` matches exactly the end-of-file token). -/
theorem C01_matchTok_well_matched (D : List Dialect) (K : Kind) (μ : MState) (t : Token)
    (h : (matchTok D K μ t).1.res = .matched) :
    (matchTok D K μ t).1.tok.mtype = some K ∧ WellMatched (matchTok D K μ t).1.tok :=
  Lemmas.matchTok_well_matched D K μ t h

/-- Doc string separators.  A successful `match_DocStringSeparator` outside a doc string
    (`μ.inDocString = false`: no active separator) is an opening one: the token's text is set and
    the matcher is inside a doc string afterwards; inside a doc string it is the closing one: the
    text is `None` and the matcher is outside afterwards.  The keyword (the delimiter) is set
    either way. -/
theorem C01_docsep_text (D : List Dialect) (μ : MState) (t : Token) (l : Str)
    (h : (matchLine D .DocStringSeparator μ t l).res = .matched) :
    let o := matchLine D .DocStringSeparator μ t l
    o.tok.mtype = some .DocStringSeparator ∧ o.tok.keyword.isSome = true ∧
      o.tok.text.isSome = !μ.inDocString ∧ o.μ.inDocString = !μ.inDocString :=
  Lemmas.docsep_match D μ t l h

theorem C01_kinds_of_well_matched (tk : Token) (hw : WellMatched tk) :
    ∃ K, tk.mtype = some K ∧ (TTree.leaf tk).kinds = .leaf K :=
  Lemmas.kinds_leaf_of_wellMatched tk hw

/-- Every token tree whose projection to line kinds is a valid derivation tree of gherkin.berp
    (`C02_events_valid_tree`) is complete.  (`Lemmas.completeCheck` is a Boolean check of the
    grammar's right-hand sides — each required child occurs in every word —, evaluated by the
    kernel on the regenerated `Gen.grammar`; `Lemmas.complete_of_validTree` lifts it to all valid
    trees of any grammar that passes it.) -/
theorem C01_complete_of_valid (t : TTree) (hv : ValidTree Gen.grammar .GherkinDocument t.kinds) :
    Complete t :=
  Lemmas.complete_of_valid_gen t hv

/-- The AST as a function of the tree never crashes.  For every complete token tree whose leaves
    are well matched and whose doc strings start with an opening separator, every comment list
    `cs` and every counter `n`: `astOf cs t` returns a value, or raises the
    `AstBuilderException` for a ragged table. -/
theorem C01_astOf_no_crash (t : TTree) (hc : Complete t) (hl : ∀ tk ∈ leaves t, WellMatched tk)
    (hd : DocStringsOpened t) (cs : List Comment) (n : Nat) :
    (∃ v, ((astOf cs t).run.run n).1 = .ok v) ∨
    (∃ e, ((astOf cs t).run.run n).1 = .error (.ast e) ∧ e.kind = .raggedTable) :=
  Lemmas.astOf_no_crash t hc hl hd cs n

theorem C01_astOf_never_crash (t : TTree) (hc : Complete t) (hl : ∀ tk ∈ leaves t, WellMatched tk)
    (hd : DocStringsOpened t) (cs : List Comment) (n : Nat) (what : String) :
    ((astOf cs t).run.run n).1 ≠ .error (.crash what) :=
  Lemmas.astOf_not_crash t hc hl hd cs n what

/-- A ragged table is the ONLY builder error. -/
theorem C01_only_ragged (t : TTree) (hc : Complete t) (hl : ∀ tk ∈ leaves t, WellMatched tk)
    (hd : DocStringsOpened t) (cs : List Comment) (n : Nat) (err : BErr)
    (h : ((astOf cs t).run.run n).1 = .error err) : ∃ e, err = .ast e ∧ e.kind = .raggedTable := by
  rcases Lemmas.astOf_no_crash t hc hl hd cs n with ⟨v, hv⟩ | ⟨e, he, hk⟩
  · rw [h] at hv; cases hv
  · rw [h] at he; cases he; exact ⟨e, rfl, hk⟩

/-- Accepted documents: completeness comes from the grammar. -/
theorem C01_astOf_no_crash_accepted (t : TTree) (hv : ValidTree Gen.grammar .GherkinDocument t.kinds)
    (hl : ∀ tk ∈ leaves t, WellMatched tk) (hd : DocStringsOpened t) (cs : List Comment) (n : Nat) :
    (∃ v, ((astOf cs t).run.run n).1 = .ok v) ∨
    (∃ e, ((astOf cs t).run.run n).1 = .error (.ast e) ∧ e.kind = .raggedTable) :=
  Lemmas.astOf_no_crash t (Lemmas.complete_of_valid_gen t hv) hl hd cs n

/-- The stack machine does not crash either (with `C03_ast_of_tree`).  For a document tree (root
    `GherkinDocument`, no other such node) satisfying the three hypotheses, from a fresh builder
    and any counter `n`: the builder's run on the calls of the tree ends without error and
    `get_result()` returns a document — or the run stops with the ragged-table error (then the
    parser reports it and never calls `get_result()`). -/
theorem C01_builder_no_crash (t : TTree) (ht : t.isDocument = true) (hc : Complete t)
    (hl : ∀ tk ∈ leaves t, WellMatched tk) (hd : DocStringsOpened t) (n : Nat) :
    (∃ β n' d, applyOps (opsOf t) BState.reset n = (.ok (), β, n') ∧ β.result = .ok (some d)) ∨
    (∃ e, (applyOps (opsOf t) BState.reset n).1 = .error (.ast e) ∧ e.kind = .raggedTable) :=
  Lemmas.builder_no_crash t ht hc hl hd n

/-- Accepted documents, builder side: if the token tree of a document projects to a valid
    derivation tree of the grammar, its leaves are well matched and its doc strings opened, the
    builder's run from a fresh state does not crash, and neither does `get_result()`. -/
theorem C01_builder_no_crash_accepted (t : TTree) (hv : ValidTree Gen.grammar .GherkinDocument t.kinds)
    (hl : ∀ tk ∈ leaves t, WellMatched tk) (hd : DocStringsOpened t) (n : Nat) :
    (∃ β n' d, applyOps (opsOf t) BState.reset n = (.ok (), β, n') ∧ β.result = .ok (some d)) ∨
    (∃ e, (applyOps (opsOf t) BState.reset n).1 = .error (.ast e) ∧ e.kind = .raggedTable) :=
  Lemmas.builder_no_crash_accepted t hv hl hd n

section examples
open Lemmas.Ex

def errOf {α} : Except BErr α × Nat → Option (String ⊕ ErrKind)
  | (.ok _, _) => none
  | (.error (.crash what), _) => some (.inl what)
  | (.error (.ast e), _) => some (.inr e.kind)

def closeTok : Token := { sepTok with lineNo := 14, text := none }

/-- a scenario whose step carries a doc string (a comment line inside the `DocString` node
    before the opening separator: possible at tree level, harmless) -/
def docStringTree : TTree :=
  .node .GherkinDocument
    [.node .Feature
      [.node .FeatureHeader [.leaf featTok],
       .node .ScenarioDefinition
         [.node .Scenario
            [.leaf scTok,
             .node .Step [.leaf stepTok,
               .node .DocString [.leaf commentTok, .leaf sepTok, .leaf (otherTok 13 "{}"), .leaf closeTok]]]]],
     .leaf eofTok]

/-- the hypotheses are satisfiable: the example tree `Lemmas.Ex.docTree` (Lemmas/AstOf.lean) and
    the doc string tree are complete, their leaves well matched, their doc strings opened — and
    they are document trees, so `C01_builder_no_crash` applies; both succeed -/
example : Complete docTree ∧ DocStringsOpened docTree ∧ (∀ tk ∈ leaves docTree, WellMatched tk) ∧
    docTree.isDocument = true := by kdecide
example : Complete docStringTree ∧ DocStringsOpened docStringTree ∧
    (∀ tk ∈ leaves docStringTree, WellMatched tk) ∧ docStringTree.isDocument = true := by kdecide
example : (docOf ((astOf [] docStringTree).run.run 0)).map (fun d => d.feature.map fun f => f.children.length) =
    some (some 1) := by kdecide
example : (applyOps (opsOf docStringTree) BState.reset 0).2.1.result.toOption.join.isSome = true := by
  kdecide

/-- the ragged-table outcome occurs: a complete, well-matched tree whose value is that error -/
example :
    let t : TTree := .node .DataTable [.leaf rowTok1, .leaf rowTokShort]
    Complete t ∧ DocStringsOpened t ∧ (∀ tk ∈ leaves t, WellMatched tk) ∧
    errOf ((astOf [] t).run.run 0) = some (.inr .raggedTable) := by
  kdecide

/-- Why completeness is assumed, and why grammar shape does not replace it: a `Step` node without
    its step line is grammar-shaped, has (no) well-matched leaves — and crashes. -/
example :
    let t : TTree := .node .Step []
    GrammarShaped t ∧ ¬ Complete t ∧ (∀ tk ∈ leaves t, WellMatched tk) ∧
    errOf ((astOf [] t).run.run 0) = some (.inl "AttributeError: get_token(StepLine) is None") := by
  kdecide

/-- Why the leaves must be well matched: a step line whose keyword type was never set. -/
example :
    let t : TTree := .node .Step [.leaf badStepTok]
    Complete t ∧ ¬ WellMatched badStepTok ∧
    errOf ((astOf [] t).run.run 0) = some (.inl "missing field step.keywordType") := by
  kdecide

/-- Why the doc strings must be opened: with the closing separator (well matched: it has its
    keyword) first, the builder reads the media type of a separator that has none. -/
example :
    let t : TTree := .node .DocString [.leaf closeTok, .leaf sepTok]
    Complete t ∧ (∀ tk ∈ leaves t, WellMatched tk) ∧ ¬ DocStringsOpened t ∧
    errOf ((astOf [] t).run.run 0) = some (.inl "missing field docstring separator text") := by
  kdecide

/-- A feature without header, a header without keyword line: `None`, not an error — which is why
    they are not among the required children. -/
example : ((astOf [] (.node .Rule [])).run.run 0).1.toOption.isSome = true ∧
    ((astOf [] (.node .Feature [.node .FeatureHeader []])).run.run 0).1.toOption.isSome = true := by
  kdecide

/-- the matcher lemmas are not vacuous: an opening separator matches outside a doc string and
    gets its text; inside a doc string opened by the same delimiter the line closes it and gets
    none -/
example :
    let μ : MState := { defaultName := lit "en", name := lit "en", dialect := default }
    let t : Token := { line := some (lit "```json"), lineNo := 1 }
    let o := matchLine [] .DocStringSeparator μ t (lit "```json")
    let c := matchLine [] .DocStringSeparator o.μ t (lit "```json")
    (decide (o.res matches .matched), o.tok.text.isSome, o.μ.inDocString) = (true, true, true) ∧
    (decide (c.res matches .matched), c.tok.text.isSome, c.μ.inDocString) = (true, false, false) := by
  kdecide

end examples
end GV
