/-
  Props/C16Doc4.lean — property C16, whole-document part, continued: a comment line inserted; the
  closing delimiter of a doc string indented alone.

  ## G3  `C16_comment_line_document` — inserting a comment line

  "… inserting a comment line directly before a keyword, step, tag, table-row or opening-delimiter
  line additionally adds that comment."

  `src` has the physical lines `pre ++ post`, `src'` the lines `pre ++ c :: post`, `c` a comment
  line (`lineStartsWith c "#"`: `#` after optional blanks).  Hypothesis on the ORIGINAL run (prefix
  run `Spec.stateAfter`, as for blank lines): the state `s` in which it stands after the first
  `pre.length` lines — if it has not aborted before —
    * reads a comment as `Comment` first, unguarded, only hands it to the builder and comes back to
      `s` (`Spec.commentSelfLoop`), and
    * does not read `c` as a language header (`Spec.languageTested T s → languageRe c = none`;
      only the start state tests `Language`).
  Then, in both error modes, for accepted and rejected documents:

      (parseWith … src').1 =
        insertComment k ⟨⟨k+1, some 1⟩, rstripCRLF c⟩ (mapOutcome (insertMap k) (parseWith … src).1)

  with `k = pre.length` (`Spec.insertComment`: into `Doc.comments` behind the comments of the lines
  `≤ k`; a rejection carries no comments), and the final error lists / matcher states / id
  counters / reported lines correspond (`C16_comment_line_document_context`).

  In the states with `commentSelfLoop` NO condition on the following line is needed (the property's
  "directly before a structural line" is not needed there).  NOT covered here: the eight states
  directly after a keyword line (`Feature:`, `Background:`, `Scenario:`, `Examples:`, `Rule:` —
  states 3, 5, 10, 15, 19, 21, 26, 31 of the generated table), where a comment opens the description
  (`start Description; build`).  There the same conclusion holds iff additionally the line `k+1` is
  not read as `Empty` in `s` (a blank line after the comment would become description text); the run
  then closes an EMPTY `Description` node, which yields the description `""` as no node does:
  `C16_comment_line_document_all` (Props/C16Doc6.lean).  Counterexample and examples below.

  ## G2b (i)  `C16_indent_closing_delimiter_document` — the closing delimiter may move alone

  `C16_indent_document` (Props/C16Doc3.lean) with a weaker hypothesis on the original run's `builds`:
  a moved line may also have been built as a `DocStringSeparator` that CLOSES a doc string (in
  `builds` that token has no text; the opening one carries the media type, possibly empty).  The
  closing delimiter does not look at the recorded indentation, resets the matcher alike and is
  never part of the content; only its own column — which the AST does not record — moves.
  G2b (ii) (a doc string moving as one block): Props/C16Doc7.lean, of which this is a special case.
-/
import GherkinVerif.Props.C16Doc3
import GherkinVerif.Lemmas.LayoutDoc4
import GherkinVerif.KDecide
import GherkinVerif.Lemmas.Lit
namespace GV
open Lemmas Layout3 Layout4

theorem C16_fact_prods : Spec.prodsOk Gen.parserTable C16_depths = true :=
  (Bool.and_eq_true_iff.1 C16_fact_depths_prods).2
theorem C16_fact_lookaheads_comment : Spec.lookaheadsCommentOk Gen.parserTable = true :=
  Facts.lookaheadsCommentOk_table

theorem tableOkC_of_facts {T : Table} {ds : List (Nat × Nat)} (hL : Spec.lookaheadsCommentOk T = true)
    (hd : Spec.depthsOk T ds = true) (hp : Spec.prodsOk T ds = true) : TableOkC T ds := .of_facts hL hd hp

theorem C16_comment_line_document_generic (D : List Dialect) (T : Table)
    (hD : Spec.stepKeywordsOk D = true) (hQD : Spec.queueDialectFacts D = true)
    (hQT : Spec.queueFacts T = true) (hCB : Spec.commentBlankTested T = true)
    (hLA : Spec.lookaheadsCommentOk T = true) (ds : List (Nat × Nat)) (hds : Spec.depthsOk T ds = true)
    (hps : Spec.prodsOk T ds = true)
    (stop : Bool) (μ : MState) (ids : Nat) (src src' : Str) (pre post : List Str) (c : Str)
    (hc : lineStartsWith c [35] = true)
    (h1 : splitLines src = pre ++ post) (h2 : splitLines src' = pre ++ c :: post)
    (hμ : (μ.reset D).dialect ∈ D)
    (hst : ∀ s, Spec.stateAfter D T stop μ ids src pre.length = some s →
      Spec.commentSelfLoop T s = true ∧ (Spec.languageTested T s = true → languageRe (lineText c none) = none)) :
    (parseWith D T stop μ ids src').1 =
      Spec.insertComment pre.length ⟨⟨pre.length + 1, some 1⟩, rstripCRLF c⟩
        (Spec.mapOutcome (Spec.insertMap pre.length) (parseWith D T stop μ ids src).1) ∧
    C16_MappedContext (Spec.insertMap pre.length) (parseWith D T stop μ ids src).2 (parseWith D T stop μ ids src').2 := by
  obtain ⟨h, hc'⟩ := comment_line_parseWith hD hQD hQT hCB (tableOkC_of_facts hLA hds hps) hc stop μ ids pre post
    h1 h2 hμ hst
  exact ⟨h, hc'.errors, hc'.μ, hc'.ids, hc'.unexpected⟩

/-- **Inserting a comment line adds that comment and changes only line numbers**, at every
    position where the original run stands in a state that builds a comment and stays. -/
theorem C16_comment_line_document (stop : Bool) (μ : MState) (ids : Nat) (src src' : Str)
    (pre post : List Str) (c : Str) (hc : lineStartsWith c [35] = true)
    (h1 : splitLines src = pre ++ post) (h2 : splitLines src' = pre ++ c :: post)
    (hμ : (μ.reset Gen.dialects).dialect ∈ Gen.dialects)
    (hst : ∀ s, Spec.stateAfter Gen.dialects Gen.parserTable stop μ ids src pre.length = some s →
      Spec.commentSelfLoop Gen.parserTable s = true ∧
      (Spec.languageTested Gen.parserTable s = true → languageRe (lineText c none) = none)) :
    (parseWith Gen.dialects Gen.parserTable stop μ ids src').1 =
      Spec.insertComment pre.length ⟨⟨pre.length + 1, some 1⟩, rstripCRLF c⟩
        (Spec.mapOutcome (Spec.insertMap pre.length) (parseWith Gen.dialects Gen.parserTable stop μ ids src).1) :=
  (C16_comment_line_document_generic _ _ C16_step_keywords_ok C18_fact_keywords C18_fact_queue
    C18_fact_comment_blank C16_fact_lookaheads_comment _ C16_fact_depths C16_fact_prods
    stop μ ids src src' pre post c hc h1 h2 hμ hst).1

/-- … and the final contexts: renamed error list and reported lines, same matcher state and id counter -/
theorem C16_comment_line_document_context (stop : Bool) (μ : MState) (ids : Nat) (src src' : Str)
    (pre post : List Str) (c : Str) (hc : lineStartsWith c [35] = true)
    (h1 : splitLines src = pre ++ post) (h2 : splitLines src' = pre ++ c :: post)
    (hμ : (μ.reset Gen.dialects).dialect ∈ Gen.dialects)
    (hst : ∀ s, Spec.stateAfter Gen.dialects Gen.parserTable stop μ ids src pre.length = some s →
      Spec.commentSelfLoop Gen.parserTable s = true ∧
      (Spec.languageTested Gen.parserTable s = true → languageRe (lineText c none) = none)) :
    C16_MappedContext (Spec.insertMap pre.length) (parseWith Gen.dialects Gen.parserTable stop μ ids src).2
      (parseWith Gen.dialects Gen.parserTable stop μ ids src').2 :=
  (C16_comment_line_document_generic _ _ C16_step_keywords_ok C18_fact_keywords C18_fact_queue
    C18_fact_comment_blank C16_fact_lookaheads_comment _ C16_fact_depths C16_fact_prods
    stop μ ids src src' pre post c hc h1 h2 hμ hst).2

/-- **The text form**, with the hypotheses as the Boolean `Spec.commentLineOkB` (it runs the prefix of
    the queue-free parse): the line `c ++ "\n"` (`c` without a line feed) inserted at the start of a
    line, i.e. after a prefix `s1` of the text that is empty or ends in a line feed. -/
theorem C16_comment_line_text (stop : Bool) (μ : MState) (ids : Nat) (s1 s2 c : Str)
    (hs1 : s1 = [] ∨ s1.getLast? = some 10) (hlf : 10 ∉ c)
    (hμ : (μ.reset Gen.dialects).dialect ∈ Gen.dialects)
    (hok : Spec.commentLineOkB Gen.dialects Gen.parserTable stop μ ids (s1 ++ s2) (splitLines s1).length
      (c ++ [10]) = true) :
    (parseWith Gen.dialects Gen.parserTable stop μ ids (s1 ++ (c ++ [10]) ++ s2)).1 =
      Spec.insertComment (splitLines s1).length ⟨⟨(splitLines s1).length + 1, some 1⟩, rstripCRLF (c ++ [10])⟩
        (Spec.mapOutcome (Spec.insertMap (splitLines s1).length)
          (parseWith Gen.dialects Gen.parserTable stop μ ids (s1 ++ s2)).1) := by
  unfold Spec.commentLineOkB at hok
  obtain ⟨hc, hst⟩ := Bool.and_eq_true_iff.1 hok
  refine C16_comment_line_document stop μ ids (s1 ++ s2) (s1 ++ (c ++ [10]) ++ s2) (splitLines s1) (splitLines s2)
    (c ++ [10]) hc (splitLines_append_of_lf s1 s2 hs1) (splitLines_insert_line s1 s2 c hs1 hlf) hμ fun s hs => ?_
  rw [hs] at hst
  simpa only [Bool.and_eq_true, Bool.or_eq_true, not_or_imp, Option.isNone_iff_eq_none] using hst

/-- a document with two comments, a tag, a step with a data table … -/
def C16_comDoc : Str := lit "# c1\nFeature: f\n@t\nScenario: s\n  Given x\n  # c2\n  | a |\n  When y\n"

/-- … and the same with the comment line `"   # new \r\n"` inserted after line 5 (before the old
    comment and the table row) -/
def C16_comDoc' : Str :=
  lit "# c1\nFeature: f\n@t\nScenario: s\n  Given x\n   # new \r\n  # c2\n  | a |\n  When y\n"

/-- the positions at which the hypotheses hold (both error modes agree): everywhere except directly
    after the feature line (state 3) and the scenario line (state 10), where a comment opens the
    description -/
example : (MState.init Gen.dialects (lit "en")).map (fun μ =>
      (List.range 9).map fun k =>
        Spec.commentLineOkB Gen.dialects Gen.parserTable false μ 0 C16_comDoc k (lit "   # new \r\n")) =
    some [true, true, false, true, false, true, true, true, true] := by
  rw [C16_comDoc]
  lit_lists
  kdecide

/-- the conclusion at position 5 is not trivial: the new comment has column 1 and keeps its blanks
    (not its line ending), the old comment and everything behind moves down -/
example : (MState.init Gen.dialects (lit "en")).map (fun μ =>
      (C16_commentsOf (parseWith Gen.dialects Gen.parserTable false μ 0 C16_comDoc).1,
       C16_commentsOf (parseWith Gen.dialects Gen.parserTable false μ 0 C16_comDoc').1)) =
    some ([(⟨1, some 1⟩, lit "# c1"), (⟨6, some 1⟩, lit "  # c2")],
          [(⟨1, some 1⟩, lit "# c1"), (⟨6, some 1⟩, lit "   # new "), (⟨7, some 1⟩, lit "  # c2")]) := by
  rw [C16_comDoc, C16_comDoc']
  lit_lists
  kdecide

example : (MState.init Gen.dialects (lit "en")).map (fun μ =>
      (C16_someLocs (parseWith Gen.dialects Gen.parserTable false μ 0 C16_comDoc).1,
       C16_someLocs (parseWith Gen.dialects Gen.parserTable false μ 0 C16_comDoc').1)) =
    some ([⟨4, some 1⟩, ⟨5, some 3⟩, ⟨7, some 3⟩, ⟨8, some 3⟩],
          [⟨4, some 1⟩, ⟨5, some 3⟩, ⟨8, some 3⟩, ⟨9, some 3⟩]) := by
  rw [C16_comDoc, C16_comDoc']
  lit_lists
  kdecide

/-- a rejected document (tag with whitespace, unexpected line): a comment inserted after line 4; the
    hypotheses hold in collecting mode; in stop mode the run has aborted at line 2 and nothing is
    required; the errors behind the comment move down -/
example : (MState.init Gen.dialects (lit "en")).map (fun μ =>
      let b := lit "Feature: f\n@t1 @t 2\nScenario: s\n  Given x\nnonsense\n"
      let b' := lit "Feature: f\n@t1 @t 2\nScenario: s\n  Given x\n#n\nnonsense\n"
      (Spec.commentLineOkB Gen.dialects Gen.parserTable false μ 0 b 4 (lit "#n\n"),
       Spec.commentLineOkB Gen.dialects Gen.parserTable true μ 0 b 4 (lit "#n\n"),
       C16_someLocs (parseWith Gen.dialects Gen.parserTable false μ 0 b).1,
       C16_someLocs (parseWith Gen.dialects Gen.parserTable false μ 0 b').1)) =
    some (true, true, [⟨2, some 5⟩, ⟨5, some 1⟩], [⟨2, some 5⟩, ⟨6, some 1⟩]) := by
  lit_lists
  kdecide

/-- COUNTEREXAMPLES (the hypotheses are needed): inside a doc string a `#` line is content; in the
    start state `# language: fr` is a language header -/
example : (MState.init Gen.dialects (lit "en")).map (fun μ =>
      let a := lit "Feature: f\nScenario: s\nGiven x\n\"\"\"\nc1\n\"\"\"\n"
      let a' := lit "Feature: f\nScenario: s\nGiven x\n\"\"\"\n#n\nc1\n\"\"\"\n"
      (Spec.commentLineOkB Gen.dialects Gen.parserTable false μ 0 a 4 (lit "#n\n"),
       C16_texts (parseWith Gen.dialects Gen.parserTable false μ 0 a).1,
       C16_texts (parseWith Gen.dialects Gen.parserTable false μ 0 a').1)) =
    some (false, [[], [[]], [lit "c1"]], [[], [[]], [lit "#n\nc1"]]) := by
  lit_lists
  kdecide

example : (MState.init Gen.dialects (lit "en")).map (fun μ =>
      let a := lit "Feature: f\n"
      let a' := lit "# language: fr\nFeature: f\n"
      (Spec.commentLineOkB Gen.dialects Gen.parserTable false μ 0 a 0 (lit "# language: fr\n"),
       Spec.commentLineOkB Gen.dialects Gen.parserTable false μ 0 a 0 (lit "# language fr\n"),
       C16_someLocs (parseWith Gen.dialects Gen.parserTable false μ 0 a).1,
       C16_someLocs (parseWith Gen.dialects Gen.parserTable false μ 0 a').1)) =
    some (false, true, [], [⟨2, some 1⟩, ⟨3, none⟩]) := by
  lit_lists
  kdecide

/-- NOT COVERED (see the header): directly after a keyword line the check answers `false`.  There the
    conclusion holds when the next line is not blank (first pair: the scenario's description stays
    `""` although the run opens and closes an empty `Description` node) and fails when it is blank
    (second pair: the blank line becomes description text) -/
example : (MState.init Gen.dialects (lit "en")).map (fun μ =>
      Spec.commentLineOkB Gen.dialects Gen.parserTable false μ 0 (lit "Feature: f\nScenario: s\nGiven x\n") 2 (lit "#n\n")) =
    some false := by
  lit_lists
  kdecide

example : (MState.init Gen.dialects (lit "en")).map (fun μ =>
      [C16_scenarioDescr (parseWith Gen.dialects Gen.parserTable false μ 0 (lit "Feature: f\nScenario: s\nGiven x\n")).1,
       C16_scenarioDescr (parseWith Gen.dialects Gen.parserTable false μ 0 (lit "Feature: f\nScenario: s\n#n\nGiven x\n")).1,
       C16_scenarioDescr (parseWith Gen.dialects Gen.parserTable false μ 0 (lit "Feature: f\nScenario: s\n\n d\nGiven x\n")).1,
       C16_scenarioDescr (parseWith Gen.dialects Gen.parserTable false μ 0 (lit "Feature: f\nScenario: s\n#n\n\n d\nGiven x\n")).1]) =
    some [[[]], [[]], [lit " d"], [lit "\n d"]] := by
  lit_lists
  kdecide

theorem C16_indentableTok_eq (t : Token) : Spec.indentableTokB t = indentOkTok t := by
  unfold Spec.indentableTokB indentOkTok
  cases t.mtype with
  | none => rfl
  | some K => cases K <;> rfl

theorem C16_indent_closing_delimiter_document_generic (D : List Dialect) (T : Table)
    (hQD : Spec.queueDialectFacts D = true) (hQT : Spec.queueFacts T = true)
    (hCB : Spec.commentBlankTested T = true) (hI : indentFacts T = true)
    (w : Nat → Nat) (stop : Bool) (μ : MState) (ids : Nat) (src src' : Str)
    (hlen : (splitLines src').length = (splitLines src).length)
    (hlines : ∀ (i : Nat) (l l' : Str), (splitLines src)[i]? = some l → (splitLines src')[i]? = some l' →
      ∃ ws, l' = ws ++ l ∧ AllSpace ws ∧ ws.length = w i)
    (hμ : (μ.reset D).dialect ∈ D)
    (hbuilt : ∀ t ∈ (parseWith D T stop μ ids src).2.builds, 0 < w (t.lineNo - 1) →
      Spec.indentableTokB t = true) :
    (parseWith D T stop μ ids src').1 = Spec.mapOutcome (Spec.indentMap w) (parseWith D T stop μ ids src).1 ∧
    (parseWith D T stop μ ids src').2.errors =
      (parseWith D T stop μ ids src).2.errors.map (Spec.mapErr (Spec.indentMap w)) ∧
    (parseWith D T stop μ ids src').2.ids = (parseWith D T stop μ ids src).2.ids ∧
    (parseWith D T stop μ ids src').2.unexpected = (parseWith D T stop μ ids src).2.unexpected :=
  Layout7.indent_parseWith7 hQD hQT hCB hI w stop μ ids hlen hlines hμ
    (Layout7.blockScan_of_indentable w _ fun t ht => (Nat.eq_zero_or_pos _).imp id (hbuilt t ht))

/-- **Indenting changes only columns — also for the closing delimiter of a doc string.** -/
theorem C16_indent_closing_delimiter_document (w : Nat → Nat) (stop : Bool) (μ : MState) (ids : Nat)
    (src src' : Str)
    (hlen : (splitLines src').length = (splitLines src).length)
    (hlines : ∀ (i : Nat) (l l' : Str), (splitLines src)[i]? = some l → (splitLines src')[i]? = some l' →
      ∃ ws, l' = ws ++ l ∧ AllSpace ws ∧ ws.length = w i)
    (hμ : (μ.reset Gen.dialects).dialect ∈ Gen.dialects)
    (hbuilt : ∀ t ∈ (parseWith Gen.dialects Gen.parserTable stop μ ids src).2.builds, 0 < w (t.lineNo - 1) →
      Spec.indentableTokB t = true) :
    (parseWith Gen.dialects Gen.parserTable stop μ ids src').1 =
      Spec.mapOutcome (Spec.indentMap w) (parseWith Gen.dialects Gen.parserTable stop μ ids src).1 :=
  (C16_indent_closing_delimiter_document_generic _ _ C18_fact_keywords C18_fact_queue C18_fact_comment_blank
    C16_fact_indent w stop μ ids src src' hlen hlines hμ hbuilt).1

/-- the Boolean form: `Spec.indentOk2B` implies the conclusion with `w := Spec.shiftB src' src` -/
theorem C16_indent_closing_delimiter_document_check (stop : Bool) (μ : MState) (ids : Nat) (src src' : Str)
    (h : Spec.indentOk2B Gen.dialects Gen.parserTable stop μ ids src' src = true)
    (hμ : (μ.reset Gen.dialects).dialect ∈ Gen.dialects) :
    (parseWith Gen.dialects Gen.parserTable stop μ ids src').1 =
      Spec.mapOutcome (Spec.indentMap (Spec.shiftB src' src))
        (parseWith Gen.dialects Gen.parserTable stop μ ids src).1 := by
  unfold Spec.indentOk2B at h
  simp only [Bool.and_eq_true, beq_iff_eq] at h
  refine C16_indent_closing_delimiter_document _ stop μ ids src src' h.1.1 (lines_of_shiftB h.1.2) hμ
    fun t ht hpos => ?_
  have := List.all_eq_true.1 h.2 t ht
  simp only [Bool.or_eq_true, beq_iff_eq] at this
  exact this.resolve_left (by omega)

/-- a doc string with media type in a step of an accepted document; the closing delimiter (line 6)
    moved right by four: the check of `C16_indent_document` fails, `Spec.indentOk2B` holds, in both modes -/
example : (MState.init Gen.dialects (lit "en")).map (fun μ =>
      let a := lit "Feature: f\nScenario: s\n  Given x\n  \"\"\" xml\n  c1\n  \"\"\"\n  When y\n"
      let a' := lit "Feature: f\nScenario: s\n  Given x\n  \"\"\" xml\n  c1\n      \"\"\"\n    When y\n"
      (C16_indentOk false μ 0 a' a, Spec.indentOk2B Gen.dialects Gen.parserTable false μ 0 a' a,
       Spec.indentOk2B Gen.dialects Gen.parserTable true μ 0 a' a)) = some (false, true, true) := by
  lit_lists
  kdecide

/-- … the doc string is the same (content, media type, position); the following step has moved -/
example : (MState.init Gen.dialects (lit "en")).map (fun μ =>
      let a := lit "Feature: f\nScenario: s\n  Given x\n  \"\"\" xml\n  c1\n  \"\"\"\n  When y\n"
      let a' := lit "Feature: f\nScenario: s\n  Given x\n  \"\"\" xml\n  c1\n      \"\"\"\n    When y\n"
      [(C16_texts (parseWith Gen.dialects Gen.parserTable false μ 0 a).1,
        C16_someLocs (parseWith Gen.dialects Gen.parserTable false μ 0 a).1),
       (C16_texts (parseWith Gen.dialects Gen.parserTable false μ 0 a').1,
        C16_someLocs (parseWith Gen.dialects Gen.parserTable false μ 0 a').1)]) =
    some [([[], [[]], [lit "c1"]], [⟨2, some 1⟩, ⟨3, some 3⟩, ⟨4, some 3⟩, ⟨7, some 3⟩]),
          ([[], [[]], [lit "c1"]], [⟨2, some 1⟩, ⟨3, some 3⟩, ⟨4, some 3⟩, ⟨7, some 5⟩])] := by
  lit_lists
  kdecide

/-- COUNTEREXAMPLE: the OPENING delimiter moved alone fails `Spec.indentOk2B` too, and the content
    changes (the content line keeps two blanks of its indentation less) -/
example : (MState.init Gen.dialects (lit "en")).map (fun μ =>
      let a := lit "Feature: f\nScenario: s\n  Given x\n    \"\"\"\n    c1\n  \"\"\"\n"
      let a' := lit "Feature: f\nScenario: s\n  Given x\n  \"\"\"\n    c1\n  \"\"\"\n"
      (Spec.indentOk2B Gen.dialects Gen.parserTable false μ 0 a a',
       C16_texts (parseWith Gen.dialects Gen.parserTable false μ 0 a').1,
       C16_texts (parseWith Gen.dialects Gen.parserTable false μ 0 a).1)) =
    some (false, [[], [[]], [lit "  c1"]], [[], [[]], [lit "c1"]]) := by
  lit_lists
  kdecide

end GV
