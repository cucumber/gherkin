/-
  Props/C02Text.lean — properties C02 and C14 at text level.

  Every physical line has, under the matcher state in force when it is reached, exactly one
  *intrinsic kind* (`C02_kind_unique`).  A document is accepted iff the sequence of its intrinsic
  line kinds is a sentence of gherkin.berp and nothing else goes wrong, where "else" is exactly: a
  line tested as a tag line contains a tag with whitespace, a language header names an unknown
  dialect (both: `Spec.textRaises`), or a table is ragged (the only error the builder raises).
  `Spec.textAccepts` (Spec/TextLevel.lean) is the text-level acceptor: it follows the kind-level
  machine on the intrinsic kinds and rejects when a tested line raises.

  Proved for every source text, every matcher state whose dialect is one of the dialect table,
  for all tables passing the Boolean checks evaluated below on the regenerated tables.

  "Accepted, or rejected with ragged-table errors only ⟺ textAccepts" is false as it stands: the
  error limit hides later lines.  With twelve ragged tables followed by an unexpected line the
  parser stops at the eleventh ragged-table error
  (rejected, 11 errors, all ragged) although `textAccepts` is false (`C02_text_cap_counterexample`).
  Exactly true: the two implications `C02_text_accepted` / `C14_text_rejected` (the second with
  the alternative "cut short by the error limit"), and the equivalence `C02_text_accept_iff` when
  the limit is not hit.  The model's explicit crash outcome is an extra alternative resp. hypothesis
  here; that it never occurs is `C01_no_crash_any`, and Props/C01NoCrashAll.lean restates the
  equivalence without that hypothesis (`C02_text_accept_iff_nc`).  The `fuel` outcome is excluded
  (C01_parse_terminates).
-/
import GherkinVerif.Lemmas.TextMain
import GherkinVerif.Lemmas.C02Cert
import GherkinVerif.Gen.ParserTable
import GherkinVerif.Gen.Dialects
import GherkinVerif.KDecide
import GherkinVerif.Lemmas.FactsTable
import GherkinVerif.Lemmas.FactsDialects
import GherkinVerif.Lemmas.Lit
namespace GV

/-- the C05 keyword facts, and: no keyword starts with `"` or a backtick -/
theorem C02T_fact_dialects : Spec.textDialectFacts Gen.dialects = true := Facts.textDialectFacts_dialects
/-- look-aheads uniform, tag states closed, guarded tests followed by tag-line tests -/
theorem C02T_fact_queue : Spec.queueFacts Gen.parserTable = true := Facts.queueFacts_table
/-- comment and blank lines are accepted by some test of every state -/
theorem C02T_fact_comment_blank : Spec.commentBlankTested Gen.parserTable = true :=
  Facts.commentBlankTested_table
/-- no look-ahead expects or skips `EOF` / `Other` -/
theorem C02T_fact_lookaheads : Spec.lookaheadsStopAtEOF Gen.parserTable = true :=
  Facts.lookaheadsStopAtEOF_table

/-- Under the dialect facts, for every line `l`, every matcher state `μ` whose dialect is in the
    table and whose doc-string mode is one the matcher can produce (`Spec.sepOK`: no delimiter
    active, or `"""`, or three backticks), and EVERY test `K`: the test succeeds on the line exactly
    when `K` is in the fallback chain of the line's intrinsic kind — its own kind; `Comment` too for
    a valid language header; `Other` for every line.  The two raising situations need no exception:
    a tag line with a whitespace tag fails the `TagLine` test (and raises: `Spec.raises`), its
    intrinsic kind is `Other`; an unknown-language header fails the `Language` test (and raises),
    its intrinsic kind is `Comment`.  In doc-string mode (`μ.activeSep = some sep`) only `sep`
    passes the `DocStringSeparator` test. -/
theorem C02_kind_unique_generic (D' : List Dialect) (hf : Spec.textDialectFacts D' = true) (D : List Dialect)
    (μ : MState) (hμ : μ.dialect ∈ D') (hsep : Spec.sepOK μ = true) (l : Str) (K : Kind) :
    Spec.verdict D μ l K = passes (Spec.intrinsicKind D μ l) K :=
  Lemmas.kind_unique hf D μ hμ hsep l K

theorem C02_kind_unique (μ : MState) (hμ : μ.dialect ∈ Gen.dialects) (hsep : Spec.sepOK μ = true) (l : Str) (K : Kind) :
    Spec.verdict Gen.dialects μ l K = passes (Spec.intrinsicKind Gen.dialects μ l) K :=
  Lemmas.kind_unique C02T_fact_dialects Gen.dialects μ hμ hsep l K

theorem C02_raises (D : List Dialect) (μ : MState) (l : Str) (K : Kind) (h : Spec.raises D μ l K = true) :
    (K = .TagLine ∨ K = .Language) ∧ Spec.verdict D μ l K = false :=
  Lemmas.raises_imp D μ l K h

theorem C02_intrinsic_ne_EOF (D : List Dialect) (μ : MState) (l : Str) : Spec.intrinsicKind D μ l ≠ .EOF :=
  Lemmas.intrinsicKind_ne_EOF D μ l

/-- Text-level acceptance, decomposed: the intrinsic kinds along the run are accepted by the
    kind-level machine, and no tested line raises.  (The look-ahead futures of the two sides differ —
    kinds under the current matcher state versus kinds when the lines are reached — but agree as far
    as a peek looks.) -/
theorem C02_text_accepts_eq_generic (T : Table) (hT : Spec.queueFacts T = true) (D : List Dialect) (μ : MState)
    (ls : List Str) :
    Spec.textAccepts D T 0 μ ls = (acceptsAbs T (Spec.textKinds D T 0 μ ls) && !Spec.textRaises D T 0 μ ls) :=
  Lemmas.textAccepts_eq (Lemmas.QF.of_facts (D := []) rfl hT) D ls 0 μ

/-- accepted at text level ⇒ the intrinsic line kinds form a sentence of gherkin.berp -/
theorem C02_text_kinds_sentence (μ : MState) (ls : List Str)
    (h : Spec.textAccepts Gen.dialects Gen.parserTable 0 μ ls = true) :
    acceptsAbs Gen.parserTable (Spec.textKinds Gen.dialects Gen.parserTable 0 μ ls) = true ∧
    Spec.Sentence Gen.grammar .GherkinDocument (Spec.textKinds Gen.dialects Gen.parserTable 0 μ ls) = true := by
  have h1 := Lemmas.textAccepts_kinds (Lemmas.QF.of_facts (D := []) rfl C02T_fact_queue) Gen.dialects μ ls h
  exact ⟨h1, by rw [← Lemmas.accept_iff_sentence _ (Lemmas.textKinds_no_EOF _ _ ls 0 μ)]; exact h1⟩

/-- conversely: when no tested line raises, a sentence of the grammar is accepted at text level -/
theorem C02_text_sentence_accepts (μ : MState) (ls : List Str)
    (hr : Spec.textRaises Gen.dialects Gen.parserTable 0 μ ls = false)
    (h : Spec.Sentence Gen.grammar .GherkinDocument (Spec.textKinds Gen.dialects Gen.parserTable 0 μ ls) = true) :
    Spec.textAccepts Gen.dialects Gen.parserTable 0 μ ls = true :=
  Lemmas.kinds_textAccepts (Lemmas.QF.of_facts (D := []) rfl C02T_fact_queue) Gen.dialects μ ls hr
    (by rw [Lemmas.accept_iff_sentence _ (Lemmas.textKinds_no_EOF _ _ ls 0 μ)]; exact h)

/-- accepted at text level ⇒ the parser accepts the document, or rejects it with ragged-table
    errors only (or the model's explicit crash outcome occurs) -/
theorem C02_text_accepted (μ : MState) (ids : Nat) (src : Str) (hμ : (μ.reset Gen.dialects).dialect ∈ Gen.dialects)
    (h : Spec.textAccepts Gen.dialects Gen.parserTable 0 (μ.reset Gen.dialects) (splitLines src) = true) :
    (∃ d, (parseWith Gen.dialects Gen.parserTable false μ ids src).1 = .ok d) ∨
    (∃ es, (parseWith Gen.dialects Gen.parserTable false μ ids src).1 = .rejected es true ∧
      ∀ e ∈ es, e.kind = .raggedTable) ∨
    (∃ w, (parseWith Gen.dialects Gen.parserTable false μ ids src).1 = .crash w) :=
  Lemmas.text_accept_A C02T_fact_dialects C02T_fact_queue C02T_fact_comment_blank C02T_fact_lookaheads μ ids src hμ h

/-- rejected at text level ⇒ the parser rejects the document with an error that is not a
    ragged-table error — an unexpected line / end of file, a tag with whitespace, an unknown
    dialect — or is cut short by the error limit (or the model's crash outcome occurs) -/
theorem C14_text_rejected (μ : MState) (ids : Nat) (src : Str) (hμ : (μ.reset Gen.dialects).dialect ∈ Gen.dialects)
    (h : Spec.textAccepts Gen.dialects Gen.parserTable 0 (μ.reset Gen.dialects) (splitLines src) = false) :
    (∃ es, (parseWith Gen.dialects Gen.parserTable false μ ids src).1 = .rejected es true ∧
      ((∃ e ∈ es, e.kind ≠ .raggedTable) ∨ Gen.parserTable.errorCap < es.length)) ∨
    (∃ w, (parseWith Gen.dialects Gen.parserTable false μ ids src).1 = .crash w) :=
  Lemmas.text_accept_B C02T_fact_dialects C02T_fact_queue C02T_fact_comment_blank C02T_fact_lookaheads μ ids src hμ h

/-- The acceptance theorem.  When the model's crash outcome does not occur and the error limit is
    not hit: the document is accepted, or rejected with ragged-table errors only, iff the text-level
    acceptor accepts it. -/
theorem C02_text_accept_iff (μ : MState) (ids : Nat) (src : Str) (hμ : (μ.reset Gen.dialects).dialect ∈ Gen.dialects)
    (hnc : ∀ w, (parseWith Gen.dialects Gen.parserTable false μ ids src).1 ≠ .crash w)
    (hcap : ∀ es comp, (parseWith Gen.dialects Gen.parserTable false μ ids src).1 = .rejected es comp →
      es.length ≤ Gen.parserTable.errorCap) :
    ((∃ d, (parseWith Gen.dialects Gen.parserTable false μ ids src).1 = .ok d) ∨
     (∃ es comp, (parseWith Gen.dialects Gen.parserTable false μ ids src).1 = .rejected es comp ∧
        ∀ e ∈ es, e.kind = .raggedTable)) ↔
    Spec.textAccepts Gen.dialects Gen.parserTable 0 (μ.reset Gen.dialects) (splitLines src) = true :=
  Lemmas.text_accept_iff C02T_fact_dialects C02T_fact_queue C02T_fact_comment_blank C02T_fact_lookaheads
    μ ids src hμ hnc hcap

theorem C02_text_accept_iff_generic (D : List Dialect) (T : Table) (hf : Spec.textDialectFacts D = true)
    (hT : Spec.queueFacts T = true) (hCB : Spec.commentBlankTested T = true)
    (hE : Spec.lookaheadsStopAtEOF T = true) (μ : MState) (ids : Nat) (src : Str) (hμ : (μ.reset D).dialect ∈ D)
    (hnc : ∀ w, (parseWith D T false μ ids src).1 ≠ .crash w)
    (hcap : ∀ es comp, (parseWith D T false μ ids src).1 = .rejected es comp → es.length ≤ T.errorCap) :
    ((∃ d, (parseWith D T false μ ids src).1 = .ok d) ∨
     (∃ es comp, (parseWith D T false μ ids src).1 = .rejected es comp ∧ ∀ e ∈ es, e.kind = .raggedTable)) ↔
    Spec.textAccepts D T 0 (μ.reset D) (splitLines src) = true :=
  Lemmas.text_accept_iff hf hT hCB hE μ ids src hμ hnc hcap

/-- a French document with a language header, a doc string whose content looks like a step, and a
    tag / blank run before `Exemples:` -/
def C02T_demo : Str :=
  lit "# language: fr\nFonctionnalité: f\n  Scénario: s\n    Soit x\n      \"\"\"\n      Given y\n      \"\"\"\n    @t\n\n    Exemples:\n      | a |\n"

example : (MState.init Gen.dialects (lit "en")).map (fun μ =>
      (Spec.textAccepts Gen.dialects Gen.parserTable 0 (μ.reset Gen.dialects) (splitLines C02T_demo),
       Spec.textKinds Gen.dialects Gen.parserTable 0 (μ.reset Gen.dialects) (splitLines C02T_demo))) =
    some (true, [.Language, .FeatureLine, .ScenarioLine, .StepLine, .DocStringSeparator, .Other,
      .DocStringSeparator, .TagLine, .Empty, .ExamplesLine, .TableRow]) := by
  rw [C02T_demo]
  lit_lists
  kdecide

/-- a tag with whitespace: rejected at text level because a tested line raises -/
example : (MState.init Gen.dialects (lit "en")).map (fun μ =>
      (Spec.textAccepts Gen.dialects Gen.parserTable 0 (μ.reset Gen.dialects) (splitLines (lit "Feature: f\n@a b\nScenario: s\n")),
       Spec.textRaises Gen.dialects Gen.parserTable 0 (μ.reset Gen.dialects) (splitLines (lit "Feature: f\n@a b\nScenario: s\n")))) =
    some (false, true) := by
  lit_lists
  kdecide

/-- twelve ragged tables, then an unexpected line -/
def C02T_capDoc : Str :=
  lit ("Feature: f\nScenario: s\n" ++
    String.join (List.replicate 12 "Given x\n|a|\n|a|b|\n") ++ "foo\n")

/-- the counterexample: rejected with eleven errors, all of them ragged-table errors (the error
    limit stopped the parse before the unexpected line `foo`), yet not accepted at text level -/
theorem C02_text_cap_counterexample : (MState.init Gen.dialects (lit "en")).map (fun μ =>
      (match (parseWith Gen.dialects Gen.parserTable false μ 0 C02T_capDoc).1 with
        | .rejected es comp => (es.length, comp, es.all fun e => e.kind == ErrKind.raggedTable)
        | _ => (0, false, false),
       Spec.textAccepts Gen.dialects Gen.parserTable 0 (μ.reset Gen.dialects) (splitLines C02T_capDoc))) =
    some ((11, true, true), false) := by
  rw [C02T_capDoc, lit_append, lit_append, lit_join, List.map_replicate]
  lit_lists
  kdecide

end GV
