/-
  Props/C03Parse.lean — property C03, the LINK between the parser run and the tree-level theorems:
  for every accepted document the AST the parser returns IS the structural fold `Spec.astOf` of a
  token tree that (a) has exactly the tokens handed to the builder as its leaves, in order, (b)
  projects to the derivation tree of gherkin.berp that the kind-level run on the document's
  intrinsic line kinds builds, (c) has well-matched leaves and opened doc strings — so the
  hypotheses of `C03_ast_of_tree`, `C03_leaves_once_accepted`, `C11_accepted_ast`,
  `C01_astOf_no_crash_accepted`, `C01_builder_no_crash_accepted` are met by every accepted run.
  The link is `Lemmas.parse_link` (Lemmas/ParseLink.lean: assembly; transfer to the parser with its
  queue by `queue_refines_peek`, property C18), on Lemmas/ParseTree.lean (token trees from call
  sequences) and Lemmas/ParseClean.lean (an accepted queue-free run, line by line, with the
  builder's calls); the corollaries below apply the tree-level theorems to its tree.

  Vocabulary: `Spec.TTree`, `Spec.leaves`, `TTree.kinds`, `Spec.ValidTree`,
  `Spec.WellMatched`, `Spec.DocStringsOpened`, `Spec.astOf`, `Spec.commentsOf` (Spec/AstOf.lean,
  Lemmas/NoCrash.lean, Spec/Tree.lean); `Spec.textKinds` (Spec/TextLevel.lean): the intrinsic kinds
  of the lines; `eventsAbs` / `Spec.treeOf`: the events of the kind-level run and their tree
  (`C02_events_valid_tree`); `ctx.builds`, `ctx.ids`: the tokens handed to `build`, in order, and
  the id counter after the parse (Model/Parser.lean).  With `C18_accepted_sequence`
  (`C03_parse_leaves_are_lines` below) the leaves are one token per physical line, in order, then
  one end-of-file token.

  `DocStringsOpened` is a conclusion, not a hypothesis: by the table fact `Spec.docStringOpens`
  (Lemmas/ParseClean.lean) the start state is not a doc-string content state, and
  `start_rule(DocString)` occurs only in `DocStringSeparator` tests of non-content states, directly
  followed by `build`; with `Spec.contentEntry` (C13) the matcher is inside a doc string exactly in
  the content states, so the first line of every `DocString` node was matched as an OPENING
  separator (`C01_docsep_text`).

  The link is about accepted documents only.  A document accepted at text level with a RAGGED
  table is rejected by the builder; its run after the first `AstBuilderException` is not the run
  on a tree (the failed node is popped but not added to its parent).  That no source text makes
  the parser crash is `C01_no_crash` (Props/C01NoCrashAll.lean), proved without the link.
-/
import GherkinVerif.Lemmas.ParseLink
import GherkinVerif.Props.C01NoCrash
import GherkinVerif.Props.C11Tree
import GherkinVerif.Props.C02Tree
import GherkinVerif.Gen.ParserTable
import GherkinVerif.Gen.Dialects
import GherkinVerif.Gen.Grammar
import GherkinVerif.KDecide
import GherkinVerif.Lemmas.FactsTable
import GherkinVerif.Lemmas.FactsDialects
import GherkinVerif.Lemmas.Lit
namespace GV
open Spec

/-- the C05 keyword facts, and: no keyword starts with `"` or a backtick (= `C02T_fact_dialects`) -/
theorem C03P_fact_dialects : Spec.textDialectFacts Gen.dialects = true := Facts.textDialectFacts_dialects
/-- look-aheads uniform, tag states closed, guarded tests followed by tag-line tests (= `C18_fact_queue`) -/
theorem C03P_fact_queue : Spec.queueFacts Gen.parserTable = true := Facts.queueFacts_table
/-- comment and blank lines are accepted by some test of every state (= `C18_fact_comment_blank`) -/
theorem C03P_fact_comment_blank : Spec.commentBlankTested Gen.parserTable = true :=
  Facts.commentBlankTested_table
/-- doc-string content states are entered and left by separator lines only (= `C13_content_entry`) -/
theorem C03P_fact_content : Spec.contentEntry Gen.parserTable = true := Facts.contentEntry_table
/-- `start_rule(DocString)` occurs only in `DocStringSeparator` tests of non-content states, directly
    followed by `build`; the start state is not a content state -/
theorem C03P_fact_doc_opens : Spec.docStringOpens Gen.parserTable = true := by kdecide
/-- every test hands its token to the builder exactly once (= `C18_fact_builds`) -/
theorem C03P_fact_builds : Spec.oneBuildLast Gen.parserTable = true := Facts.oneBuildLast_table

/-- all facts the link uses, for the regenerated dialect table, parser table and grammar (the
    typed-stack certificate `Lemmas.typedCheck_gen` of C02, the shape check `Lemmas.shapeCheck_gen`
    of C11, the start rule) -/
theorem C03P_facts : Lemmas.LinkFacts Gen.dialects Gen.parserTable Gen.grammar 100000 :=
  ⟨C03P_fact_dialects, C03P_fact_queue, C03P_fact_comment_blank, C03P_fact_content, C03P_fact_doc_opens,
   Lemmas.typedCheck_gen, Lemmas.shapeCheck_gen, Lemmas.startRule_gen⟩

theorem C03_parse_is_astOf_generic (D : List Dialect) (T : Table) (G : Grammar) (fuel : Nat)
    (L : Lemmas.LinkFacts D T G fuel) (μ : MState) (ids : Nat) (src : Str) (hμ : (μ.reset D).dialect ∈ D) (d : Doc)
    (h : (parseWith D T false μ ids src).1 = .ok d) :
    let ctx := (parseWith D T false μ ids src).2
    ∃ t : TTree,
      t.isDocument = true ∧ leaves t = ctx.builds ∧
      ValidTree G .GherkinDocument t.kinds ∧
      (∃ evs, eventsAbs T (textKinds D T 0 (μ.reset D) (splitLines src)) = some evs ∧ treeOf evs = some t.kinds) ∧
      (∀ tk ∈ leaves t, WellMatched tk) ∧ DocStringsOpened t ∧
      (astOf (commentsOf t) t).run.run ids = (.ok (.doc d), ctx.ids) :=
  Lemmas.parse_link L μ ids src hμ d h

/-- **The parse IS the fold of the tree.**  If the parser (collecting mode) accepts the source text
    `src` and returns the document `d`, with final context `ctx`, there is a token tree `t` such that
    (a) `t` is a document tree and its leaves are exactly the tokens handed to the builder, in
        order (`ctx.builds`);
    (b) its projection to line kinds `t.kinds` is a derivation tree of gherkin.berp — in fact the
        tree `Spec.treeOf` rebuilds from the events of the kind-level run on the intrinsic kinds
        of the lines (`Spec.textKinds`);
    (c) every leaf is well matched and every `DocString` node starts with an opening separator;
    (d) `astOf` of `t`, given the comments of `t`, started at the incoming counter `ids`, returns
        exactly `d` and the counter `ctx.ids` the parse ended with. -/
theorem C03_parse_is_astOf (μ : MState) (ids : Nat) (src : Str)
    (hμ : (μ.reset Gen.dialects).dialect ∈ Gen.dialects) (d : Doc)
    (h : (parseWith Gen.dialects Gen.parserTable false μ ids src).1 = .ok d) :
    let ctx := (parseWith Gen.dialects Gen.parserTable false μ ids src).2
    ∃ t : TTree,
      t.isDocument = true ∧ leaves t = ctx.builds ∧
      ValidTree Gen.grammar .GherkinDocument t.kinds ∧
      (∃ evs, eventsAbs Gen.parserTable
          (textKinds Gen.dialects Gen.parserTable 0 (μ.reset Gen.dialects) (splitLines src)) = some evs ∧
        treeOf evs = some t.kinds) ∧
      (∀ tk ∈ leaves t, WellMatched tk) ∧ DocStringsOpened t ∧
      (astOf (commentsOf t) t).run.run ids = (.ok (.doc d), ctx.ids) :=
  Lemmas.parse_link C03P_facts μ ids src hμ d h

/-- The same in stop-at-first-error mode (an accepted run is the same run in both modes,
    `C14_accept_same_run`). -/
theorem C03_parse_is_astOf_stop (μ : MState) (ids : Nat) (src : Str)
    (hμ : (μ.reset Gen.dialects).dialect ∈ Gen.dialects) (d : Doc)
    (h : (parseWith Gen.dialects Gen.parserTable true μ ids src).1 = .ok d) :
    let ctx := (parseWith Gen.dialects Gen.parserTable true μ ids src).2
    ∃ t : TTree,
      t.isDocument = true ∧ leaves t = ctx.builds ∧
      ValidTree Gen.grammar .GherkinDocument t.kinds ∧
      (∃ evs, eventsAbs Gen.parserTable
          (textKinds Gen.dialects Gen.parserTable 0 (μ.reset Gen.dialects) (splitLines src)) = some evs ∧
        treeOf evs = some t.kinds) ∧
      (∀ tk ∈ leaves t, WellMatched tk) ∧ DocStringsOpened t ∧
      (astOf (commentsOf t) t).run.run ids = (.ok (.doc d), ctx.ids) :=
  Lemmas.parse_link_stop C03P_facts μ ids src hμ d h

/-- The leaves of the tree are the document's physical lines: one token per line, in source order,
    with that line's number and text, then exactly one end-of-file token (`C18_accepted_sequence`). -/
theorem C03_parse_leaves_are_lines (μ : MState) (ids : Nat) (src : Str)
    (hμ : (μ.reset Gen.dialects).dialect ∈ Gen.dialects) (d : Doc)
    (h : (parseWith Gen.dialects Gen.parserTable false μ ids src).1 = .ok d) (t : TTree)
    (ht : leaves t = (parseWith Gen.dialects Gen.parserTable false μ ids src).2.builds) :
    (leaves t).map (·.lineNo) = List.range' 1 ((splitLines src).length + 1) ∧
    (leaves t).map (·.line) = (splitLines src).map some ++ [none] := by
  rw [ht]
  exact Lemmas.accepted_sequence _ _ (Lemmas.queueDialectFacts_of_text C03P_fact_dialects) C03P_fact_queue
    C03P_fact_builds false μ ids src hμ d h

/-- Every element once, in source order.  For every accepted document there is a token tree over
    the tokens handed to the builder, projecting to a derivation tree of the grammar, such that the
    locations of all elements of the returned AST read off in source order are exactly the
    locations of the elements carried by the tree's lines, line by line, and the document's
    comments are the tree's comment lines in order (`C03_leaves_once_in_order`, `C03_ast_of_tree` on
    the tree of the link). -/
theorem C03_parse_leaves_once (μ : MState) (ids : Nat) (src : Str)
    (hμ : (μ.reset Gen.dialects).dialect ∈ Gen.dialects) (d : Doc)
    (h : (parseWith Gen.dialects Gen.parserTable false μ ids src).1 = .ok d) :
    ∃ t : TTree, leaves t = (parseWith Gen.dialects Gen.parserTable false μ ids src).2.builds ∧
      ValidTree Gen.grammar .GherkinDocument t.kinds ∧
      srcLocs d = elemLocs t ∧ srcLines d = elemLines t ∧ d.comments = commentsOf t := by
  obtain ⟨t, ht⟩ := Lemmas.parse_link C03P_facts μ ids src hμ d h
  obtain ⟨h1, h2, h3, -, -⟩ := ht.ast_facts C03P_facts.shape
  exact ⟨t, ht.leaves_eq, ht.valid, h1, h2, h3⟩

/-- Canonical ids.  The ids of the AST of every accepted document, read in the canonical order,
    are exactly `ids, ids+1, …, ctx.ids - 1`: consecutive from the incoming counter, none skipped,
    none drawn and dropped; in particular pairwise distinct (`C11_ast_ids_canonical` on the tree of
    the link). -/
theorem C11_parse_ids_canonical (μ : MState) (ids : Nat) (src : Str)
    (hμ : (μ.reset Gen.dialects).dialect ∈ Gen.dialects) (d : Doc)
    (h : (parseWith Gen.dialects Gen.parserTable false μ ids src).1 = .ok d) :
    canonicalIds d =
      List.range' ids ((parseWith Gen.dialects Gen.parserTable false μ ids src).2.ids - ids) ∧
    (canonicalIds d).Nodup := by
  obtain ⟨t, ht⟩ := Lemmas.parse_link C03P_facts μ ids src hμ d h
  obtain ⟨-, -, -, hids, -⟩ := ht.ast_facts C03P_facts.shape
  exact ⟨hids, hids ▸ List.nodup_range'⟩

/-- The builder's run of an accepted parse is the run on the tree: from a fresh builder and the
    incoming counter, the `start_rule` / `build` / `end_rule` calls of the tree end without error
    at the counter the parse ended with, and `get_result()` is the returned document
    (`C03_ast_of_tree`; the no-crash theorems `C01_astOf_no_crash_accepted` /
    `C01_builder_no_crash_accepted` apply to this tree, all their hypotheses being met). -/
theorem C01_parse_builder_run (μ : MState) (ids : Nat) (src : Str)
    (hμ : (μ.reset Gen.dialects).dialect ∈ Gen.dialects) (d : Doc)
    (h : (parseWith Gen.dialects Gen.parserTable false μ ids src).1 = .ok d) :
    ∃ (t : TTree) (β : BState), leaves t = (parseWith Gen.dialects Gen.parserTable false μ ids src).2.builds ∧
      applyOps (opsOf t) BState.reset ids =
        (.ok (), β, (parseWith Gen.dialects Gen.parserTable false μ ids src).2.ids) ∧
      β.result = .ok (some d) := by
  obtain ⟨t, hdoc, hl, -, -, -, -, hast⟩ := C03_parse_is_astOf μ ids src hμ d h
  obtain ⟨β, hβ, -, -, d', hd', hres, -⟩ := C03_ast_of_tree t hdoc _ _ _ hast
  cases hd'
  exact ⟨t, β, hl, hβ, hres⟩

section examples

/-- a French document with a language header, a comment, a doc string with media type whose content
    looks like a step, a data table, and a tag / blank run before `Exemples:` -/
def C03P_demo : Str :=
  lit "# language: fr\n# c\nFonctionnalité: f\n  Scénario: s\n    Soit x\n      \"\"\"json\n      Given y\n      \"\"\"\n    Et z\n      | p | q |\n    @t @u\n\n    Exemples:\n      | a |\n      | 1 |\n"

mutual
/-- hang tokens, in order, into a tree over line kinds -/
def C03P_fill : Tree → List Token → Option (TTree × List Token)
  | .leaf _, tk :: rest => some (.leaf tk, rest)
  | .leaf _, [] => none
  | .node r cs, toks => (C03P_fillList cs toks).map fun p => (.node r p.1, p.2)
def C03P_fillList : List Tree → List Token → Option (List TTree × List Token)
  | [], toks => some ([], toks)
  | c :: cs, toks =>
    match C03P_fill c toks with
    | none => none
    | some (t, rest) => (C03P_fillList cs rest).map fun p => (t :: p.1, p.2)
end

/-- the hypothesis of the link is satisfiable and its conclusion can be checked on a concrete
    document: the demo is accepted from counter 5; its ids in canonical order are 5 … 13 and the
    counter ends at 14; its elements in source order are on lines 3 4 5 6 9 10 11 11 13 14 15; the
    builder saw lines 1 … 16 (15 lines and the end of file) -/
example : (MState.init Gen.dialects (lit "en")).map (fun μ =>
      let r := parseWith Gen.dialects Gen.parserTable false μ 5 C03P_demo
      match r.1 with
      | .ok d => [canonicalIds d, [r.2.ids], srcLines d, r.2.builds.map Token.lineNo, [d.comments.length]]
      | _ => []) =
    some [[5, 6, 7, 8, 9, 10, 11, 12, 13], [14], [3, 4, 5, 6, 9, 10, 11, 11, 13, 14, 15],
      [1, 2, 3, 4, 5, 6, 7, 8, 9, 10, 11, 12, 13, 14, 15, 16], [1]] := by
  rw [C03P_demo]
  lit_lists
  kdecide

/-- … and the tree of the theorem, computed: the tokens handed to the builder hung into the tree
    of the kind-level events.  It is a document tree, its leaves are these tokens, they are well
    matched, its doc string is opened, and `astOf` of it from counter 5 is the document the parser
    returned, ending at the parser's counter. -/
example : (MState.init Gen.dialects (lit "en")).map (fun μ =>
      let r := parseWith Gen.dialects Gen.parserTable false μ 5 C03P_demo
      let tk := (eventsAbs Gen.parserTable
        (textKinds Gen.dialects Gen.parserTable 0 (μ.reset Gen.dialects) (splitLines C03P_demo))).bind treeOf
      match r.1, tk.bind (fun k => C03P_fill k r.2.builds) with
      | .ok d, some (t, []) =>
        t.isDocument && decide (DocStringsOpened t) && (leaves t).all wellMatched &&
        decide ((leaves t).map (fun x => (x.lineNo, x.mtype, x.text)) = r.2.builds.map (fun x => (x.lineNo, x.mtype, x.text))) &&
        decide (Lemmas.Ex.docOf ((astOf (commentsOf t) t).run.run 5) = some d) &&
        decide (((astOf (commentsOf t) t).run.run 5).2 = r.2.ids)
      | _, _ => false) = some true := by
  rw [C03P_demo]
  lit_lists
  kdecide

end examples
end GV
