/-
  Props/C14.lean — property C14: rejected documents get errors at the right place with the right
  expectation.  Proved here: message form, de-duplication and cap, expected lists = the state's
  tests (and, with C02Siblings, the same list every sibling prints), recovery from the same
  position.  `C14_stop_is_first` is in Props/C14Stop.lean; which texts are rejected is the
  complement of Props/C02Text.lean (`C02_text_accept_iff`).
-/
import GherkinVerif.Lemmas.Glue
import GherkinVerif.Spec.TableFacts
import GherkinVerif.Gen.ParserTable
import GherkinVerif.KDecide
namespace GV

/-- Every message starts with its own `(line:column): ` position (column 0 when absent). -/
theorem C14_message_form (e : PErr) :
    e.message = [40] ++ natToStr e.loc.line ++ [58] ++ natToStr (e.loc.col.getD 0) ++ lit "): " ++ e.body := rfl

/-- An unexpected-line error lists the state's expected kinds joined by ", " and quotes the
    trimmed line; an unexpected end of file says so; both are located at the token. -/
theorem C14_unexpected_form (row : StateRow) (t : Token) :
    (∀ l, t.line = some l →
      (unexpectedErr row t).body = lit "expected: " ++ joinWith (lit ", ") (row.expected.map lit) ++
        lit ", got '" ++ strip (trimmed l) ++ lit "'" ∧ (unexpectedErr row t).loc.line = t.lineNo) ∧
    (t.line = none →
      (unexpectedErr row t).body = lit "unexpected end of file, expected: " ++ joinWith (lit ", ") (row.expected.map lit) ∧
      (unexpectedErr row t).loc = t.loc) :=
  Lemmas.unexpectedErr_form row t

/-- facts about the regenerated table: each state's expected list is the de-duplicated list of
    its tests in order; every error tail returns its own state (parsing carries on from the same
    position with the next line). -/
theorem C14_expected_lists : Spec.expectedIsTests Gen.parserTable = true := by kdecide
theorem C14_recovery_same_state : Spec.errTailSelf Gen.parserTable = true := by kdecide

/-- the state after a tag line not followed by Examples or Scenario is the Rule-header tags state,
    whose list is that of a Rule header -/
theorem C14_rule_header_tags_state :
    (Gen.parserTable.row? 18).map (·.expected) = some ["#TagLine", "#RuleLine", "#Comment", "#Empty"] := by
  kdecide

/-- Identical messages are reported once and parsing stops after the eleventh error: in
    collecting mode the error list never holds two equal messages and never exceeds `cap + 1`. -/
theorem C14_dedup_cap (D : List Dialect) (T : Table) (μ : MState) (ids : Nat) (src : Str)
    (es : List PErr) (comp : Bool) (h : (parseWith D T false μ ids src).1 = .rejected es comp) :
    (es.map PErr.message).Nodup ∧ es.length ≤ T.errorCap + 1 :=
  ⟨((Lemmas.parse_outcome D T false μ ids src es comp h).2 rfl).2.2.2,
   ((Lemmas.parse_outcome D T false μ ids src es comp h).2 rfl).2.2.1⟩

/-- A rejected document never yields an AST: the outcome is `rejected` or `ok`, never both —
    and the stream emits only parseError envelopes for it. -/
theorem C14_no_partial_output (D : List Dialect) (T : Table) (opts : Opts) (ids : Nat) (uri data : Str)
    (μ : MState) (hμ : MState.init D (lit "en") = some μ) (es : List PErr) (comp : Bool)
    (h : (parseWith D T false μ ids data).1 = .rejected es comp) :
    (streamEnum D T opts ids uri data).1 = es.map (Envelope.parseError uri) :=
  Lemmas.stream_rejected D T opts ids uri data μ hμ es comp h

end GV
