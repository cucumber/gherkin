/-
  Props/C03Roundtrip5.lean — property C03 "from the document outwards", fifth model: the model of
  Props/C03Roundtrip4.lean plus RULES after the feature-level scenarios.

  Model (Spec/Render5.lean): `MRule = (tags, kw, name, background : Option MBackground, scenarios :
  List MScenario4)`, `MFeature5 = MFeature4 + rules`.  `render5` writes each rule after the feature-level
  scenarios: optional tag line at column 1, `<rule kw>: <name>` at column 1, then the rule's optional
  background and scenarios exactly as at feature level.  `WF5 d m` = `WF4` plus, per rule, `ruleOK`:
  tags `tagOK`, keyword in `d.rule`, name `cleanText`, background / scenarios as at feature level.
  `expectedDoc5`: feature children = background?, scenarios, then rules; per rule the children
  (background, scenarios) draw their ids first, then the rule's tags, then the rule.

  In the generated parser every state inside a rule is a separate copy of the feature-level state
  (background 21 / 23 / 24, scenario 25 / 26 / 28 / 29, examples 30 / 31 / 33) and the builder stack
  carries an extra `Rule` node; the block lemmas (Lemmas/RoundtripBlocks.lean) are stated for a `Level`
  (the state numbers, and what closes the container) over any stack below the container node, and are used
  at `Lemmas.featureLevel` (`Facts.levelB_feature_table`) and at `Lemmas.ruleLevel` (`C03R5_fact_rule`).
  A tag line followed by a rule line takes the unguarded `TagLine` branch (`Lemmas.try_tagU`: each guarded
  branch before it matches the tag line, peeks at the rule line, and is answered no).

  Entering a rule (`C03R5_fact_entry`, `C03R5_fact_entry_all`): from every feature-level state a
  scenario can follow (3; 5 / 7 / 8; 10 / 12 / 13; 15 / 17) and from the rule header (19) the
  `RuleLine` branch closes what is open and opens `Rule`, `RuleHeader` (→ 19), and the unguarded
  `TagLine` branch additionally opens `Tags` (→ 18); state 18 takes the rule line (→ 19).  The same
  facts are part of `Facts.levelB_feature_table`, which is what the proof uses.
  The fourth model embeds (`C03_roundtrip5_model4`), so `C03_roundtrip4` IS the round trip of the
  rule-free part of model 5.
-/
import GherkinVerif.Props.C03Roundtrip
import GherkinVerif.Lemmas.Lit
namespace GV
open Spec

theorem C03R5_fact_entry : Lemmas.rt5EntryFacts Gen.parserTable = true := by kdecide

/-- the parser-table facts for the rule-level states (background 21 / 23 / 24, scenario 25 / 26 / 28 / 29,
    examples 30 / 31 / 33, rule header 19): step, table-row, examples, scenario / tag / rule / EOF branches -/
theorem C03R5_fact_rule : Lemmas.rt5RuleFacts Gen.parserTable = true := Facts.rt5RuleFacts_table

theorem C03R5_rule_table : Lemmas.LevelFacts Gen.parserTable Lemmas.ruleLevel := .of_bool C03R5_fact_rule

/-- table-wide: every row whose scenario branch is `cl ++ [start ScenarioDefinition, start Scenario, build]
    → 10` has the rule-line branch `cl ++ [start Rule, start RuleHeader, build] → 19` and the unguarded
    tag-line branch `cl ++ [start Rule, start RuleHeader, start Tags, build] → 18`; state 18 takes the rule line -/
theorem C03R5_fact_entry_all : Lemmas.rt5EntryAll Gen.parserTable = true := by kdecide

/-- **C03, round trip, rules** (with everything of the fourth model: examples blocks, backgrounds,
    data tables, tags). -/
theorem C03_roundtrip5 (stop : Bool) (μ : MState)
    (hμ : (μ.reset Gen.dialects).dialect ∈ Gen.dialects) (ids : Nat) (m : MFeature5)
    (hwf : WF5 (μ.reset Gen.dialects).dialect m = true) :
    (parseWith Gen.dialects Gen.parserTable stop μ ids (render5 m)).1 =
      .ok (expectedDoc5 (μ.reset Gen.dialects).dialect (μ.reset Gen.dialects).name m ids) :=
  (C03R_of_pure hμ (Lemmas.roundtrip5_pure C03R_fact_keywords C03R_fact_render _ _ C03R_table stop μ hμ ids m hwf)).1

/-- … and the id counter afterwards: one id per table row, step, background, examples block, tag,
    scenario and rule. -/
theorem C03_roundtrip5_counter (stop : Bool) (μ : MState)
    (hμ : (μ.reset Gen.dialects).dialect ∈ Gen.dialects) (ids : Nat) (m : MFeature5)
    (hwf : WF5 (μ.reset Gen.dialects).dialect m = true) :
    (parseWith Gen.dialects Gen.parserTable stop μ ids (render5 m)).2.ids = idsAfter5 m ids :=
  (C03R_of_pure hμ (Lemmas.roundtrip5_pure C03R_fact_keywords C03R_fact_render _ _ C03R_table stop μ hμ ids m hwf)).2

/-- the fourth model is the rule-free part of the fifth: same text, same well-formedness, same
    expected document and counter -/
theorem C03_roundtrip5_model4 (d : Dialect) (lang : Str) (m : MFeature4) (i : Nat) :
    render5 m.toModel5 = render4 m ∧ WF5 d m.toModel5 = WF4 d m ∧
    expectedDoc5 d lang m.toModel5 i = expectedDoc4 d lang m i ∧ idsAfter5 m.toModel5 i = idsAfter4 m i :=
  ⟨Lemmas.render5_toModel5 m, Lemmas.WF5_toModel5 d m, Lemmas.expectedDoc5_toModel5 d lang m i,
    Lemmas.idsAfter5_toModel5 m i⟩

theorem C03_roundtrip5_rule_free (stop : Bool) (μ : MState)
    (hμ : (μ.reset Gen.dialects).dialect ∈ Gen.dialects) (ids : Nat) (m : MFeature4)
    (hwf : WF5 (μ.reset Gen.dialects).dialect m.toModel5 = true) :
    (parseWith Gen.dialects Gen.parserTable stop μ ids (render5 m.toModel5)).1 =
      .ok (expectedDoc5 (μ.reset Gen.dialects).dialect (μ.reset Gen.dialects).name m.toModel5 ids) :=
  C03_roundtrip5 stop μ hμ ids m.toModel5 hwf

section examples

def C03R5_demo : MFeature5 := MFeature5.ofStrings ["@f"] "Feature" "F" []
  [([], "Scenario", "top", [("Given ", "a", [])], [])]
  [(["@r1", "@r2"], "Rule", "first", [],
      [([], "Example", "e1", [("When ", "b", [["x"]])], []),
       (["@s"], "Scenario Outline", "o", [("Then ", "<v>", [])], [(["@ex"], "Examples", "", [["v"], ["1"]])])]),
   ([], "Rule", "second", [("Background", "rb", [("Given ", "c", [["t"]])])],
      [([], "Scenario", "e2", [("* ", "d", [])], [])]),
   ([], "Rule", "empty", [], [])]

example : (MState.init Gen.dialects (lit "en")).map (fun μ =>
    (WF5 μ.dialect C03R5_demo,
     render5 C03R5_demo == lit "@f\nFeature: F\nScenario: top\n  Given a\n@r1 @r2\nRule: first\nExample: e1\n  When b\n    | x |\n@s\nScenario Outline: o\n  Then <v>\n@ex\nExamples: \n    | v |\n    | 1 |\nRule: second\nBackground: rb\n  Given c\n    | t |\nScenario: e2\n  * d\nRule: empty\n",
     decide (C03R_okDoc (parseWith Gen.dialects Gen.parserTable false μ 7 (render5 C03R5_demo)).1 =
       some (expectedDoc5 μ.dialect μ.name C03R5_demo 7)),
     decide (C03R_okDoc (parseWith Gen.dialects Gen.parserTable true μ 7 (render5 C03R5_demo)).1 =
       some (expectedDoc5 μ.dialect μ.name C03R5_demo 7)),
     (parseWith Gen.dialects Gen.parserTable true μ 7 (render5 C03R5_demo)).2.ids == idsAfter5 C03R5_demo 7)) =
    some (true, true, true, true, true) := by
  lit_lists
  kdecide

def C03R5_variant (tags : List String) (kw name : String) : Option (Bool × Bool) :=
  (MState.init Gen.dialects (lit "en")).map fun μ =>
    let m := MFeature5.ofStrings [] "Feature" "f" [] [([], "Scenario", "s", [("Given ", "x", [])], [])]
      [(tags, kw, name, [], [([], "Scenario", "t", [("Given ", "y", [])], [])])]
    (WF5 μ.dialect m,
     decide (C03R_okDoc (parseWith Gen.dialects Gen.parserTable false μ 0 (render5 m)).1 =
       some (expectedDoc5 μ.dialect μ.name m 0)))

example : C03R5_variant ["@a"] "Rule" "r" = some (true, true) := by kdecide
/-- necessity of `ruleOK`: a keyword that is no rule keyword; a name with a trailing blank -/
example : C03R5_variant [] "Regel" "r" = some (false, false) := by kdecide
example : C03R5_variant [] "Rule" "r " = some (false, false) := by kdecide

end examples

end GV
