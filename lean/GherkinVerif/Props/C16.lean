/-
  Props/C16.lean — property C16: layout is meaning-neutral (line endings, indentation, padding,
  blank lines, a comment before a structural line, final line break).

  Property theorems (and, at the end, the definitions the whole-document parts Props/C16Doc3–7
  share); helper lemmas live in Lemmas/Layout.lean, Boolean facts in Spec/LayoutFacts.lean.  The
  property decomposes into

    * per-line invariance of the matcher (`C16_crlf_line`, `C16_final_newline_line`,
      `C16_trailing_blanks_line`, `C16_indent_line`) and of the unexpected-line error,
    * the shape of the physical lines under the edit (`C16_crlf_lines`, `C16_final_newline_lines`),
    * kind-level invariance of the table run (`C16_blank_lines_abs`, `C16_comment_before_abs`),
      generic in the table under Boolean facts kernel-checked on the regenerated table.

  The matcher is always called on the token the scanner made of the line (`matchTok` passes
  `t.line`), so every per-line theorem is about `matchLine D k μ (withLine t l) l` where
  `withLine t l` is `t` carrying the physical line `l`; `SameMatch` compares verdict (with a raised
  error), matcher state and every token field except that physical line.

  FINDING (trailing blanks on a step line are NOT always neutral): where one step keyword is
  another followed by more text ending in a blank — French "Etant donné " / "Etant donné que " —
  the line "Etant donné que" reads as keyword "Etant donné " + text "que", but with one trailing
  blank it reads as keyword "Etant donné que " + empty text (see the `example` below).  Likewise a
  line that is exactly "Given" is not a step, "Given " is.  `C16_trailing_blanks_line` therefore
  carries the hypothesis `StepTailFree` for `StepLine`; all other kinds need nothing.
-/
import GherkinVerif.Lemmas.Layout
import GherkinVerif.Gen.ParserTable
import GherkinVerif.Gen.Dialects
import GherkinVerif.KDecide
import GherkinVerif.Lemmas.Lit
import GherkinVerif.Spec.LocMap
namespace GV
open Lemmas

/-- fact about the regenerated dialect table: no step keyword is empty or ends in CR or LF -/
theorem C16_step_keywords_ok : Spec.stepKeywordsOk Gen.dialects = true := by kdecide

/-- Every matcher state the parser can be in is covered by the per-line theorems: the state
    `TokenMatcher(name)` makes has no active separator and a dialect of the table … -/
theorem C16_sane_init (D : List Dialect) (name : Str) (μ : MState) (h : MState.init D name = some μ) :
    SepOk μ ∧ μ.dialect ∈ D := sane_init h

/-- … `reset()` and every `match_<k>` keep it so (the active separator is only ever `"""` or
    three backticks) … -/
theorem C16_sane_step (D : List Dialect) (k : Kind) (μ : MState) (t : Token) (l : Str)
    (h : SepOk μ ∧ μ.dialect ∈ D) :
    (SepOk (μ.reset D) ∧ (μ.reset D).dialect ∈ D) ∧
    (SepOk (matchLine D k μ t l).μ ∧ (matchLine D k μ t l).μ.dialect ∈ D) :=
  ⟨sane_reset h.2, sane_matchLine D k μ t l h⟩

/-- … and a dialect of a table whose step keywords are well-formed has well-formed step keywords. -/
theorem C16_sane_keywords (D : List Dialect) (hD : Spec.stepKeywordsOk D = true) (μ : MState)
    (h : μ.dialect ∈ D) : StepKwOk μ := stepKwOk_of_mem hD h

/-- A line ending in CRLF is matched exactly like the same line ending in LF: for every kind,
    every token and every line content `s` (nothing is assumed about `s`), in every matcher state
    whose step keywords do not end in CR/LF and whose active separator is a delimiter. -/
theorem C16_crlf_line (D : List Dialect) (k : Kind) (μ : MState) (t : Token) (s : Str)
    (hkw : StepKwOk μ) (hsep : SepOk μ) :
    SameMatch (matchLine D k μ (withLine t (s ++ [13, 10])) (s ++ [13, 10]))
      (matchLine D k μ (withLine t (s ++ [10])) (s ++ [10])) :=
  sameMatch_eol2 D k μ t s [13, 10] [10] allEol_crlf allEol_lf hkw hsep

/-- The error for an unexpected line is the same (kind, position, expected list, quoted line) for
    a CRLF and an LF ending.  (A whitespace-only line is never unexpected in the generated table;
    for such a line only message body and line number agree, `Lemmas.unexpectedErr_tail_body`.) -/
theorem C16_crlf_unexpected (row : StateRow) (t : Token) (s : Str) (hs : lstrip s ≠ []) :
    unexpectedErr row (withLine t (s ++ [13, 10])) = unexpectedErr row (withLine t (s ++ [10])) :=
  (unexpectedErr_tail row t s [13, 10] allEol_crlf.allSpace hs).trans
    (unexpectedErr_tail row t s [10] allEol_lf.allSpace hs).symm

/-- Writing a text with CRLF for every LF gives the same physical lines, each line's own LF
    replaced by CRLF (lines are split at line feeds only). -/
theorem C16_crlf_lines (src : Str) :
    splitLines (toCRLF src) = (splitLines src).map toCRLF ∧
    ∀ l ∈ splitLines src, ∃ b, (l = b ++ [10] ∧ toCRLF l = b ++ [13, 10]) ∨ (l = b ∧ toCRLF l = b) := by
  refine ⟨splitLines_toCRLF src, fun l hl => ?_⟩
  obtain ⟨b, hb, h | h⟩ := splitLines_line_shape hl
  · subst h; exact ⟨b, Or.inl ⟨rfl, toCRLF_line hb⟩⟩
  · subst h; exact ⟨l, Or.inr ⟨rfl, toCRLF_noLF hb⟩⟩

/-- A line is matched the same with and without its line feed: every kind, every `s` (it is not
    needed that `s` does not itself end in LF). -/
theorem C16_final_newline_line (D : List Dialect) (k : Kind) (μ : MState) (t : Token) (s : Str)
    (hkw : StepKwOk μ) (hsep : SepOk μ) :
    SameMatch (matchLine D k μ (withLine t (s ++ [10])) (s ++ [10])) (matchLine D k μ (withLine t s) s) :=
  (sameMatch_eol D k μ t s [10] allEol_lf hkw hsep).symm

/-- Adding a final line break to a non-empty text that does not end in one: same physical lines,
    the last one gets the LF. -/
theorem C16_final_newline_lines (src : Str) (hne : src ≠ []) (hlast : src.getLast? ≠ some 10) :
    ∃ init last, splitLines src = init ++ [last] ∧ splitLines (src ++ [10]) = init ++ [last ++ [10]] :=
  splitLines_append_lf hne hlast

/-- (Both hypotheses are needed: after a line break, or in the empty text, one more line break
    adds a blank physical line — which `C16_blank_lines_abs` then covers.) -/
theorem C16_final_newline_adds_blank (src : Str) (h : src = [] ∨ src.getLast? = some 10) :
    splitLines (src ++ [10]) = splitLines src ++ [[10]] :=
  splitLines_append_lf_after_lf h

/-- Whitespace `ws` added at the end of a line, before its line ending `eol` (empty, LF or CRLF —
    any whitespace), changes nothing in the match: for every kind except `Comment` and `Other`
    (whose text is the line itself) — in particular title, step, tag, table-row and delimiter
    lines.  For `StepLine` the trimmed line must not be a step keyword minus trailing whitespace
    (`StepTailFree`; see the finding at the top); neither `ws` nor `s` is otherwise restricted. -/
theorem C16_trailing_blanks_line (D : List Dialect) (k : Kind) (μ : MState) (t : Token) (s ws eol : Str)
    (hk : k ≠ .Comment ∧ k ≠ .Other) (hws : AllSpace ws) (heol : AllSpace eol)
    (hstep : k = .StepLine → StepTailFree μ s) (hsep : SepOk μ) :
    SameMatch (matchLine D k μ (withLine t (s ++ ws ++ eol)) (s ++ ws ++ eol))
      (matchLine D k μ (withLine t (s ++ eol)) (s ++ eol)) := by
  rw [List.append_assoc]
  exact sameMatch_blanks D k μ t s (ws ++ eol) eol (hws.append heol) heol hk hstep hsep

/-- … the three line endings of the property are whitespace … -/
theorem C16_eols_are_space : AllSpace [] ∧ AllSpace [10] ∧ AllSpace [13, 10] :=
  ⟨AllSpace.nil, allEol_lf.allSpace, allEol_crlf.allSpace⟩

/-- … a Boolean test for the step-line hypothesis … -/
theorem C16_stepTailFree_test (μ : MState) (s : Str) (h : stepTailFreeB μ.dialect.stepKeywords s = true) :
    StepTailFree μ s := stepTailFree_of_B h

/-- … and the unexpected-line error does not see trailing blanks either. -/
theorem C16_trailing_blanks_unexpected (row : StateRow) (t : Token) (s ws eol : Str)
    (hws : AllSpace ws) (heol : AllSpace eol) (hs : lstrip s ≠ []) :
    unexpectedErr row (withLine t (s ++ ws ++ eol)) = unexpectedErr row (withLine t (s ++ eol)) := by
  rw [List.append_assoc]
  exact (unexpectedErr_tail row t s (ws ++ eol) (hws.append heol) hs).trans
    (unexpectedErr_tail row t s eol heol hs).symm

/-- Whitespace `ws` put in front of a title, step, tag, table-row or delimiter line (`s` may
    itself start with whitespace; no hypothesis on `s` or the matcher state): same verdict, and on
    a match the token's column, indent and every item column grow by `ws.length` while type,
    text, keyword, keyword type and item texts are unchanged; an opening doc-string delimiter
    records an indentation `ws.length` larger and nothing else in the matcher state changes;
    the column of a "tag may not contain whitespace" error grows by `ws.length`. -/
theorem C16_indent_line (D : List Dialect) (k : Kind) (μ : MState) (t : Token) (ws s : Str)
    (hws : AllSpace ws) (hk : k ∈ Spec.structural) :
    ShiftMatch ws.length k (matchLine D k μ (withLine t s) s)
      (matchLine D k μ (withLine t (ws ++ s)) (ws ++ s)) :=
  shiftMatch_indent D k μ t ws s hws hk

/-- A doc string moving as one block, content lines: after the opening delimiter was indented by
    `ws` (so `C16_indent_line` made the recorded indentation `ws.length` larger), a content line
    indented by the same `ws` yields the same token — same text, column 1 — and leaves both
    matcher states as they were. -/
theorem C16_indent_docstring_content (D : List Dialect) (μ : MState) (t : Token) (ws s : Str)
    (hws : AllSpace ws) :
    let μ' : MState := { μ with indentToRemove := μ.indentToRemove + ws.length }
    let a := matchLine D .Other μ (withLine t s) s
    let b := matchLine D .Other μ' (withLine t (ws ++ s)) (ws ++ s)
    a.res = b.res ∧ TokSame a.tok b.tok ∧ a.μ = μ ∧ b.μ = μ' :=
  other_indent D μ t ws s hws

/-- … and the closing delimiter: it does not look at the recorded indentation and resets it, so
    from there on both matcher states agree again (`C16_indent_line` with the same state then
    gives the moved columns). -/
theorem C16_indent_docstring_close (D : List Dialect) (μ : MState) (t : Token) (l sep : Str) (i : Nat)
    (hsep : μ.activeSep = some sep) (hne : sep.isEmpty = false) :
    let a := matchLine D .DocStringSeparator μ t l
    let b := matchLine D .DocStringSeparator { μ with indentToRemove := i } t l
    a.res = b.res ∧ a.tok = b.tok ∧ (isMatched a.res = true → a.μ = b.μ) :=
  docsep_close_indent_free D μ t l sep i hsep hne

/-- the unexpected-line error of an indented line: same message body, same line number (the
    column is the line's own indentation when no matcher set one, so it may move) -/
theorem C16_indent_unexpected (row : StateRow) (t : Token) (ws s : Str) (hws : AllSpace ws) :
    (unexpectedErr row (withLine t (ws ++ s))).body = (unexpectedErr row (withLine t s)).body ∧
    (unexpectedErr row (withLine t (ws ++ s))).loc.line = (unexpectedErr row (withLine t s)).loc.line :=
  unexpectedErr_indent row t ws s hws

/-- fact about the regenerated table: an `Empty` test is always an unguarded build-only self-loop -/
theorem C16_empty_self_loop : Spec.emptySelfLoop Gen.parserTable = true := by kdecide
/-- fact about the regenerated table: every look-ahead skips `Empty` and expects neither `Empty`
    nor `Other` -/
theorem C16_lookaheads_skip_empty : Spec.lookaheadsSkipEmpty Gen.parserTable = true := by kdecide
/-- fact about the regenerated table: a state that tests `Empty` at all tests it before `Other` -/
theorem C16_empty_before_other : Spec.emptyBeforeOther Gen.parserTable = true := by kdecide

/-- One step: in a state where the first test a blank line passes is `Empty`, it is consumed by
    a branch that only builds and returns to the same state, whatever follows. -/
theorem C16_blank_line_step (T : Table) (hE : Spec.emptySelfLoop T = true) (s : Nat)
    (hs : Spec.emptyFirst T s = true) (future : List Kind) :
    ∃ b, stepAbs T s .Empty future = some b ∧ b.kind = .Empty ∧ b.target = s ∧ b.prods = [.build] :=
  stepAbs_empty hE hs future

/-- Look-ahead: a blank line anywhere in the future is invisible to every guard. -/
theorem C16_blank_line_peek (la : LookAhead) (h : Skips .Empty la) (ks1 ks2 : List Kind) :
    peekAbs la (ks1 ++ .Empty :: ks2) = peekAbs la (ks1 ++ ks2) := peekAbs_insert_empty h ks1 ks2

/-- Whole run: insert a blank line between `pre` and `post`.  If the run over `pre` (with `post`
    in view) fails, both runs fail.  If it reaches state `s'` with events `e1` and `s'` reads a
    blank line as `Empty` first (every state outside descriptions and doc strings), then both
    runs continue from `s'` over `post` identically: same acceptance, same final state, and the
    events differ by exactly one `build Empty` at the insertion point. -/
theorem C16_blank_lines_abs (T : Table) (hE : Spec.emptySelfLoop T = true)
    (hL : Spec.lookaheadsSkipEmpty T = true) (s : Nat) (pre post : List Kind) :
    (runPrefix T s pre post = none →
      runAbs T s (pre ++ .Empty :: post) = none ∧ runAbs T s (pre ++ post) = none) ∧
    (∀ s' e1, runPrefix T s pre post = some (s', e1) → Spec.emptyFirst T s' = true →
      runAbs T s (pre ++ .Empty :: post) =
        (runAbs T s' post).map (fun r => (r.1, e1 ++ .build .Empty :: r.2)) ∧
      runAbs T s (pre ++ post) = (runAbs T s' post).map (fun r => (r.1, e1 ++ r.2))) :=
  ⟨runAbs_insert_empty_none hL s pre post, fun s' e1 hp hs => runAbs_insert_empty hE hL s pre post s' e1 hp hs⟩

/-- `runPrefix` is the run over `pre`: the whole run is the run over `pre` then over `post`. -/
theorem C16_run_prefix (T : Table) (s : Nat) (pre post : List Kind) :
    runAbs T s (pre ++ post) =
      match runPrefix T s pre post with
      | none => none
      | some (s', e1) =>
        match runAbs T s' post with
        | none => none
        | some (s'', e2) => some (s'', e1 ++ e2) := runAbs_append T s pre post

/-- A state that tests `Empty` at all reads a blank line as `Empty` first. -/
theorem C16_blank_line_states (T : Table) (hB : Spec.emptyBeforeOther T = true) (s : Nat) (row : StateRow)
    (hrow : T.row? s = some row) (ht : row.branches.any (·.kind == .Empty) = true) :
    Spec.emptyFirst T s = true := emptyFirst_of_tests hB hrow ht

/-- fact about the regenerated table: every look-ahead skips `Comment` and expects neither
    `Comment` nor `Other` -/
theorem C16_lookaheads_skip_comment : Spec.lookaheadsSkipComment Gen.parserTable = true := by kdecide
/-- fact about the regenerated table: in every state that reads a `#` line as a comment, the
    comment branch is unguarded and only builds (possibly opening a `Description`), and the state
    it leads to offers a title, step, tag, table-row or delimiter line the same tests with the same
    guards, targets and productions up to `Description` start/end -/
theorem C16_comment_before_fact : Spec.commentBefore Gen.parserTable = true := by kdecide

/-- Whole run: insert a comment line directly before a structural line `k`, at a point where the
    run (over `pre`, reaching `s'` with events `e1`) reads a comment as a comment (every state
    but doc-string content).  Either `k` is unexpected with and without the comment, or both runs
    succeed or fail together, end in the same state, and — `Description` start/end brackets
    aside — the run with the comment has exactly one more event, `build Comment`, at the
    insertion point. -/
theorem C16_comment_before_abs (T : Table) (hC : Spec.commentBefore T = true)
    (hL : Spec.lookaheadsSkipComment T = true) (s : Nat) (pre : List Kind) (k : Kind) (post : List Kind)
    (hk : k ∈ Spec.structural) (s' : Nat) (e1 : List Ev)
    (hp : runPrefix T s pre (k :: post) = some (s', e1)) (hs : Spec.commentFirst T s' = true) :
    (runAbs T s (pre ++ k :: post) = none ∧ runAbs T s (pre ++ .Comment :: k :: post) = none) ∨
    ∃ sf evs evs' rest, runAbs T s (pre ++ k :: post) = some (sf, evs) ∧
      runAbs T s (pre ++ .Comment :: k :: post) = some (sf, evs') ∧
      dropDescrEv evs = dropDescrEv e1 ++ rest ∧
      dropDescrEv evs' = dropDescrEv e1 ++ .build .Comment :: rest :=
  runAbs_insert_comment_events hC hL s pre k post hk s' e1 hp hs

/-- … with the branches named: the comment is consumed by `c`, the line `k` by `b` without and
    by `b'` with the comment, and `b'` has the test, guard, target and productions of `b` up to
    `Description` brackets. -/
theorem C16_comment_before_branches (T : Table) (hC : Spec.commentBefore T = true)
    (hL : Spec.lookaheadsSkipComment T = true) (s : Nat) (pre : List Kind) (k : Kind) (post : List Kind)
    (hk : k ∈ Spec.structural) (s' : Nat) (e1 : List Ev)
    (hp : runPrefix T s pre (k :: post) = some (s', e1)) (hs : Spec.commentFirst T s' = true) :
    (runAbs T s (pre ++ k :: post) = none ∧ runAbs T s (pre ++ .Comment :: k :: post) = none) ∨
    ∃ c b b' : Branch, c.kind = .Comment ∧ Spec.dropDescr c.prods = [.build] ∧
      Spec.branchView b' = Spec.branchView b ∧
      runAbs T s (pre ++ k :: post) =
        (runAbs T b.target post).map (fun r => (r.1, e1 ++ (prodEvents b.kind b.prods ++ r.2))) ∧
      runAbs T s (pre ++ .Comment :: k :: post) =
        (runAbs T b.target post).map
          (fun r => (r.1, e1 ++ (prodEvents .Comment c.prods ++ (prodEvents b.kind b'.prods ++ r.2)))) :=
  runAbs_insert_comment hC hL s pre k post hk s' e1 hp hs

def C16_en : MState := { defaultName := lit "en", name := lit "en", dialect := Gen.d_en }
def C16_fr : MState := { defaultName := lit "fr", name := lit "fr", dialect := Gen.d_fr }

/-- the hypotheses of the per-line theorems hold of an ordinary step line … -/
example : stepTailFreeB C16_en.dialect.stepKeywords (lit "  Given a step") = true := by
  lit_lists
  kdecide

/-- … and the conclusion is not trivial: CRLF line, indented, matched with column 3, text "a step" -/
example :
    let l := lit "  Given a step  \r\n"
    let o := matchLine [] .StepLine C16_en (withLine { line := none, lineNo := 7 } l) l
    isMatched o.res = true ∧ o.tok.col = some 3 ∧ o.tok.text = some (lit "a step") ∧
      o.tok.keyword = some (lit "Given ") := by
  lit_lists
  kdecide

/-- COUNTEREXAMPLE to unconditional trailing-blank invariance of step lines (French):
    "Etant donné que" is the step "Etant donné " + "que"; with one trailing blank it is the step
    "Etant donné que " + "" … -/
example :
    let l1 := lit "Etant donné que\n"
    let l2 := lit "Etant donné que \n"
    let o1 := matchLine [] .StepLine C16_fr (withLine { line := none, lineNo := 1 } l1) l1
    let o2 := matchLine [] .StepLine C16_fr (withLine { line := none, lineNo := 1 } l2) l2
    (o1.tok.keyword, o1.tok.text) = (some (lit "Etant donné "), some (lit "que")) ∧
    (o2.tok.keyword, o2.tok.text) = (some (lit "Etant donné que "), some []) := by
  lit_lists
  kdecide

/-- … and the hypothesis `StepTailFree` excludes exactly this line. -/
example : stepTailFreeB C16_fr.dialect.stepKeywords (lit "Etant donné que") = false := by
  lit_lists
  kdecide

/-- a line that is exactly a keyword without its blank is not a step; with the blank it is -/
example :
    isMatched (matchLine [] .StepLine C16_en (withLine { line := none, lineNo := 1 } (lit "Given\n")) (lit "Given\n")).res = false ∧
    isMatched (matchLine [] .StepLine C16_en (withLine { line := none, lineNo := 1 } (lit "Given \n")) (lit "Given \n")).res = true := by
  lit_lists
  kdecide

/-- indentation: a tag line moved right by two columns -/
example :
    let o1 := matchLine [] .TagLine C16_en (withLine { line := none, lineNo := 1 } (lit "@a @b\n")) (lit "@a @b\n")
    let o2 := matchLine [] .TagLine C16_en (withLine { line := none, lineNo := 1 } (lit "  @a @b\n")) (lit "  @a @b\n")
    o1.tok.items = [(1, lit "@a"), (4, lit "@b")] ∧ o2.tok.items = [(3, lit "@a"), (6, lit "@b")] ∧
      o1.tok.col = some 1 ∧ o2.tok.col = some 3 := by
  lit_lists
  kdecide

/-- kind level: after a feature line (state 3) a blank line is read as `Empty` first and a comment
    as a comment; in a description (state 4) a blank line is description text -/
example : Spec.emptyFirst Gen.parserTable 3 = true ∧ Spec.commentFirst Gen.parserTable 3 = true ∧
    Spec.emptyFirst Gen.parserTable 4 = false := by kdecide

/-- a concrete accepted run and the same run with a blank line inserted after the feature line -/
example :
    (runAbs Gen.parserTable 0 [.FeatureLine, .ScenarioLine, .StepLine, .EOF]).isSome = true ∧
    (runAbs Gen.parserTable 0 [.FeatureLine, .Empty, .ScenarioLine, .StepLine, .EOF]).isSome = true := by
  kdecide

/-! ## shared by the whole-document parts (Props/C16Doc3–7): the context statement, and what the examples observe -/

/-- what the final contexts of the two runs have in common: the error list and the lines reported
    unexpected of the second are the renamed ones of the first; matcher state and id counter are
    equal -/
def C16_MappedContext (f : Spec.LocMap) (a b : Ctx) : Prop :=
  b.errors = a.errors.map (Spec.mapErr f) ∧ b.μ = a.μ ∧ b.ids = a.ids ∧ b.unexpected = a.unexpected.map f.ln

/-- the positions a reader of an outcome sees first: for a document those of the scenarios, their
    steps, step arguments and examples tables; for a rejection those of the errors -/
def C16_someLocs : Outcome → List Loc
  | .ok d => (d.feature.map fun x => x.children.flatMap fun c => match c with
      | .scenario s => s.loc :: (s.steps.flatMap fun st => st.loc :: (match st.arg with
          | .none => [] | .table t => t.rows.map (·.loc) | .doc ds => [ds.loc])) ++
          s.examples.flatMap fun e => e.loc :: e.body.map (·.loc)
      | _ => []).getD []
  | .rejected es _ => es.map (·.loc)
  | _ => []

/-- what is not a position: comment texts, the feature description, doc-string contents -/
def C16_texts : Outcome → List (List Str)
  | .ok d => [d.comments.map (·.text), (d.feature.map Feature.description).toList,
      (d.feature.map fun x => x.children.flatMap fun c => match c with
        | .scenario s => s.steps.filterMap fun st => match st.arg with | .doc ds => some ds.content | _ => none
        | _ => []).getD []]
  | _ => []

def C16_commentsOf : Outcome → List (Loc × Str)
  | .ok d => d.comments.map fun c => (c.loc, c.text)
  | _ => []

def C16_scenarioDescr : Outcome → List Str
  | .ok d => (d.feature.map fun x => x.children.filterMap fun c => match c with
      | .scenario s => some s.description | _ => none).getD []
  | _ => []

/-- a feature with a description, a scenario whose description starts with a comment -/
def C16_descDoc : Str := lit "Feature: f\n  free text\nScenario: s\n  # old\n  more\n  Given x\n"

end GV
