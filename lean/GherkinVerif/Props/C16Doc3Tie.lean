/-
  Props/C16Doc3Tie.lean — the Boolean hypotheses the model driver evaluates (Spec/LayoutChecks.lean,
  op `layoutok`) ARE the hypotheses of `C16_blank_line_text` / `C16_indent_document_check`; so on every
  input where the driver answers `true` the theorem's conclusion holds of the model, and the
  correspondence check demands it of the implementation.
-/
import GherkinVerif.Props.C16Doc3
import GherkinVerif.Spec.LayoutChecks
namespace GV
open Lemmas Layout3

theorem C16_blankLineOk_eq (stop : Bool) (μ : MState) (ids : Nat) (src : Str) (k : Nat) :
    Spec.blankLineOkB Gen.dialects Gen.parserTable stop μ ids src k = C16_blankLineOk stop μ ids src k := rfl

theorem C16_indentable_eq (K : Kind) : Spec.indentableB K = indentable K := Layout7.indentableB_eq K

theorem C16_indentOk_eq (stop : Bool) (μ : MState) (ids : Nat) (src' src : Str) :
    Spec.indentOkB Gen.dialects Gen.parserTable stop μ ids src' src = C16_indentOk stop μ ids src' src := by
  unfold Spec.indentOkB C16_indentOk
  have h : Spec.indentableB = indentable := funext C16_indentable_eq
  rw [h]
  rfl

/-- what the driver's `true` means, indentation: the outcome of the indented text is the renamed
    outcome of the original -/
theorem C16_driver_indent (stop : Bool) (μ : MState) (ids : Nat) (src src' : Str)
    (h : Spec.indentOkB Gen.dialects Gen.parserTable stop μ ids src' src = true)
    (hμ : (μ.reset Gen.dialects).dialect ∈ Gen.dialects) :
    (parseWith Gen.dialects Gen.parserTable stop μ ids src').1 =
      Spec.mapOutcome (Spec.indentMap (Spec.shiftB src' src)) (parseWith Gen.dialects Gen.parserTable stop μ ids src).1 :=
  C16_indent_document_check stop μ ids src src' (by rw [← C16_indentOk_eq]; exact h) hμ

end GV
