/-
  Props/C05.lean — property C05: every keyword of every dialect is recognised in its role;
  foreign ones are not.  Property theorems only; helper lemmas live in Lemmas/Keywords.lean, the
  Boolean table facts in Spec/DialectFacts.lean.  Facts about the regenerated dialect table
  `Gen.dialects` are evaluated by the kernel (`kdecide`; so they are re-checked whenever
  gherkin-languages.json changes; `keywordFacts`, which other properties use too, follows in
  Lemmas/FactsDialects.lean from the two checkers evaluated there) and lifted to all indentations /
  titles by the generic lemmas.

  Conventions: a line is a list of code points; `ws` is any run of whitespace code points
  (`isSpace`, the 29 code points of `str.isspace`), `58` is `:`, `[42, 32]` is `"* "`.
  `Spec.noWsStart k` says `k` is empty or starts with a non-whitespace code point.
-/
import GherkinVerif.Lemmas.Keywords
import GherkinVerif.Spec.TableFacts
import GherkinVerif.Gen.Dialects
import GherkinVerif.Gen.DialectsMaster
import GherkinVerif.Gen.ParserTable
import GherkinVerif.KDecide
import GherkinVerif.Lemmas.FactsDialects
import GherkinVerif.Lemmas.Lit
namespace GV
open Spec

/-- Facts about the shipped dialect table, checked by the kernel on the regenerated table: no
    keyword is empty; none starts with whitespace, `#`, `@`, `|`, `"""` or three backticks; no
    title keyword contains `:`; dialect names are distinct; the only step keyword listed more than
    once in a dialect is `"* "`, and `"* "` is never listed exactly once; no step keyword clashes
    with a title keyword + `:`; no title keyword + `:` of one line kind prefixes one of another. -/
theorem C05_dialect_facts : Spec.keywordFacts Gen.dialects = true := Facts.keywordFacts_dialects

/-- Generic title-line lemma: in a keyword list none of whose members contains `:`, the line
    `ws ++ k ++ ":" ++ rest` (any whitespace indentation `ws`, any `rest`, possibly ending in
    CR/LF) is matched for every listed `k` that does not start with whitespace; the keyword
    reported is exactly `k` — whatever the order of the list and whatever other keywords are
    prefixes of `k` — and the text is `rest` with surrounding whitespace removed. -/
theorem C05_title (μ : MState) (t : Token) (ty : Kind) (kws : List Str) (ws k rest : Str)
    (hk : k ∈ kws) (hcf : ∀ k' ∈ kws, 58 ∉ k') (hws : ∀ c ∈ ws, isSpace c = true)
    (hns : noWsStart k = true) :
    matchTitle μ t (ws ++ k ++ [58] ++ rest) ty kws =
      some (setMatched μ t ty (text := some (strip rest)) (keyword := some k)) :=
  Lemmas.matchTitle_keyword μ t ty kws ws k rest hk hcf hws hns

/-- The fields of that token when the token is the line itself: kind, keyword exactly `k`, text
    the trimmed remainder (the later `rstrip("\r\n")` changes nothing), column `|ws| + 1`, the
    dialect in force; line and line number untouched. -/
theorem C05_title_token (μ : MState) (t : Token) (ty : Kind) (ws k rest : Str)
    (hws : ∀ c ∈ ws, isSpace c = true) (hns : noWsStart k = true)
    (hl : t.line = some (ws ++ k ++ [58] ++ rest)) :
    let t' := setMatched μ t ty (text := some (strip rest)) (keyword := some k)
    t'.mtype = some ty ∧ t'.keyword = some k ∧ t'.text = some (strip rest) ∧
    t'.col = some (ws.length + 1) ∧ t'.dialect = μ.name ∧ t'.line = t.line ∧ t'.lineNo = t.lineNo :=
  Lemmas.title_token_fields μ t ty ws k rest hws hns hl

/-- Every dialect of the shipped table, every title line kind, every keyword listed for that
    kind (`Dialect.roleKeywords`: feature / rule / background / scenario then scenario outline /
    examples), every indentation, every title: `match_<Kind>` succeeds with that keyword and the
    trimmed title, and leaves the matcher state alone. -/
theorem C05_title_role (D : List Dialect) (ty : Kind) (hty : ty.isTitle = true) (μ : MState)
    (hμ : μ.dialect ∈ Gen.dialects) (t : Token) (ws k rest : Str)
    (hk : k ∈ μ.dialect.roleKeywords ty) (hws : ∀ c ∈ ws, isSpace c = true) :
    matchLine D ty μ t (ws ++ k ++ [58] ++ rest) =
      ⟨setMatched μ t ty (text := some (strip rest)) (keyword := some k), μ, .matched⟩ :=
  Lemmas.title_in_table D Gen.dialects C05_dialect_facts ty hty μ hμ t ws k rest hk hws

theorem C05_title_feature (D : List Dialect) (μ : MState) (hμ : μ.dialect ∈ Gen.dialects) (t : Token)
    (ws k rest : Str) (hk : k ∈ μ.dialect.feature) (hws : ∀ c ∈ ws, isSpace c = true) :
    matchLine D .FeatureLine μ t (ws ++ k ++ [58] ++ rest) =
      ⟨setMatched μ t .FeatureLine (text := some (strip rest)) (keyword := some k), μ, .matched⟩ :=
  C05_title_role D .FeatureLine rfl μ hμ t ws k rest hk hws

theorem C05_title_rule (D : List Dialect) (μ : MState) (hμ : μ.dialect ∈ Gen.dialects) (t : Token)
    (ws k rest : Str) (hk : k ∈ μ.dialect.rule) (hws : ∀ c ∈ ws, isSpace c = true) :
    matchLine D .RuleLine μ t (ws ++ k ++ [58] ++ rest) =
      ⟨setMatched μ t .RuleLine (text := some (strip rest)) (keyword := some k), μ, .matched⟩ :=
  C05_title_role D .RuleLine rfl μ hμ t ws k rest hk hws

theorem C05_title_background (D : List Dialect) (μ : MState) (hμ : μ.dialect ∈ Gen.dialects) (t : Token)
    (ws k rest : Str) (hk : k ∈ μ.dialect.background) (hws : ∀ c ∈ ws, isSpace c = true) :
    matchLine D .BackgroundLine μ t (ws ++ k ++ [58] ++ rest) =
      ⟨setMatched μ t .BackgroundLine (text := some (strip rest)) (keyword := some k), μ, .matched⟩ :=
  C05_title_role D .BackgroundLine rfl μ hμ t ws k rest hk hws

theorem C05_title_scenario (D : List Dialect) (μ : MState) (hμ : μ.dialect ∈ Gen.dialects) (t : Token)
    (ws k rest : Str) (hk : k ∈ μ.dialect.scenario) (hws : ∀ c ∈ ws, isSpace c = true) :
    matchLine D .ScenarioLine μ t (ws ++ k ++ [58] ++ rest) =
      ⟨setMatched μ t .ScenarioLine (text := some (strip rest)) (keyword := some k), μ, .matched⟩ :=
  C05_title_role D .ScenarioLine rfl μ hμ t ws k rest (List.mem_append_left _ hk) hws

/-- scenario-outline keywords are tried after the scenario keywords and still reported verbatim -/
theorem C05_title_scenarioOutline (D : List Dialect) (μ : MState) (hμ : μ.dialect ∈ Gen.dialects)
    (t : Token) (ws k rest : Str) (hk : k ∈ μ.dialect.scenarioOutline) (hws : ∀ c ∈ ws, isSpace c = true) :
    matchLine D .ScenarioLine μ t (ws ++ k ++ [58] ++ rest) =
      ⟨setMatched μ t .ScenarioLine (text := some (strip rest)) (keyword := some k), μ, .matched⟩ :=
  C05_title_role D .ScenarioLine rfl μ hμ t ws k rest (List.mem_append_right _ hk) hws

theorem C05_title_examples (D : List Dialect) (μ : MState) (hμ : μ.dialect ∈ Gen.dialects) (t : Token)
    (ws k rest : Str) (hk : k ∈ μ.dialect.examples) (hws : ∀ c ∈ ws, isSpace c = true) :
    matchLine D .ExamplesLine μ t (ws ++ k ++ [58] ++ rest) =
      ⟨setMatched μ t .ExamplesLine (text := some (strip rest)) (keyword := some k), μ, .matched⟩ :=
  C05_title_role D .ExamplesLine rfl μ hμ t ws k rest hk hws

/-- Steps, for every dialect and line: either the step keywords `given ++ when ++ then ++ and ++
    but` split as `pre ++ kw :: post` where `kw` prefixes the trimmed line and no keyword of
    `pre` does — then `match_StepLine` succeeds, reports `kw` (the FIRST listed prefixing keyword),
    the trimmed rest as text and `kw`'s keyword type — or no step keyword prefixes the trimmed
    line and `match_StepLine` fails.  (So `match_StepLine` matches iff some step keyword prefixes
    the trimmed line; a keyword shadowed by an earlier prefix of it is never reported.) -/
theorem C05_step_first_prefix (D : List Dialect) (μ : MState) (t : Token) (l : Str) :
    (∃ pre kw post, μ.dialect.stepKeywords = pre ++ kw :: post ∧ startsWith kw (trimmed l) = true ∧
      (∀ k' ∈ pre, startsWith k' (trimmed l) = false) ∧
      matchLine D .StepLine μ t l =
        ⟨setMatched μ t .StepLine (text := some (strip ((trimmed l).drop kw.length))) (keyword := some kw)
          (ktype := some (stepKType μ.dialect kw)), μ, .matched⟩) ∨
    ((∀ k ∈ μ.dialect.stepKeywords, startsWith k (trimmed l) = false) ∧
      matchLine D .StepLine μ t l = ⟨t, μ, .no⟩) :=
  Lemmas.matchLine_step_cases D μ t l

/-- The same read forwards: whenever `kw` is the first listed step keyword prefixing the trimmed
    line, that is the outcome. -/
theorem C05_step_first_prefix_intro (D : List Dialect) (μ : MState) (t : Token) (l : Str)
    (pre post : List Str) (kw : Str) (hsplit : μ.dialect.stepKeywords = pre ++ kw :: post)
    (hkw : startsWith kw (trimmed l) = true) (hpre : ∀ k' ∈ pre, startsWith k' (trimmed l) = false) :
    matchLine D .StepLine μ t l =
      ⟨setMatched μ t .StepLine (text := some (strip ((trimmed l).drop kw.length))) (keyword := some kw)
        (ktype := some (stepKType μ.dialect kw)), μ, .matched⟩ :=
  Lemmas.matchLine_step_first D μ t l pre post kw hsplit hkw hpre

/-- A step line written out, `ws ++ kw ++ rest` with `kw` a non-empty listed keyword not starting
    with whitespace and no earlier listed keyword prefixing `kw ++ rest`: keyword `kw`, text
    `strip rest`. -/
theorem C05_step_line (D : List Dialect) (μ : MState) (t : Token) (ws kw rest : Str)
    (pre post : List Str) (hsplit : μ.dialect.stepKeywords = pre ++ kw :: post)
    (hws : ∀ c ∈ ws, isSpace c = true) (hns : noWsStart kw = true) (hne : kw ≠ [])
    (hpre : ∀ k' ∈ pre, startsWith k' (kw ++ rest) = false) :
    matchLine D .StepLine μ t (ws ++ kw ++ rest) =
      ⟨setMatched μ t .StepLine (text := some (strip rest)) (keyword := some kw)
        (ktype := some (stepKType μ.dialect kw)), μ, .matched⟩ :=
  Lemmas.matchLine_step_line D μ t ws kw rest pre post hsplit hws hns hne hpre

/-- … and the fields of that token: kind, keyword, text, keyword type, column `|ws| + 1`. -/
theorem C05_step_token (μ : MState) (t : Token) (ws kw rest : Str) (kt : KType)
    (hws : ∀ c ∈ ws, isSpace c = true) (hns : noWsStart kw = true) (hne : kw ≠ [])
    (hl : t.line = some (ws ++ kw ++ rest)) :
    let t' := setMatched μ t .StepLine (text := some (strip rest)) (keyword := some kw) (ktype := some kt)
    t'.mtype = some .StepLine ∧ t'.keyword = some kw ∧ t'.text = some (strip rest) ∧
    t'.ktype = some kt ∧ t'.col = some (ws.length + 1) :=
  Lemmas.step_token_fields μ t ws kw rest kt hws hns hne hl

/-- Keyword type, any dialect: a keyword listed exactly once across the five step lists has the
    type of the list it is in — Context / Action / Outcome / Conjunction for given / when / then /
    and or but. -/
theorem C05_keyword_type (d : Dialect) (kw : Str) (h : stepCount d kw = 1) :
    (kw ∈ d.given → stepKType d kw = .Context) ∧ (kw ∈ d.when_ → stepKType d kw = .Action) ∧
    (kw ∈ d.then_ → stepKType d kw = .Outcome) ∧
    (kw ∈ d.and_ ∨ kw ∈ d.but_ → stepKType d kw = .Conjunction) :=
  Lemmas.stepKType_once d kw h

theorem C05_keyword_type_unknown (d : Dialect) (kw : Str) (h : stepCount d kw ≠ 1) :
    stepKType d kw = .Unknown :=
  Lemmas.stepKType_not_once d kw h

/-- In every dialect of the shipped table the only step keyword listed more than once is `"* "`:
    every other listed step keyword has its category's type, and `"* "` is `Unknown` everywhere. -/
theorem C05_keyword_type_table (d : Dialect) (hd : d ∈ Gen.dialects) (kw : Str) :
    (kw ≠ [42, 32] →
      (kw ∈ d.given → stepKType d kw = .Context) ∧ (kw ∈ d.when_ → stepKType d kw = .Action) ∧
      (kw ∈ d.then_ → stepKType d kw = .Outcome) ∧
      (kw ∈ d.and_ ∨ kw ∈ d.but_ → stepKType d kw = .Conjunction)) ∧
    stepKType d [42, 32] = .Unknown :=
  Lemmas.ktype_in_table Gen.dialects C05_dialect_facts d hd kw

/-- Foreign words are plain text: if no title keyword of the dialect in force followed by `:`
    and no step keyword of it prefixes the trimmed line, none of the five title kinds nor
    `StepLine` matches (token and matcher untouched) — whatever other dialects list. -/
theorem C05_foreign_plain (D : List Dialect) (μ : MState) (t : Token) (l : Str)
    (htitle : ∀ k ∈ μ.dialect.titleKeywords, startsWith (k ++ [58]) (trimmed l) = false)
    (hstep : ∀ k ∈ μ.dialect.stepKeywords, startsWith k (trimmed l) = false)
    (ty : Kind) (hty : ty.isTitle = true ∨ ty = .StepLine) :
    matchLine D ty μ t l = ⟨t, μ, .no⟩ :=
  Lemmas.matchLine_foreign D μ t l htitle hstep ty hty

/-- Conversely a title kind matches only through a keyword of its own role in the dialect in
    force: either it matches, with such a keyword + `:` prefixing the trimmed line and reported,
    or no keyword of the role + `:` prefixes the trimmed line and it does not match. -/
theorem C05_title_only_own_keywords (D : List Dialect) (ty : Kind) (hty : ty.isTitle = true)
    (μ : MState) (t : Token) (l : Str) :
    (∃ t', matchLine D ty μ t l = ⟨t', μ, .matched⟩ ∧
      ∃ k ∈ μ.dialect.roleKeywords ty, startsWith (k ++ [58]) (trimmed l) = true ∧
        t'.keyword = some k ∧ t'.dialect = μ.name ∧ t'.mtype = some ty) ∨
    (matchLine D ty μ t l = ⟨t, μ, .no⟩ ∧
      ∀ k ∈ μ.dialect.roleKeywords ty, startsWith (k ++ [58]) (trimmed l) = false) :=
  Lemmas.matchLine_title_matched D ty hty μ t l

/-- In a dialect of the shipped table a line is at most one of: step, feature, rule, background,
    scenario, examples line — if `match_<ty1>` succeeds then `match_<ty2>` fails for every other
    of these kinds (the keyword part of `C02_kind_unique`, Props/C02Text.lean; facts: no step keyword and title keyword +
    `:` prefix one another, no title keyword + `:` prefixes one of another line kind). -/
theorem C05_keyword_kinds_exclusive (D : List Dialect) (μ : MState) (hμ : μ.dialect ∈ Gen.dialects)
    (t : Token) (l : Str) (ty1 ty2 : Kind)
    (h1 : ty1.isTitle = true ∨ ty1 = .StepLine) (h2 : ty2.isTitle = true ∨ ty2 = .StepLine)
    (hne : ty1 ≠ ty2) (t' : Token) (μ' : MState) (hm : matchLine D ty1 μ t l = ⟨t', μ', .matched⟩) :
    matchLine D ty2 μ t l = ⟨t, μ, .no⟩ :=
  Lemmas.keyword_kinds_exclusive D Gen.dialects C05_dialect_facts μ hμ t l ty1 ty2 h1 h2 hne t' μ' hm

/-- The language-header pattern: `# language : name` with arbitrary whitespace before `#`,
    after it, around `:` and at the end (line break included) yields `name`, for every non-empty
    `name` over `[a-zA-Z_-]`. -/
theorem C05_language_header (w1 w2 w3 w4 w5 name : Str)
    (h1 : ∀ c ∈ w1, isSpace c = true) (h2 : ∀ c ∈ w2, isSpace c = true)
    (h3 : ∀ c ∈ w3, isSpace c = true) (h4 : ∀ c ∈ w4, isSpace c = true)
    (h5 : ∀ c ∈ w5, isSpace c = true) (hne : name ≠ []) (hn : ∀ c ∈ name, isLangChar c = true) :
    languageRe (w1 ++ [35] ++ w2 ++ lit "language" ++ w3 ++ [58] ++ w4 ++ name ++ w5) = some name :=
  Lemmas.languageRe_header w1 w2 w3 w4 w5 name h1 h2 h3 h4 h5 hne hn

/-- A header naming a dialect of the table switches the matcher's name and dialect to it (the
    token is a Language token whose text is the name, stamped with the dialect in force before). -/
theorem C05_language_switch (D : List Dialect) (μ : MState) (t : Token) (l name : Str) (d : Dialect)
    (h : languageRe l = some name) (hd : findDialect D name = some d) :
    matchLine D .Language μ t l =
      ⟨setMatched μ t .Language (text := some name), { μ with name := name, dialect := d }, .matched⟩ :=
  Lemmas.matchLine_language_known D μ t l name d h hd

/-- A header naming no dialect of the table raises `NoSuchLanguage` located at the header
    (its line, column indent + 1) and leaves the matcher's dialect unchanged. -/
theorem C05_language_unknown (D : List Dialect) (μ : MState) (t : Token) (l name : Str)
    (h : languageRe l = some name) (hd : findDialect D name = none) (hl : t.line = some l) :
    matchLine D .Language μ t l =
      ⟨setMatched μ t .Language (text := some name), μ,
        .raised ⟨.noSuchLanguage, ⟨t.lineNo, some (lineIndent l + 1)⟩, lit "Language not supported: " ++ name⟩⟩ :=
  Lemmas.matchLine_language_unknown D μ t l name h hd hl

theorem C05_language_no_header (D : List Dialect) (μ : MState) (t : Token) (l : Str)
    (h : languageRe l = none) : matchLine D .Language μ t l = ⟨t, μ, .no⟩ :=
  Lemmas.matchLine_language_no D μ t l h

/-- Looking a name up yields a dialect of the table with that name, and fails only if there is
    none; in the shipped table names are distinct, so each dialect is found under its name. -/
theorem C05_language_lookup (D : List Dialect) (name : Str) :
    (∀ d, findDialect D name = some d → d ∈ D ∧ d.name = name) ∧
    (findDialect D name = none ↔ ∀ d ∈ D, d.name ≠ name) :=
  ⟨Lemmas.findDialect_some D name, Lemmas.findDialect_none D name⟩

theorem C05_language_lookup_table (d : Dialect) (hd : d ∈ Gen.dialects) :
    findDialect Gen.dialects d.name = some d :=
  Lemmas.findDialect_of_mem Gen.dialects (Lemmas.keywordFacts_spec C05_dialect_facts).2.2.2.1 d hd

/-- The header is honoured only at the top of the document: in the regenerated parser table
    `match_Language` is tested in state 0 only. -/
theorem C05_language_only_at_start : Spec.languageOnlyAtStart Gen.parserTable = true := by
  kdecide

/-- A matched title token (in particular the Feature line, from which the AST takes `language`)
    carries the dialect in force, the matcher is unchanged, and its keyword is one listed for
    that line kind in the dialect in force. -/
theorem C05_dialect_reported (D : List Dialect) (ty : Kind) (hty : ty.isTitle = true) (μ μ' : MState)
    (t t' : Token) (l : Str) (h : matchLine D ty μ t l = ⟨t', μ', .matched⟩) :
    t'.dialect = μ.name ∧ μ' = μ ∧ t'.mtype = some ty ∧
    ∃ k ∈ μ.dialect.roleKeywords ty, t'.keyword = some k :=
  Lemmas.matchLine_title_dialect D ty hty μ μ' t t' l h

/-- The language table shipped with the package is identical to the repository's master table
    (the kernel unfolds the two generated tables and compares them). -/
theorem C05_tables_identical : Gen.dialects = GenMaster.dialects := rfl

/-- French feature line under the French dialect: keyword verbatim, trimmed title, column 3. -/
example :
    ((MState.init Gen.dialects (lit "fr")).map fun μ =>
      let l := lit "  Fonctionnalité:  Un titre \r\n"
      let o := matchLine Gen.dialects .FeatureLine μ ⟨some l, 1, none, none, none, none, none, 0, [], []⟩ l
      (o.tok.keyword, o.tok.text, o.tok.col, o.tok.dialect)) =
    some (some (lit "Fonctionnalité"), some (lit "Un titre"), some 3, lit "fr") := by
  lit_lists
  kdecide

/-- The same line under English is plain text: no title kind, no step. -/
example :
    ((MState.init Gen.dialects (lit "en")).map fun μ =>
      let l := lit "  Fonctionnalité:  Un titre \r\n"
      let t : Token := ⟨some l, 1, none, none, none, none, none, 0, [], []⟩
      [Kind.FeatureLine, .RuleLine, .BackgroundLine, .ScenarioLine, .ExamplesLine, .StepLine].map fun k =>
        (matchLine Gen.dialects k μ t l).tok.mtype) =
    some [none, none, none, none, none, none] := by
  lit_lists
  kdecide

/-- A shadowed keyword: Slovak lists `"A "` before `"A tiež "`, so the line is reported with
    `"A "`; `"* "` has type `Unknown`, `"Keď "` type `Action`. -/
example :
    ((MState.init Gen.dialects (lit "sk")).map fun μ =>
      [lit "A tiež niečo\n", lit "* niečo\n", lit " Keď niečo\n"].map fun l =>
        let o := matchLine Gen.dialects .StepLine μ ⟨some l, 1, none, none, none, none, none, 0, [], []⟩ l
        (o.tok.keyword, o.tok.text, o.tok.ktype)) =
    some [(some (lit "A "), some (lit "tiež niečo"), some .Conjunction),
          (some (lit "* "), some (lit "niečo"), some .Unknown),
          (some (lit "Keď "), some (lit "niečo"), some .Action)] := by
  lit_lists
  kdecide

/-- Informational (current table): ten step keywords are shadowed by an earlier listed prefix
    (`Spec.prefixClashes`), in the dialects en-old, ht and sk; by `C05_step_first_prefix` lines
    starting with them are reported with the shorter keyword. -/
example : (Gen.dialects.flatMap fun d => (prefixClashes d).map fun c => (d.name, c)).length = 10 ∧
    (Gen.dialects.filter fun d => !(prefixClashes d).isEmpty).map (·.name) =
      [lit "en-old", lit "ht", lit "sk"] := by
  kdecide

/-- A header switches the dialect; an unknown name is an error at the header. -/
example : languageRe (lit " #language :  pt-BR \n") = some (lit "pt-BR") := by
  lit_lists
  kdecide

example :
    ((MState.init Gen.dialects (lit "en")).map fun μ =>
      let l := lit "  # language: xx\n"
      match (matchLine Gen.dialects .Language μ ⟨some l, 7, none, none, none, none, none, 0, [], []⟩ l).res with
      | .raised e => some (e.kind, e.loc) | _ => none) =
    some (some (.noSuchLanguage, ⟨7, some 3⟩)) := by
  lit_lists
  kdecide

end GV
