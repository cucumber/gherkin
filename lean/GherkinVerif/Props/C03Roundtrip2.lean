/-
  Props/C03Roundtrip2.lean — property C03 "from the document outwards", the richer model: the core
  model of Props/C03Roundtrip.lean plus a DATA TABLE on a step.

  Model (Spec/Render2.lean): `MStep2 = (kw, text, table : List (List Str))`, `MScenario2`, `MFeature2`;
  `render2` writes a table row as `    | a | bb |` (the `|` at column 5, one blank on each side of a
  cell) under its step; `WF2 d m` = the core conditions plus `tableOK`: every row has as many cells
  as the first, at least one, and every cell is `cellOK` (no surrounding whitespace; none of `|`, `\`,
  LF; the empty cell is allowed).  `expectedDoc2`: the rows of a table draw their ids BEFORE their
  step (canonical order: rows, step, …, tags, scenario; feature tags last); row location column 5;
  a non-empty cell is located one column after the blank following `|`, an empty cell two columns
  after it (the matcher skips both blanks: `Spec.cellCols`).

  The round trip is the instance, by the embeddings of Lemmas/RoundtripEmbed.lean, of the simulation
  of the model with rules (`Lemmas.roundtrip2_pure`, Lemmas/Roundtrip5Doc.lean); the proof runs on
  `C03R_table` (Props/C03Roundtrip.lean); `C03R2_fact_table` records that this model's own checker
  `Lemmas.rt2Facts` (Lemmas/RoundtripFacts.lean), part of `Facts.rt4Facts_table`, holds.  Each
  clause of `tableOK` is shown necessary by a kernel-evaluated counterexample, except "at least one
  cell", which is sufficient but not necessary.
-/
import GherkinVerif.Props.C03Roundtrip
import GherkinVerif.Lemmas.Lit
namespace GV
open Spec

theorem C03R2_fact_table : Lemmas.rt2Facts Gen.parserTable = true :=
  Lemmas.rt2Facts_of_rt3Facts (Lemmas.rt3Facts_of_rt4Facts Facts.rt4Facts_table)

/-- a rendered table row is matched as a table row: every cell at its column with its text -/
theorem C03R2_row_line (D : List Dialect) (μ : MState) (cells : List Str) (h : ∀ c ∈ cells, cellOK c = true)
    (t : Token) (n : Nat) (hl : t.line = some (rowLineOf cells ++ [10])) (hno : t.lineNo = n) :
    matchLine D .TableRow μ t (rowLineOf cells ++ [10]) = ⟨Lemmas.rowTok μ n cells, μ, .matched⟩ :=
  Lemmas.row_match D μ cells h t n hl hno

theorem C03R2_row_line_exclusive (D : List Dialect) (μ : MState) (hμ : μ.dialect ∈ Gen.dialects)
    (hsep : μ.activeSep = none) (cells : List Str) (t : Token) (K : Kind) (hK : K ≠ .TableRow) (hO : K ≠ .Other) :
    matchLine D K μ t (rowLineOf cells ++ [10]) = ⟨t, μ, .no⟩ :=
  Lemmas.others_no C03R_fact_keywords C03R_fact_render D hμ hsep t _ (by decide) (by decide) (by decide)
    (by simp [matchLine, Lemmas.row_startsWith cells]) K hK hO

/-- **C03, round trip, steps with data tables.** -/
theorem C03_roundtrip2 (stop : Bool) (μ : MState)
    (hμ : (μ.reset Gen.dialects).dialect ∈ Gen.dialects) (ids : Nat) (m : MFeature2)
    (hwf : WF2 (μ.reset Gen.dialects).dialect m = true) :
    (parseWith Gen.dialects Gen.parserTable stop μ ids (render2 m)).1 =
      .ok (expectedDoc2 (μ.reset Gen.dialects).dialect (μ.reset Gen.dialects).name m ids) :=
  (C03R_of_pure hμ (Lemmas.roundtrip2_pure C03R_fact_keywords C03R_fact_render _ _ C03R_table stop μ hμ ids m hwf)).1

/-- … and the id counter afterwards: one id per table row, step, tag and scenario. -/
theorem C03_roundtrip2_counter (stop : Bool) (μ : MState)
    (hμ : (μ.reset Gen.dialects).dialect ∈ Gen.dialects) (ids : Nat) (m : MFeature2)
    (hwf : WF2 (μ.reset Gen.dialects).dialect m = true) :
    (parseWith Gen.dialects Gen.parserTable stop μ ids (render2 m)).2.ids = idsAfter2 m ids :=
  (C03R_of_pure hμ (Lemmas.roundtrip2_pure C03R_fact_keywords C03R_fact_render _ _ C03R_table stop μ hμ ids m hwf)).2

/-- the core model is the table-free part of the richer one: same text -/
theorem C03_roundtrip2_core (m : MFeature) : render2 m.toModel2 = render m := Lemmas.render2_toModel2 m

section examples

def C03R2_demo : MFeature2 := MFeature2.ofStrings ["@f"] "Feature" "F"
  [([], "Scenario", "one", [("Given ", "a", [["x", "yy"], ["", "1 2"]]), ("When ", "b", []), ("Then ", "c", [["q"]])]),
   (["@t"], "Scenario", "two", [("* ", "d", [["h"], ["v"], ["w"]])])]

/-- well formed, rendered literally, parsed (both modes, counter 7) to the expected document; the
    cells of `|  | 1 2 |` are reported at columns 8 (empty cell: both blanks skipped) and 10 -/
example : (MState.init Gen.dialects (lit "en")).map (fun μ =>
    (WF2 μ.dialect C03R2_demo,
     render2 C03R2_demo == lit "@f\nFeature: F\nScenario: one\n  Given a\n    | x | yy |\n    |  | 1 2 |\n  When b\n  Then c\n    | q |\n@t\nScenario: two\n  * d\n    | h |\n    | v |\n    | w |\n",
     decide (C03R_okDoc (parseWith Gen.dialects Gen.parserTable false μ 7 (render2 C03R2_demo)).1 =
       some (expectedDoc2 μ.dialect μ.name C03R2_demo 7)),
     decide (C03R_okDoc (parseWith Gen.dialects Gen.parserTable true μ 7 (render2 C03R2_demo)).1 =
       some (expectedDoc2 μ.dialect μ.name C03R2_demo 7)),
     (parseWith Gen.dialects Gen.parserTable true μ 7 (render2 C03R2_demo)).2.ids == idsAfter2 C03R2_demo 7,
     cellCols 6 [lit "", lit "1 2"] == [(8, []), (10, lit "1 2")])) =
    some (true, true, true, true, true, true) := by
  lit_lists
  kdecide

end examples

section necessity

def C03R2_variant (table : List (List String)) : Option (Bool × Bool) :=
  (MState.init Gen.dialects (lit "en")).map fun μ =>
    let m := MFeature2.ofStrings [] "Feature" "f" [([], "Scenario", "s", [("Given ", "x", table)])]
    (WF2 μ.dialect m,
     decide (C03R_okDoc (parseWith Gen.dialects Gen.parserTable false μ 0 (render2 m)).1 =
       some (expectedDoc2 μ.dialect μ.name m 0)))

/-- a rectangular table of clean cells round-trips -/
example : C03R2_variant [["a", "b"], ["c", ""]] = some (true, true) := by kdecide
/-- ragged rows: the builder raises -/
example : C03R2_variant [["a", "b"], ["c"]] = some (false, false) := by kdecide
/-- the clause "at least one cell" is SUFFICIENT, NOT NECESSARY: a row without cells renders as a
    lone `|`, is reported as a row without cells, and the expected AST agrees (not `WF2`, yet it
    round-trips) -/
example : C03R2_variant [[]] = some (false, true) := by kdecide
/-- a cell with a bar, an escape sequence, LF, or surrounding blanks does not round-trip -/
example : C03R2_variant [["a|b"]] = some (false, false) := by kdecide
example : C03R2_variant [["a\\nb"]] = some (false, false) := by kdecide
example : C03R2_variant [["a\nb"]] = some (false, false) := by kdecide
example : C03R2_variant [[" a"]] = some (false, false) := by kdecide
example : C03R2_variant [["a "]] = some (false, false) := by kdecide

end necessity

end GV
