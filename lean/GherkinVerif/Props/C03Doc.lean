/-
  Props/C03Doc.lean — document-level corollaries: the link `C03_parse_is_astOf` (Props/C03Parse.lean)
  composed with the per-line theorems of properties C04, C05, C13, for every ACCEPTED document
  (`(parseWith … false μ ids src).1 = .ok d`).  Each theorem reads a field of `Lemmas.parse_accepted`
  (Lemmas/ParseDoc.lean, `Accepted`: what is known of an accepted document — the tree of the link, the
  tokens line by line) or wraps a lemma proved from it: Lemmas/ParseLocs.lean (locations),
  Lemmas/ParseDocString.lean (doc strings, line form), Lemmas/ParseDocTree.lean +
  Lemmas/ParseDocNode.lean (doc strings, tree form), Lemmas/ParseLang.lean (feature language).

  Vocabulary of these statements:
  * `Spec.freshTok l n`: the token the scanner makes of the physical line `l`, the `n`-th line.
  * `Spec.LineToks D μ n ls toks μf` (inductive, Lemmas/ParseDoc.lean): `toks` are, line by line, the
    output tokens of a successful `match_<K>` on the fresh token of the line under the matcher
    state in force when the line is reached — starting with `μ` at line number `n`, moving on by
    `Spec.muAfter`, ending with `μf`; each state is one the matcher can be in (`dialect ∈ D`,
    `Spec.sepOK`); `K` is in the fallback chain of the line's intrinsic kind (`passes`); inside a
    doc string `K` is `DocStringSeparator`, or `Other` after the separator test failed.
  * `Spec.ElemAt dl l n loc` (Lemmas/ParseLocs.lean): `loc` is the location of an element carried by
    line `l`, the `n`-th line, under dialect `dl` (keyword line / step / row / delimiter at column
    indent + 1, where the source reads the keyword + `:` / step keyword / `|` / delimiter; a tag at
    the column of its `@`).  `Spec.LocOK lines loc`: `loc` is a position inside the document.
  * `Spec.DocBody sep ind ls toks k` (Lemmas/ParseDocString.lean): after an opening separator with
    delimiter `sep` on a line indented by `ind`: `k` content lines (read as `Other`, not starting
    with `sep`, text by the `C13_content_line` formula), then the closing separator line.
  * `Spec.DocSeq bs` (Lemmas/ParseDocTree.lean): the tokens `bs` are those of one doc string:
    `o :: (xs ++ c :: ys)` with `Spec.DocOpen o sep lo` (opening separator line `lo`, delimiter `sep`,
    media type as text), `Spec.DocLine sep (lineIndent lo) x` for the content tokens (read as `Other`,
    line not starting with `sep`, text `Spec.docLineText`), `Spec.DocClose sep c`, and
    `Spec.DocTrail y` (blank / comment lines after the closing separator).  `Spec.docNodesP P t`:
    every `DocString` node of `t` has as children exactly the leaves of some `bs` with `P bs`.
    Lemmas/ParseDocNode.lean: `Spec.DocSeqNo`, additionally the line numbers of `bs` are consecutive;
    `Spec.SubT`, subtree.
  * `Spec.nameAt dflt lines toks i` (Lemmas/ParseLang.lean): the dialect name in force at line `i`:
    the name in the last line before `i` read as a `# language:` header, else `dflt`.

  Mind (C13_in_document): the children of a `DocString` node are NOT always
  `[open] ++ content ++ [close]`: blank lines and comments that follow the closing
  separator are built into the still open `DocString` node (the states after the closing
  separator loop on `Comment` / `Empty` with a bare `build`): last example below.
-/
import GherkinVerif.Props.C03Parse
import GherkinVerif.Lemmas.ParseLocs
import GherkinVerif.Lemmas.ParseDocString
import GherkinVerif.Lemmas.ParseDocNode
import GherkinVerif.Lemmas.ParseLang
import GherkinVerif.KDecide
import GherkinVerif.Lemmas.FactsTable
import GherkinVerif.Lemmas.Lit
namespace GV
open Spec

/-- every doc-string content state is found by `row?` and its row is a content row (= `C13_content_rows`) -/
theorem C03D_fact_content_rows :
    ((Spec.contentStates Gen.parserTable).all fun s => (Gen.parserTable.row? s).any Spec.isContentRow) = true :=
  Facts.contentStates_rows

theorem C03_parse_tokens_generic (D : List Dialect) (T : Table) (G : Grammar) (fuel : Nat)
    (L : Lemmas.LinkFacts D T G fuel) (hB : Spec.oneBuildLast T = true)
    (hCR : ((Spec.contentStates T).all fun s => (T.row? s).any Spec.isContentRow) = true)
    (μ : MState) (ids : Nat) (src : Str) (hμ : (μ.reset D).dialect ∈ D) (d : Doc)
    (h : (parseWith D T false μ ids src).1 = .ok d) :
    ∃ toks e μf, (parseWith D T false μ ids src).2.builds = toks ++ [e] ∧
      LineToks D (μ.reset D) 1 (splitLines src) toks μf ∧ μf.inDocString = false ∧
      e.line = none ∧ e.mtype = some .EOF ∧ e.lineNo = (splitLines src).length + 1 :=
  let ⟨_, toks, e, μf, A⟩ := Lemmas.parse_accepted L hB hCR μ ids src hμ d h
  ⟨toks, e, μf, A.builds_eq, A.lineToks, A.closed, A.eof⟩

/-- **Tokens.**  For an accepted document the tokens handed to the builder (the leaves of the tree of
    `C03_parse_is_astOf`) are `toks ++ [e]`: `e` is the end-of-file token, numbered one more than
    the number of lines, and `toks` are line by line (`Spec.LineToks`, from the reset matcher state
    and line number 1) the matcher's output on the FRESH token of each physical line, under the
    matcher state in force at that line; the document does not end inside a doc string. -/
theorem C03_parse_tokens (μ : MState) (ids : Nat) (src : Str)
    (hμ : (μ.reset Gen.dialects).dialect ∈ Gen.dialects) (d : Doc)
    (h : (parseWith Gen.dialects Gen.parserTable false μ ids src).1 = .ok d) :
    ∃ toks e μf, (parseWith Gen.dialects Gen.parserTable false μ ids src).2.builds = toks ++ [e] ∧
      LineToks Gen.dialects (μ.reset Gen.dialects) 1 (splitLines src) toks μf ∧ μf.inDocString = false ∧
      e.line = none ∧ e.mtype = some .EOF ∧ e.lineNo = (splitLines src).length + 1 :=
  C03_parse_tokens_generic _ _ _ _ C03P_facts C03P_fact_builds C03D_fact_content_rows μ ids src hμ d h

/-- `LineToks`, read off at one line: for the `i`-th physical line `l` (0-based) there are a kind `K`
    and a matcher state `μᵢ` the matcher can be in such that `match_<K>` succeeds on the fresh token
    `⟨l, n + i⟩` under `μᵢ`, the `i`-th token is its output, its `mtype` is `K` (so `K` is the kind of
    the corresponding leaf of the tree's kind projection), and `K` is in the fallback chain of the
    line's intrinsic kind under `μᵢ`. -/
theorem C03_parse_tokens_at (D : List Dialect) (μ μf : MState) (n : Nat) (ls : List Str) (toks : List Token)
    (h : LineToks D μ n ls toks μf) (i : Nat) (l : Str) (hi : ls[i]? = some l) :
    ∃ K μi, μi.dialect ∈ D ∧ sepOK μi = true ∧
      (matchLine D K μi (freshTok l (n + i)) l).res = .matched ∧
      toks[i]? = some (matchLine D K μi (freshTok l (n + i)) l).tok ∧
      passes (intrinsicKind D μi l) K = true ∧
      (matchLine D K μi (freshTok l (n + i)) l).tok.mtype = some K :=
  Lemmas.LineToks.at h i l hi

theorem C03_parse_tokens_length (D : List Dialect) (μ μf : MState) (n : Nat) (ls : List Str) (toks : List Token)
    (h : LineToks D μ n ls toks μf) : toks.length = ls.length :=
  Lemmas.LineToks.length h

/-- **C04 at document level.**  For an accepted document: every element location of the AST
    (`Spec.srcLocs d`: features, rules, backgrounds, scenarios, examples blocks, steps, table rows,
    doc strings, tags) is `ElemAt dl l (i + 1) loc` for a physical line `l = lines[i]` and a dialect
    `dl` of the table — line number `i + 1`; column `indent + 1` where the source reads one of the
    dialect's keywords for the role followed by `:` / a step keyword / `|` / the doc-string
    delimiter; for a tag the column of its `@` (`Lemmas.title_col_list`, `step_col`, `docsep_col`,
    `row_col`, `tagline_tok`, `tag_cols` = `C04_title_col` … `C04_tag_cols`).  Every comment of
    `d.comments` is at column 1 of a line that starts (after blanks) with `#`, and its text is the
    whole line minus the line break (`C04_comment_col`). -/
theorem C04_ast_locations (μ : MState) (ids : Nat) (src : Str)
    (hμ : (μ.reset Gen.dialects).dialect ∈ Gen.dialects) (d : Doc)
    (h : (parseWith Gen.dialects Gen.parserTable false μ ids src).1 = .ok d) :
    (∀ loc ∈ srcLocs d, ∃ (i : Nat) (l : Str) (dl : Dialect), (splitLines src)[i]? = some l ∧ dl ∈ Gen.dialects ∧
      ElemAt dl l (i + 1) loc) ∧
    (∀ cm ∈ d.comments, ∃ (i : Nat) (l : Str), (splitLines src)[i]? = some l ∧ cm.loc = ⟨i + 1, some 1⟩ ∧
      cm.text = rstripCRLF l ∧ startsWith [35] (l.drop (lineIndent l)) = true) :=
  Lemmas.ast_locations C03P_facts C03P_fact_builds C03D_fact_content_rows μ ids src hμ d h

/-- … in particular every element location is a position inside the document: line `i + 1` of a
    physical line `i`, column after that line's indentation and within the line. -/
theorem C04_ast_locations_bounds (μ : MState) (ids : Nat) (src : Str)
    (hμ : (μ.reset Gen.dialects).dialect ∈ Gen.dialects) (d : Doc)
    (h : (parseWith Gen.dialects Gen.parserTable false μ ids src).1 = .ok d) :
    ∀ loc ∈ srcLocs d, LocOK (splitLines src) loc :=
  Lemmas.ast_locations_bounds C03P_facts C03P_fact_builds C03D_fact_content_rows μ ids src hμ d h

theorem C04_ast_locations_generic (D : List Dialect) (T : Table) (G : Grammar) (fuel : Nat)
    (L : Lemmas.LinkFacts D T G fuel) (hB : Spec.oneBuildLast T = true)
    (hCR : ((Spec.contentStates T).all fun s => (T.row? s).any Spec.isContentRow) = true)
    (μ : MState) (ids : Nat) (src : Str) (hμ : (μ.reset D).dialect ∈ D) (d : Doc)
    (h : (parseWith D T false μ ids src).1 = .ok d) :
    (∀ loc ∈ srcLocs d, ∃ (i : Nat) (l : Str) (dl : Dialect), (splitLines src)[i]? = some l ∧ dl ∈ D ∧
      ElemAt dl l (i + 1) loc) ∧
    (∀ cm ∈ d.comments, ∃ (i : Nat) (l : Str), (splitLines src)[i]? = some l ∧ cm.loc = ⟨i + 1, some 1⟩ ∧
      cm.text = rstripCRLF l ∧ startsWith [35] (l.drop (lineIndent l)) = true) :=
  Lemmas.ast_locations L hB hCR μ ids src hμ d h

/-- **C13 at document level, line form.**  In an accepted document, if the token of line `i` is an
    opening doc-string separator (`mtype = DocStringSeparator`, text set), then line `i` starts
    (after blanks) with a delimiter `sep` (`"""` or three backticks), which is the token's keyword,
    and the token's text is the media type (`C13_open`); then come `k` content lines, each read as
    `Other`, NOT starting with `sep` (`C13_only_own_delimiter`), with the text of
    `C13_content_line` under `sep` and the opening line's indentation; and line `i + 1 + k`
    starts with `sep` and is read as the closing separator (text `None`, keyword `sep`:
    `C13_resume`).  Whatever the content lines look like — keywords, tags, comments, table rows,
    blank lines, the other delimiter. -/
theorem C13_in_document_lines (μ : MState) (ids : Nat) (src : Str)
    (hμ : (μ.reset Gen.dialects).dialect ∈ Gen.dialects) (d : Doc)
    (h : (parseWith Gen.dialects Gen.parserTable false μ ids src).1 = .ok d) :
    ∃ toks e, (parseWith Gen.dialects Gen.parserTable false μ ids src).2.builds = toks ++ [e] ∧
      ∀ (i : Nat) (tk : Token), toks[i]? = some tk → tk.mtype = some .DocStringSeparator → tk.text.isSome = true →
        ∃ l sep k, (splitLines src)[i]? = some l ∧ (sep = dq3 ∨ sep = bt3) ∧ startsWith sep (trimmed l) = true ∧
          tk.keyword = some sep ∧ tk.text = some (rstripCRLF (strip ((trimmed l).drop 3))) ∧
          DocBody sep (lineIndent l) ((splitLines src).drop (i + 1)) (toks.drop (i + 1)) k := by
  obtain ⟨toks, e, μf, hb, hlt, hf, -⟩ := C03_parse_tokens μ ids src hμ d h
  exact ⟨toks, e, hb, fun i tk hi hk ho => Lemmas.docstring_lines hlt hf i tk hi hk ho⟩

theorem C13_in_document_lines_generic (D : List Dialect) (μ μf : MState) (lines : List Str) (toks : List Token)
    (h : LineToks D μ 1 lines toks μf) (hf : μf.inDocString = false) (i : Nat) (tk : Token)
    (hi : toks[i]? = some tk) (hk : tk.mtype = some .DocStringSeparator) (hopen : tk.text.isSome = true) :
    ∃ l sep k, lines[i]? = some l ∧ (sep = dq3 ∨ sep = bt3) ∧ startsWith sep (trimmed l) = true ∧
      tk.keyword = some sep ∧ tk.text = some (rstripCRLF (strip ((trimmed l).drop 3))) ∧
      DocBody sep (lineIndent l) (lines.drop (i + 1)) (toks.drop (i + 1)) k :=
  Lemmas.docstring_lines h hf i tk hi hk hopen

/-- after a closing separator every test starts with an `end_rule` or is a build-only `Comment` /
    `Empty` loop -/
theorem C03D_fact_doc_body : Spec.docBodyFacts Gen.parserTable = true := by kdecide
/-- `start_rule(DocString)` is always directly followed by the `build` that ends the production list -/
theorem C03D_fact_doc_start : Spec.docStartFacts Gen.parserTable = true := by kdecide

theorem C03D_doc_facts : Lemmas.DocFacts Gen.dialects Gen.parserTable :=
  ⟨C03P_fact_dialects, C03P_fact_content, C03D_fact_content_rows, C03P_fact_doc_opens, C03D_fact_doc_body,
   C03D_fact_doc_start⟩

/-- **C13 at document level, tree form.**  For an accepted document there is a token tree `t` as in
    `C03_parse_is_astOf` (document tree over the tokens handed to the builder, derivation tree of
    the grammar, the returned document is its fold) in which EVERY `DocString` node has as children
    exactly the leaves `opening separator, content lines …, closing separator, blank / comment
    lines …` (`Spec.DocSeq`): consecutive physical lines (`Spec.DocSeqNo`); the opening line starts
    with a delimiter `sep`, its token carries `sep` and the media type; each content line is read as
    `Other`, does not start with `sep`, and its text is `C13_content_line` under `sep` and the
    opening line's indentation; the closing line starts with `sep`; what follows it inside the node
    are blank lines and comments only.  (`docNodesP` is a recursion over the tree; `C13_docstring_at`
    reads it off at any subtree.) -/
theorem C13_in_document (μ : MState) (ids : Nat) (src : Str)
    (hμ : (μ.reset Gen.dialects).dialect ∈ Gen.dialects) (d : Doc)
    (h : (parseWith Gen.dialects Gen.parserTable false μ ids src).1 = .ok d) :
    let ctx := (parseWith Gen.dialects Gen.parserTable false μ ids src).2
    ∃ t : TTree, t.isDocument = true ∧ leaves t = ctx.builds ∧
      ValidTree Gen.grammar .GherkinDocument t.kinds ∧
      (astOf (commentsOf t) t).run.run ids = (.ok (.doc d), ctx.ids) ∧
      docNodesP DocSeqNo t := by
  obtain ⟨t, _, _, _, A⟩ := Lemmas.parse_accepted C03P_facts C03P_fact_builds C03D_fact_content_rows μ ids src hμ d h
  exact ⟨t, A.tree.isDocument, A.tree.leaves_eq, A.tree.valid, A.tree.ast, A.docNodes C03P_facts.start C03D_doc_facts⟩

theorem C13_in_document_generic (D : List Dialect) (T : Table) (G : Grammar) (fuel : Nat)
    (L : Lemmas.LinkFacts D T G fuel) (F : Lemmas.DocFacts D T) (hB : Spec.oneBuildLast T = true)
    (μ : MState) (ids : Nat) (src : Str) (hμ : (μ.reset D).dialect ∈ D) (d : Doc)
    (h : (parseWith D T false μ ids src).1 = .ok d) :
    ∃ t, Lemmas.LinkTree D T G (μ.reset D) (splitLines src) d (parseWith D T false μ ids src).2.builds ids
      (parseWith D T false μ ids src).2.ids t ∧ docNodesP DocSeqNo t :=
  let ⟨t, _, _, _, A⟩ := Lemmas.parse_accepted L hB F.contentRows μ ids src hμ d h
  ⟨t, A.tree, A.docNodes L.start F⟩

theorem C13_docstring_at (P : List Token → Prop) (t : TTree) (ht : docNodesP P t) (ch : List TTree)
    (h : SubT (.node .DocString ch) t) : ∃ bs, ch = bs.map .leaf ∧ P bs :=
  Lemmas.docNodesP_at ht h

/-- **… and its value in the AST** (`C13_docstring_node` composed): the fold `astOf` of a `DocString`
    node with these children is the doc string located at the opening separator, whose content is
    the content lines' texts joined by line feeds, whose delimiter is the opening delimiter and
    whose media type is the rest of the opening line (absent iff empty); no id is drawn; blank
    lines and comments after the closing separator contribute nothing.  (That this value becomes
    the `arg` of the enclosing step is the definition of `astOf` / `transformNode` for `Step`.) -/
theorem C13_docstring_value (cs : List Comment) (o : Token) (xs : List Token) (c : Token) (ys : List Token)
    (sep lo : Str) (ho : DocOpen o sep lo) (hxs : ∀ x ∈ xs, DocLine sep (lineIndent lo) x)
    (hc : DocClose sep c) (hys : ∀ y ∈ ys, DocTrail y) (n : Nat) :
    (astOf cs (.node .DocString ((o :: (xs ++ c :: ys)).map .leaf))).run.run n =
      (.ok (.docString
        { loc := o.loc,
          content := joinWith [10] (xs.map fun x => docLineText sep (lineIndent lo) (x.line.getD [])),
          delimiter := sep,
          mediaType := if rstripCRLF (strip ((trimmed lo).drop 3)) = [] then none
                       else some (rstripCRLF (strip ((trimmed lo).drop 3))) }), n) :=
  Lemmas.docNode_value cs o xs c ys sep lo ho hxs hc hys n

/-- **C05 at document level.**  If the AST of an accepted document has a feature `f`, there is a line
    `i` read as `FeatureLine` whose token carries `f.language` as its dialect, and `f.language` is the
    dialect name in force at that line: the name in the last `# language:` header read as such
    before line `i`, else the name of the reset matcher (`C05_dialect_reported`,
    `C05_language_switch`; no table fact is needed: `Language` being tested in state 0 only,
    `C05_language_only_at_start`, merely says that at most one header is honoured). -/
theorem C05_feature_language (μ : MState) (ids : Nat) (src : Str)
    (hμ : (μ.reset Gen.dialects).dialect ∈ Gen.dialects) (d : Doc)
    (h : (parseWith Gen.dialects Gen.parserTable false μ ids src).1 = .ok d) (f : Feature)
    (hf : d.feature = some f) :
    ∃ toks e i tk, (parseWith Gen.dialects Gen.parserTable false μ ids src).2.builds = toks ++ [e] ∧
      toks[i]? = some tk ∧ tk.mtype = some .FeatureLine ∧ tk.dialect = f.language ∧
      f.language = nameAt (μ.reset Gen.dialects).name (splitLines src) toks i :=
  Lemmas.feature_language C03P_facts C03P_fact_builds C03D_fact_content_rows μ ids src hμ d h f hf

/-- … which is the reset matcher's name when no line before it was read as a language header. -/
theorem C05_feature_language_default (dflt : Str) (ls : List Str) (toks : List Token) (i : Nat)
    (h : ∀ j tk, j < i → toks[j]? = some tk → tk.mtype ≠ some .Language) : nameAt dflt ls toks i = dflt :=
  Lemmas.nameAt_default dflt ls toks i h

theorem C05_feature_language_generic (D : List Dialect) (T : Table) (G : Grammar) (fuel : Nat)
    (L : Lemmas.LinkFacts D T G fuel) (hB : Spec.oneBuildLast T = true)
    (hCR : ((Spec.contentStates T).all fun s => (T.row? s).any Spec.isContentRow) = true)
    (μ : MState) (ids : Nat) (src : Str) (hμ : (μ.reset D).dialect ∈ D) (d : Doc)
    (h : (parseWith D T false μ ids src).1 = .ok d) (f : Feature) (hf : d.feature = some f) :
    ∃ toks e i tk, (parseWith D T false μ ids src).2.builds = toks ++ [e] ∧ toks[i]? = some tk ∧
      tk.mtype = some .FeatureLine ∧ tk.dialect = f.language ∧
      f.language = nameAt (μ.reset D).name (splitLines src) toks i :=
  Lemmas.feature_language L hB hCR μ ids src hμ d h f hf

section examples

/-- a document with a header after a comment, a doc string followed by a blank line and a comment -/
def C03D_demo : Str :=
  lit "# c\n#language: fr\nFonctionnalité: f\n  Scénario: s\n    Soit x\n      ```\n  Given y\n      ```\n\n  # d\n    Et z\n"

/-- the demo is accepted; its feature's language is the header's `fr` although the matcher was
    made for `en`; the doc string's content line lost only its own (smaller) indentation; its
    element locations: feature 3:1, scenario 4:3, step 5:5, doc string 6:7, step 11:5 -/
example : (MState.init Gen.dialects (lit "en")).map (fun μ =>
      match (parseWith Gen.dialects Gen.parserTable false μ 0 C03D_demo).1 with
      | .ok d => (d.feature.map (·.language), (srcLocs d).map fun l => (l.line, l.col.getD 0),
          d.comments.map fun c => (c.loc.line, c.loc.col.getD 0))
      | _ => (none, [], [])) =
    some (some (lit "fr"), [(3, 1), (4, 3), (5, 5), (6, 7), (11, 5)], [(1, 1), (10, 1)]) := by
  rw [C03D_demo]
  lit_lists
  kdecide

/-- the counterexample to the shape `[open] ++ content ++ [close]`: the blank line and the
    comment after the closing separator are children of the `DocString` node -/
example :
    (eventsAbs Gen.parserTable [.FeatureLine, .ScenarioLine, .StepLine, .DocStringSeparator, .Other,
        .DocStringSeparator, .Empty, .Comment, .StepLine]).bind Spec.treeOf
      = some (.node .GherkinDocument
          [.node .Feature
            [.node .FeatureHeader [.leaf .FeatureLine],
             .node .ScenarioDefinition
               [.node .Scenario
                  [.leaf .ScenarioLine,
                   .node .Step [.leaf .StepLine,
                     .node .DocString [.leaf .DocStringSeparator, .leaf .Other, .leaf .DocStringSeparator,
                       .leaf .Empty, .leaf .Comment]],
                   .node .Step [.leaf .StepLine]]]],
           .leaf .EOF]) := by
  rfl

/-- `docLineText` on the demo's content line: opening indentation 6, the line's own 2 -/
example : docLineText bt3 6 (lit "  Given y\n") = lit "Given y" := by
  lit_lists
  kdecide

end examples

end GV
