/-
  Props/C11Builder.lean — property C11, builder side: the ids the AST builder draws are
  consecutive from the incoming counter, in the canonical local order.  Property theorems only;
  helper lemmas live in Lemmas/Builder.lean.  (The compiler side is Props/C11.lean.)

  Node level.  Proved here, for ALL item lists, tokens and counters: what one `nextId`, one
  `getTableRows`, one `getTags` and one `transformNode` call do to the counter and which ids end
  up where; and that `end_rule` never decreases the counter, also when it fails.  Elsewhere: `C11_ast_ids_canonical` (the
  post-order traversal of the whole AST is `n₀, n₀+1, …`; Props/C11Tree.lean, through the fold over
  derivation trees) and the stream-level statements (Props/C11Pipeline.lean).

  Vocabulary (top of Lemmas/Builder.lean): `Spec.numberRows toks n` / `Spec.numberTags toks n` =
  the rows / tags of the given tokens numbered from `n` in source order; `Spec.tagTokens` = the
  tag-line tokens of a node; `Spec.tagCount` = the number of tags on them; `Spec.drawnIds rt v` =
  the ids a call on a node of rule type `rt` drew, read off its result `v` in the canonical local
  order (rows in order; tags, then the node itself; a feature has no id of its own).
-/
import GherkinVerif.Lemmas.Builder
namespace GV
open Spec

/-- `get_next_id` returns the counter and increments it by one. -/
theorem C11_nextId (n : Nat) : nextId.run.run n = (.ok n, n + 1) := rfl

/-- Table rows: `k` row tokens from counter `n` give rows with ids `n, …, n+k-1` in order, and
    the counter ends at `n + k` whatever the outcome — the ids stay consumed when the
    ragged-table error is raised (the only possible error, located at one of the rows). -/
theorem C11_rows_ids (items : List (Key × Val)) (n : Nat) :
    ((getTableRows items).run.run n).2 = n + (getTokens items .TableRow).length ∧
    (∀ rows, ((getTableRows items).run.run n).1 = .ok rows →
      rows = numberRows (getTokens items .TableRow) n) ∧
    (∀ e, ((getTableRows items).run.run n).1 = .error e →
      ∃ r ∈ numberRows (getTokens items .TableRow) n,
        e = .ast ⟨.raggedTable, r.loc, lit "inconsistent cell count within the table"⟩) ∧
    (numberRows (getTokens items .TableRow) n).map (·.id) = List.range' n (getTokens items .TableRow).length :=
  ⟨(Lemmas.tableRows_outcome items n).1, (Lemmas.tableRows_outcome items n).2.1,
   (Lemmas.tableRows_outcome items n).2.2, Lemmas.numberRows_ids _ n⟩

/-- The ragged case spelled out: error at the first deviating row, counter past all rows. -/
theorem C11_rows_ids_ragged (items : List (Key × Val)) (n : Nat) (r : Row)
    (h : raggedRow (numberRows (getTokens items .TableRow) n) = some r) :
    (getTableRows items).run.run n =
      (.error (.ast ⟨.raggedTable, r.loc, lit "inconsistent cell count within the table"⟩),
       n + (getTokens items .TableRow).length) :=
  Lemmas.tableRows_ragged items n r h

/-- Tags: all tags of all tag lines, in order, get consecutive ids from `n`; the counter advances
    by their number (= the sum of the lines' item counts). -/
theorem C11_tags_ids (items : List (Key × Val)) (toks : List Token) (n : Nat)
    (h : tagTokens items = some toks) :
    (getTags items).run.run n = (.ok (numberTags toks n), n + tagCount toks) ∧
    (numberTags toks n).map (·.id) = List.range' n (tagCount toks) ∧
    (numberTags toks n).length = tagCount toks ∧
    tagCount toks = (toks.map (·.items.length)).sum :=
  ⟨Lemmas.run_getTags_some items toks n h, Lemmas.numberTags_ids toks n,
   Lemmas.numberTags_length toks n, Lemmas.tagCount_eq_sum toks⟩

/-- A node without a `Tags` item has no tags and draws nothing; a `Tags` item that is not a node
    (never built) crashes without drawing. -/
theorem C11_tags_ids_none (items : List (Key × Val)) (n : Nat) :
    (getItems items (.rule .Tags) = [] → (getTags items).run.run n = (.ok [], n)) ∧
    (tagTokens items = none →
      (getTags items).run.run n = (.error (.crash "get_tags: Tags is not a node"), n)) := by
  refine ⟨fun h => ?_, Lemmas.run_getTags_none items n⟩
  have : tagTokens items = some [] := by simp [tagTokens, Lemmas.getSingle_of_nil items _ h]
  exact Lemmas.run_getTags_some items [] n this

/-- One `transformNode` call, any rule type: on success (with a result other than `None`) the ids
    it drew — rows in order for the two table types; tag ids, then the node's own id, for
    scenario / examples / rule; tag ids for a feature; the node's own id for step and background;
    none otherwise — are exactly `n, n+1, …, n'-1`, and `n' = n +` their number. -/
theorem C11_node_ids (cs : List Comment) (node : Node) (n n' : Nat) (v : Val) (hv : v ≠ .none)
    (h : (transformNode cs node).run.run n = (.ok v, n')) :
    drawnIds node.rt v = List.range' n (n' - n) ∧ n ≤ n' ∧ n' = n + (drawnIds node.rt v).length :=
  ⟨(Lemmas.node_ids cs node n n' v hv h).1, (Lemmas.node_ids cs node n n' v hv h).2,
   Lemmas.node_ids_count cs node n n' v hv h⟩

/-- Why `None` is excluded above: a rule header that has tags but no keyword line makes
    `transform_node` return `None` after the tag ids were drawn.  (The grammar never produces
    such a header: `RuleHeader := Tags? #RuleLine …`.) -/
theorem C11_node_ids_none_case (cs : List Comment) (items header : List (Key × Val)) (n : Nat)
    (toks : List Token) (rt : RuleType)
    (hh : getSingle items (.rule .RuleHeader) = .raw rt header)
    (htags : tagTokens header = some toks)
    (hl : getSingle header (.tok .RuleLine) = .none) :
    (transformNode cs ⟨.Rule, items⟩).run.run n = (.ok .none, n + tagCount toks) :=
  Lemmas.rule_none_after_tags cs items header n toks rt hh htags hl

/-- Description, DocString and GherkinDocument never draw an id, whatever the outcome. -/
theorem C11_node_ids_no_draw (cs : List Comment) (node : Node) (n : Nat)
    (h : node.rt = .Description ∨ node.rt = .DocString ∨ node.rt = .GherkinDocument) :
    ((transformNode cs node).run.run n).2 = n :=
  Lemmas.transformNode_noDraw cs node n h

/-- `transformNode` and `end_rule` never decrease the counter — also on the error path. -/
theorem C11_counter_monotone (β : BState) (cs : List Comment) (node : Node) (n : Nat) :
    n ≤ (β.endRule n).2.2 ∧ n ≤ ((transformNode cs node).run.run n).2 :=
  ⟨Lemmas.endRule_mono β n, Lemmas.mono_transformNode cs node n⟩

/-- … and a failing `end_rule` hands on exactly the counter `transformNode` left. -/
theorem C11_counter_on_error (β : BState) (node : Node) (rest : List Node) (n n' : Nat) (e : BErr)
    (hs : β.stack = node :: rest)
    (h : (transformNode β.comments node).run.run n = (.error e, n')) :
    β.endRule n = (.error e, { stack := rest, comments := β.comments }, n') :=
  Lemmas.endRule_error β node rest n n' e hs h

section examples
open Lemmas.Ex

/-- three tags on two lines from counter 7: ids 7, 8, 9, counter 10 -/
example : ((getTags [(.rule .Tags, tagsVal)]).run.run 7).2 = 10 ∧
    (numberTags [tagTok1, tagTok2] 7).map (·.id) = [7, 8, 9] ∧
    (numberTags [tagTok1, tagTok2] 7).map (·.name) = [lit "@a", lit "@b", lit "@c"] := by decide

/-- a ragged table from counter 7: all four ids consumed, error at the short row (line 11) -/
example : (getTableRows [(.tok .TableRow, .tok rowTok1), (.tok .TableRow, .tok rowTok2),
      (.tok .TableRow, .tok rowTokShort), (.tok .TableRow, .tok rowTok2)]).run.run 7 =
    (.error (.ast ⟨.raggedTable, ⟨11, some 1⟩, lit "inconsistent cell count within the table"⟩), 11) := rfl

/-- a scenario with three tags from counter 7: tags 7, 8, 9, then the scenario 10; counter 11 -/
example : ∃ s, (transformNode [] ⟨.ScenarioDefinition, [(.rule .Tags, tagsVal),
      (.rule .Scenario, .raw .Scenario [(.tok .ScenarioLine, .tok scTok)])]⟩).run.run 7 = (.ok (.scenario s), 11) ∧
    drawnIds .ScenarioDefinition (.scenario s) = [7, 8, 9, 10] :=
  ⟨_, rfl, by decide⟩

/-- the hypotheses of `C11_node_ids` are satisfiable -/
example : drawnIds .DataTable (.dataTable { loc := ⟨9, some 1⟩, rows := numberRows [rowTok1, rowTok2] 7 })
    = List.range' 7 (9 - 7) :=
  (C11_node_ids [] ⟨.DataTable, [(.tok .TableRow, .tok rowTok1), (.tok .TableRow, .tok rowTok2)]⟩ 7 9 _
    (fun h => by cases h) rfl).1

/-- the excluded case exists: tags drawn, `None` returned -/
example : (transformNode [] ⟨.Rule, [(.rule .RuleHeader, .raw .RuleHeader [(.rule .Tags, tagsVal)])]⟩).run.run 7 =
    (.ok .none, 10) := rfl

/-- a failing step still consumed its id -/
example : ((transformNode [] ⟨.Step, [(.tok .StepLine, .tok badStepTok)]⟩).run.run 7).2 = 8 := by decide

end examples

end GV
