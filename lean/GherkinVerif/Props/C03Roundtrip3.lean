/-
  Props/C03Roundtrip3.lean — property C03 "from the document outwards", third model: the model of
  Props/C03Roundtrip2.lean (steps with optional data tables) plus an optional BACKGROUND.

  Model (Spec/Render3.lean): `MFeature3 = (tags, kw, name, background : Option MBackground, scenarios)`,
  `MBackground = (kw, name, steps : List MStep2)`; `render3` writes `<background kw>: <name>` at
  column 1 after the feature line, then the background's steps (and their tables) as in a scenario.
  `WF3 d m` = `WF2` plus `backgroundOK`: the keyword is in `d.background`, the name is `cleanText`, the
  steps are `stepOK2`.  `expectedDoc3`: the background is the FIRST child of the feature; its steps
  (rows first) draw their ids, then the background, then the scenarios; feature tags last.

  Proof as for the second model (`Lemmas.roundtrip3_pure`, on `C03R_table`); `C03R3_fact_table`: this
  model's own checker `Lemmas.rt3Facts`, part of `Facts.rt4Facts_table`, holds.  Each clause of `backgroundOK` is shown
  necessary by a kernel-evaluated counterexample.
-/
import GherkinVerif.Props.C03Roundtrip
import GherkinVerif.Lemmas.Lit
namespace GV
open Spec

theorem C03R3_fact_table : Lemmas.rt3Facts Gen.parserTable = true :=
  Lemmas.rt3Facts_of_rt4Facts Facts.rt4Facts_table

/-- **C03, round trip, optional background, steps with data tables.** -/
theorem C03_roundtrip3 (stop : Bool) (μ : MState)
    (hμ : (μ.reset Gen.dialects).dialect ∈ Gen.dialects) (ids : Nat) (m : MFeature3)
    (hwf : WF3 (μ.reset Gen.dialects).dialect m = true) :
    (parseWith Gen.dialects Gen.parserTable stop μ ids (render3 m)).1 =
      .ok (expectedDoc3 (μ.reset Gen.dialects).dialect (μ.reset Gen.dialects).name m ids) :=
  (C03R_of_pure hμ (Lemmas.roundtrip3_pure C03R_fact_keywords C03R_fact_render _ _ C03R_table stop μ hμ ids m hwf)).1

/-- … and the id counter afterwards: one id per table row, step, background, tag and scenario. -/
theorem C03_roundtrip3_counter (stop : Bool) (μ : MState)
    (hμ : (μ.reset Gen.dialects).dialect ∈ Gen.dialects) (ids : Nat) (m : MFeature3)
    (hwf : WF3 (μ.reset Gen.dialects).dialect m = true) :
    (parseWith Gen.dialects Gen.parserTable stop μ ids (render3 m)).2.ids = idsAfter3 m ids :=
  (C03R_of_pure hμ (Lemmas.roundtrip3_pure C03R_fact_keywords C03R_fact_render _ _ C03R_table stop μ hμ ids m hwf)).2

/-- the second model is the background-free part of the third: same text, same well-formedness -/
theorem C03_roundtrip3_model2 (d : Dialect) (m : MFeature2) :
    render3 m.toModel3 = render2 m ∧ WF3 d m.toModel3 = WF2 d m :=
  ⟨Lemmas.render3_toModel3 m, Lemmas.WF3_toModel3 d m⟩

section examples

def C03R3_demo : MFeature3 := MFeature3.ofStrings ["@f"] "Feature" "F"
  [("Background", "bg", [("Given ", "a", [["x", "yy"], ["", "1 2"]]), ("And ", "b", [])])]
  [([], "Scenario", "one", [("When ", "b", []), ("Then ", "c", [["q"]])]),
   (["@t"], "Scenario", "two", [("* ", "d", [["h"], ["v"]])])]

/-- a background whose last step carries a table, directly followed by the end of file (state 8) -/
def C03R3_demoB : MFeature3 := MFeature3.ofStrings [] "Feature" "F"
  [("Background", "", [("Given ", "a", [["x"]])])] []

example : (MState.init Gen.dialects (lit "en")).map (fun μ =>
    (WF3 μ.dialect C03R3_demo, WF3 μ.dialect C03R3_demoB,
     render3 C03R3_demo == lit "@f\nFeature: F\nBackground: bg\n  Given a\n    | x | yy |\n    |  | 1 2 |\n  And b\nScenario: one\n  When b\n  Then c\n    | q |\n@t\nScenario: two\n  * d\n    | h |\n    | v |\n",
     decide (C03R_okDoc (parseWith Gen.dialects Gen.parserTable false μ 7 (render3 C03R3_demo)).1 =
       some (expectedDoc3 μ.dialect μ.name C03R3_demo 7)),
     decide (C03R_okDoc (parseWith Gen.dialects Gen.parserTable true μ 7 (render3 C03R3_demo)).1 =
       some (expectedDoc3 μ.dialect μ.name C03R3_demo 7)),
     (parseWith Gen.dialects Gen.parserTable true μ 7 (render3 C03R3_demo)).2.ids == idsAfter3 C03R3_demo 7)) =
    some (true, true, true, true, true, true) := by
  lit_lists
  kdecide

example : (MState.init Gen.dialects (lit "en")).map (fun μ =>
    decide (C03R_okDoc (parseWith Gen.dialects Gen.parserTable false μ 3 (render3 C03R3_demoB)).1 =
       some (expectedDoc3 μ.dialect μ.name C03R3_demoB 3))) = some true := by kdecide

end examples

section necessity

def C03R3_variant (kw name : String) (steps : List (String × String × List (List String))) : Option (Bool × Bool) :=
  (MState.init Gen.dialects (lit "en")).map fun μ =>
    let m := MFeature3.ofStrings [] "Feature" "f" [(kw, name, steps)] [([], "Scenario", "s", [("Given ", "x", [])])]
    (WF3 μ.dialect m,
     decide (C03R_okDoc (parseWith Gen.dialects Gen.parserTable false μ 0 (render3 m)).1 =
       some (expectedDoc3 μ.dialect μ.name m 0)))

example : C03R3_variant "Background" "b" [("Given ", "y", [])] = some (true, true) := by kdecide
/-- a keyword of another role (a second scenario instead of a background) / no keyword -/
example : C03R3_variant "Scenario" "b" [("Given ", "y", [])] = some (false, false) := by kdecide
example : C03R3_variant "Backgrund" "b" [("Given ", "y", [])] = some (false, false) := by kdecide
/-- a name with a trailing blank -/
example : C03R3_variant "Background" "b " [("Given ", "y", [])] = some (false, false) := by kdecide
/-- a step that is not `stepOK2` (keyword without its blank; ragged table) -/
example : C03R3_variant "Background" "b" [("Given", "y", [])] = some (false, false) := by kdecide
example : C03R3_variant "Background" "b" [("Given ", "y", [["a"], ["b", "c"]])] = some (false, false) := by kdecide

end necessity

end GV
