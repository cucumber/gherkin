/-
  Props/C16Doc3.lean — property C16, whole-document part, continued: blank lines and indentation.

  "… inserting blank lines anywhere outside descriptions and doc strings changes only line numbers;
  indenting such lines further changes only columns …"

  Props/C16.lean has the per-line / kind-level theorems.  Here they are lifted to `parseWith` by
  lock-step simulations of two runs of the QUEUE-FREE parse `Spec.parseWithPure`
  (Lemmas/LayoutDoc3*.lean) and carried over to the parser with its token queue by
  `C18_queue_refines_peek`.  The builder part (Lemmas/LayoutDoc3Builder.lean) is generic in the
  renaming of positions `Spec.LocMap`: the builder only ever copies positions.  The document-level
  goals of C16 are numbered in the headers of Props/C16Doc3–7: G1 an inserted blank line, G2 indented
  lines (G2b: a doc string moving as a block, or its closing delimiter alone), G3 an inserted comment line.

  ## G1  `C16_blank_line_document`

  `src` has the physical lines `pre ++ post`, `src'` the lines `pre ++ b :: post`, `b` whitespace
  only (`AllSpace b`; no further condition on how `b` or the lines around it end — the hypotheses
  speak about `splitLines`; `C16_blank_line_text` is the form on the texts themselves: a line
  `ws ++ "\n"` inserted at a line start).  The only other hypothesis is on the ORIGINAL run: the
  parser state in which its main loop stands after the first `pre.length` lines
  (`Spec.stateAfter`, a prefix run of the queue-free parse; nothing is required if the run has
  aborted before) reads a blank line as `Empty` first (`Spec.emptyFirst`) — true of every state
  outside descriptions and doc strings.  Then, in both error modes, for accepted and rejected
  documents, any incoming matcher state and id counter:

      (parseWith … src').1 = mapOutcome (insertMap pre.length) (parseWith … src).1

  and the final error list / lines reported unexpected are the renamed ones, matcher state and id
  counter are equal (`C16_blank_line_document_context`).  The hypothesis is needed: in a
  description or a doc string the blank line becomes text (counterexamples below).

  ## G2  `C16_indent_document`

  `src'` has as many physical lines as `src`, and line `i` (0-based) of `src'` is `ws ++` line `i`
  of `src` with `ws` whitespace of length `w i` (`w` any function; what matters are its values on the
  lines of the text and — because a run that reaches the end builds the end-of-file token, numbered
  one past the last line and not of an indentable kind — the value at the number of lines, which
  the hypothesis below forces to be 0).  The only other hypothesis is on the ORIGINAL run, through
  its ghost list `builds`: every line that is moved (`w i > 0`) and was handed to the builder at all was handed
  over as one of FeatureLine, RuleLine, BackgroundLine, ScenarioLine, ExamplesLine, StepLine,
  TagLine, TableRow, Empty (`indentable`) — so not as a comment or language header (a comment's
  text contains its indentation), not as free text or doc-string content (`Other`), not as a
  doc-string delimiter (the opening one records its indentation).  Lines that were never built —
  reported as unexpected, or whose tag error ended a stop-at-first-error run — MAY be moved: their
  error columns move with them.  Then, in both error modes, for accepted and rejected documents:

      (parseWith … src').1 = mapOutcome (indentMap w) (parseWith … src).1

  and the final error lists correspond, id counters and reported lines are equal
  (`C16_indent_document_context`).  The hypothesis cannot be made static (a keyword line inside a
  doc string IS read as `Other`) and is needed (counterexamples below: comment, description line,
  doc-string content line, delimiter).  The theorem is the case "no doc string is moved" of
  `C16_indent_docstring_block_document` (Props/C16Doc7.lean) and is proved as such, from the core
  lemma `Layout7.indent_parseWith7` (Lemmas/LayoutDoc7IndentSim.lean).  G2b (a doc string moving as
  one block, the closing delimiter moving alone) and G3 (comment-line insertion): Props/C16Doc4–7.
-/
import GherkinVerif.Props.C16
import GherkinVerif.Props.C18Pure
import GherkinVerif.Lemmas.LayoutDoc7IndentSim
import GherkinVerif.KDecide
import GherkinVerif.Lemmas.Lit
import GherkinVerif.Lemmas.FactsLayout
namespace GV
open Lemmas Layout3

/-- the number of open builder nodes is a function of the parser state (2 in the start state, at
    least 1 in every state): the assignment found by a breadth-first walk (it is `Facts.depths`) -/
def C16_depths : List (Nat × Nat) := Spec.computeDepths Gen.parserTable 5000 [(0, 2)] []
/-- … it passes the check, and at these depths every branch of the table may run (`Spec.prodsOk`, used
    in Props/C16Doc4.lean); one statement, evaluated in Lemmas/FactsLayout.lean, so that the walk is
    made once -/
theorem C16_fact_depths_prods :
    (Spec.depthsOk Gen.parserTable C16_depths && Spec.prodsOk Gen.parserTable C16_depths) = true :=
  Facts.depths_prods_table
theorem C16_fact_depths : Spec.depthsOk Gen.parserTable C16_depths = true :=
  (Bool.and_eq_true_iff.1 C16_fact_depths_prods).1

theorem C16_tableOkI : TableOkI Gen.parserTable := ⟨C16_lookaheads_skip_empty, C16_empty_self_loop⟩

theorem C16_blank_line_document_generic (D : List Dialect) (T : Table)
    (hD : Spec.stepKeywordsOk D = true) (hQD : Spec.queueDialectFacts D = true)
    (hQT : Spec.queueFacts T = true) (hCB : Spec.commentBlankTested T = true)
    (hLA : Spec.lookaheadsSkipEmpty T = true) (hE : Spec.emptySelfLoop T = true)
    (ds : List (Nat × Nat)) (hds : Spec.depthsOk T ds = true)
    (stop : Bool) (μ : MState) (ids : Nat) (src src' : Str) (pre post : List Str) (b : Str)
    (hb : AllSpace b)
    (h1 : splitLines src = pre ++ post) (h2 : splitLines src' = pre ++ b :: post)
    (hμ : (μ.reset D).dialect ∈ D)
    (hst : ∀ s, Spec.stateAfter D T stop μ ids src pre.length = some s → Spec.emptyFirst T s = true) :
    (parseWith D T stop μ ids src').1 =
      Spec.mapOutcome (Spec.insertMap pre.length) (parseWith D T stop μ ids src).1 ∧
    C16_MappedContext (Spec.insertMap pre.length) (parseWith D T stop μ ids src).2 (parseWith D T stop μ ids src').2 := by
  obtain ⟨h, hc⟩ := blank_line_parseWith hD hQD hQT hCB ⟨hLA, hE⟩ hds hb stop μ ids pre post h1 h2 hμ hst
  exact ⟨h, hc.errors, hc.μ, hc.ids, hc.unexpected⟩

/-- **Inserting a whitespace-only line changes only line numbers.**  If the state in which the
    original run stands after the first `pre.length` lines reads a blank line as `Empty` first, the
    outcome of the text with the blank line `b` inserted there — document, or error list — is the
    original outcome with the line numbers `> pre.length` increased by one. -/
theorem C16_blank_line_document (stop : Bool) (μ : MState) (ids : Nat) (src src' : Str)
    (pre post : List Str) (b : Str) (hb : AllSpace b)
    (h1 : splitLines src = pre ++ post) (h2 : splitLines src' = pre ++ b :: post)
    (hμ : (μ.reset Gen.dialects).dialect ∈ Gen.dialects)
    (hst : ∀ s, Spec.stateAfter Gen.dialects Gen.parserTable stop μ ids src pre.length = some s →
      Spec.emptyFirst Gen.parserTable s = true) :
    (parseWith Gen.dialects Gen.parserTable stop μ ids src').1 =
      Spec.mapOutcome (Spec.insertMap pre.length) (parseWith Gen.dialects Gen.parserTable stop μ ids src).1 :=
  (C16_blank_line_document_generic _ _ C16_step_keywords_ok C18_fact_keywords C18_fact_queue
    C18_fact_comment_blank C16_lookaheads_skip_empty C16_empty_self_loop _ C16_fact_depths
    stop μ ids src src' pre post b hb h1 h2 hμ hst).1

/-- … and the final contexts agree: renamed error list and reported lines, same matcher state, same
    id counter -/
theorem C16_blank_line_document_context (stop : Bool) (μ : MState) (ids : Nat) (src src' : Str)
    (pre post : List Str) (b : Str) (hb : AllSpace b)
    (h1 : splitLines src = pre ++ post) (h2 : splitLines src' = pre ++ b :: post)
    (hμ : (μ.reset Gen.dialects).dialect ∈ Gen.dialects)
    (hst : ∀ s, Spec.stateAfter Gen.dialects Gen.parserTable stop μ ids src pre.length = some s →
      Spec.emptyFirst Gen.parserTable s = true) :
    C16_MappedContext (Spec.insertMap pre.length) (parseWith Gen.dialects Gen.parserTable stop μ ids src).2
      (parseWith Gen.dialects Gen.parserTable stop μ ids src').2 :=
  (C16_blank_line_document_generic _ _ C16_step_keywords_ok C18_fact_keywords C18_fact_queue
    C18_fact_comment_blank C16_lookaheads_skip_empty C16_empty_self_loop _ C16_fact_depths
    stop μ ids src src' pre post b hb h1 h2 hμ hst).2

/-- the hypothesis on the original run as a Boolean (it runs the prefix of the queue-free parse):
    the run has aborted within the first `k` lines, or stands in a state that reads a blank line
    as `Empty` first -/
def C16_blankLineOk (stop : Bool) (μ : MState) (ids : Nat) (src : Str) (k : Nat) : Bool :=
  match Spec.stateAfter Gen.dialects Gen.parserTable stop μ ids src k with
  | some s => Spec.emptyFirst Gen.parserTable s
  | none => true

/-- **The text form**: the line `ws ++ "\n"` (`ws` whitespace without a line feed) inserted at the
    start of a line, i.e. after a prefix `s1` of the text that is empty or ends in a line feed. -/
theorem C16_blank_line_text (stop : Bool) (μ : MState) (ids : Nat) (s1 s2 ws : Str)
    (hs1 : s1 = [] ∨ s1.getLast? = some 10) (hws : AllSpace ws) (hlf : 10 ∉ ws)
    (hμ : (μ.reset Gen.dialects).dialect ∈ Gen.dialects)
    (hst : C16_blankLineOk stop μ ids (s1 ++ s2) (splitLines s1).length = true) :
    (parseWith Gen.dialects Gen.parserTable stop μ ids (s1 ++ (ws ++ [10]) ++ s2)).1 =
      Spec.mapOutcome (Spec.insertMap (splitLines s1).length)
        (parseWith Gen.dialects Gen.parserTable stop μ ids (s1 ++ s2)).1 := by
  have hb : AllSpace (ws ++ [10]) := hws.append (by intro c hc; simp at hc; subst hc; decide)
  refine C16_blank_line_document stop μ ids (s1 ++ s2) (s1 ++ (ws ++ [10]) ++ s2) (splitLines s1) (splitLines s2)
    (ws ++ [10]) hb (splitLines_append_of_lf s1 s2 hs1) (splitLines_insert_line s1 s2 ws hs1 hlf) hμ fun s hs => ?_
  unfold C16_blankLineOk at hst
  rw [hs] at hst
  exact hst

/-- an accepted document with tags, a scenario outline, a doc string, a data table, an examples
    table and a second scenario -/
def C16_demoDoc : Str :=
  lit "Feature: f\n@t1 @t2\nScenario Outline: s\n  Given <x>\n  \"\"\"\n  text\n  \"\"\"\n  When y\n  | a | b |\n  Examples:\n  | x |\n  | 1 |\nScenario: t\n  Then z\n"

/-- the same with a line of two blanks and a tab inserted after line 9 (between the data table and
    the `Examples:` line) -/
def C16_demoDoc' : Str :=
  lit "Feature: f\n@t1 @t2\nScenario Outline: s\n  Given <x>\n  \"\"\"\n  text\n  \"\"\"\n  When y\n  | a | b |\n  \t\n  Examples:\n  | x |\n  | 1 |\nScenario: t\n  Then z\n"

/-- the hypotheses of `C16_blank_line_text` hold of it (`s1` = the first nine lines) … -/
example : (MState.init Gen.dialects (lit "en")).map (fun μ => C16_blankLineOk false μ 0 C16_demoDoc 9) = some true ∧
    (MState.init Gen.dialects (lit "en")).map (fun μ => C16_blankLineOk true μ 0 C16_demoDoc 9) = some true := by
  rw [C16_demoDoc]
  lit_lists
  kdecide

/-- … and the conclusion is not trivial: the positions behind the insertion point have moved down -/
example : (MState.init Gen.dialects (lit "en")).map (fun μ =>
      (C16_someLocs (parseWith Gen.dialects Gen.parserTable false μ 0 C16_demoDoc).1,
       C16_someLocs (parseWith Gen.dialects Gen.parserTable false μ 0 C16_demoDoc').1)) =
    some ([⟨3, some 1⟩, ⟨4, some 3⟩, ⟨5, some 3⟩, ⟨8, some 3⟩, ⟨9, some 3⟩, ⟨10, some 3⟩, ⟨12, some 3⟩,
           ⟨13, some 1⟩, ⟨14, some 3⟩],
          [⟨3, some 1⟩, ⟨4, some 3⟩, ⟨5, some 3⟩, ⟨8, some 3⟩, ⟨9, some 3⟩, ⟨11, some 3⟩, ⟨13, some 3⟩,
           ⟨14, some 1⟩, ⟨15, some 3⟩]) := by
  rw [C16_demoDoc, C16_demoDoc']
  lit_lists
  kdecide

/-- a rejected document: a description, a tag with whitespace (read on as description), a ragged
    table, an unexpected line, a second feature -/
def C16_demoBad : Str :=
  lit "Feature: f\n some description\n@t1 @t 2\nScenario: s\n  Given x\n  | a | b |\n  | c |\nnonsense\n  When y\nFeature: g\n"

/-- a blank line inserted after line 5 (`Given x`): the hypothesis holds in both error modes … -/
example : (MState.init Gen.dialects (lit "en")).map (fun μ =>
      (C16_blankLineOk false μ 0 C16_demoBad 5, C16_blankLineOk true μ 0 C16_demoBad 5)) = some (true, true) := by
  rw [C16_demoBad]
  lit_lists
  kdecide

/-- … and the errors (tag, unexpected line, ragged table, unexpected feature; the first one only in
    stop-at-first-error mode) behind it move down by one line -/
example : (MState.init Gen.dialects (lit "en")).map (fun μ =>
      let src' := lit "Feature: f\n some description\n@t1 @t 2\nScenario: s\n  Given x\n\n  | a | b |\n  | c |\nnonsense\n  When y\nFeature: g\n"
      (C16_someLocs (parseWith Gen.dialects Gen.parserTable false μ 0 C16_demoBad).1,
       C16_someLocs (parseWith Gen.dialects Gen.parserTable false μ 0 src').1,
       C16_someLocs (parseWith Gen.dialects Gen.parserTable true μ 0 src').1)) =
    some ([⟨3, some 5⟩, ⟨8, some 1⟩, ⟨7, some 3⟩, ⟨10, some 1⟩],
          [⟨3, some 5⟩, ⟨9, some 1⟩, ⟨8, some 3⟩, ⟨11, some 1⟩], [⟨3, some 5⟩]) := by
  rw [C16_demoBad]
  lit_lists
  kdecide

/-- COUNTEREXAMPLE (the hypothesis is needed), description: between two description lines the
    state reads a blank line as `Other`; the check fails and the blank line becomes part of the
    description -/
example : (MState.init Gen.dialects (lit "en")).map (fun μ =>
      let a := lit "Feature: f\n d1\n d2\nScenario: s\n"
      let a' := lit "Feature: f\n d1\n\n d2\nScenario: s\n"
      (C16_blankLineOk false μ 0 a 2,
       (match (parseWith Gen.dialects Gen.parserTable false μ 0 a).1 with
        | .ok d => d.feature.map Feature.description | _ => none),
       (match (parseWith Gen.dialects Gen.parserTable false μ 0 a').1 with
        | .ok d => d.feature.map Feature.description | _ => none))) =
    some (false, some (lit " d1\n d2"), some (lit " d1\n\n d2")) := by
  lit_lists
  kdecide

/-- COUNTEREXAMPLE, doc string: inside a doc string the blank line is content -/
example : (MState.init Gen.dialects (lit "en")).map (fun μ =>
      let a := lit "Feature: f\nScenario: s\nGiven x\n\"\"\"\nc1\nc2\n\"\"\"\n"
      let a' := lit "Feature: f\nScenario: s\nGiven x\n\"\"\"\nc1\n\nc2\n\"\"\"\n"
      let content := fun (o : Outcome) => match o with
        | .ok d => (d.feature.map fun x => x.children.flatMap fun c => match c with
            | .scenario s => s.steps.filterMap fun st => match st.arg with | .doc ds => some ds.content | _ => none
            | _ => []).getD []
        | _ => []
      (C16_blankLineOk false μ 0 a 5,
       content (parseWith Gen.dialects Gen.parserTable false μ 0 a).1,
       content (parseWith Gen.dialects Gen.parserTable false μ 0 a').1)) =
    some (false, [lit "c1\nc2"], [lit "c1\n\nc2"]) := by
  lit_lists
  kdecide

/-- the states: after a feature line (3), after a step (12), in a data table (13), after an examples
    line (15), after a closing doc-string delimiter (40) a blank line is read as `Empty` first; in a
    description (4, 16) and in a doc string (39) it is not -/
example : Spec.emptyFirst Gen.parserTable 3 = true ∧ Spec.emptyFirst Gen.parserTable 12 = true ∧
    Spec.emptyFirst Gen.parserTable 13 = true ∧ Spec.emptyFirst Gen.parserTable 15 = true ∧
    Spec.emptyFirst Gen.parserTable 40 = true ∧ Spec.emptyFirst Gen.parserTable 4 = false ∧
    Spec.emptyFirst Gen.parserTable 16 = false ∧ Spec.emptyFirst Gen.parserTable 39 = false := by kdecide

theorem C16_fact_indent : indentFacts Gen.parserTable = true := by kdecide

theorem C16_indent_document_generic (D : List Dialect) (T : Table)
    (hQD : Spec.queueDialectFacts D = true) (hQT : Spec.queueFacts T = true)
    (hCB : Spec.commentBlankTested T = true) (hI : indentFacts T = true)
    (w : Nat → Nat) (stop : Bool) (μ : MState) (ids : Nat) (src src' : Str)
    (hlen : (splitLines src').length = (splitLines src).length)
    (hlines : ∀ (i : Nat) (l l' : Str), (splitLines src)[i]? = some l → (splitLines src')[i]? = some l' →
      ∃ ws, l' = ws ++ l ∧ AllSpace ws ∧ ws.length = w i)
    (hμ : (μ.reset D).dialect ∈ D)
    (hbuilt : ∀ t ∈ (parseWith D T stop μ ids src).2.builds, 0 < w (t.lineNo - 1) →
      ∃ K, t.mtype = some K ∧ indentable K = true) :
    (parseWith D T stop μ ids src').1 = Spec.mapOutcome (Spec.indentMap w) (parseWith D T stop μ ids src).1 ∧
    (parseWith D T stop μ ids src').2.errors =
      (parseWith D T stop μ ids src).2.errors.map (Spec.mapErr (Spec.indentMap w)) ∧
    (parseWith D T stop μ ids src').2.ids = (parseWith D T stop μ ids src).2.ids ∧
    (parseWith D T stop μ ids src').2.unexpected = (parseWith D T stop μ ids src).2.unexpected :=
  Layout7.indent_parseWith7 hQD hQT hCB hI w stop μ ids hlen hlines hμ
    (Layout7.blockScan_of_indentable w _ fun t ht => (Nat.eq_zero_or_pos _).imp id fun hp => by
      obtain ⟨K, hm, hK⟩ := hbuilt t ht hp
      simp [Spec.indentableTokB, hm, Layout7.indentableB_eq, hK])

/-- **Indenting changes only columns.**  If every line of `src'` is the line of `src` with `w i`
    blanks in front, and the original run has built every moved line (if at all) as a keyword,
    step, tag, table-row or blank line, then the outcome of `src'` — document, or error list — is
    the original outcome with the columns on line `n` increased by `w (n - 1)`. -/
theorem C16_indent_document (w : Nat → Nat) (stop : Bool) (μ : MState) (ids : Nat) (src src' : Str)
    (hlen : (splitLines src').length = (splitLines src).length)
    (hlines : ∀ (i : Nat) (l l' : Str), (splitLines src)[i]? = some l → (splitLines src')[i]? = some l' →
      ∃ ws, l' = ws ++ l ∧ AllSpace ws ∧ ws.length = w i)
    (hμ : (μ.reset Gen.dialects).dialect ∈ Gen.dialects)
    (hbuilt : ∀ t ∈ (parseWith Gen.dialects Gen.parserTable stop μ ids src).2.builds, 0 < w (t.lineNo - 1) →
      ∃ K, t.mtype = some K ∧ indentable K = true) :
    (parseWith Gen.dialects Gen.parserTable stop μ ids src').1 =
      Spec.mapOutcome (Spec.indentMap w) (parseWith Gen.dialects Gen.parserTable stop μ ids src).1 :=
  (C16_indent_document_generic _ _ C18_fact_keywords C18_fact_queue C18_fact_comment_blank C16_fact_indent
    w stop μ ids src src' hlen hlines hμ hbuilt).1

/-- … and the final contexts: corresponding error lists, same id counter, same reported lines -/
theorem C16_indent_document_context (w : Nat → Nat) (stop : Bool) (μ : MState) (ids : Nat) (src src' : Str)
    (hlen : (splitLines src').length = (splitLines src).length)
    (hlines : ∀ (i : Nat) (l l' : Str), (splitLines src)[i]? = some l → (splitLines src')[i]? = some l' →
      ∃ ws, l' = ws ++ l ∧ AllSpace ws ∧ ws.length = w i)
    (hμ : (μ.reset Gen.dialects).dialect ∈ Gen.dialects)
    (hbuilt : ∀ t ∈ (parseWith Gen.dialects Gen.parserTable stop μ ids src).2.builds, 0 < w (t.lineNo - 1) →
      ∃ K, t.mtype = some K ∧ indentable K = true) :
    (parseWith Gen.dialects Gen.parserTable stop μ ids src').2.errors =
      (parseWith Gen.dialects Gen.parserTable stop μ ids src).2.errors.map (Spec.mapErr (Spec.indentMap w)) ∧
    (parseWith Gen.dialects Gen.parserTable stop μ ids src').2.ids =
      (parseWith Gen.dialects Gen.parserTable stop μ ids src).2.ids ∧
    (parseWith Gen.dialects Gen.parserTable stop μ ids src').2.unexpected =
      (parseWith Gen.dialects Gen.parserTable stop μ ids src).2.unexpected :=
  (C16_indent_document_generic _ _ C18_fact_keywords C18_fact_queue C18_fact_comment_blank C16_fact_indent
    w stop μ ids src src' hlen hlines hμ hbuilt).2

/-- the shift of line `i` read off the two texts -/
def C16_shift (src' src : Str) (i : Nat) : Nat :=
  match (splitLines src')[i]?, (splitLines src)[i]? with
  | some l', some l => l'.length - l.length
  | _, _ => 0

/-- all hypotheses of `C16_indent_document` (with `w := C16_shift src' src`) as one Boolean; it runs
    the original parse -/
def C16_indentOk (stop : Bool) (μ : MState) (ids : Nat) (src' src : Str) : Bool :=
  (splitLines src').length == (splitLines src).length &&
  ((splitLines src').zip (splitLines src)).all (fun p =>
    decide (p.2.length ≤ p.1.length) && p.1.drop (p.1.length - p.2.length) == p.2 &&
      (p.1.take (p.1.length - p.2.length)).all isSpace) &&
  (parseWith Gen.dialects Gen.parserTable stop μ ids src).2.builds.all fun t =>
    C16_shift src' src (t.lineNo - 1) == 0 || (match t.mtype with | some K => indentable K | none => false)

/-- … which implies the conclusion. -/
theorem C16_indent_document_check (stop : Bool) (μ : MState) (ids : Nat) (src src' : Str)
    (h : C16_indentOk stop μ ids src' src = true)
    (hμ : (μ.reset Gen.dialects).dialect ∈ Gen.dialects) :
    (parseWith Gen.dialects Gen.parserTable stop μ ids src').1 =
      Spec.mapOutcome (Spec.indentMap (C16_shift src' src)) (parseWith Gen.dialects Gen.parserTable stop μ ids src).1 := by
  unfold C16_indentOk at h
  simp only [Bool.and_eq_true, beq_iff_eq] at h
  refine C16_indent_document _ stop μ ids src src' h.1.1 (lines_of_shiftB h.1.2) hμ fun t ht hpos => ?_
  have := List.all_eq_true.1 h.2 t ht
  simp only [Bool.or_eq_true, beq_iff_eq] at this
  rcases this with h0 | hk
  · omega
  · cases hm : t.mtype with
    | none => rw [hm] at hk; cases hk
    | some K => rw [hm] at hk; exact ⟨K, rfl, hk⟩

/-- positions inside lines: feature, tags, table cells -/
def C16_innerLocs : Outcome → List Loc
  | .ok d => (d.feature.map fun x => x.loc :: x.children.flatMap fun c => match c with
      | .scenario s => s.tags.map (·.loc) ++ s.steps.flatMap fun st => match st.arg with
          | .table t => t.rows.flatMap fun r => r.cells.map (·.loc) | _ => []
      | _ => []).getD []
  | _ => []

/-- an accepted document (tags, outline, doc string, data table, blank line, examples) … -/
def C16_indDoc : Str :=
  lit "Feature: f\n@t1 @t2\nScenario Outline: s\n  Given <x>\n  \"\"\"\n  text\n  \"\"\"\n  When y\n  | a | b |\n\n  Examples:\n  | x |\n  | 1 |\n"

/-- … and the same with the feature line, the tag line, the scenario line (by a tab), both steps, the
    data-table row, the blank line, the examples line and an examples row moved right; the doc
    string (delimiters and content) is left alone -/
def C16_indDoc' : Str :=
  lit "  Feature: f\n @t1 @t2\n\tScenario Outline: s\n     Given <x>\n  \"\"\"\n  text\n  \"\"\"\n   When y\n    | a | b |\n  \n   Examples:\n  | x |\n   | 1 |\n"

/-- all hypotheses hold, in both error modes; the shifts are 2 1 1 3 0 0 0 1 2 2 1 0 1 … -/
example : (MState.init Gen.dialects (lit "en")).map (fun μ =>
      (C16_indentOk false μ 0 C16_indDoc' C16_indDoc, C16_indentOk true μ 0 C16_indDoc' C16_indDoc,
       (List.range 13).map (C16_shift C16_indDoc' C16_indDoc))) =
    some (true, true, [2, 1, 1, 3, 0, 0, 0, 1, 2, 2, 1, 0, 1]) := by
  rw [C16_indDoc, C16_indDoc']
  lit_lists
  kdecide

/-- … and the conclusion is not trivial: scenario, steps, rows, examples line; feature, tags, cells -/
example : (MState.init Gen.dialects (lit "en")).map (fun μ =>
      let o := (parseWith Gen.dialects Gen.parserTable false μ 0 C16_indDoc).1
      let o' := (parseWith Gen.dialects Gen.parserTable false μ 0 C16_indDoc').1
      (C16_someLocs o, C16_someLocs o', C16_innerLocs o, C16_innerLocs o')) =
    some ([⟨3, some 1⟩, ⟨4, some 3⟩, ⟨5, some 3⟩, ⟨8, some 3⟩, ⟨9, some 3⟩, ⟨11, some 3⟩, ⟨13, some 3⟩],
          [⟨3, some 2⟩, ⟨4, some 6⟩, ⟨5, some 3⟩, ⟨8, some 4⟩, ⟨9, some 5⟩, ⟨11, some 4⟩, ⟨13, some 4⟩],
          [⟨1, some 1⟩, ⟨2, some 1⟩, ⟨2, some 5⟩, ⟨9, some 5⟩, ⟨9, some 9⟩],
          [⟨1, some 3⟩, ⟨2, some 2⟩, ⟨2, some 6⟩, ⟨9, some 7⟩, ⟨9, some 11⟩]) := by
  rw [C16_indDoc, C16_indDoc']
  lit_lists
  kdecide

/-- `C16_demoBad` with the ragged table, the unexpected line and the second feature line moved right -/
def C16_indBad' : Str :=
  lit "Feature: f\n some description\n@t1 @t 2\nScenario: s\n  Given x\n    | a | b |\n    | c |\n   nonsense\n  When y\n Feature: g\n"

/-- … and with the line with the tag error moved as well -/
def C16_indBad'' : Str :=
  lit "Feature: f\n some description\n  @t1 @t 2\nScenario: s\n  Given x\n    | a | b |\n    | c |\n   nonsense\n  When y\n Feature: g\n"

/-- a rejected document: lines that are reported as unexpected may be moved; the line with the tag
    error may be moved in stop-at-first-error mode (it is never built then) but not in collecting
    mode (there it is read on as description text) -/
example : (MState.init Gen.dialects (lit "en")).map (fun μ =>
      (C16_indentOk false μ 0 C16_indBad' C16_demoBad, C16_indentOk true μ 0 C16_indBad'' C16_demoBad,
       C16_indentOk false μ 0 C16_indBad'' C16_demoBad)) = some (true, true, false) := by
  rw [C16_demoBad, C16_indBad', C16_indBad'']
  lit_lists
  kdecide

/-- … the error columns move with the lines (tag, unexpected line, ragged table, unexpected feature) -/
example : (MState.init Gen.dialects (lit "en")).map (fun μ =>
      (C16_someLocs (parseWith Gen.dialects Gen.parserTable false μ 0 C16_demoBad).1,
       C16_someLocs (parseWith Gen.dialects Gen.parserTable false μ 0 C16_indBad').1)) =
    some ([⟨3, some 5⟩, ⟨8, some 1⟩, ⟨7, some 3⟩, ⟨10, some 1⟩],
          [⟨3, some 5⟩, ⟨8, some 4⟩, ⟨7, some 5⟩, ⟨10, some 2⟩]) := by
  rw [C16_demoBad, C16_indBad']
  lit_lists
  kdecide

example : (MState.init Gen.dialects (lit "en")).map (fun μ =>
      (C16_someLocs (parseWith Gen.dialects Gen.parserTable true μ 0 C16_demoBad).1,
       C16_someLocs (parseWith Gen.dialects Gen.parserTable true μ 0 C16_indBad'').1)) =
    some ([⟨3, some 5⟩], [⟨3, some 7⟩]) := by
  rw [C16_demoBad, C16_indBad'']
  lit_lists
  kdecide

def C16_cex : Str := lit "# c\nFeature: f\n desc\nScenario: s\nGiven x\n\"\"\"\nc1\n\"\"\"\n"
def C16_cex1 : Str := lit "  # c\nFeature: f\n desc\nScenario: s\nGiven x\n\"\"\"\nc1\n\"\"\"\n"
def C16_cex2 : Str := lit "# c\nFeature: f\n   desc\nScenario: s\nGiven x\n\"\"\"\nc1\n\"\"\"\n"
def C16_cex3 : Str := lit "# c\nFeature: f\n desc\nScenario: s\nGiven x\n\"\"\"\n  c1\n\"\"\"\n"
def C16_cex4 : Str := lit "# c\nFeature: f\n desc\nScenario: s\nGiven x\n  \"\"\"\nc1\n\"\"\"\n"

/-- COUNTEREXAMPLES (the hypothesis on `builds` is needed): a comment, a description line, a
    doc-string content line, an opening delimiter moved right fail the check … -/
example : (MState.init Gen.dialects (lit "en")).map (fun μ =>
      (C16_indentOk false μ 0 C16_cex1 C16_cex, C16_indentOk false μ 0 C16_cex2 C16_cex,
       C16_indentOk false μ 0 C16_cex3 C16_cex, C16_indentOk false μ 0 C16_cex4 C16_cex)) =
    some (false, false, false, false) := by
  rw [C16_cex, C16_cex1, C16_cex2, C16_cex3, C16_cex4]
  lit_lists
  kdecide

/-- … and the documents differ by more than columns: the comment text, the description, the
    doc-string content keep the blanks -/
example : (MState.init Gen.dialects (lit "en")).map (fun μ =>
      [C16_texts (parseWith Gen.dialects Gen.parserTable false μ 0 C16_cex).1,
       C16_texts (parseWith Gen.dialects Gen.parserTable false μ 0 C16_cex1).1,
       C16_texts (parseWith Gen.dialects Gen.parserTable false μ 0 C16_cex2).1,
       C16_texts (parseWith Gen.dialects Gen.parserTable false μ 0 C16_cex3).1]) =
    some [[[lit "# c"], [lit " desc"], [lit "c1"]],
          [[lit "  # c"], [lit " desc"], [lit "c1"]],
          [[lit "# c"], [lit "   desc"], [lit "c1"]],
          [[lit "# c"], [lit " desc"], [lit "  c1"]]] := by
  rw [C16_cex, C16_cex1, C16_cex2, C16_cex3]
  lit_lists
  kdecide

/-- the kinds: a moved line may have been built as a keyword, step, tag, table-row or blank line -/
example : [Kind.FeatureLine, .RuleLine, .BackgroundLine, .ScenarioLine, .ExamplesLine, .StepLine, .TagLine,
      .TableRow, .Empty].all indentable = true ∧
    [Kind.Comment, .Language, .Other, .DocStringSeparator, .EOF].all (fun K => !indentable K) = true := by decide

end GV
