/-
  Props/C14Stop.lean — property C14, last sentence, first half: "Stop-at-first-error mode raises
  precisely the first error that collecting mode lists."  Proved for every dialect list, every
  table, every matcher state, id counter and source text, by a simulation between the two runs of
  the glue model (Lemmas/StopFirst.lean): while nothing has been reported the two modes do
  exactly the same thing; the first `add_error` of collecting mode is the `raise` of stop mode;
  afterwards collecting mode only ever appends to its list.

  "First" means first in the order collecting mode lists them, which is the order in which they
  are detected — not line order (see the example at the end).
-/
import GherkinVerif.Lemmas.StopFirst
import GherkinVerif.Gen.ParserTable
import GherkinVerif.Gen.Dialects
import GherkinVerif.KDecide
import GherkinVerif.Lemmas.Lit
namespace GV

/-- If collecting mode rejects a document with the error list `e :: rest`, stop-at-first-error
    mode rejects the same document with exactly the one error `e` (a bare `ParserException`,
    not a composite). -/
theorem C14_stop_is_first (D : List Dialect) (T : Table) (μ : MState) (ids : Nat) (src : Str)
    (e : PErr) (rest : List PErr) (comp : Bool)
    (h : (parseWith D T false μ ids src).1 = .rejected (e :: rest) comp) :
    (parseWith D T true μ ids src).1 = .rejected [e] false :=
  Lemmas.stop_is_first D T μ ids src e rest comp h

/-- Conversely: if stop mode rejects a document with the error `e`, then collecting mode rejects
    it with a composite whose first error is `e` — or its run, which carries on after `e`, ends
    in one of the model's explicit `crash` / `fuel` outcomes.  (The collecting run continues past
    the point where the stop run ended; for an arbitrary table the AST builder may raise a
    non-parser exception on what follows, so `crash` cannot be excluded here — for the generated
    table Props/C01NoCrashAll.lean excludes it.  `fuel` is excluded below for tables whose
    look-aheads stop at end of file.) -/
theorem C14_stop_rejects_iff (D : List Dialect) (T : Table) (μ : MState) (ids : Nat) (src : Str)
    (e : PErr) (comp : Bool) (h : (parseWith D T true μ ids src).1 = .rejected [e] comp) :
    (∃ rest, (parseWith D T false μ ids src).1 = .rejected (e :: rest) true) ∨
    (∃ w, (parseWith D T false μ ids src).1 = .crash w) ∨
    (parseWith D T false μ ids src).1 = .fuel :=
  Lemmas.stop_rejects D T μ ids src e comp h

/-- The same without the `fuel` alternative, for a table whose look-aheads stop at end of file
    (`C01_fact_lookaheads` checks this for the generated table). -/
theorem C14_stop_rejects_iff_term (D : List Dialect) (T : Table) (hT : Spec.lookaheadsStopAtEOF T = true)
    (μ : MState) (ids : Nat) (src : Str)
    (e : PErr) (comp : Bool) (h : (parseWith D T true μ ids src).1 = .rejected [e] comp) :
    (∃ rest, (parseWith D T false μ ids src).1 = .rejected (e :: rest) true) ∨
    (∃ w, (parseWith D T false μ ids src).1 = .crash w) :=
  Lemmas.stop_rejects_term D T hT μ ids src e comp h

/-- Stop mode accepts a document exactly when collecting mode does, with the same AST. -/
theorem C14_accept_same (D : List Dialect) (T : Table) (μ : MState) (ids : Nat) (src : Str) (d : Doc) :
    (parseWith D T true μ ids src).1 = .ok d ↔ (parseWith D T false μ ids src).1 = .ok d :=
  Lemmas.accept_same D T μ ids src d

/-- When either mode accepts, the two runs are identical throughout: same outcome and same final
    context (matcher state, id counter, tokens read, tokens built, match calls). -/
theorem C14_accept_same_run (D : List Dialect) (T : Table) (μ : MState) (ids : Nat) (src : Str) (d : Doc)
    (h : (parseWith D T true μ ids src).1 = .ok d ∨ (parseWith D T false μ ids src).1 = .ok d) :
    parseWith D T true μ ids src = parseWith D T false μ ids src :=
  Lemmas.accept_same_run D T μ ids src d h

/-- The complete picture.  Either the two modes run identically and the outcome is a document, a
    crash or fuel; or stop mode raises one error `e` and collecting mode lists `e` first (or ends
    in crash / fuel after having recorded `e`). -/
theorem C14_modes (D : List Dialect) (T : Table) (μ : MState) (ids : Nat) (src : Str) :
    (parseWith D T true μ ids src = parseWith D T false μ ids src ∧
      ((∃ d, (parseWith D T false μ ids src).1 = .ok d) ∨ (∃ w, (parseWith D T false μ ids src).1 = .crash w) ∨
        (parseWith D T false μ ids src).1 = .fuel)) ∨
    (∃ e, (parseWith D T true μ ids src).1 = .rejected [e] false ∧
      ((∃ rest, (parseWith D T false μ ids src).1 = .rejected (e :: rest) true) ∨
        (∃ w, (parseWith D T false μ ids src).1 = .crash w) ∨ (parseWith D T false μ ids src).1 = .fuel)) :=
  Lemmas.parse_modes D T μ ids src

def rejectedAt : Outcome → Option (List (Nat × Nat))
  | .rejected es _ => some (es.map fun e => (e.loc.line, e.loc.col.getD 0))
  | _ => none

/-- A ragged table (line 5) followed by a stray line (line 6): collecting mode lists the stray
    line first, because the table is only checked when it is closed (here at end of file), then
    the ragged row; stop mode raises the stray-line error alone. -/
example :
    (MState.init Gen.dialects (lit "en")).map
      (fun μ => rejectedAt (parseWith Gen.dialects Gen.parserTable false μ 0
        (lit "Feature: f\nScenario: s\nGiven x\n|a|b|\n|c|\nbogus\n")).1) =
      some (some [(6, 1), (5, 1)]) ∧
    (MState.init Gen.dialects (lit "en")).map
      (fun μ => rejectedAt (parseWith Gen.dialects Gen.parserTable true μ 0
        (lit "Feature: f\nScenario: s\nGiven x\n|a|b|\n|c|\nbogus\n")).1) =
      some (some [(6, 1)]) := by
  lit_lists
  kdecide

end GV
