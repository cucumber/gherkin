/-
  Props/C02Siblings.lean — property C02, third sentence: the generated Python state machine has
  the same transitions as the Java, Go, Ruby, C and TypeScript parsers generated from the same
  grammar.  All six tables are regenerated from the current sources on every run; the
  quantifier is over programs (finite), so kernel evaluation (`kdecide`) on the whole tables is the
  proof.
-/
import GherkinVerif.Spec.TableEq
import GherkinVerif.Gen.ParserTable
import GherkinVerif.Gen.Siblings
import GherkinVerif.KDecide
namespace GV

theorem C02_sibling_java : Spec.tableEq Gen.parserTable Gen.sibling_java = true := by kdecide
theorem C02_sibling_go : Spec.tableEq Gen.parserTable Gen.sibling_go = true := by kdecide
theorem C02_sibling_ruby : Spec.tableEq Gen.parserTable Gen.sibling_ruby = true := by kdecide
theorem C02_sibling_c : Spec.tableEq Gen.parserTable Gen.sibling_c = true := by kdecide
theorem C02_sibling_ts : Spec.tableEq Gen.parserTable Gen.sibling_ts = true := by kdecide

theorem C02_siblings_equal :
    Spec.tableEq Gen.parserTable Gen.sibling_java = true ∧ Spec.tableEq Gen.parserTable Gen.sibling_go = true ∧
    Spec.tableEq Gen.parserTable Gen.sibling_ruby = true ∧ Spec.tableEq Gen.parserTable Gen.sibling_c = true ∧
    Spec.tableEq Gen.parserTable Gen.sibling_ts = true :=
  ⟨C02_sibling_java, C02_sibling_go, C02_sibling_ruby, C02_sibling_c, C02_sibling_ts⟩

/-- non-vacuity: the relation is not trivially true — retargeting one branch breaks it -/
example : Spec.branchEq ⟨.EOF, none, [.build], 34⟩ ⟨.EOF, none, [.build], 33⟩ = false := by decide

end GV
