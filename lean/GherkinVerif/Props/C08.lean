/-
  Props/C08.lean — property C08: pickle tags = feature, rule, scenario, examples tags, in order.
-/
import GherkinVerif.Lemmas.Compile
namespace GV

theorem C08_tags_scenario (uri language : Str) (sc : Spec.Scope) (s : Scenario) (p : Pickle)
    (h : Spec.scenarioPickle uri language sc s = some p) :
    p.tags = (sc.ftags ++ sc.rtags ++ s.tags).map (fun t => ⟨t.id, t.name⟩) :=
  Lemmas.spec_tags_scenario uri language sc s p h

/-- Tags of an example row's pickle: additionally the tags of *its* examples block. -/
theorem C08_tags_row (uri language : Str) (sc : Spec.Scope) (s : Scenario) (ex : Examples) (hd row : Row)
    (p : Pickle) (h : Spec.rowPickle uri language sc s ex hd row = some p) :
    p.tags = (sc.ftags ++ sc.rtags ++ s.tags ++ ex.tags).map (fun t => ⟨t.id, t.name⟩) :=
  Lemmas.spec_tags_row uri language sc s ex hd row p h

/-- The scope's tags are the feature's and — inside a rule — that rule's; nothing else. -/
theorem C08_scope_tags (f : Feature) (x : Spec.Scope × Scenario) (h : x ∈ Spec.featureScenarios f) :
    x.1.ftags = f.tags ∧ (x.1.rtags = [] ∨ ∃ r, FeatureChild.rule r ∈ f.children ∧ x.1.rtags = r.tags ∧
      RuleChild.scenario x.2 ∈ r.children) :=
  Lemmas.spec_scope_tags f x h

end GV
