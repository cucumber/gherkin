/-
  Props/C18.lean — property C18: the builder sees each source line exactly once, in order, then
  one EOF.

  Proved: every token the main loop reads is either handed to the builder or reported as
  unexpected, never both, never neither (up to the abort that ends a rejected parse), for every
  table whose branches build exactly once; for accepted documents the builder receives exactly
  the tokens read.  That the tokens are read in line order 1,2,3,… through the look-ahead queue
  (`C18_reads_in_order`) needs the tag-state facts of the table and is in Props/C18Order.lean.
  The ghost fields `reads`/`builds`/`unexpected` are compared with the real parser by the
  correspondence stream.
-/
import GherkinVerif.Lemmas.Glue
import GherkinVerif.Spec.TableFacts
import GherkinVerif.Gen.ParserTable
import GherkinVerif.KDecide
import GherkinVerif.Lemmas.FactsTable
namespace GV

theorem C18_fact_one_build : Spec.oneBuildLast Gen.parserTable = true := Facts.oneBuildLast_table

/-- For an accepted document the builder received exactly the tokens the main loop read, in the
    order read, each once. -/
theorem C18_accepted_builds_eq_reads (D : List Dialect) (T : Table) (hT : Spec.oneBuildLast T = true)
    (stop : Bool) (μ : MState) (ids : Nat) (src : Str) (d : Doc)
    (h : (parseWith D T stop μ ids src).1 = .ok d) :
    (parseWith D T stop μ ids src).2.builds.map (·.lineNo) = (parseWith D T stop μ ids src).2.reads ∧
    (parseWith D T stop μ ids src).2.unexpected = [] :=
  Lemmas.accepted_builds_eq_reads D T hT stop μ ids src d h

/-- In general (rejected documents included): built and unexpected tokens partition the tokens
    read — except possibly the very last one read when an error aborts the parse. -/
theorem C18_partition (D : List Dialect) (T : Table) (hT : Spec.oneBuildLast T = true)
    (stop : Bool) (μ : MState) (ids : Nat) (src : Str) :
    let ctx := (parseWith D T stop μ ids src).2
    ((ctx.builds.map (·.lineNo) ++ ctx.unexpected).Perm ctx.reads ∨
     (ctx.builds.map (·.lineNo) ++ ctx.unexpected).Perm ctx.reads.dropLast) ∧
    (ctx.builds.map (·.lineNo)).Sublist ctx.reads ∧ ctx.unexpected.Sublist ctx.reads :=
  Lemmas.partition D T hT stop μ ids src

/-- The look-ahead re-queues exactly what it read: nothing is dropped or duplicated.  The tokens
    waiting in the queue followed by the unread lines are, as line numbers, the same collection
    before and after a look-ahead. -/
theorem C18_lookahead_conserves (D : List Dialect) (cap : Nat) (stop : Bool) (la : LookAhead) (ctx : Ctx) (b : Bool) (ctx' : Ctx)
    (h : (lookahead D cap stop la).run.run ctx = (.ok b, ctx')) :
    (ctx'.queue.map (·.lineNo)).Perm (ctx.queue.map (·.lineNo) ++
      (List.range' (ctx.lineNo + 1) (ctx'.lineNo - ctx.lineNo))) ∧
    ctx'.lines = ctx.lines.drop (ctx'.lineNo - ctx.lineNo) ∧ ctx.lineNo ≤ ctx'.lineNo ∧
    ctx'.builds = ctx.builds ∧ ctx'.reads = ctx.reads :=
  Lemmas.lookahead_conserves D cap stop la ctx b ctx' h

end GV
