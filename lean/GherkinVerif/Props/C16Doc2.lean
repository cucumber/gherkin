/-
  Props/C16Doc2.lean — property C16, whole-document part, continued: trailing blanks.

  "Adding trailing blanks to keyword, step, tag, table-row and doc-string-delimiter lines changes
  nothing."  Props/C16.lean has the per-line theorem (`C16_trailing_blanks_line`: every kind but
  `Comment` and `Other`; `StepLine` under `StepTailFree`).  Here it is lifted to `parseWith` by the
  lock-step simulation of Lemmas/LayoutDoc2.lean.

  The hypotheses — `src'` is the text with blanks added or removed, `src` the original; both error
  modes, accepted or rejected documents:

    * the two texts have the same number of physical lines and each pair of lines is equal or
      agrees up to trailing whitespace (`rstrip` equal; the line ending may change as well);
    * a line that differs is not a `#` line (a comment keeps its trailing blanks as text) and is
      step-tail-free for every dialect that can be in force (finding F8: "Etant donné que" + blank,
      "Given" + blank) — `C16_lineOk`, a Boolean on the two lines;
    * no line that differs is handed to the builder as `Other` by the ORIGINAL run (free text of a
      description or doc-string content keeps its trailing blanks): a condition on the ghost list
      `builds` of the original run only.  It cannot be made static: a keyword line inside a doc
      string IS read as `Other`.

  Then the outcome (document, or error list with kinds, locations and messages) and the final
  context are the same.  The dialects "in force" are any set `DS` containing the start dialect and
  closed under the `# language:` headers of the text: all of `Gen.dialects`
  (`C16_trailing_blanks_document_all_dialects`) or just the start dialect and those the headers
  name (`C16_trailing_blanks_document`, and as one Boolean check `C16_trailing_blanks_document_check`).
-/
import GherkinVerif.Props.C16Doc
import GherkinVerif.Lemmas.LayoutDoc2
import GherkinVerif.KDecide
import GherkinVerif.Lemmas.Lit
namespace GV
open Lemmas

/-- fact about the regenerated table: an `Other` test is never guarded -/
theorem C16_fact_other_unguarded : Spec.otherUnguarded Gen.parserTable = true := by kdecide
/-- fact about the regenerated table: no look-ahead tests `Other` -/
theorem C16_fact_lookaheads_no_other : Spec.lookaheadsNoOther Gen.parserTable = true := by kdecide

/-- Line `l'` may replace line `l`: they are equal, or agree up to trailing whitespace (blanks and
    line ending) and `l` is not a `#` line and is step-tail-free for the dialects `DS`. -/
def C16_lineOk (DS : List Dialect) (l' l : Str) : Bool :=
  l' == l || (rstrip l' == rstrip l && !lineStartsWith l [35] &&
    DS.all fun d => stepTailFreeB d.stepKeywords (rstrip l))

/-- no token the run handed to the builder as `Other` is of a line that differs -/
def C16_noOtherModified (ls' ls : List Str) (builds : List Token) : Prop :=
  ∀ t ∈ builds, t.mtype = some .Other → ls'[t.lineNo - 1]? = ls[t.lineNo - 1]?

/-- **Trailing blanks, whole document**, for any set `DS` of dialects containing the start dialect
    and the dialects named by the `# language:` headers of the text. -/
theorem C16_trailing_blanks_document_generic (DS : List Dialect) (stop : Bool) (μ : MState) (ids : Nat)
    (src' src : Str)
    (hlen : (splitLines src').length = (splitLines src).length)
    (hmod : ∀ (k : Nat) (l' l : Str), (splitLines src')[k]? = some l' → (splitLines src)[k]? = some l → C16_lineOk DS l' l = true)
    (hother : C16_noOtherModified (splitLines src') (splitLines src)
      (parseWith Gen.dialects Gen.parserTable stop μ ids src).2.builds)
    (hμ : (μ.reset Gen.dialects).dialect ∈ Gen.dialects)
    (hds : (μ.reset Gen.dialects).dialect ∈ DS)
    (hcl : ∀ l ∈ splitLines src, ∀ name d, languageRe (lineText l none) = some name →
      findDialect Gen.dialects name = some d → d ∈ DS) :
    (parseWith Gen.dialects Gen.parserTable stop μ ids src').1 =
      (parseWith Gen.dialects Gen.parserTable stop μ ids src).1 ∧
    C16_SameContext (parseWith Gen.dialects Gen.parserTable stop μ ids src').2
      (parseWith Gen.dialects Gen.parserTable stop μ ids src).2 := by
  let P : BlankParams :=
    ⟨fun i => (splitLines src')[i - 1]? ≠ (splitLines src)[i - 1]?, splitLines src, DS⟩
  have hl : LinesRel P 0 (splitLines src') (splitLines src) := by
    refine linesRel_of_index 0 _ _ hlen fun k l1 l2 h1 h2 => ⟨List.mem_of_getElem? h2, ?_⟩
    by_cases he : l1 = l2
    · subst he; exact .inl (LineRel.refl _)
    · have h0 := hmod k l1 l2 h1 h2
      unfold C16_lineOk at h0
      simp only [Bool.or_eq_true, Bool.and_eq_true, beq_iff_eq, Bool.not_eq_true', List.all_eq_true] at h0
      rcases h0 with h0 | ⟨⟨hr, hh⟩, ht⟩
      · exact absurd h0 he
      · refine .inr ⟨hr, ?_, hh, ht⟩
        show (splitLines src')[0 + k + 1 - 1]? ≠ (splitLines src)[0 + k + 1 - 1]?
        have e : 0 + k + 1 - 1 = k := by omega
        rw [e, h1, h2]
        intro e'; cases e'; exact he rfl
  rcases parseWith_simU C16_step_keywords_ok (P := P) hcl
      (.of_facts C16_fact_blank_taken C16_fact_other_unguarded C16_fact_lookaheads_no_other) stop μ ids hl hμ hds with
    ⟨h1, h2⟩ | ⟨t, ht, hm, hM⟩
  · exact ⟨h1, h2.errors, h2.μ, h2.ids, h2.calls, h2.reads, h2.unexpected, h2.lineNo, h2.builds⟩
  · exact absurd (hother t ht hm) hM

/-- the dialects that can be in force while `src` is parsed: the one the parse starts with and
    those its `# language:` headers name -/
def C16_dialectsOf (μ : MState) (src : Str) : List Dialect :=
  (μ.reset Gen.dialects).dialect :: Spec.langDialects Gen.dialects (splitLines src)

/-- **Adding (or removing) trailing blanks on keyword, step, tag, table-row, doc-string-delimiter
    and blank lines changes nothing**: if every line that differs is not a `#` line and is
    step-tail-free for the dialects in force, and the original run built none of them as `Other`,
    then the outcome — the document, or the exact error list — is the same. -/
theorem C16_trailing_blanks_document (stop : Bool) (μ : MState) (ids : Nat) (src' src : Str)
    (hlen : (splitLines src').length = (splitLines src).length)
    (hmod : ∀ (k : Nat) (l' l : Str), (splitLines src')[k]? = some l' → (splitLines src)[k]? = some l →
      C16_lineOk (C16_dialectsOf μ src) l' l = true)
    (hother : C16_noOtherModified (splitLines src') (splitLines src)
      (parseWith Gen.dialects Gen.parserTable stop μ ids src).2.builds)
    (hμ : (μ.reset Gen.dialects).dialect ∈ Gen.dialects) :
    (parseWith Gen.dialects Gen.parserTable stop μ ids src').1 =
    (parseWith Gen.dialects Gen.parserTable stop μ ids src).1 := by
  exact (C16_trailing_blanks_document_generic (C16_dialectsOf μ src) stop μ ids src' src hlen hmod hother hμ
    List.mem_cons_self fun _ hl _ _ h1 h2 => List.mem_cons_of_mem _ (mem_langDialects hl h1 h2)).1

/-- … and the same final context: error list, matcher state, id counter, number of matcher calls,
    lines read and reported unexpected; built tokens equal up to their physical line -/
theorem C16_trailing_blanks_document_context (stop : Bool) (μ : MState) (ids : Nat) (src' src : Str)
    (hlen : (splitLines src').length = (splitLines src).length)
    (hmod : ∀ (k : Nat) (l' l : Str), (splitLines src')[k]? = some l' → (splitLines src)[k]? = some l →
      C16_lineOk (C16_dialectsOf μ src) l' l = true)
    (hother : C16_noOtherModified (splitLines src') (splitLines src)
      (parseWith Gen.dialects Gen.parserTable stop μ ids src).2.builds)
    (hμ : (μ.reset Gen.dialects).dialect ∈ Gen.dialects) :
    C16_SameContext (parseWith Gen.dialects Gen.parserTable stop μ ids src').2
      (parseWith Gen.dialects Gen.parserTable stop μ ids src).2 := by
  exact (C16_trailing_blanks_document_generic (C16_dialectsOf μ src) stop μ ids src' src hlen hmod hother hμ
    List.mem_cons_self fun _ hl _ _ h1 h2 => List.mem_cons_of_mem _ (mem_langDialects hl h1 h2)).2

/-- the same with the step-tail condition for every dialect of the table (no need to look for
    `# language:` headers; slightly more demanding on the lines that differ) -/
theorem C16_trailing_blanks_document_all_dialects (stop : Bool) (μ : MState) (ids : Nat) (src' src : Str)
    (hlen : (splitLines src').length = (splitLines src).length)
    (hmod : ∀ (k : Nat) (l' l : Str), (splitLines src')[k]? = some l' → (splitLines src)[k]? = some l →
      C16_lineOk Gen.dialects l' l = true)
    (hother : C16_noOtherModified (splitLines src') (splitLines src)
      (parseWith Gen.dialects Gen.parserTable stop μ ids src).2.builds)
    (hμ : (μ.reset Gen.dialects).dialect ∈ Gen.dialects) :
    (parseWith Gen.dialects Gen.parserTable stop μ ids src').1 =
    (parseWith Gen.dialects Gen.parserTable stop μ ids src).1 :=
  (C16_trailing_blanks_document_generic Gen.dialects stop μ ids src' src hlen hmod hother hμ hμ
    fun _ _ _ _ _ h2 => findDialect_mem h2).1

/-- all hypotheses of `C16_trailing_blanks_document` as one Boolean (it runs the original parse) -/
def C16_trailingBlanksOk (stop : Bool) (μ : MState) (ids : Nat) (src' src : Str) : Bool :=
  (splitLines src').length == (splitLines src).length &&
  ((splitLines src').zip (splitLines src)).all (fun p => C16_lineOk (C16_dialectsOf μ src) p.1 p.2) &&
  (parseWith Gen.dialects Gen.parserTable stop μ ids src).2.builds.all fun t =>
    !(t.mtype == some .Other) || (splitLines src')[t.lineNo - 1]? == (splitLines src)[t.lineNo - 1]?

/-- … which implies the conclusion. -/
theorem C16_trailing_blanks_document_check (stop : Bool) (μ : MState) (ids : Nat) (src' src : Str)
    (h : C16_trailingBlanksOk stop μ ids src' src = true)
    (hμ : (μ.reset Gen.dialects).dialect ∈ Gen.dialects) :
    (parseWith Gen.dialects Gen.parserTable stop μ ids src').1 =
    (parseWith Gen.dialects Gen.parserTable stop μ ids src).1 := by
  unfold C16_trailingBlanksOk at h
  simp only [Bool.and_eq_true, beq_iff_eq] at h
  obtain ⟨⟨hlen, hz⟩, hb⟩ := h
  refine C16_trailing_blanks_document stop μ ids src' src hlen (fun k l' l h1 h2 => zip_all_index hz k l' l h1 h2)
    (fun t ht hm => ?_) hμ
  rw [List.all_eq_true] at hb
  have := hb t ht
  simp only [hm, beq_self_eq_true, Bool.not_true, Bool.false_or, beq_iff_eq] at this
  exact this

/-- Blanks added to every line of a text none of whose lines is read as comment or free text: if
    `src'` is `src` with whitespace `ws i` inserted before the line ending of line `i`, the first
    two hypotheses reduce to the Boolean `C16_lineOk` of each pair; e.g. a line is related to itself
    with blanks appended. -/
theorem C16_lineOk_append (DS : List Dialect) (s ws eol : Str) (hws : AllSpace ws) (heol : AllSpace eol)
    (hh : lineStartsWith (s ++ eol) [35] = false)
    (ht : ∀ d ∈ DS, stepTailFreeB d.stepKeywords (rstrip (s ++ eol)) = true) :
    C16_lineOk DS (s ++ ws ++ eol) (s ++ eol) = true := by
  unfold C16_lineOk
  have hr : rstrip (s ++ ws ++ eol) = rstrip (s ++ eol) := by
    rw [List.append_assoc, rstrip_append_allSpace s (hws.append heol), rstrip_append_allSpace s heol]
  simp only [Bool.or_eq_true, Bool.and_eq_true, beq_iff_eq, Bool.not_eq_true', List.all_eq_true]
  exact .inr ⟨⟨hr, hh⟩, ht⟩

/-- The counterpart of the kind-level `C16_blank_line_step` for `match_token` of the parser with the
    look-ahead queue (the whole-document theorem `C16_blank_line_document`, Props/C16Doc3.lean, goes
    through the queue-free parse `Spec.parseWithPure` and does not use this step):
    in a state `s` that reads a blank line as `Empty` first, `match_token` on a whitespace-only line
    (fresh from the scanner or from the look-ahead queue) makes `n + 1` matcher calls, leaves the
    matcher state, the error list and the id counter alone, hands exactly one token — the line read
    as `Empty` — to the builder, which appends it to the node under construction, and returns to
    the same state `s`.  Both error modes. -/
theorem C16_blank_line_parse_step_partial (stop : Bool) (s : Nat) (hs : Spec.emptyFirst Gen.parserTable s = true)
    (t : Token) (l : Str) (hl : t.line = some l) (hb : lstrip l = []) (c : Ctx)
    (hμ : c.μ.dialect ∈ Gen.dialects) (top : Node) (rest : List Node) (hst : c.β.stack = top :: rest) :
    ∃ n, lrun (matchToken Gen.dialects Gen.parserTable stop s t) c =
      (.ok s, { c with
        calls := c.calls + (n + 1)
        β := { c.β with stack := { top with items := top.items ++ [(.tok .Empty, .tok (emptyTok c.μ t))] } :: rest }
        builds := c.builds ++ [emptyTok c.μ t] }) := by
  have hkw : ∀ kw ∈ c.μ.dialect.stepKeywords, kw ≠ [] := fun kw hkw =>
    ((stepKeywordOk_iff kw).1 (stepKwOk_of_mem C16_step_keywords_ok hμ kw hkw)).1
  obtain ⟨n, hn⟩ := matchToken_blank_step Gen.dialects Gen.parserTable C16_empty_self_loop stop hs hl hb c hkw
  refine ⟨n, ?_⟩
  rw [lrun_eq, hn, prun_bind, runProds, prun_bind, run_runProd]
  simp only []
  rw [build_token _ (emptyTok c.μ t) .Empty top rest rfl (by decide) hst]
  rfl

/-- blanks (and a tab) added to a feature, a tag, a scenario, a step, a doc-string delimiter with
    media type, a table row, an examples line and a blank line; the doc-string CONTENT line is left
    alone: all hypotheses hold … -/
example : (MState.init Gen.dialects (lit "en")).map (fun μ =>
      C16_trailingBlanksOk false μ 0
        (lit "Feature: f  \n@t \t\nScenario Outline: s \n  Given <x>  \n  \"\"\" xml \n  Given y\n  \"\"\"  \n   \n  Examples: \n  | x | \n")
        (lit "Feature: f\n@t\nScenario Outline: s\n  Given <x>\n  \"\"\" xml\n  Given y\n  \"\"\"\n\n  Examples:\n  | x |\n")) =
    some true := by
  lit_lists
  kdecide

/-- … and the parse is not trivial: accepted, 5 ids -/
example : (MState.init Gen.dialects (lit "en")).map (fun μ =>
      let r := parseWith Gen.dialects Gen.parserTable false μ 0
        (lit "Feature: f  \n@t \t\nScenario Outline: s \n  Given <x>  \n  \"\"\" xml \n  Given y\n  \"\"\"  \n   \n  Examples: \n  | x | \n")
      ((match r.1 with | .ok d => some (d.feature.map Feature.name) | _ => none), r.2.ids)) =
    some (some (some (lit "f")), 5) := by
  lit_lists
  kdecide

/-- the dynamic hypothesis is needed: a blank added to a description line (read as `Other`) fails the
    check, and the documents differ (the description keeps the blank) -/
example : (MState.init Gen.dialects (lit "en")).map (fun μ =>
      let a := lit "Feature: f\n desc \nScenario: s\n"
      let b := lit "Feature: f\n desc\nScenario: s\n"
      (C16_trailingBlanksOk false μ 0 a b,
       (match (parseWith Gen.dialects Gen.parserTable false μ 0 a).1 with
        | .ok d => d.feature.map Feature.description | _ => none),
       (match (parseWith Gen.dialects Gen.parserTable false μ 0 b).1 with
        | .ok d => d.feature.map Feature.description | _ => none))) =
    some (false, some (lit " desc "), some (lit " desc")) := by
  lit_lists
  kdecide

/-- the static hypotheses are needed: "Given" + blank becomes a step (F8), a comment keeps its blank -/
example : C16_lineOk [Gen.d_en] (lit "Given \n") (lit "Given\n") = false ∧
    C16_lineOk [Gen.d_en] (lit "# c \n") (lit "# c\n") = false ∧
    C16_lineOk [Gen.d_en] (lit "  Given x \n") (lit "  Given x\n") = true := by
  lit_lists
  kdecide

end GV
