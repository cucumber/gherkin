/-
  Props/C16Doc7.lean — property C16, whole-document part, goal G2b (ii):
  A DOC STRING MOVING AS ONE BLOCK.

  "… indenting such lines further (a doc string moving as one block) changes only columns."

  `C16_indent_docstring_block_document`: the set-up of `C16_indent_document` (Props/C16Doc3.lean) —
  `src'` has the physical lines of `src`, line `i` with `w i` whitespace code points put in front;
  both error modes; accepted and rejected documents; any incoming matcher state and id counter —
  with a weaker hypothesis on the original run's ghost list `builds`.  Reading `builds` from the
  left, let the SHIFT OF THE OPEN DOC STRING (`Spec.openShift w pre`) be `w` of the line of the last
  doc-string delimiter in the tokens `pre` built so far if that delimiter OPENED a doc string, and `0`
  otherwise.  Then every built token `t` must satisfy `Spec.blockTokOk w (openShift w pre) t`:
    * a line built as `Other` (doc-string content; description text) is moved by EXACTLY the shift
      of the open doc string — with its doc string, if one is open and was moved; not at all otherwise;
    * a doc-string delimiter line — opening or closing — may be moved by any amount;
    * any other line is not moved, or was built as `FeatureLine` … `TableRow` or `Empty`.
  Conclusion: `(parse src').outcome = mapOutcome (indentMap w) (parse src).outcome` — the doc string
  has the same content, delimiter and media type; its location column (that of the opening
  delimiter) has moved; errors are renamed likewise.

  This subsumes `C16_indent_document` and `C16_indent_closing_delimiter_document`
  (`C16_indent_block_subsumes`).  The closing delimiter need NOT move with the block (it never
  looks at the recorded indentation).

  NO CONDITION ON THE INSERTED WHITESPACE is needed beyond "whitespace, the same NUMBER of code
  points as in front of the opening delimiter": `get_line_text(n)` compares `n` with the line's own
  indentation and otherwise cuts `n` code points, whatever they are (`Lemmas.lineText_indent`:
  `lineText (ws ++ s) (n + |ws|) = lineText s n`).  So a content line indented less than the
  opening delimiter (it loses only its own indentation, in both runs), a whitespace-only content
  line shorter than the indentation (it becomes empty in both runs), tabs against blanks: all
  covered — see the `example`s.  What IS necessary (kernel-checked counterexamples below): every
  content line moves by the same amount as the opening delimiter.

  Boolean form for a test driver: `Spec.indentBlockOkB` (Spec/LayoutChecks5.lean),
  `C16_indentBlockOk_hyps` (it implies the hypotheses), `C16_indent_docstring_block_document_check`.

  Proof: Lemmas/LayoutDoc7Builder.lean (the builder reads only the text of an `Other` token),
  Lemmas/LayoutDoc7Indent.lean (`matchTok_blk`: one test under matcher states that differ in
  `indentToRemove` by the shift of the open doc string), Lemmas/LayoutDoc7IndentSim.lean (the
  lock-step simulation with that shift as a function of `builds`).
-/
import GherkinVerif.Props.C16Doc3
import GherkinVerif.Lemmas.LayoutDoc7IndentSim
import GherkinVerif.Spec.LayoutChecks5
import GherkinVerif.KDecide
import GherkinVerif.Lemmas.Lit
namespace GV
open Lemmas Layout3 Layout4 Layout7

/-- Generic form; the hypothesis as the scan `Spec.blockScan` of the original run's built tokens. -/
theorem C16_indent_docstring_block_document_generic (D : List Dialect) (T : Table)
    (hQD : Spec.queueDialectFacts D = true) (hQT : Spec.queueFacts T = true)
    (hCB : Spec.commentBlankTested T = true) (hI : indentFacts T = true)
    (w : Nat → Nat) (stop : Bool) (μ : MState) (ids : Nat) (src src' : Str)
    (hlen : (splitLines src').length = (splitLines src).length)
    (hlines : ∀ (i : Nat) (l l' : Str), (splitLines src)[i]? = some l → (splitLines src')[i]? = some l' →
      ∃ ws, l' = ws ++ l ∧ AllSpace ws ∧ ws.length = w i)
    (hμ : (μ.reset D).dialect ∈ D)
    (hbuilt : Spec.blockScan w 0 (parseWith D T stop μ ids src).2.builds = true) :
    (parseWith D T stop μ ids src').1 = Spec.mapOutcome (Spec.indentMap w) (parseWith D T stop μ ids src).1 ∧
    (parseWith D T stop μ ids src').2.errors =
      (parseWith D T stop μ ids src).2.errors.map (Spec.mapErr (Spec.indentMap w)) ∧
    (parseWith D T stop μ ids src').2.ids = (parseWith D T stop μ ids src).2.ids ∧
    (parseWith D T stop μ ids src').2.unexpected = (parseWith D T stop μ ids src).2.unexpected :=
  indent_parseWith7 hQD hQT hCB hI w stop μ ids hlen hlines hμ hbuilt

/-- **Indenting changes only columns — a doc string may move as one block.**  If every line of
    `src'` is the line of `src` with `w i` whitespace code points in front, and every token `t` the
    original run has handed to the builder — after the tokens `pre` — is on a line that may be
    moved by the amount it is moved (`Spec.blockTokOk`: doc-string content exactly by the shift
    `Spec.openShift w pre` of its opening delimiter, description text not at all, delimiter lines
    by any amount, other lines only if built as a keyword, step, tag, table-row or blank line),
    then the outcome of `src'` — document, or error list — is the original outcome with the
    columns on line `n` increased by `w (n - 1)`; in particular the doc string has the same
    content, delimiter and media type. -/
theorem C16_indent_docstring_block_document (w : Nat → Nat) (stop : Bool) (μ : MState) (ids : Nat)
    (src src' : Str)
    (hlen : (splitLines src').length = (splitLines src).length)
    (hlines : ∀ (i : Nat) (l l' : Str), (splitLines src)[i]? = some l → (splitLines src')[i]? = some l' →
      ∃ ws, l' = ws ++ l ∧ AllSpace ws ∧ ws.length = w i)
    (hμ : (μ.reset Gen.dialects).dialect ∈ Gen.dialects)
    (hbuilt : ∀ (pre : List Token) (t : Token) (post : List Token),
      (parseWith Gen.dialects Gen.parserTable stop μ ids src).2.builds = pre ++ t :: post →
      Spec.blockTokOk w (Spec.openShift w pre) t = true) :
    (parseWith Gen.dialects Gen.parserTable stop μ ids src').1 =
      Spec.mapOutcome (Spec.indentMap w) (parseWith Gen.dialects Gen.parserTable stop μ ids src).1 :=
  (C16_indent_docstring_block_document_generic _ _ C18_fact_keywords C18_fact_queue C18_fact_comment_blank
    C16_fact_indent w stop μ ids src src' hlen hlines hμ
    (blockScan_of_forall w _ 0 fun pre t post e => hbuilt pre t post e)).1

/-- … and the final contexts: corresponding error lists, same id counter, same reported lines -/
theorem C16_indent_docstring_block_document_context (w : Nat → Nat) (stop : Bool) (μ : MState) (ids : Nat)
    (src src' : Str)
    (hlen : (splitLines src').length = (splitLines src).length)
    (hlines : ∀ (i : Nat) (l l' : Str), (splitLines src)[i]? = some l → (splitLines src')[i]? = some l' →
      ∃ ws, l' = ws ++ l ∧ AllSpace ws ∧ ws.length = w i)
    (hμ : (μ.reset Gen.dialects).dialect ∈ Gen.dialects)
    (hbuilt : ∀ (pre : List Token) (t : Token) (post : List Token),
      (parseWith Gen.dialects Gen.parserTable stop μ ids src).2.builds = pre ++ t :: post →
      Spec.blockTokOk w (Spec.openShift w pre) t = true) :
    (parseWith Gen.dialects Gen.parserTable stop μ ids src').2.errors =
      (parseWith Gen.dialects Gen.parserTable stop μ ids src).2.errors.map (Spec.mapErr (Spec.indentMap w)) ∧
    (parseWith Gen.dialects Gen.parserTable stop μ ids src').2.ids =
      (parseWith Gen.dialects Gen.parserTable stop μ ids src).2.ids ∧
    (parseWith Gen.dialects Gen.parserTable stop μ ids src').2.unexpected =
      (parseWith Gen.dialects Gen.parserTable stop μ ids src).2.unexpected :=
  (C16_indent_docstring_block_document_generic _ _ C18_fact_keywords C18_fact_queue C18_fact_comment_blank
    C16_fact_indent w stop μ ids src src' hlen hlines hμ
    (blockScan_of_forall w _ 0 fun pre t post e => hbuilt pre t post e)).2

theorem C16_indent_docstring_block_document_scan (w : Nat → Nat) (stop : Bool) (μ : MState) (ids : Nat)
    (src src' : Str)
    (hlen : (splitLines src').length = (splitLines src).length)
    (hlines : ∀ (i : Nat) (l l' : Str), (splitLines src)[i]? = some l → (splitLines src')[i]? = some l' →
      ∃ ws, l' = ws ++ l ∧ AllSpace ws ∧ ws.length = w i)
    (hμ : (μ.reset Gen.dialects).dialect ∈ Gen.dialects)
    (hbuilt : Spec.blockScan w 0 (parseWith Gen.dialects Gen.parserTable stop μ ids src).2.builds = true) :
    (parseWith Gen.dialects Gen.parserTable stop μ ids src').1 =
      Spec.mapOutcome (Spec.indentMap w) (parseWith Gen.dialects Gen.parserTable stop μ ids src).1 :=
  (C16_indent_docstring_block_document_generic _ _ C18_fact_keywords C18_fact_queue C18_fact_comment_blank
    C16_fact_indent w stop μ ids src src' hlen hlines hμ hbuilt).1

/-- the scan, token by token: it holds iff every token is acceptable at the shift of the open doc
    string reached after the tokens before it -/
theorem C16_blockScan_iff (w : Nat → Nat) (ts : List Token) :
    Spec.blockScan w 0 ts = true ↔
      ∀ pre t post, ts = pre ++ t :: post → Spec.blockTokOk w (Spec.openShift w pre) t = true := by
  constructor
  · intro h pre t post e
    subst e
    rw [blockScan_append] at h
    simp only [Spec.blockScan, Bool.and_eq_true] at h
    exact h.2.1
  · exact fun h => blockScan_of_forall w ts 0 h

/-- **One test on a line and on the moved line, under matcher states that differ by the shift `d` of
    the open doc string** (`shiftMu d μ`: `indentToRemove` larger by `d`).  For in-flight tokens
    related as in the simulation (`TokInd`: the same token, or tokens of `s` and `ws ++ s`), either
    (`GoodOut7`) the verdicts agree (a raised error renamed), the tokens are related as the builder
    needs (`BuildOK7`: renamed; or two `Other` tokens with the SAME text — a content line moved by
    exactly `d`) and the states differ by the shift AFTER the token (`Spec.nextShift`: an opening
    delimiter sets it to the amount its own line is moved, a closing one to `0`, any other token
    leaves it), or (`BadOut7`) both tests succeeded on a line that may not be moved the way it is
    (`Spec.blockTokOk … = false`: content moved by another amount than `d`, a comment, a language
    header).  The three roles of a block line are the cases `K = DocStringSeparator` (opening,
    closing) and `K = Other`. -/
theorem C16_indent_docstring_block_line (w : Nat → Nat) (D : List Dialect) (K : Kind) (μ : MState) (d : Nat)
    {t1 t2 : Token} (ht : TokInd w t1 t2) :
    GoodOut7 w d K (matchTok D K μ t1).1 (matchTok D K (shiftMu d μ) t2).1 ∨
      BadOut7 w d K (matchTok D K μ t1).1 (matchTok D K (shiftMu d μ) t2).1 :=
  (matchTok_blk w D K μ d ht).2

/-- a content line: NO condition on the inserted whitespace beyond its length — under the shifted
    state the moved line yields the same text, whatever whitespace was inserted and however the
    line's own indentation compares with the recorded one -/
theorem C16_indent_docstring_block_content (D : List Dialect) (μ : MState) (t1 t2 : Token) (s ws : Str)
    (hws : AllSpace ws) :
    (matchLine D .Other (shiftMu ws.length μ) t2 (ws ++ s)).tok.text = (matchLine D .Other μ t1 s).tok.text :=
  other_blk_text D μ t1 t2 s ws hws

/-- **The Boolean `Spec.indentBlockOkB` implies the hypotheses of the theorem**, with
    `w := Spec.shiftB src' src` (the shift of each line read off the two texts). -/
theorem C16_indentBlockOk_hyps (D : List Dialect) (T : Table) (stop : Bool) (μ : MState) (ids : Nat) (src src' : Str)
    (h : Spec.indentBlockOkB D T stop μ ids src' src = true) :
    (splitLines src').length = (splitLines src).length ∧
    (∀ (i : Nat) (l l' : Str), (splitLines src)[i]? = some l → (splitLines src')[i]? = some l' →
      ∃ ws, l' = ws ++ l ∧ AllSpace ws ∧ ws.length = Spec.shiftB src' src i) ∧
    Spec.blockScan (Spec.shiftB src' src) 0 (parseWith D T stop μ ids src).2.builds = true ∧
    (∀ (pre : List Token) (t : Token) (post : List Token),
      (parseWith D T stop μ ids src).2.builds = pre ++ t :: post →
      Spec.blockTokOk (Spec.shiftB src' src) (Spec.openShift (Spec.shiftB src' src) pre) t = true) := by
  unfold Spec.indentBlockOkB at h
  simp only [Bool.and_eq_true, beq_iff_eq] at h
  exact ⟨h.1.1, lines_of_shiftB h.1.2, h.2, (C16_blockScan_iff _ _).1 h.2⟩

/-- the Boolean form: `Spec.indentBlockOkB` implies the conclusion with `w := Spec.shiftB src' src` -/
theorem C16_indent_docstring_block_document_check (stop : Bool) (μ : MState) (ids : Nat) (src src' : Str)
    (h : Spec.indentBlockOkB Gen.dialects Gen.parserTable stop μ ids src' src = true)
    (hμ : (μ.reset Gen.dialects).dialect ∈ Gen.dialects) :
    (parseWith Gen.dialects Gen.parserTable stop μ ids src').1 =
      Spec.mapOutcome (Spec.indentMap (Spec.shiftB src' src))
        (parseWith Gen.dialects Gen.parserTable stop μ ids src).1 := by
  obtain ⟨hlen, hlines, -, hbuilt⟩ := C16_indentBlockOk_hyps _ _ stop μ ids src src' h
  exact C16_indent_docstring_block_document _ stop μ ids src src' hlen hlines hμ hbuilt

/-- tokens that pass the check of `C16_indent_closing_delimiter_document` (not moved, or built as an
    indentable kind or as a closing delimiter) pass the scan: no doc string is ever moved -/
theorem C16_blockScan_of_indentable (w : Nat → Nat) : ∀ (ts : List Token),
    (∀ t ∈ ts, w (t.lineNo - 1) = 0 ∨ Spec.indentableTokB t = true) → Spec.blockScan w 0 ts = true :=
  blockScan_of_indentable w

/-- **`Spec.indentOk2B` (hence `Spec.indentOkB`) implies `Spec.indentBlockOkB`**: the block theorem
    covers every pair of texts `C16_indent_document` and `C16_indent_closing_delimiter_document` cover -/
theorem C16_indent_block_subsumes (D : List Dialect) (T : Table) (stop : Bool) (μ : MState) (ids : Nat)
    (src src' : Str) (h : Spec.indentOk2B D T stop μ ids src' src = true) :
    Spec.indentBlockOkB D T stop μ ids src' src = true := by
  unfold Spec.indentOk2B at h
  unfold Spec.indentBlockOkB
  simp only [Bool.and_eq_true] at h ⊢
  refine ⟨h.1, C16_blockScan_of_indentable _ _ fun t ht => ?_⟩
  have := List.all_eq_true.1 h.2 t ht
  simp only [Bool.or_eq_true, beq_iff_eq] at this
  exact this

/-- the doc strings of an accepted document: position, delimiter, media type (`""` if none), content -/
def C16_docStrings : Outcome → List (Loc × List Str)
  | .ok d => (d.feature.map fun x => x.children.flatMap fun c => match c with
      | .scenario s => s.steps.filterMap fun st => match st.arg with
          | .doc ds => some (ds.loc, [ds.delimiter, ds.mediaType.getD [], ds.content]) | _ => none
      | _ => []).getD []
  | _ => []

/-- a doc string with media type, indented by 4; content lines: at the indentation, two deeper, LESS
    indented (2 blanks), whitespace only and SHORTER than the indentation (2 blanks), empty … -/
def C16_blkDoc : Str :=
  lit "Feature: f\nScenario: s\n  Given x\n    \"\"\" xml\n    c1\n      c2\n  c3\n  \n\n    \"\"\"\n  When y\n"

/-- … and the same with the block — opening delimiter and all five content lines — moved right by
    three code points, each line by DIFFERENT whitespace (blanks and tabs), the closing delimiter by
    five, the following step by one -/
def C16_blkDoc' : Str :=
  lit "Feature: f\nScenario: s\n  Given x\n \t     \"\"\" xml\n  \t    c1\n\t\t\t      c2\n     c3\n     \n   \n         \"\"\"\n   When y\n"

/-- the hypothesis holds in both error modes (the weaker check `Spec.indentOk2B` fails); the shifts -/
example : (MState.init Gen.dialects (lit "en")).map (fun μ =>
      (Spec.indentBlockOkB Gen.dialects Gen.parserTable false μ 0 C16_blkDoc' C16_blkDoc,
       Spec.indentBlockOkB Gen.dialects Gen.parserTable true μ 0 C16_blkDoc' C16_blkDoc,
       Spec.indentOk2B Gen.dialects Gen.parserTable false μ 0 C16_blkDoc' C16_blkDoc,
       (List.range 11).map (Spec.shiftB C16_blkDoc' C16_blkDoc))) =
    some (true, true, false, [0, 0, 0, 3, 3, 3, 3, 3, 3, 5, 1]) := by
  rw [C16_blkDoc, C16_blkDoc']
  lit_lists
  kdecide

/-- … and the conclusion is what it should be: same delimiter, media type and content
    (`"c1\n  c2\nc3\n\n"`: the less indented line lost its own two blanks, the whitespace-only
    line is empty, in both runs); the doc string's column has moved from 5 to 8, the step's from 3 to 4 -/
example : (MState.init Gen.dialects (lit "en")).map (fun μ =>
      [C16_docStrings (parseWith Gen.dialects Gen.parserTable false μ 0 C16_blkDoc).1,
       C16_docStrings (parseWith Gen.dialects Gen.parserTable false μ 0 C16_blkDoc').1]) =
    some [[(⟨4, some 5⟩, [lit "\"\"\"", lit "xml", lit "c1\n  c2\nc3\n\n"])],
          [(⟨4, some 8⟩, [lit "\"\"\"", lit "xml", lit "c1\n  c2\nc3\n\n"])]] := by
  rw [C16_blkDoc, C16_blkDoc']
  lit_lists
  kdecide

example : (MState.init Gen.dialects (lit "en")).map (fun μ =>
      [C16_someLocs (parseWith Gen.dialects Gen.parserTable false μ 0 C16_blkDoc).1,
       C16_someLocs (parseWith Gen.dialects Gen.parserTable false μ 0 C16_blkDoc').1]) =
    some [[⟨2, some 1⟩, ⟨3, some 3⟩, ⟨4, some 5⟩, ⟨11, some 3⟩],
          [⟨2, some 1⟩, ⟨3, some 3⟩, ⟨4, some 8⟩, ⟨11, some 4⟩]] := by
  rw [C16_blkDoc, C16_blkDoc']
  lit_lists
  kdecide

/-- rejected documents.  An unclosed doc string (every following line is content) moved as a block:
    the check holds in both modes, the error (unexpected end of file) stays.  A closed one followed
    by an unexpected line, block moved by three, closing delimiter NOT moved, the unexpected line
    moved by three: the error column moves -/
example : (MState.init Gen.dialects (lit "en")).map (fun μ =>
      let r := lit "Feature: f\nScenario: s\n  Given x\n  ```\n  c1\nnonsense\n"
      let r' := lit "Feature: f\nScenario: s\n   Given x\n     ```\n     c1\n   nonsense\n"
      let q := lit "Feature: f\nScenario: s\n  Given x\n  ```\n  c1\n  ```\nnonsense\n"
      let q' := lit "Feature: f\nScenario: s\n   Given x\n     ```\n     c1\n  ```\n   nonsense\n"
      ([Spec.indentBlockOkB Gen.dialects Gen.parserTable false μ 0 r' r,
        Spec.indentBlockOkB Gen.dialects Gen.parserTable true μ 0 r' r,
        Spec.indentBlockOkB Gen.dialects Gen.parserTable false μ 0 q' q,
        Spec.indentBlockOkB Gen.dialects Gen.parserTable true μ 0 q' q],
       [C16_someLocs (parseWith Gen.dialects Gen.parserTable false μ 0 r).1,
        C16_someLocs (parseWith Gen.dialects Gen.parserTable false μ 0 r').1,
        C16_someLocs (parseWith Gen.dialects Gen.parserTable false μ 0 q).1,
        C16_someLocs (parseWith Gen.dialects Gen.parserTable false μ 0 q').1])) =
    some ([true, true, true, true], [[⟨7, none⟩], [⟨7, none⟩], [⟨7, some 1⟩], [⟨7, some 4⟩]]) := by
  lit_lists
  kdecide

/-- COUNTEREXAMPLES (every content line must move with the opening delimiter).  `b`: a doc string
    at indentation 2 whose second content line is two deeper (content `"c1\n  c2"`).  The opening
    delimiter moved by two and that content line (1) by one only, (2) not at all, (3) by three:
    the check fails and the content is different (`" c2"`, `"c2"`, `"   c2"`); (4) the whole block
    by two: the check holds, same content -/
example : (MState.init Gen.dialects (lit "en")).map (fun μ =>
      let b := lit "Feature: f\nScenario: s\n  Given x\n  \"\"\"\n  c1\n    c2\n  \"\"\"\n"
      let b1 := lit "Feature: f\nScenario: s\n  Given x\n    \"\"\"\n    c1\n     c2\n    \"\"\"\n"
      let b2 := lit "Feature: f\nScenario: s\n  Given x\n    \"\"\"\n    c1\n    c2\n    \"\"\"\n"
      let b3 := lit "Feature: f\nScenario: s\n  Given x\n    \"\"\"\n    c1\n       c2\n    \"\"\"\n"
      let b4 := lit "Feature: f\nScenario: s\n  Given x\n    \"\"\"\n    c1\n      c2\n    \"\"\"\n"
      (C16_texts (parseWith Gen.dialects Gen.parserTable false μ 0 b).1,
       [b1, b2, b3, b4].map fun x => (Spec.indentBlockOkB Gen.dialects Gen.parserTable false μ 0 x b,
         C16_texts (parseWith Gen.dialects Gen.parserTable false μ 0 x).1))) =
    some ([[], [[]], [lit "c1\n  c2"]],
          [(false, [[], [[]], [lit "c1\n c2"]]), (false, [[], [[]], [lit "c1\nc2"]]),
           (false, [[], [[]], [lit "c1\n   c2"]]), (true, [[], [[]], [lit "c1\n  c2"]])]) := by
  lit_lists
  kdecide

/-- COUNTEREXAMPLES: the block moved but NOT its opening delimiter (content keeps the blanks);
    description text moved (no doc string is open: it may not move at all) -/
example : (MState.init Gen.dialects (lit "en")).map (fun μ =>
      let b := lit "Feature: f\n d\nScenario: s\n  Given x\n  \"\"\"\n  c1\n  \"\"\"\n"
      let b1 := lit "Feature: f\n d\nScenario: s\n  Given x\n  \"\"\"\n    c1\n    \"\"\"\n"
      let b2 := lit "Feature: f\n   d\nScenario: s\n  Given x\n  \"\"\"\n  c1\n  \"\"\"\n"
      (C16_texts (parseWith Gen.dialects Gen.parserTable false μ 0 b).1,
       [b1, b2].map fun x => (Spec.indentBlockOkB Gen.dialects Gen.parserTable false μ 0 x b,
         C16_texts (parseWith Gen.dialects Gen.parserTable false μ 0 x).1))) =
    some ([[], [lit " d"], [lit "c1"]],
          [(false, [[], [lit " d"], [lit "  c1"]]), (false, [[], [lit "   d"], [lit "c1"]])]) := by
  lit_lists
  kdecide

end GV

