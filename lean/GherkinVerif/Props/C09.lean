/-
  Props/C09.lean — property C09: example values replace `<header>` placeholders literally.
  Property theorems only; helper lemmas live in Lemmas/Replace.lean.
-/
import GherkinVerif.Lemmas.Replace
import GherkinVerif.Spec.Compile
namespace GV

theorem C09_no_occurrence (p v t : Str) (h : ∀ k, ¬ OccursAt p t k) : replaceAll p v t = t :=
  Lemmas.replaceAll_no_occurrence p v t h

/-- At the first occurrence the value is inserted verbatim — whatever characters it contains —
    and replacement continues *after* the occurrence (leftmost, non-overlapping; the inserted
    value is never rescanned). -/
theorem C09_first_occurrence (p v a b : Str) (hp : p ≠ [])
    (hfirst : ∀ k, k < a.length → ¬ OccursAt p (a ++ p ++ b) k) :
    replaceAll p v (a ++ p ++ b) = a ++ v ++ replaceAll p v b :=
  Lemmas.replaceAll_first_occurrence p v a b hp hfirst

/-- Columns are applied in header order: one literal replacement per header cell. -/
theorem C09_interp_fold (t h v : Str) (hs vs : List Str) :
    interp t (h :: hs) (v :: vs) = interp (replaceAll (placeholder h) v t) hs vs := by
  simp [interp, placeholder]

/-- A short value row is an `IndexError`, never a silent default. -/
theorem C09_short_row (t : Str) (hs vs : List Str) (h : vs.length < hs.length) : interp t hs vs = none :=
  Lemmas.interp_short t hs vs h

/-- Text with no placeholder of any header is left unchanged; in particular `<x>` for an `x`
    that is not a header stays as written. -/
theorem C09_no_placeholder (t : Str) (hs vs : List Str) (hl : hs.length ≤ vs.length)
    (h : ∀ hd ∈ hs, ∀ k, ¬ OccursAt (placeholder hd) t k) : interp t hs vs = some t :=
  Lemmas.interp_no_placeholder t hs vs hl h

/-- Background steps are not substituted: interpolation with no columns is the identity. -/
theorem C09_background_not_substituted (t : Str) : interp t [] [] = some t := by
  simp [interp]

/-- non-vacuity / regression for defect F1: regular-expression metacharacters in a header are
    literal; a value with a backslash and a group reference is inserted verbatim. -/
example : interp (lit "<a.b> <axb> <a(b>") [lit "a.b", lit "a(b"] [lit "\\1$", lit "v"] = some (lit "\\1$ <axb> v") := by
  decide

end GV
