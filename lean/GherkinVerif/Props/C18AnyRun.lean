/-
  Props/C18AnyRun.lean — property C18 for EVERY run: accepted, rejected in either error mode,
  aborted by the error cap.  (`C03_parse_tokens`, Props/C03Doc.lean, has the token statement for
  accepted documents in collecting mode only; `C18_partition`, Props/C18.lean, the partition as
  line NUMBERS of the tokens read; `C18_reads_in_order`, Props/C18Order.lean, the order of reading.)

  For every source text, both error modes, every outcome, every incoming matcher state whose
  dialect after `reset()` is one of the dialect table, every id counter:

  * `C18_built_tokens_are_lines`: every token handed to the builder is the end-of-file token
    (no text, kind `EOF`, numbered one more than the number of physical lines) or the matcher's
    output on the FRESH token of the physical line with the token's number: `t.lineNo`-th line `l`,
    `t.line = some l`, and `t = (matchLine D K μᵢ (freshTok l t.lineNo) l).tok` for a kind `K` and a
    matcher state `μᵢ` of the dialect table on which `match_<K>` succeeds; `t.mtype = some K`.
    Whatever earlier FAILED tests or a look-ahead wrote into the token (e.g. the `Language` test
    that raises "Language not supported" leaves its fields behind) is overwritten.
    `C18_built_token_fields`: hence a built table row carries `tableCells l` and column
    indent + 1, a tag line the tags of `l`, steps / separators / keyword lines column indent + 1,
    comments / blank lines / `Other` lines column 1 — of their OWN physical line.
  * `C18_builds_strictly_increasing`: the line numbers handed to the builder are strictly
    increasing, so are the line numbers reported as unexpected, no number is in both, and all lie
    in `1 … (number of lines) + 1`.
  * `C18_rejected_partition_lines`: when the run reached the end of the source — the document was
    accepted, or rejected with a composite error of at most `errorCap` errors (collecting mode;
    a composite error with `errorCap + 1` entries is the abort by the cap) — the built and the
    reported line numbers together are exactly `1 … (number of lines) + 1`: every physical line
    and the end of file was delivered to the builder or reported as unexpected, never both, never
    neither.  `C18_line_delivered_xor_reported` is the per-line reading of it, with the text of the
    line for a delivered one.

  Method: a run invariant on the queue-free parse (`AnyRun.Core`, Lemmas/AnyRun.lean: what the built
  tokens are), transferred to the parser with its token queue by `C18_queue_refines_peek`, joined
  with the partition of the line numbers, which is proved with the queue (`Lemmas.part_parseBody`,
  Lemmas/GluePartition.lean); the per-test lemma is `Lemmas.matchTok_fresh` of the accepted-case
  development (Lemmas/ParseDoc.lean), which is outcome-independent.  Generic
  forms (`…_generic`) hold for every table and dialect table passing the Boolean checks
  `queueDialectFacts`, `queueFacts`, `commentBlankTested`, `oneBuildLast`.

  Not claimed here: which kind `K` is chosen (for accepted documents `Spec.LineToks` adds
  `passes (intrinsicKind …) K` and the evolution of the matcher state by `Spec.muAfter`; on a
  rejected run the state after an unexpected line is the error tail's, which the accepted-case
  trace does not describe); `Spec.sepOK μᵢ` (it is kept by every test, `Lemmas.muAfter_ok`, but not carried by this invariant).
-/
import GherkinVerif.Lemmas.AnyRunFields
import GherkinVerif.Props.C18
import GherkinVerif.Props.C18Pure
import GherkinVerif.KDecide
import GherkinVerif.Lemmas.Lit
namespace GV
open Spec

theorem C18_built_tokens_are_lines_generic (D : List Dialect) (T : Table)
    (hD : queueDialectFacts D = true) (hQ : queueFacts T = true) (hCB : commentBlankTested T = true)
    (hB : oneBuildLast T = true) (stop : Bool) (μ : MState) (ids : Nat) (src : Str) (hμ : (μ.reset D).dialect ∈ D) :
    ∀ t ∈ (parseWith D T stop μ ids src).2.builds,
      (t.line = none ∧ t.mtype = some .EOF ∧ t.lineNo = (splitLines src).length + 1) ∨
      (∃ l, (splitLines src)[t.lineNo - 1]? = some l ∧ 1 ≤ t.lineNo ∧ t.line = some l ∧
        ∃ K μi, μi.dialect ∈ D ∧ (matchLine D K μi (freshTok l t.lineNo) l).res = .matched ∧
          t = (matchLine D K μi (freshTok l t.lineNo) l).tok ∧ t.mtype = some K) :=
  (AnyRun.anyrun hD hQ hCB hB stop μ ids src hμ).1

/-- **Every run.**  Whatever the outcome and the error mode: each token handed to the AST builder is
    the end-of-file token, or the matcher's output on the fresh token of the physical line that has
    the token's number. -/
theorem C18_built_tokens_are_lines (stop : Bool) (μ : MState) (ids : Nat) (src : Str)
    (hμ : (μ.reset Gen.dialects).dialect ∈ Gen.dialects) :
    ∀ t ∈ (parseWith Gen.dialects Gen.parserTable stop μ ids src).2.builds,
      (t.line = none ∧ t.mtype = some .EOF ∧ t.lineNo = (splitLines src).length + 1) ∨
      (∃ l, (splitLines src)[t.lineNo - 1]? = some l ∧ 1 ≤ t.lineNo ∧ t.line = some l ∧
        ∃ K μi, μi.dialect ∈ Gen.dialects ∧
          (matchLine Gen.dialects K μi (freshTok l t.lineNo) l).res = .matched ∧
          t = (matchLine Gen.dialects K μi (freshTok l t.lineNo) l).tok ∧ t.mtype = some K) :=
  C18_built_tokens_are_lines_generic _ _ C18_fact_keywords C18_fact_queue C18_fact_comment_blank C18_fact_builds
    stop μ ids src hμ

/-- … in particular the fields the builder reads are those of the token's OWN physical line `l`:
    a table row carries the cells of `l` and column indent + 1; a tag line the tags of `l`; steps,
    doc-string separators and keyword lines column indent + 1; comments, blank lines and `Other`
    lines column 1.  (The end-of-file token has no text.) -/
theorem C18_built_token_fields (stop : Bool) (μ : MState) (ids : Nat) (src : Str)
    (hμ : (μ.reset Gen.dialects).dialect ∈ Gen.dialects) :
    ∀ t ∈ (parseWith Gen.dialects Gen.parserTable stop μ ids src).2.builds,
      (t.line = none ∧ t.mtype = some .EOF ∧ t.lineNo = (splitLines src).length + 1) ∨
      (∃ l, (splitLines src)[t.lineNo - 1]? = some l ∧ t.line = some l ∧
        (t.mtype = some .TableRow → t.items = tableCells l ∧ t.col = some (lineIndent l + 1)) ∧
        (t.mtype = some .TagLine → lineTags l = .ok t.items ∧ t.col = some (lineIndent l + 1)) ∧
        (t.mtype = some .StepLine ∨ t.mtype = some .DocStringSeparator ∨ t.mtype = some .FeatureLine ∨
          t.mtype = some .RuleLine ∨ t.mtype = some .BackgroundLine ∨ t.mtype = some .ScenarioLine ∨
          t.mtype = some .ExamplesLine → t.col = some (lineIndent l + 1)) ∧
        (t.mtype = some .Comment ∨ t.mtype = some .Empty ∨ t.mtype = some .Other → t.col = some 1)) := by
  intro t ht
  rcases C18_built_tokens_are_lines stop μ ids src hμ t ht with h | h
  · exact .inl h
  · exact .inr (AnyRun.lineTok_fields h)

theorem C18_builds_strictly_increasing_generic (D : List Dialect) (T : Table)
    (hD : queueDialectFacts D = true) (hQ : queueFacts T = true) (hCB : commentBlankTested T = true)
    (hB : oneBuildLast T = true) (stop : Bool) (μ : MState) (ids : Nat) (src : Str) (hμ : (μ.reset D).dialect ∈ D) :
    let ctx := (parseWith D T stop μ ids src).2
    (ctx.builds.map (·.lineNo)).Pairwise (· < ·) ∧ ctx.unexpected.Pairwise (· < ·) ∧
    (∀ k ∈ ctx.builds.map (·.lineNo), k ∉ ctx.unexpected) ∧
    (∀ k ∈ ctx.builds.map (·.lineNo) ++ ctx.unexpected, 1 ≤ k ∧ k ≤ (splitLines src).length + 1) := by
  intro ctx
  obtain ⟨hp, hs1, hs2⟩ := Lemmas.partition D T hB stop μ ids src
  obtain ⟨-, ⟨n, hn, hr⟩, -⟩ := AnyRun.anyrun hD hQ hCB hB stop μ ids src hμ
  obtain ⟨h1, h2, h3, h4⟩ := AnyRun.order_of_partition hr hp hs1 hs2
  exact ⟨h1, h2, h3, fun k hk => ⟨(h4 k hk).1, Nat.le_trans (h4 k hk).2 hn⟩⟩

/-- **Every run.**  The line numbers of the tokens handed to the builder are strictly increasing; so
    are the line numbers reported as unexpected; no line number is in both; all are numbers of
    physical lines or of the end of file. -/
theorem C18_builds_strictly_increasing (stop : Bool) (μ : MState) (ids : Nat) (src : Str)
    (hμ : (μ.reset Gen.dialects).dialect ∈ Gen.dialects) :
    let ctx := (parseWith Gen.dialects Gen.parserTable stop μ ids src).2
    (ctx.builds.map (·.lineNo)).Pairwise (· < ·) ∧ ctx.unexpected.Pairwise (· < ·) ∧
    (∀ k ∈ ctx.builds.map (·.lineNo), k ∉ ctx.unexpected) ∧
    (∀ k ∈ ctx.builds.map (·.lineNo) ++ ctx.unexpected, 1 ≤ k ∧ k ≤ (splitLines src).length + 1) :=
  C18_builds_strictly_increasing_generic _ _ C18_fact_keywords C18_fact_queue C18_fact_comment_blank C18_fact_builds
    stop μ ids src hμ

theorem C18_rejected_partition_lines_generic (D : List Dialect) (T : Table)
    (hD : queueDialectFacts D = true) (hQ : queueFacts T = true) (hCB : commentBlankTested T = true)
    (hB : oneBuildLast T = true) (stop : Bool) (μ : MState) (ids : Nat) (src : Str) (hμ : (μ.reset D).dialect ∈ D)
    (hfin : (∃ d, (parseWith D T stop μ ids src).1 = .ok d) ∨
      (∃ es, (parseWith D T stop μ ids src).1 = .rejected es true ∧ es.length ≤ T.errorCap)) :
    let ctx := (parseWith D T stop μ ids src).2
    (ctx.builds.map (·.lineNo) ++ ctx.unexpected).Perm (List.range' 1 ((splitLines src).length + 1)) ∧
    ctx.reads = List.range' 1 ((splitLines src).length + 1) ∧
    ∀ k, 1 ≤ k → k ≤ (splitLines src).length + 1 →
      (k ∈ ctx.builds.map (·.lineNo) ∧ k ∉ ctx.unexpected) ∨ (k ∉ ctx.builds.map (·.lineNo) ∧ k ∈ ctx.unexpected) := by
  intro ctx
  obtain ⟨-, -, h⟩ := AnyRun.anyrun hD hQ hCB hB stop μ ids src hμ
  obtain ⟨hfull, hr⟩ := h hfin
  have hp : (ctx.builds.map (·.lineNo) ++ ctx.unexpected).Perm (List.range' 1 ((splitLines src).length + 1)) := by
    rw [← hr]; exact hfull.1
  have hdis := (C18_builds_strictly_increasing_generic D T hD hQ hCB hB stop μ ids src hμ).2.2.1
  exact ⟨hp, hr, fun k h1 h2 => AnyRun.xor_of_full hp hdis k h1 h2⟩

/-- **Rejected within the cap (or accepted).**  Collecting mode, the parse ended with a composite
    error of at most `errorCap` errors (or accepted the document): the line numbers delivered to the
    builder and the line numbers reported as unexpected together are exactly
    `1 … (number of physical lines) + 1` — each physical line and the end of file delivered or
    reported, never both, never neither; all of them were read, in order. -/
theorem C18_rejected_partition_lines (stop : Bool) (μ : MState) (ids : Nat) (src : Str)
    (hμ : (μ.reset Gen.dialects).dialect ∈ Gen.dialects)
    (hfin : (∃ d, (parseWith Gen.dialects Gen.parserTable stop μ ids src).1 = .ok d) ∨
      (∃ es, (parseWith Gen.dialects Gen.parserTable stop μ ids src).1 = .rejected es true ∧
        es.length ≤ Gen.parserTable.errorCap)) :
    let ctx := (parseWith Gen.dialects Gen.parserTable stop μ ids src).2
    (ctx.builds.map (·.lineNo) ++ ctx.unexpected).Perm (List.range' 1 ((splitLines src).length + 1)) ∧
    ctx.reads = List.range' 1 ((splitLines src).length + 1) ∧
    ∀ k, 1 ≤ k → k ≤ (splitLines src).length + 1 →
      (k ∈ ctx.builds.map (·.lineNo) ∧ k ∉ ctx.unexpected) ∨ (k ∉ ctx.builds.map (·.lineNo) ∧ k ∈ ctx.unexpected) :=
  C18_rejected_partition_lines_generic _ _ C18_fact_keywords C18_fact_queue C18_fact_comment_blank C18_fact_builds
    stop μ ids src hμ hfin

/-- the same, line by line and with the text: the `i`-th physical line `l` (0-based) was delivered to
    the builder as a token with number `i + 1` and text `l`, the matcher's output on its fresh token,
    and not reported — or reported as unexpected and not delivered -/
theorem C18_line_delivered_xor_reported (stop : Bool) (μ : MState) (ids : Nat) (src : Str)
    (hμ : (μ.reset Gen.dialects).dialect ∈ Gen.dialects)
    (hfin : (∃ d, (parseWith Gen.dialects Gen.parserTable stop μ ids src).1 = .ok d) ∨
      (∃ es, (parseWith Gen.dialects Gen.parserTable stop μ ids src).1 = .rejected es true ∧
        es.length ≤ Gen.parserTable.errorCap))
    (i : Nat) (l : Str) (hi : (splitLines src)[i]? = some l) :
    let ctx := (parseWith Gen.dialects Gen.parserTable stop μ ids src).2
    ((∃ t ∈ ctx.builds, t.lineNo = i + 1 ∧ t.line = some l ∧
        ∃ K μi, μi.dialect ∈ Gen.dialects ∧
          (matchLine Gen.dialects K μi (freshTok l (i + 1)) l).res = .matched ∧
          t = (matchLine Gen.dialects K μi (freshTok l (i + 1)) l).tok ∧ t.mtype = some K) ∧
      i + 1 ∉ ctx.unexpected) ∨
    ((∀ t ∈ ctx.builds, t.lineNo ≠ i + 1) ∧ i + 1 ∈ ctx.unexpected) := by
  intro ctx
  have hlen : i < (splitLines src).length := by
    rcases Nat.lt_or_ge i (splitLines src).length with h | h
    · exact h
    · rw [List.getElem?_eq_none h] at hi; cases hi
  obtain ⟨-, -, hx⟩ := C18_rejected_partition_lines stop μ ids src hμ hfin
  rcases hx (i + 1) (Nat.le_add_left _ _) (by omega) with ⟨hb, hu⟩ | ⟨hb, hu⟩
  · left
    refine ⟨?_, hu⟩
    obtain ⟨t, ht, hno⟩ := List.mem_map.1 hb
    have hno : t.lineNo = i + 1 := hno
    refine ⟨t, ht, hno, ?_⟩
    rcases C18_built_tokens_are_lines stop μ ids src hμ t ht with ⟨-, -, h3⟩ | ⟨l', hl', -, hline, K, μi, h1, h2, h3, h4⟩
    · omega
    · rw [hno] at hl' h2 h3
      have : l' = l := by
        rw [Nat.add_sub_cancel, hi] at hl'
        exact (Option.some.inj hl').symm
      subst this
      exact ⟨hline, K, μi, h1, h2, h3, h4⟩
  · right
    exact ⟨fun t ht hno => hb (List.mem_map.2 ⟨t, ht, hno⟩), hu⟩

section examples

/-- `foo` in line 4 is unexpected after a step; the parse carries on -/
def C18A_demo : Str := lit "Feature: f\nScenario: s\nGiven x\nfoo\nGiven y\n"

/-- collecting mode: rejected with one error; lines 1, 2, 3, 5 and the end of file (6) were
    delivered to the builder, line 4 was reported; all six tokens were read -/
example : (MState.init Gen.dialects (lit "en")).map (fun μ =>
      let r := parseWith Gen.dialects Gen.parserTable false μ 0 C18A_demo
      ((match r.1 with | .rejected es true => some es.length | _ => none),
       r.2.builds.map (·.lineNo), r.2.unexpected, r.2.reads, (splitLines C18A_demo).length)) =
    some (some 1, [1, 2, 3, 5, 6], [4], [1, 2, 3, 4, 5, 6], 5) := by
  rw [C18A_demo]
  lit_lists
  kdecide

/-- all fields equal (tokens have no decidable equality of their own) -/
def C18A_same (a b : Token) : Bool :=
  decide (a.line = b.line) && decide (a.lineNo = b.lineNo) && decide (a.col = b.col) && decide (a.mtype = b.mtype) &&
  decide (a.text = b.text) && decide (a.keyword = b.keyword) && decide (a.ktype = b.ktype) &&
  decide (a.indent = b.indent) && decide (a.items = b.items) && decide (a.dialect = b.dialect)

def C18A_sameList : List Token → List Token → Bool
  | [], [] => true
  | a :: as, b :: bs => C18A_same a b && C18A_sameList as bs
  | _, _ => false

/-- the built tokens are the matcher's outputs on the fresh tokens of lines 1, 2, 3, 5 (under the
    matcher state made for `en`, which no line of the demo changes), then the end-of-file token -/
example : (MState.init Gen.dialects (lit "en")).map (fun μ =>
      C18A_sameList (parseWith Gen.dialects Gen.parserTable false μ 0 C18A_demo).2.builds
        [(matchLine Gen.dialects .FeatureLine (μ.reset Gen.dialects) (freshTok (lit "Feature: f\n") 1) (lit "Feature: f\n")).tok,
         (matchLine Gen.dialects .ScenarioLine (μ.reset Gen.dialects) (freshTok (lit "Scenario: s\n") 2) (lit "Scenario: s\n")).tok,
         (matchLine Gen.dialects .StepLine (μ.reset Gen.dialects) (freshTok (lit "Given x\n") 3) (lit "Given x\n")).tok,
         (matchLine Gen.dialects .StepLine (μ.reset Gen.dialects) (freshTok (lit "Given y\n") 5) (lit "Given y\n")).tok,
         (matchTok Gen.dialects .EOF (μ.reset Gen.dialects) { line := none, lineNo := 6 }).1.tok]) =
    some true := by
  rw [C18A_demo]
  lit_lists
  kdecide

/-- stop-at-first-error mode: the run ends at line 4 with the bare exception; lines 1, 2, 3 were
    delivered, line 4 reported, lines 5 and the end of file never read -/
example : (MState.init Gen.dialects (lit "en")).map (fun μ =>
      let r := parseWith Gen.dialects Gen.parserTable true μ 0 C18A_demo
      ((match r.1 with | .rejected es false => some es.length | _ => none),
       r.2.builds.map (·.lineNo), r.2.unexpected, r.2.reads)) =
    some (some 1, [1, 2, 3], [4], [1, 2, 3, 4]) := by
  rw [C18A_demo]
  lit_lists
  kdecide

/-- a failed test leaves its mark but the delivered token does not carry it: `#language: xx` (unknown
    language) makes `match_Language` raise and write the token; in collecting mode the same token is
    then matched as a `Comment`, and what the builder receives is the `Comment` match of the FRESH
    token of line 1 -/
example : (MState.init Gen.dialects (lit "en")).map (fun μ =>
      let r := parseWith Gen.dialects Gen.parserTable false μ 0 (lit "#language: xx\nFeature: f\n")
      (r.2.builds.map (·.lineNo), r.2.unexpected, r.2.errors.length,
       C18A_sameList (r.2.builds.take 1) [(matchLine Gen.dialects .Comment (μ.reset Gen.dialects)
         (freshTok (lit "#language: xx\n") 1) (lit "#language: xx\n")).tok])) =
    some ([1, 2, 3], [], 1, true) := by
  lit_lists
  kdecide

end examples

end GV
