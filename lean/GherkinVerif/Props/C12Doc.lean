/-
  Props/C12Doc.lean — properties C12 (last sentence) and C14 (ragged-table clause) at DOCUMENT
  level: "A data table or examples table whose rows differ in cell count is rejected with an error
  at the first deviating row."

  Vocabulary (Lemmas/RaggedDocBase.lean).  `ctx.builds` is the ghost list of the tokens the run
  handed to `build`, in order.  `Spec.tableRuns builds` are the TABLES of that list: the maximal
  groups of tokens built as `TableRow`, where tokens built as `Comment` / `Empty` do not interrupt
  a group and any other built token ends it.  `Spec.closedRuns builds` are the groups that have
  been ended by such a later built token; `tableRuns = closedRuns ++ [the group still open at the
  end, if non-empty]`.  `Spec.firstDeviating run` is the first token of a group whose number of
  cells (`t.items.length`, = `(Spec.cells line).length`) differs from the first token's
  (`C12D_first_deviating_spec`).  `Spec.raggedErrAt t` is the error
  ⟨raggedTable, (t.lineNo, t.col), "inconsistent cell count within the table"⟩.

  That the builder's `DataTable` / `ExamplesTable` NODE holds exactly such a group is an invariant
  of the run (Lemmas/RaggedDocInv.lean: the `TableRow` tokens of a table node on top of the stack
  are `Spec.openRun builds`), proved for every transition table passing the Boolean check
  `Spec.raggedCheck` (an abstract interpretation of the builder stack by rule types, Lemmas/
  RaggedDocLoop.lean), which the kernel evaluates on the regenerated table (`C12D_fact_tables`).
  Since an unexpected line is not built and leaves the state alone, the rows before and after an
  unexpected line (collecting mode) belong to the SAME table: see the example below.

  The theorems hold for every source text, both error modes, any incoming matcher state and id
  counter.  Corner cases: a row `|` has zero cells and deviates from `| a |` (example); a table of `|` rows
  only is rectangular.  "Unless the cap ended the run": stated as `closedRuns` (the table's
  `end_rule` precedes, in the same `match_token`, the build of the token that closes the group).
  For rejected documents the theorems here speak of the token's own `line` field; that it is the
  physical line numbered `t.lineNo` of the source (`t.line = (splitLines src)[t.lineNo - 1]`) is
  `C14_ragged_in_source` (Props/C14ErrorsDoc.lean).
-/
import GherkinVerif.Lemmas.RaggedDocOut
import GherkinVerif.Props.C18Order
import GherkinVerif.Props.C18AnyRun
import GherkinVerif.Gen.ParserTable
import GherkinVerif.Gen.Dialects
import GherkinVerif.KDecide
import GherkinVerif.Lemmas.Lit
namespace GV

/-- the table fact: rule-type stacks can be assigned to the states of the regenerated table such
    that no production sequence starts a node on a table node, builds anything but rows, comments
    and blank lines into a table node, builds a row elsewhere, or opens a table / builds a row
    between the `end_rule` of a table and the next built token -/
theorem C12D_fact_tables : Spec.raggedCheck Gen.parserTable 600 = true := by kdecide

/-- meaning of `Spec.firstDeviating`: the group is `pre ++ t :: post`, all of `pre` have the cell
    count of the group's first token, `t` has not -/
theorem C12D_first_deviating_spec (run : List Token) (t : Token) (h : Spec.firstDeviating run = some t) :
    ∃ pre post t0, run = pre ++ t :: post ∧ run.head? = some t0 ∧ Spec.cellCount t ≠ Spec.cellCount t0 ∧
      ∀ x ∈ pre, Spec.cellCount x = Spec.cellCount t0 :=
  Lemmas.firstDeviating_spec h

theorem C12D_first_deviating_none (run : List Token) (h : Spec.firstDeviating run = none) :
    ∀ t ∈ run, ∀ t0, run.head? = some t0 → Spec.cellCount t = Spec.cellCount t0 :=
  Lemmas.firstDeviating_none h

theorem C12D_table_tokens (bs : List Token) (run : List Token) (h : run ∈ Spec.tableRuns bs) (t : Token) (ht : t ∈ run) :
    t ∈ bs ∧ t.mtype = some .TableRow :=
  Lemmas.mem_tableRuns_tok h ht

/-- **Soundness.**  Every error of the outcome (the single error in stop mode, any error of the
    list in collecting mode) whose message body is the ragged-table text is located at the first
    deviating row of a table of `builds`: at that row's line number and column (indent + 1), and
    the row token carries the cells of its line. -/
theorem C12_ragged_error_sound (stop : Bool) (μ : MState) (ids : Nat) (src : Str) (es : List PErr) (comp : Bool)
    (h : (parseWith Gen.dialects Gen.parserTable stop μ ids src).1 = .rejected es comp) (e : PErr) (he : e ∈ es)
    (hb : e.body = lit "inconsistent cell count within the table") :
    ∃ run t l, run ∈ Spec.tableRuns (parseWith Gen.dialects Gen.parserTable stop μ ids src).2.builds ∧
      Spec.firstDeviating run = some t ∧ e = Spec.raggedErrAt t ∧
      t ∈ (parseWith Gen.dialects Gen.parserTable stop μ ids src).2.builds ∧ t.mtype = some .TableRow ∧
      t.line = some l ∧ t.items = Spec.cells l ∧ e.loc = ⟨t.lineNo, some (lineIndent l + 1)⟩ :=
  Lemmas.ragged_sound _ _ _ C12D_fact_tables stop μ ids src es comp h e he hb

/-- **Completeness, collecting mode.**  Every table of `builds` that a later built token has
    closed and whose rows differ in cell count has its error — at the first deviating row — in the
    error list; if the run was not cut short by the error cap, so has every table of `builds`. -/
theorem C12_ragged_error_complete (μ : MState) (ids : Nat) (src : Str) (es : List PErr)
    (h : (parseWith Gen.dialects Gen.parserTable false μ ids src).1 = .rejected es true) :
    (∀ run ∈ Spec.closedRuns (parseWith Gen.dialects Gen.parserTable false μ ids src).2.builds, ∀ t,
      Spec.firstDeviating run = some t → Spec.raggedErrAt t ∈ es) ∧
    (es.length ≤ Gen.parserTable.errorCap →
      ∀ run ∈ Spec.tableRuns (parseWith Gen.dialects Gen.parserTable false μ ids src).2.builds, ∀ t,
        Spec.firstDeviating run = some t → Spec.raggedErrAt t ∈ es) :=
  Lemmas.ragged_complete _ _ _ C12D_fact_tables μ ids src es h

/-- **Stop mode: the first ragged table.**  Whether the document is accepted (`d = some _`) or
    rejected with the single error `e` (`d = none`), every closed table of `builds` is
    rectangular; by `C12_ragged_error_sound` a ragged-table error is therefore at the first
    deviating row of the last, still open group: the first ragged table of the document. -/
theorem C12_ragged_stop_first (μ : MState) (ids : Nat) (src : Str) (d : Option Doc) (e : PErr)
    (h : (parseWith Gen.dialects Gen.parserTable true μ ids src).1 =
      (match d with | some d => .ok d | none => .rejected [e] false)) :
    ∀ run ∈ Spec.closedRuns (parseWith Gen.dialects Gen.parserTable true μ ids src).2.builds,
      Spec.firstDeviating run = none :=
  Lemmas.ragged_stop _ _ _ C12D_fact_tables μ ids src d e h

/-- in a token sequence numbered 1, 2, … whose lines are those of `L` followed by the end of file,
    a token's line is the line of `L` with its number -/
theorem C12D_line_of_sequence {bs : List Token} {L : List Str}
    (h1 : bs.map (·.lineNo) = List.range' 1 (L.length + 1))
    (h2 : bs.map (·.line) = L.map some ++ [none]) {t : Token} (ht : t ∈ bs) {l : Str} (hl : t.line = some l) :
    L[t.lineNo - 1]? = some l := by
  obtain ⟨i, hi⟩ := List.getElem?_of_mem ht
  have e1 := congrArg (·[i]?) h1
  have e2 := congrArg (·[i]?) h2
  simp only [List.getElem?_map, hi, Option.map_some, hl] at e1 e2
  have hlt : i < L.length + 1 := by
    have := (List.getElem?_eq_some_iff.1 hi).1
    have hlen := congrArg List.length h1
    simp at hlen
    omega
  rw [List.getElem?_range' hlt] at e1
  simp only [Option.some.injEq] at e1
  have : t.lineNo - 1 = i := by omega
  rw [this]
  by_cases hi2 : i < L.length
  · rw [List.getElem?_append_left (by simpa using hi2)] at e2
    simp only [List.getElem?_map] at e2
    cases hx : L[i]? with
    | none => rw [hx] at e2; cases e2
    | some x => rw [hx] at e2; simp at e2; rw [e2]
  · have : i = L.length := by omega
    subst this
    simp at e2

/-- **No accepted document contains a ragged table in its text.**  For an accepted document every
    table of `builds` (the row tokens of one `DataTable` / `ExamplesTable`) is rectangular; every
    row token of it is the `TableRow` reading of the physical line `l` with its number
    (`(splitLines src)[t.lineNo - 1] = l`, `t.items = Spec.cells l`); hence all rows of the table
    have, in the source text, as many cells as its first row. -/
theorem C12_accepted_tables_rectangular_in_source (stop : Bool) (μ : MState) (ids : Nat) (src : Str)
    (hμ : (μ.reset Gen.dialects).dialect ∈ Gen.dialects) (d : Doc)
    (h : (parseWith Gen.dialects Gen.parserTable stop μ ids src).1 = .ok d) :
    ∀ run ∈ Spec.tableRuns (parseWith Gen.dialects Gen.parserTable stop μ ids src).2.builds,
      Spec.firstDeviating run = none ∧
      (∀ t ∈ run, t.mtype = some .TableRow ∧ ∃ l, (splitLines src)[t.lineNo - 1]? = some l ∧ t.line = some l ∧
        t.items = Spec.cells l ∧ t.col = some (lineIndent l + 1)) ∧
      (∀ t ∈ run, ∀ t0, run.head? = some t0 → ∀ l l0, (splitLines src)[t.lineNo - 1]? = some l →
        (splitLines src)[t0.lineNo - 1]? = some l0 → (Spec.cells l).length = (Spec.cells l0).length) := by
  intro run hrun
  obtain ⟨h1, h2⟩ := Lemmas.ragged_accepted _ _ _ C12D_fact_tables stop μ ids src d h run hrun
  have hrows : ∀ t ∈ run, t.mtype = some .TableRow ∧ ∃ l, (splitLines src)[t.lineNo - 1]? = some l ∧ t.line = some l ∧
      t.items = Spec.cells l ∧ t.col = some (lineIndent l + 1) := by
    intro t ht
    obtain ⟨hm, hty, l, hl, hi, hc⟩ := h2 t ht
    rcases C18_built_tokens_are_lines stop μ ids src hμ t hm with ⟨hn, -⟩ | ⟨l', hL, -, hl', -⟩
    · rw [hn] at hl; cases hl
    · rw [hl] at hl'; cases hl'
      exact ⟨hty, l, hL, hl, hi, hc⟩
  refine ⟨h1, hrows, fun t ht t0 ht0 l l0 hl hl0 => ?_⟩
  have ht0m : t0 ∈ run := by
    cases run with
    | nil => cases ht
    | cons a r => simp only [List.head?_cons, Option.some.injEq] at ht0; subst ht0; exact List.mem_cons_self
  obtain ⟨-, l', hl', -, hi, -⟩ := hrows t ht
  obtain ⟨-, l0', hl0', -, hi0, -⟩ := hrows t0 ht0m
  rw [hl] at hl'; rw [hl0] at hl0'
  cases hl'; cases hl0'
  have := Lemmas.firstDeviating_none h1 t ht t0 ht0
  simp only [Spec.cellCount, hi, hi0] at this
  exact this

/-- outcome summary as lists of numbers: `[code, number of closed tables]` (code 0 accepted /
    1 single error / 2 error list), then `[line, column, 1 if ragged-table error else 0]` for each
    error, then `[]`, then for each table of `builds` the list `lineNo₁, cells₁, lineNo₂, cells₂, …` -/
def C12D_show (stop : Bool) (src : String) : Option (List (List Nat)) :=
  (MState.init Gen.dialects (lit "en")).map fun μ =>
    let r := parseWith Gen.dialects Gen.parserTable stop μ 0 (lit src)
    let errs (es : List PErr) : List (List Nat) :=
      es.map fun (e : PErr) => [e.loc.line, e.loc.col.getD 0, if e.kind = ErrKind.raggedTable then 1 else 0]
    let runs : List (List Nat) :=
      (Spec.tableRuns r.2.builds).map fun run => run.flatMap fun t => [t.lineNo, Spec.cellCount t]
    let nc := (Spec.closedRuns r.2.builds).length
    match r.1 with
    | .ok _ => [[0, nc]] ++ [[]] ++ runs
    | .rejected es c => [[if c then 2 else 1, nc]] ++ errs es ++ [[]] ++ runs
    | _ => [[9, nc]]

/-- a ragged data table: the error is at line 5 (the first row that deviates from `| a | b |`),
    column 3 (indent 2 + 1), in collecting mode … -/
example : C12D_show false "Feature: f\nScenario: s\nGiven x\n  | a | b |\n  | c |\n  | d | e | f |\n" =
    some [[2, 1], [5, 3, 1], [], [4, 2, 5, 1, 6, 3]] := by
  rw [C12D_show]
  lit_lists
  kdecide

/-- … and in stop mode (the group is still open when the run stops) -/
example : C12D_show true "Feature: f\nScenario: s\nGiven x\n  | a | b |\n  | c |\n  | d | e | f |\n" =
    some [[1, 0], [5, 3, 1], [], [4, 2, 5, 1, 6, 3]] := by
  rw [C12D_show]
  lit_lists
  kdecide

/-- a ragged examples table whose rows are separated by a blank line and a comment -/
example : C12D_show false "Feature: f\nScenario Outline: s\nGiven <a>\nExamples:\n| a |\n\n# c\n | 1 | 2 |\n" =
    some [[2, 1], [8, 2, 1], [], [5, 1, 8, 2]] := by
  rw [C12D_show]
  lit_lists
  kdecide

/-- two ragged tables (a data table and an examples table): two errors -/
example : C12D_show false "Feature: f\nScenario Outline: s\nGiven x\n| a |\n| b | c |\nExamples:\n| a |\n | 1 | 2 |\n" =
    some [[2, 2], [5, 1, 1], [8, 2, 1], [], [4, 1, 5, 2], [7, 1, 8, 2]] := by
  rw [C12D_show]
  lit_lists
  kdecide

/-- stop mode with two ragged tables: the error of the first one only -/
example : C12D_show true "Feature: f\nScenario: s\nGiven x\n| a |\n| b | c |\nGiven y\n| a |\n| b | c |\n" =
    some [[1, 0], [5, 1, 1], [], [4, 1, 5, 2]] := by
  rw [C12D_show]
  lit_lists
  kdecide

/-- an accepted document with two rectangular tables -/
example : C12D_show false "Feature: f\nScenario Outline: s\nGiven x\n| a |\n| b |\nExamples:\n| a | b |\n | 1 | 2 |\n" =
    some [[0, 2], [], [4, 1, 5, 1], [7, 2, 8, 2]] := by
  rw [C12D_show]
  lit_lists
  kdecide

/-- collecting mode: an unexpected line inside a table does not split it — rows 4 and 6 are one
    table, the ragged-table error is at line 6 (after the error for line 5) -/
example : C12D_show false "Feature: f\nScenario: s\nGiven x\n| a |\nfoo bar\n| b | c |\n" =
    some [[2, 1], [5, 1, 0], [6, 1, 1], [], [4, 1, 6, 2]] := by
  rw [C12D_show]
  lit_lists
  kdecide

/-- a row `|` has zero cells: it deviates from `| a |` … -/
example : C12D_show false "Feature: f\nScenario: s\nGiven x\n| a |\n|\n" =
    some [[2, 1], [5, 1, 1], [], [4, 1, 5, 0]] := by
  rw [C12D_show]
  lit_lists
  kdecide

/-- … and a table of such rows only is rectangular -/
example : C12D_show false "Feature: f\nScenario: s\nGiven x\n|\n|\n" =
    some [[0, 1], [], [4, 0, 5, 0]] := by
  rw [C12D_show]
  lit_lists
  kdecide

end GV
