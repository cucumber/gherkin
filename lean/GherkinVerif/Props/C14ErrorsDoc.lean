/-
  Props/C14ErrorsDoc.lean — properties C14 / C04 at DOCUMENT level: ONE theorem that classifies
  EVERY error of EVERY rejected parse by its source line.

  "A document is rejected exactly when some line (or the end of file) cannot continue a sentence of
  the grammar, a tag line outside a doc string contains a tag with whitespace, a language header
  names an unknown dialect, or a table is ragged; each such fault is reported at its own line — a
  ragged table at its first deviating row, the end of file one line past the last — with a message
  that starts with its own '(line:column): ' position, and every error lies within the document."

  For every source text, both error modes, every incoming matcher state whose dialect after
  `reset()` is one of the dialect table, every id counter:

  * `C14_errors_classified`: if the parse is rejected with the errors `es` (the single error of stop
    mode, the list of collecting mode — cut by the error cap or not), every `e ∈ es` lies within
    `1 … lines + 1`, its message is `"(line:column): " ++ body`, and `e` is one of
      (a) UNEXPECTED LINE: `e = unexpectedErr row (freshTok l i)` for the physical line `l` numbered
          `i`, a state `row` of the table; kind `unexpectedToken`, location (i, indent l + 1), body
          `expected: <the state's list>, got '<strip (trimmed l)>'`; `i` is in the run's ghost list
          `unexpected`; `l` is not whitespace-only;
      (b) UNEXPECTED END OF FILE: `e = unexpectedErr row <end-of-file token numbered lines + 1>`; kind
          `unexpectedEOF`, location (lines + 1, no column — printed as `0`), body
          `unexpected end of file, expected: <list>`; `lines + 1` is in `unexpected`;
      (c) TAG WITH WHITESPACE: line `i` starts (after indentation) with `@`, `lineTags l = .error c`;
          kind `tagWhitespace`, location (i, c) = the column of the offending tag
          (`C04_tag_error_col`: an `@` is there), body `A tag may not contain whitespace`;
      (d) UNKNOWN LANGUAGE: line `i` matches the language-header pattern with a name that is no
          dialect of the table; kind `noSuchLanguage`, location (i, indent l + 1), body
          `Language not supported: <name>`;
      (e) RAGGED TABLE: kind `raggedTable`, body `inconsistent cell count within the table`, and the
          conclusion of `C12_ragged_error_sound` — `e` is at the first deviating row token `t` of a
          table of `builds`, (t.lineNo, indent l + 1) — where (through `C18_built_tokens_are_lines`)
          `l` IS the physical line numbered `t.lineNo` of the source and starts with `|`.
    The classes are mutually exclusive (each fixes a different `kind`): `C14_error_class_by_kind`.
    `C14_unexpected_messages`: the full message texts of (a) and (b), `(i:c): expected: …, got '…'` and
    `(n+1:0): unexpected end of file, expected: …`.  `C14_ragged_in_source`: clause (e) alone.
  * The column of an unexpected-line error.  `unexpectedErr` reads `t.col`, which an earlier test may
    have written.  In the queue-free parse the token in hand holds no column or indent + 1 on its
    whole way through the tests of a state: tests that do not match leave the token alone, except
    `Language` (unknown name), which writes indent + 1; a test that matches but whose look-ahead
    guard fails is a `TagLine` test (`C14E_fact_guards`), which writes indent + 1.  Tokens that come
    back from the look-ahead queue of parser.py may carry column 1 (a matched `Comment` / `Empty`),
    but such lines never reach an error tail (`C18_fact_comment_blank`); this is part of
    `C18_queue_refines_peek`, through which the result is transferred.  So there is NO corner where
    the column differs from indent + 1; the end-of-file error never has a column.
  * `C04_error_locations_in_source`: an error has no column exactly when it is the end-of-file
    error; otherwise the column `c` satisfies `1 ≤ c ≤ |l|` for the physical line `l` of the error,
    the code point at column `c` is not whitespace, it is `@` / `#` / `|` for (c) / (d) / (e), and for
    (a) the message quotes `strip` of the line from column `c` on.

  Method: a run invariant on the queue-free parse (Lemmas/ErrorsDocRun.lean) — every error in
  `ctx.errors`, the single error of a stop-mode abort and every error of a composite abort is
  classified — transferred by `C18_queue_refines_peek`.  Generic form (`…_generic`): every table
  and dialect table passing the Boolean checks.
-/
import GherkinVerif.Lemmas.ErrorsDocRun
import GherkinVerif.Props.C12Doc
import GherkinVerif.Props.C18AnyRun
import GherkinVerif.KDecide
import GherkinVerif.Lemmas.FactsTable
import GherkinVerif.Lemmas.Lit
namespace GV
open Spec

/-- table fact: a test with a look-ahead guard is a `TagLine` test -/
theorem C14E_fact_guards : guardsOnTagLine Gen.parserTable = true := Facts.guardsOnTagLine_table

/-- table fact: every state has an unguarded `Empty` or `Other` test -/
theorem C14E_fact_blank : blankTaken Gen.parserTable = true := Facts.blankTaken_table

/-- generic form, in the vocabulary of Lemmas/ErrorsDocBase.lean -/
theorem C14_errors_classified_generic (D : List Dialect) (T : Table)
    (hD : queueDialectFacts D = true) (hQ : queueFacts T = true) (hCB : commentBlankTested T = true)
    (hG : guardsOnTagLine T = true) (hB : blankTaken T = true)
    (stop : Bool) (μ : MState) (ids : Nat) (src : Str) (hμ : (μ.reset D).dialect ∈ D)
    (es : List PErr) (comp : Bool) (h : (parseWith D T stop μ ids src).1 = .rejected es comp) :
    ∀ e ∈ es, ErrClass D T (splitLines src) (parseWith D T stop μ ids src).2.unexpected e := by
  obtain ⟨ho, -, -, hun⟩ := Lemmas.observe_ghost (Lemmas.queue_refines_peek D T hD hQ hCB stop μ ids src hμ)
  rw [hun]
  exact ErrorsDoc.errors_pure hG hB stop μ ids src es comp (ho ▸ h)

theorem C14_errors_class (stop : Bool) (μ : MState) (ids : Nat) (src : Str)
    (hμ : (μ.reset Gen.dialects).dialect ∈ Gen.dialects) (es : List PErr) (comp : Bool)
    (h : (parseWith Gen.dialects Gen.parserTable stop μ ids src).1 = .rejected es comp) :
    ∀ e ∈ es, ErrClass Gen.dialects Gen.parserTable (splitLines src)
      (parseWith Gen.dialects Gen.parserTable stop μ ids src).2.unexpected e :=
  C14_errors_classified_generic _ _ C18_fact_keywords C18_fact_queue C18_fact_comment_blank C14E_fact_guards
    C14E_fact_blank stop μ ids src hμ es comp h

/-- The classes are mutually exclusive: which one an error of a rejected parse belongs to is decided
    by its kind. -/
theorem C14_error_class_by_kind (stop : Bool) (μ : MState) (ids : Nat) (src : Str)
    (hμ : (μ.reset Gen.dialects).dialect ∈ Gen.dialects) (es : List PErr) (comp : Bool)
    (h : (parseWith Gen.dialects Gen.parserTable stop μ ids src).1 = .rejected es comp) (e : PErr) (he : e ∈ es) :
    let L := splitLines src
    let un := (parseWith Gen.dialects Gen.parserTable stop μ ids src).2.unexpected
    (e.kind = .unexpectedToken ↔ IsUnexpectedLine Gen.parserTable L un e) ∧
    (e.kind = .unexpectedEOF ↔ IsUnexpectedEOF Gen.parserTable L un e) ∧
    (e.kind = .tagWhitespace ↔ IsTagWhitespace L e) ∧
    (e.kind = .noSuchLanguage ↔ IsUnknownLanguage Gen.dialects L e) ∧
    (e.kind = .raggedTable ↔ IsRagged e) :=
  (C14_errors_class stop μ ids src hμ es comp h e he).kind

/-- the ragged-table clause: `C12_ragged_error_sound`, with the row token's line linked to the source -/
theorem C14_ragged_in_source (stop : Bool) (μ : MState) (ids : Nat) (src : Str)
    (hμ : (μ.reset Gen.dialects).dialect ∈ Gen.dialects) (es : List PErr) (comp : Bool)
    (h : (parseWith Gen.dialects Gen.parserTable stop μ ids src).1 = .rejected es comp) (e : PErr) (he : e ∈ es)
    (hb : e.body = lit "inconsistent cell count within the table") :
    ∃ run t l, run ∈ tableRuns (parseWith Gen.dialects Gen.parserTable stop μ ids src).2.builds ∧
      firstDeviating run = some t ∧ e = raggedErrAt t ∧
      t ∈ (parseWith Gen.dialects Gen.parserTable stop μ ids src).2.builds ∧ t.mtype = some .TableRow ∧
      t.line = some l ∧ t.items = cells l ∧ e.loc = ⟨t.lineNo, some (lineIndent l + 1)⟩ ∧
      (splitLines src)[t.lineNo - 1]? = some l ∧ 1 ≤ t.lineNo ∧ lineStartsWith l [124] = true := by
  obtain ⟨run, t, l, h1, h2, h3, h4, h5, h6, h7, h8⟩ := C12_ragged_error_sound stop μ ids src es comp h e he hb
  refine ⟨run, t, l, h1, h2, h3, h4, h5, h6, h7, h8, ?_⟩
  rcases C18_built_tokens_are_lines stop μ ids src hμ t h4 with ⟨hn, -, -⟩ | ⟨l', hL, hi, hl', K, μi, -, hres, -, hK⟩
  · rw [hn] at h6; cases h6
  · rw [h6] at hl'; cases hl'
    rw [h5] at hK; cases hK
    refine ⟨hL, hi, ?_⟩
    have := (Lemmas.row_col Gen.dialects μi (freshTok l t.lineNo) l rfl hres).2.1
    rw [← Lemmas.trimmed_eq_drop] at this
    exact this

/-- **Every error of every rejected parse, classified by its source line.** -/
theorem C14_errors_classified (stop : Bool) (μ : MState) (ids : Nat) (src : Str)
    (hμ : (μ.reset Gen.dialects).dialect ∈ Gen.dialects) (es : List PErr) (comp : Bool)
    (h : (parseWith Gen.dialects Gen.parserTable stop μ ids src).1 = .rejected es comp) :
    let L := splitLines src
    let ctx := (parseWith Gen.dialects Gen.parserTable stop μ ids src).2
    ∀ e ∈ es,
      (1 ≤ e.loc.line ∧ e.loc.line ≤ L.length + 1) ∧
      e.message = [40] ++ natToStr e.loc.line ++ [58] ++ natToStr (e.loc.col.getD 0) ++ lit "): " ++ e.body ∧
      ( -- (a) unexpected line
        (∃ i l row, L[i - 1]? = some l ∧ 1 ≤ i ∧ i ∈ ctx.unexpected ∧ row ∈ Gen.parserTable.rows ∧
          lineIsEmpty l = false ∧ e = unexpectedErr row (freshTok l i) ∧
          e.kind = .unexpectedToken ∧ e.loc = ⟨i, some (lineIndent l + 1)⟩ ∧
          e.body = lit "expected: " ++ joinWith (lit ", ") (row.expected.map lit) ++ lit ", got '" ++
            strip (trimmed l) ++ lit "'") ∨
        -- (b) unexpected end of file
        (∃ row, row ∈ Gen.parserTable.rows ∧ (L.length + 1) ∈ ctx.unexpected ∧
          e = unexpectedErr row { line := none, lineNo := L.length + 1 } ∧
          e.kind = .unexpectedEOF ∧ e.loc = ⟨L.length + 1, none⟩ ∧
          e.body = lit "unexpected end of file, expected: " ++ joinWith (lit ", ") (row.expected.map lit)) ∨
        -- (c) tag with whitespace
        (∃ i l c, L[i - 1]? = some l ∧ 1 ≤ i ∧ lineStartsWith l [64] = true ∧ lineTags l = .error c ∧
          e.kind = .tagWhitespace ∧ e.loc = ⟨i, some c⟩ ∧ e.body = lit "A tag may not contain whitespace") ∨
        -- (d) unknown language
        (∃ i l name, L[i - 1]? = some l ∧ 1 ≤ i ∧ languageRe l = some name ∧
          findDialect Gen.dialects name = none ∧
          e.kind = .noSuchLanguage ∧ e.loc = ⟨i, some (lineIndent l + 1)⟩ ∧
          e.body = lit "Language not supported: " ++ name) ∨
        -- (e) ragged table
        (e.kind = .raggedTable ∧ e.body = lit "inconsistent cell count within the table" ∧
          ∃ run t l, run ∈ tableRuns ctx.builds ∧ firstDeviating run = some t ∧ e = raggedErrAt t ∧
            t ∈ ctx.builds ∧ t.mtype = some .TableRow ∧ t.line = some l ∧ t.items = cells l ∧
            e.loc = ⟨t.lineNo, some (lineIndent l + 1)⟩ ∧
            L[t.lineNo - 1]? = some l ∧ 1 ≤ t.lineNo ∧ lineStartsWith l [124] = true) ) := by
  intro L ctx e he
  have hcls := C14_errors_class stop μ ids src hμ es comp h e he
  have hrag : IsRagged e → ∃ run t l, run ∈ tableRuns ctx.builds ∧ firstDeviating run = some t ∧
      e = raggedErrAt t ∧ t ∈ ctx.builds ∧ t.mtype = some .TableRow ∧ t.line = some l ∧ t.items = cells l ∧
      e.loc = ⟨t.lineNo, some (lineIndent l + 1)⟩ ∧
      L[t.lineNo - 1]? = some l ∧ 1 ≤ t.lineNo ∧ lineStartsWith l [124] = true :=
    fun hr => C14_ragged_in_source stop μ ids src hμ es comp h e he hr.2
  refine ⟨?_, rfl, ?_⟩
  · by_cases hr : IsRagged e
    · obtain ⟨run, t, l, -, -, -, -, -, -, -, hloc, hL, hi, -⟩ := hrag hr
      rw [hloc]
      have := (List.getElem?_eq_some_iff.1 hL).1
      exact ⟨hi, by show t.lineNo ≤ _; omega⟩
    · exact hcls.line_range hr
  · rcases hcls with ⟨i, l, row, h1, h2, h3, h4, h5, rfl⟩ | ⟨row, h1, h2, rfl⟩ | ⟨i, l, c, h1, h2, h3, h4, rfl⟩ |
      ⟨i, l, name, h1, h2, h3, h4, rfl⟩ | hr
    · exact .inl ⟨i, l, row, h1, h2, h3, h4, h5, rfl, rfl, rfl, rfl⟩
    · exact .inr (.inl ⟨row, h1, h2, rfl, rfl, rfl, rfl⟩)
    · exact .inr (.inr (.inl ⟨i, l, c, h1, h2, h3, h4, rfl, rfl, rfl⟩))
    · exact .inr (.inr (.inr (.inl ⟨i, l, name, h1, h2, h3, h4, rfl, rfl, rfl⟩)))
    · exact .inr (.inr (.inr (.inr ⟨hr.1, hr.2, hrag hr⟩)))

/-- The full message texts of the two error-tail errors: `(i:c): expected: <list>, got '<text>'` with
    `c` = indent + 1, and `(n+1:0): unexpected end of file, expected: <list>` — an absent column is
    printed as `0`. -/
theorem C14_unexpected_messages (stop : Bool) (μ : MState) (ids : Nat) (src : Str)
    (hμ : (μ.reset Gen.dialects).dialect ∈ Gen.dialects) (es : List PErr) (comp : Bool)
    (h : (parseWith Gen.dialects Gen.parserTable stop μ ids src).1 = .rejected es comp) (e : PErr) (he : e ∈ es) :
    (e.kind = .unexpectedToken → ∃ i l row, (splitLines src)[i - 1]? = some l ∧ 1 ≤ i ∧
      row ∈ Gen.parserTable.rows ∧
      e.message = lit "(" ++ natToStr i ++ lit ":" ++ natToStr (lineIndent l + 1) ++ lit "): expected: " ++
        joinWith (lit ", ") (row.expected.map lit) ++ lit ", got '" ++ strip (trimmed l) ++ lit "'") ∧
    (e.kind = .unexpectedEOF → ∃ row, row ∈ Gen.parserTable.rows ∧
      e.message = lit "(" ++ natToStr ((splitLines src).length + 1) ++ lit ":0): unexpected end of file, expected: " ++
        joinWith (lit ", ") (row.expected.map lit)) := by
  obtain ⟨k1, k2, -⟩ := C14_error_class_by_kind stop μ ids src hμ es comp h e he
  have e1 : lit "): expected: " = lit "): " ++ lit "expected: " := by decide
  have e2 : lit ":0): unexpected end of file, expected: " =
      [58] ++ natToStr 0 ++ lit "): " ++ lit "unexpected end of file, expected: " := by decide
  have e3 : lit "(" = [40] := by decide
  have e4 : lit ":" = [58] := by decide
  constructor
  · intro hk
    obtain ⟨i, l, row, h1, h2, -, h4, -, rfl⟩ := k1.1 hk
    refine ⟨i, l, row, h1, h2, h4, ?_⟩
    rw [e1, e3, e4]
    simp only [PErr.message, expectedText, Option.getD_some, List.append_assoc]
  · intro hk
    obtain ⟨row, h1, -, rfl⟩ := k2.1 hk
    refine ⟨row, h1, ?_⟩
    rw [e2, e3]
    simp only [PErr.message, expectedText, Option.getD_none, List.append_assoc]

/-- Why the column needs an argument: `unexpectedErr` reports whatever column an earlier test left
    in the token.  On a token of an indented comment line that a look-ahead has matched as `Comment`
    (column 1) it would report column 1, not indent + 1 = 3.  No run reaches this: such a line is
    consumed by every state (`C18_fact_comment_blank`), and in the queue-free parse the token in hand
    holds no column or indent + 1 (`ErrorsDoc.colOK_match`). -/
example :
    (Gen.parserTable.row? 0).map (fun row =>
      ((unexpectedErr row { line := some (lit "  #c\n"), lineNo := 3, col := some 1 }).loc,
       (unexpectedErr row (freshTok (lit "  #c\n") 3)).loc)) =
    some (⟨3, some 1⟩, ⟨3, some 3⟩) := by
  lit_lists
  kdecide

theorem C14E_getElem_of_drop {l : Str} {k a : Nat} {s : Str} (h : l.drop k = a :: s) : l[k]? = some a :=
  (ErrorsDoc.getElem?_of_drop_cons h).1

theorem C14E_head_of_startsWith {a : Nat} {s : Str} (h : startsWith [a] s = true) : ∃ r, s = a :: r := by
  cases s with
  | nil => simp [startsWith] at h
  | cons b r =>
    simp only [startsWith, Bool.and_true, beq_iff_eq] at h
    exact ⟨r, by rw [h]⟩

theorem C14E_languageRe_hash {l name : Str} (h : languageRe l = some name) : ∃ r, trimmed l = 35 :: r := by
  unfold languageRe at h
  split at h
  · rename_i s1 hs; exact ⟨s1, hs⟩
  · cases h

/-- **Every error location names a place in the source.**  An error of a rejected parse has no
    column exactly when it is the unexpected-end-of-file error.  Otherwise its column `c` is a column
    of the physical line `l` with the error's line number (`1 ≤ c ≤ |l|`), the code point there is not
    whitespace; for a tag with whitespace it is the `@` of the offending tag, for an unknown language
    the `#` of the header, for a ragged table the leading `|` of the first deviating row; for an
    unexpected line it is the first code point after the indentation and the message quotes the line
    from there on, stripped. -/
theorem C04_error_locations_in_source (stop : Bool) (μ : MState) (ids : Nat) (src : Str)
    (hμ : (μ.reset Gen.dialects).dialect ∈ Gen.dialects) (es : List PErr) (comp : Bool)
    (h : (parseWith Gen.dialects Gen.parserTable stop μ ids src).1 = .rejected es comp) :
    ∀ e ∈ es,
      (e.loc.col = none ↔ e.kind = .unexpectedEOF) ∧
      ∀ c, e.loc.col = some c →
        ∃ l ch, (splitLines src)[e.loc.line - 1]? = some l ∧ 1 ≤ c ∧ c ≤ l.length ∧
          l[c - 1]? = some ch ∧ isSpace ch = false ∧
          (e.kind = .unexpectedToken → c = lineIndent l + 1 ∧ ∃ row ∈ Gen.parserTable.rows,
            e.body = lit "expected: " ++ joinWith (lit ", ") (row.expected.map lit) ++ lit ", got '" ++
              strip (l.drop (c - 1)) ++ lit "'") ∧
          (e.kind = .tagWhitespace → ch = 64 ∧ lineIndent l + 1 ≤ c ∧
            ∃ item, (64 :: item) <+: l.drop (c - 1) ∧ (strip item).any isSpace = true) ∧
          (e.kind = .noSuchLanguage → ch = 35 ∧ c = lineIndent l + 1) ∧
          (e.kind = .raggedTable → ch = 124 ∧ c = lineIndent l + 1) := by
  intro e he
  have hlen : ∀ (l : Str) (k ch : Nat), l[k]? = some ch → k + 1 ≤ l.length := by
    intro l k ch hk
    have := (List.getElem?_eq_some_iff.1 hk).1
    omega
  obtain ⟨-, -, hc⟩ := C14_errors_classified stop μ ids src hμ es comp h e he
  rcases hc with ⟨i, l, row, h1, h2, h3, h4, h5, -, hk, hloc, hbody⟩ | ⟨row, h1, h2, -, hk, hloc, hbody⟩ |
    ⟨i, l, c, h1, h2, h3, h4, hk, hloc, hbody⟩ | ⟨i, l, name, h1, h2, h3, h4, hk, hloc, hbody⟩ |
    ⟨hk, hbody, run, t, l, -, -, -, -, -, -, -, hloc, hL, hi, hs⟩
  · -- (a)
    refine ⟨by rw [hloc, hk]; exact ⟨(fun x => by cases x), (fun x => by cases x)⟩, fun c hc => ?_⟩
    rw [hloc] at hc; cases hc
    have hne : l.drop (lineIndent l) ≠ [] := by
      rw [← Lemmas.trimmed_eq_drop]
      intro hnil
      simp [lineIsEmpty, hnil] at h5
    obtain ⟨ch, r, hdrop⟩ : ∃ ch r, l.drop (lineIndent l) = ch :: r := by
      cases hd : l.drop (lineIndent l) with
      | nil => exact absurd hd hne
      | cons ch r => exact ⟨ch, r, rfl⟩
    have hget := C14E_getElem_of_drop hdrop
    refine ⟨l, ch, (by rw [hloc]; exact h1), Nat.le_add_left _ _, hlen l _ ch hget, (by simpa using hget),
      Lemmas.indent_next_nonspace l ch hget, fun _ => ⟨rfl, row, h4, ?_⟩,
      (fun x => by rw [hk] at x; cases x), (fun x => by rw [hk] at x; cases x), (fun x => by rw [hk] at x; cases x)⟩
    rw [hbody, Lemmas.trimmed_eq_drop]
    rfl
  · -- (b)
    refine ⟨by rw [hloc, hk]; exact ⟨fun _ => rfl, fun _ => rfl⟩, fun c hc => ?_⟩
    rw [hloc] at hc; cases hc
  · -- (c)
    refine ⟨by rw [hloc, hk]; exact ⟨(fun x => by cases x), (fun x => by cases x)⟩, fun c' hc => ?_⟩
    rw [hloc] at hc; cases hc
    obtain ⟨t1, t2, t3⟩ := Lemmas.tag_error_col l h3 c h4
    refine ⟨l, 64, (by rw [hloc]; exact h1), (by omega), ?_, t2, (by decide),
      (fun x => by rw [hk] at x; cases x), fun _ => ⟨rfl, t1, t3⟩,
      (fun x => by rw [hk] at x; cases x), (fun x => by rw [hk] at x; cases x)⟩
    have := hlen l _ _ t2
    omega
  · -- (d)
    refine ⟨by rw [hloc, hk]; exact ⟨(fun x => by cases x), (fun x => by cases x)⟩, fun c hc => ?_⟩
    rw [hloc] at hc; cases hc
    obtain ⟨r, hr⟩ := C14E_languageRe_hash h3
    rw [Lemmas.trimmed_eq_drop] at hr
    have hget := C14E_getElem_of_drop hr
    exact ⟨l, 35, (by rw [hloc]; exact h1), Nat.le_add_left _ _, hlen l _ _ hget, (by simpa using hget), (by decide),
      (fun x => by rw [hk] at x; cases x), (fun x => by rw [hk] at x; cases x), fun _ => ⟨rfl, rfl⟩,
      (fun x => by rw [hk] at x; cases x)⟩
  · -- (e)
    refine ⟨by rw [hloc, hk]; exact ⟨(fun x => by cases x), (fun x => by cases x)⟩, fun c hc => ?_⟩
    rw [hloc] at hc; cases hc
    obtain ⟨r, hr⟩ := C14E_head_of_startsWith hs
    rw [Lemmas.trimmed_eq_drop] at hr
    have hget := C14E_getElem_of_drop hr
    exact ⟨l, 124, (by rw [hloc]; exact hL), Nat.le_add_left _ _, hlen l _ _ hget, (by simpa using hget), (by decide),
      (fun x => by rw [hk] at x; cases x), (fun x => by rw [hk] at x; cases x), (fun x => by rw [hk] at x; cases x),
      fun _ => ⟨rfl, rfl⟩⟩

/-! ### non-vacuity: one document with all five classes (collecting mode, six errors) -/

/-- line 1: a header naming no dialect (then taken as a comment); lines 5–6: a ragged table, reported
    when the table is closed; line 7: a tag with whitespace, which is then also an unexpected line;
    line 8: an unexpected line; line 9: a tag line, after which the end of file is unexpected -/
def C14E_demoSrc : Str :=
  lit "#language: xx\nFeature: f\nScenario: s\n  Given x\n  | a |\n  | b | c |\n @a b\n  foo\n@t\n"

example : (MState.init Gen.dialects (lit "en")).map
      (fun μ =>
        let r := parseWith Gen.dialects Gen.parserTable false μ 0 C14E_demoSrc
        (match r.1 with
         | .rejected es comp => (es.map fun (e : PErr) => (e.kind, e.loc), comp)
         | _ => ([], false), r.2.unexpected, (splitLines C14E_demoSrc).length)) =
    some (([(.noSuchLanguage, ⟨1, some 1⟩), (.tagWhitespace, ⟨7, some 2⟩), (.unexpectedToken, ⟨7, some 2⟩),
            (.unexpectedToken, ⟨8, some 3⟩), (.raggedTable, ⟨6, some 3⟩), (.unexpectedEOF, ⟨10, none⟩)], true),
          [7, 8, 10], 9) := by
  rw [C14E_demoSrc]
  lit_lists
  kdecide

/-- … and their message bodies -/
example : (MState.init Gen.dialects (lit "en")).map
      (fun μ =>
        match (parseWith Gen.dialects Gen.parserTable false μ 0 C14E_demoSrc).1 with
        | .rejected es _ => es.map fun (e : PErr) => e.body
        | _ => []) =
    some [lit "Language not supported: xx",
          lit "A tag may not contain whitespace",
          lit ("expected: #EOF, #TableRow, #StepLine, #TagLine, #ExamplesLine, #ScenarioLine, #RuleLine, " ++
               "#Comment, #Empty, got '@a b'"),
          lit ("expected: #EOF, #TableRow, #StepLine, #TagLine, #ExamplesLine, #ScenarioLine, #RuleLine, " ++
               "#Comment, #Empty, got 'foo'"),
          lit "inconsistent cell count within the table",
          lit "unexpected end of file, expected: #TagLine, #RuleLine, #Comment, #Empty"] := by
  rw [C14E_demoSrc, lit_append, lit_append]
  lit_lists
  kdecide

/-- the classification of each, against the source lines: (d) line 1 is a header naming `xx`;
    (c) line 7 starts with `@` and its first tag, at column 2, contains whitespace; (a) lines 7 and 8
    with indentation 1 and 2; (e) line 6 starts with `|` and has 2 cells where line 5 has 1;
    (b) the end of file is line 10 of a 9-line document -/
example :
    (((splitLines C14E_demoSrc)[0]?.map languageRe = some (some (lit "xx")) ∧
      findDialect Gen.dialects (lit "xx") = none) ∧
    ((splitLines C14E_demoSrc)[6]?.map (fun l =>
        (lineStartsWith l [64], (match lineTags l with | .error c => some c | .ok _ => none), lineIndent l)) =
      some (true, some 2, 1)) ∧
    ((splitLines C14E_demoSrc)[7]?.map (fun l => (lineIndent l, strip (trimmed l), lineIsEmpty l)) =
      some (2, lit "foo", false)) ∧
    ((splitLines C14E_demoSrc)[4]?.map (fun l => (cells l).length) = some 1 ∧
      (splitLines C14E_demoSrc)[5]?.map (fun l => (lineStartsWith l [124], (cells l).length, lineIndent l)) =
        some (true, 2, 2)) ∧
    (splitLines C14E_demoSrc).length + 1 = 10) := by
  rw [C14E_demoSrc]
  lit_lists
  kdecide

/-- stop mode reports the first of them only -/
example : (MState.init Gen.dialects (lit "en")).map
      (fun μ =>
        match (parseWith Gen.dialects Gen.parserTable true μ 0 C14E_demoSrc).1 with
        | .rejected es comp => some (es, comp)
        | _ => none) =
    some (some ([⟨.noSuchLanguage, ⟨1, some 1⟩, lit "Language not supported: xx"⟩], false)) := by
  rw [C14E_demoSrc]
  lit_lists
  kdecide

end GV
