/-
  Props/C18Order.lean — property C18, the order part: the main loop reads the tokens of lines
  1, 2, 3, … in this order, without gap, repeat or swap, however often a look-ahead has moved
  tokens through the queue; for an accepted document the builder therefore receives each physical
  line exactly once, in source order, with its own text and line number, followed by exactly one
  end-of-file token.

  Proved for every source text, both error modes, every matcher state whose dialect is one of the
  dialect table, for every table and dialect table that pass the Boolean checks of
  Spec/QueueFacts.lean; that the tables regenerated from parser.py and gherkin-languages.json pass
  them is evaluated by the kernel (Lemmas/FactsTable.lean, Lemmas/FactsDialects.lean).  (The remaining
  parts of C18 — built/unexpected partition — are in Props/C18.lean.)
-/
import GherkinVerif.Lemmas.QueueLoop
import GherkinVerif.Gen.ParserTable
import GherkinVerif.Gen.Dialects
import GherkinVerif.KDecide
import GherkinVerif.Lemmas.FactsTable
import GherkinVerif.Lemmas.FactsDialects
import GherkinVerif.Lemmas.Lit
namespace GV

/-- all look-aheads step over the same kinds (`Empty`, `Comment`, `TagLine`) and wait for title
    kinds; tag states are closed under stepped-over lines; every guarded test is a `TagLine` test
    into a tag state and is followed by another `TagLine` test into a tag state -/
theorem C18_fact_queue : Spec.queueFacts Gen.parserTable = true := Facts.queueFacts_table

/-- no keyword of any dialect starts like a comment, tag, table, doc-string or blank line -/
theorem C18_fact_keywords : Spec.queueDialectFacts Gen.dialects = true := Facts.queueDialectFacts_dialects

/-- every test hands its token to the builder exactly once -/
theorem C18_fact_builds : Spec.oneBuildLast Gen.parserTable = true := Facts.oneBuildLast_table

/-- The line numbers of the tokens the main loop reads are 1, 2, 3, …, n in this order: the
    look-ahead queue never drops, repeats or reorders a line, whatever the outcome of the parse. -/
theorem C18_reads_in_order_generic (D : List Dialect) (T : Table)
    (hD : Spec.queueDialectFacts D = true) (hT : Spec.queueFacts T = true)
    (stop : Bool) (μ : MState) (ids : Nat) (src : Str) (hμ : (μ.reset D).dialect ∈ D) :
    let ctx := (parseWith D T stop μ ids src).2
    ctx.reads = List.range' 1 ctx.reads.length :=
  Lemmas.reads_in_order D T hD hT stop μ ids src hμ

/-- For an accepted document the builder receives one token per physical line, in source order,
    each with its own line number and its own text, then exactly one end-of-file token. -/
theorem C18_accepted_sequence_generic (D : List Dialect) (T : Table)
    (hD : Spec.queueDialectFacts D = true) (hT : Spec.queueFacts T = true) (hB : Spec.oneBuildLast T = true)
    (stop : Bool) (μ : MState) (ids : Nat) (src : Str) (hμ : (μ.reset D).dialect ∈ D) (d : Doc)
    (h : (parseWith D T stop μ ids src).1 = .ok d) :
    let ctx := (parseWith D T stop μ ids src).2
    ctx.builds.map (·.lineNo) = List.range' 1 ((splitLines src).length + 1) ∧
    ctx.builds.map (·.line) = (splitLines src).map some ++ [none] :=
  Lemmas.accepted_sequence D T hD hT hB stop μ ids src hμ d h

/-- The main loop of the generated parser reads the tokens of lines 1, 2, 3, … in order, with
    no gap, repeat or swap — for every source text, in both error modes, whatever the outcome. -/
theorem C18_reads_in_order (stop : Bool) (μ : MState) (ids : Nat) (src : Str)
    (hμ : (μ.reset Gen.dialects).dialect ∈ Gen.dialects) :
    let ctx := (parseWith Gen.dialects Gen.parserTable stop μ ids src).2
    ctx.reads = List.range' 1 ctx.reads.length :=
  Lemmas.reads_in_order _ _ C18_fact_keywords C18_fact_queue stop μ ids src hμ

/-- For every accepted document the builder sees each physical line exactly once, in order, with
    that line's number and text, followed by exactly one end-of-file token. -/
theorem C18_accepted_sequence (stop : Bool) (μ : MState) (ids : Nat) (src : Str)
    (hμ : (μ.reset Gen.dialects).dialect ∈ Gen.dialects) (d : Doc)
    (h : (parseWith Gen.dialects Gen.parserTable stop μ ids src).1 = .ok d) :
    let ctx := (parseWith Gen.dialects Gen.parserTable stop μ ids src).2
    ctx.builds.map (·.lineNo) = List.range' 1 ((splitLines src).length + 1) ∧
    ctx.builds.map (·.line) = (splitLines src).map some ++ [none] :=
  Lemmas.accepted_sequence _ _ C18_fact_keywords C18_fact_queue C18_fact_builds stop μ ids src hμ d h

/-- The dialect hypothesis holds for every matcher state made by the constructor
    (`TokenMatcher(name)` looks the dialect up in the table) … -/
theorem C18_dialect_of_init (name : Str) (μ : MState) (h : MState.init Gen.dialects name = some μ) :
    (μ.reset Gen.dialects).dialect ∈ Gen.dialects :=
  Lemmas.reset_dialect_mem _ _ (Lemmas.init_dialect_mem _ _ _ h)

/-- … and is kept by `reset()`. -/
theorem C18_dialect_of_mem (μ : MState) (h : μ.dialect ∈ Gen.dialects) :
    (μ.reset Gen.dialects).dialect ∈ Gen.dialects :=
  Lemmas.reset_dialect_mem _ _ h

/-! non-vacuity: a document whose tag / blank / comment runs make both look-aheads fire, the second
    one on the queue the first one left (lines 10–13: the `Examples` look-ahead fails, the
    `Scenario` look-ahead re-reads the queue) -/

def C18_demoSrc : Str :=
  lit "Feature: f\nScenario: s\nGiven x\n@a\n\n#c\n@b\nExamples:\n|a|\n@t\n\n@u\nScenario: z\n@x\n@y\nRule: r\n"

example : (MState.init Gen.dialects (lit "en")).map
      (fun μ => (parseWith Gen.dialects Gen.parserTable false μ 0 C18_demoSrc).2.reads) =
    some [1, 2, 3, 4, 5, 6, 7, 8, 9, 10, 11, 12, 13, 14, 15, 16, 17] := by
  rw [C18_demoSrc]
  lit_lists
  kdecide

example : (MState.init Gen.dialects (lit "en")).map
      (fun μ => (parseWith Gen.dialects Gen.parserTable false μ 0 C18_demoSrc).2.builds.map (·.lineNo)) =
    some [1, 2, 3, 4, 5, 6, 7, 8, 9, 10, 11, 12, 13, 14, 15, 16, 17] := by
  rw [C18_demoSrc]
  lit_lists
  kdecide

/-- a rejected document (a tag with whitespace ends the first look-ahead, `foo` is unexpected):
    the lines are still read in order -/
example : (MState.init Gen.dialects (lit "en")).map
      (fun μ => (parseWith Gen.dialects Gen.parserTable false μ 0
        (lit "Feature: f\nScenario: s\nGiven x\n@a\n\n@b c\nExamples:\nfoo\n")).2.reads) =
    some [1, 2, 3, 4, 5, 6, 7, 8, 9] := by
  lit_lists
  kdecide

end GV
