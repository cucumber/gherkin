/-
  Props/C03Tree.lean — property C03, whole-document composition: the AST is a structural
  function of the derivation tree.  Property theorems only; proofs are in Lemmas/AstOf.lean (the
  fold), Lemmas/AstLocs.lean (locations) and Lemmas/AstShape.lean (shape from the grammar), the
  notions of the statements in Spec/AstOf.lean:

  * `Spec.TTree`     derivation trees whose leaves are the matched tokens;
  * `Spec.opsOf t`   the `start_rule` / `build` / `end_rule` calls the parser makes for `t`;
  * `Spec.applyOps`  the AST builder of Model/Builder.lean run on such a call sequence from a
                     builder state and id counter (stops at the first error);
  * `Spec.astOf cs t` the value of `t` by recursion on the tree: children left to right (a line
                     contributes the item `(kind, token)`, a comment line nothing, a child node
                     `(rule, its value)`), then `transformNode cs` on the node holding these items;
  * `Spec.commentsOf t` the comments of `t`'s comment lines in order;
  * `Spec.docFree t` / `t.isDocument`: no (inner) `GherkinDocument` node.

  * `Spec.srcLocs d` the locations of all elements of the AST read off in source order (tags,
                     then the tagged element, then what it contains; a step, then its table rows or
                     its doc string; header and body rows of an examples table); `Spec.srcLines`
                     their line numbers;
  * `Spec.elemLocs t` the locations of the elements carried by the lines of the tree, line by line
                     (`Spec.leafLocs`: a tag line one per tag; a keyword line, table row or doc
                     string separator its own — of the two separators of a doc string only the
                     first; nothing for comments, blank lines, free text, the language header,
                     the end of file); `Spec.elemLines` their line numbers;
  * `Spec.GrammarShaped t` see Props/C11Tree.lean; it follows from the grammar
                     (`C03_leaves_once_accepted`).

  Which comment list `transformNode` sees: the model passes the comments collected when the
  node's `end_rule` runs.  Only the `GherkinDocument` case reads them, so for every other node
  the parameter `cs` of `astOf` is arbitrary, and for the root it is all comments of the document.
  With a `GherkinDocument` node nested inside another (the grammar has none, see
  `C11_shaped_of_valid` / `Lemmas.isDocument_of_shaped`) a single `cs` would be wrong — last
  example below.
-/
import GherkinVerif.Lemmas.AstLocs
import GherkinVerif.Lemmas.AstShape
import GherkinVerif.KDecide
namespace GV
open Spec

/-- The stack machine computes the fold.  Take any node tree `t` without inner document node, any
    builder state whose stack is non-empty (`top :: rest`), any counter `n` and ANY comment
    list `cs`.  If `astOf cs t` from `n` gives value `v` and counter `n'`, then running the calls
    of `t` succeeds and changes the state in exactly three ways: the single item `(r, v)` is
    appended to the items of `top`; the comments of `t` are appended to the comment list; the
    counter is `n'`.  Nothing else about the stack matters, and nothing else changes. -/
theorem C03_ops_compute_fold (cs : List Comment) (r : RuleType) (ch : List TTree)
    (hd : docFree (.node r ch) = true) (β : BState) (top : Node) (rest : List Node) (n n' : Nat) (v : Val)
    (hs : β.stack = top :: rest) (h : (astOf cs (.node r ch)).run.run n = (.ok v, n')) :
    applyOps (opsOf (.node r ch)) β n =
      (.ok (), { stack := ⟨top.rt, top.items ++ [(.rule r, v)]⟩ :: rest,
                 comments := β.comments ++ commentsOf (.node r ch) }, n') :=
  Lemmas.applyOps_node cs r ch hd β top rest n n' v hs h

/-- The error case: if `astOf cs t` fails with error `e` at counter `n'` — the first `build` or
    `transformNode`, in tree order, that fails — the call sequence stops with the same error
    and the same counter (ids drawn before the failure stay consumed). -/
theorem C03_ops_error (cs : List Comment) (r : RuleType) (ch : List TTree)
    (hd : docFree (.node r ch) = true) (β : BState) (top : Node) (rest : List Node) (n n' : Nat) (e : BErr)
    (hs : β.stack = top :: rest) (h : (astOf cs (.node r ch)).run.run n = (.error e, n')) :
    ∃ β', applyOps (opsOf (.node r ch)) β n = (.error e, β', n') :=
  Lemmas.applyOps_node_error cs r ch hd β top rest n n' e hs h

/-- The same for lines and lists of siblings, in terms of the items they contribute
    (`Spec.itemsOf`): the items are appended to the top node in order. -/
theorem C03_ops_compute_items (cs : List Comment) (t : TTree) (hd : docFree t = true)
    (β : BState) (top : Node) (rest : List Node) (n n' : Nat) (is : List (Key × Val))
    (hs : β.stack = top :: rest) (h : (itemsOf cs t).run.run n = (.ok is, n')) :
    applyOps (opsOf t) β n =
      (.ok (), { stack := ⟨top.rt, top.items ++ is⟩ :: rest, comments := β.comments ++ commentsOf t }, n') :=
  (Lemmas.opsSpec_of_docFree cs t hd β top rest n hs).ok h

/-- Whole documents.  For a document tree `t` (root `GherkinDocument`, no other such node), from
    a fresh builder and counter `n`: if `astOf` — given all comments of the tree — returns `v` and
    `n'`, then the builder's run on the calls of `t` succeeds with counter `n'`, `v` is a document
    `d`, `get_result()` returns `d`, the stack is back to the single bottom node, and the
    document's comments are the comment lines of the tree in order.  So the AST is a structural
    function of the tree: no stack state other than the tree matters. -/
theorem C03_ast_of_tree (t : TTree) (ht : t.isDocument = true) (n n' : Nat) (v : Val)
    (h : (astOf (commentsOf t) t).run.run n = (.ok v, n')) :
    ∃ β, applyOps (opsOf t) BState.reset n = (.ok (), β, n') ∧
      β.stack = [⟨.None_, [(.rule .GherkinDocument, v)]⟩] ∧ β.comments = commentsOf t ∧
      ∃ d, v = .doc d ∧ β.result = .ok (some d) ∧ d.comments = commentsOf t :=
  (Lemmas.ast_of_tree t ht n).1 v n' h

theorem C03_ast_of_tree_error (t : TTree) (ht : t.isDocument = true) (n n' : Nat) (e : BErr)
    (h : (astOf (commentsOf t) t).run.run n = (.error e, n')) :
    ∃ β, applyOps (opsOf t) BState.reset n = (.error e, β, n') :=
  (Lemmas.ast_of_tree t ht n).2 e n' h

/-- Every element once, in source order.  For a grammar-shaped tree `t` whose value is the
    document `d`: the locations (line and column) of all elements of the AST — features, rules,
    backgrounds, scenarios, examples blocks, steps, table rows, doc strings, tags — read off in
    source order are exactly the locations of the elements carried by the lines of the tree, line
    by line.  So every line that carries an element (every non-comment, non-blank, non-free-text
    line except the language header, the closing doc string separator and the end of file)
    appears in the AST exactly once — a tag line once per tag —, under the node the tree puts it,
    in source order, and nothing else has a location in the AST.  (Comments: `C03_ast_of_tree`,
    `d.comments = commentsOf t`.  Not covered: descriptions and doc string content, which are
    text without location; cells, which are part of their row; a data table's own location,
    which is its first row's.) -/
theorem C03_leaves_once_in_order (t : TTree) (hs : GrammarShaped t) (cs : List Comment) (n n' : Nat) (d : Doc)
    (h : (astOf cs t).run.run n = (.ok (.doc d), n')) :
    srcLocs d = elemLocs t ∧ srcLines d = elemLines t :=
  ⟨Lemmas.leaves_once_in_order t hs cs n n' d h, Lemmas.lines_once_in_order t hs cs n n' d h⟩

/-- … in particular for every accepted document: a tree whose projection to line kinds is a valid
    derivation tree of gherkin.berp (`C02_events_valid_tree`) is grammar-shaped. -/
theorem C03_leaves_once_accepted (t : TTree) (hv : ValidTree Gen.grammar .GherkinDocument t.kinds)
    (cs : List Comment) (n n' : Nat) (d : Doc) (h : (astOf cs t).run.run n = (.ok (.doc d), n')) :
    srcLocs d = elemLocs t ∧ srcLines d = elemLines t :=
  C03_leaves_once_in_order t (Lemmas.shaped_of_valid_gen t hv) cs n n' d h

/-- The same for every subtree: the element locations inside the value of any grammar-shaped node
    tree (`Lemmas.valLocs` extends `srcLocs` to all values of the builder) are those of its lines. -/
theorem C03_subtree_locs (r : RuleType) (ch : List TTree) (hs : GrammarShaped (.node r ch))
    (cs : List Comment) (n n' : Nat) (v : Val) (h : (astOf cs (.node r ch)).run.run n = (.ok v, n')) :
    Lemmas.valLocs v = elemLocs (.node r ch) :=
  Lemmas.valLocs_astOf r ch hs cs n n' v h

section examples
open Lemmas.Ex

/-- the hypotheses of `C03_ast_of_tree` are satisfiable: `astOf` succeeds on the tree, from
    counter 5 to counter 15, with both comments and one feature child -/
example : docTree.isDocument = true := rfl
example : ((astOf (commentsOf docTree) docTree).run.run 5).2 = 15 := by kdecide
example : (docOf ((astOf (commentsOf docTree) docTree).run.run 5)).map (fun d =>
      (d.comments.map (·.loc.line), d.feature.map (·.children.length))) = some ([2, 6], some 1) := by
  kdecide
/-- … and the builder's run gives the same document -/
example : (applyOps (opsOf docTree) BState.reset 5).2.1.result.toOption.join =
    docOf ((astOf (commentsOf docTree) docTree).run.run 5) := by kdecide

/-- a failing tree: the short row makes the data table ragged; the error is raised when the
    `DataTable` node ends, after its three row ids were drawn -/
example : (itemsOf [] (.node .DataTable [.leaf rowTok1, .leaf rowTokShort, .leaf rowTok2])).run.run 5 =
    (.error (.ast ⟨.raggedTable, ⟨11, some 1⟩, lit "inconsistent cell count within the table"⟩), 8) := rfl

/-- Why `docFree` is assumed: a document node nested in another is given only the comments
    collected before its own `end_rule` (here two), the outer one all three — one fixed `cs`
    cannot serve both: the fold with the root's `cs` would give the inner document three. -/
example :
    let inner : TTree := .node .GherkinDocument [.leaf commentTok2]
    let nested : TTree := .node .GherkinDocument [.leaf commentTok, inner, .leaf commentTok2]
    (applyOps ([.start .GherkinDocument, .build commentTok] ++ opsOf inner) BState.reset 0).2.1.stack.head?.map
        (fun nd => nd.items.map fun kv => (docOf (.ok kv.2, 0)).map (·.comments.length)) = some [some 2] ∧
    (docOf ((astOf (commentsOf nested) inner).run.run 0)).map (·.comments.length) = some 3 ∧
    (applyOps (opsOf nested) BState.reset 0).2.1.result.toOption.join.map (·.comments.length) = some 3 := by
  kdecide

/-- `docTree` is grammar-shaped; its eleven elements in source order: the feature, three tags,
    the scenario, the step, two data-table rows, the examples block, header and body row — and
    these are the locations carried by its lines (the example tokens carry arbitrary line numbers) -/
example : GrammarShaped docTree := by kdecide
example : (docOf ((astOf [] docTree).run.run 5)).map srcLocs = some (elemLocs docTree) ∧
    elemLines docTree = [1, 6, 6, 7, 5, 3, 9, 10, 8, 9, 10] := by kdecide

/-- Why the shape is needed: a step line directly under the `Feature` node (not derivable from
    the grammar) is built without error and carries a location, but no element of the AST. -/
example :
    let bad : TTree := .node .GherkinDocument [.node .Feature [.node .FeatureHeader [.leaf featTok], .leaf stepTok]]
    GrammarShaped bad = False ∧
    (docOf ((astOf [] bad).run.run 0)).map srcLines = some [1] ∧ elemLines bad = [1, 3] := by
  kdecide

end examples
end GV
