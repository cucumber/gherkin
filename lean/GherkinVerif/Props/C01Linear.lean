/-
  Props/C01Linear.lean — property C01, the linear work bound: the number of line-matching
  operations (`TokenMatcher.match_*` calls) of one parse is at most a constant, computed from the
  parser table, times the number of lines plus one.

  The bound is false for arbitrary tables (a guarded test that fires on every line makes its
  look-ahead rescan the rest of the queue: quadratic; see Lemmas/Glue.lean).  What rules this out
  for the generated table are the facts of Spec/QueueFacts.lean: a token waits in the look-ahead
  queue only while the state is a tag state, where no look-ahead starts; so each token is tested
  by at most one state (`maxTests`) and visited by the look-aheads of at most one state
  (`maxGuards` passes of at most `maxLookaheadTests` calls each).
-/
import GherkinVerif.Lemmas.QueueLoop
import GherkinVerif.Gen.ParserTable
import GherkinVerif.Gen.Dialects
import GherkinVerif.KDecide
import GherkinVerif.Lemmas.FactsTable
import GherkinVerif.Lemmas.FactsDialects
import GherkinVerif.Lemmas.Lit
namespace GV

theorem C01_fact_queue : Spec.queueFacts Gen.parserTable = true := Facts.queueFacts_table
theorem C01_fact_keywords : Spec.queueDialectFacts Gen.dialects = true := Facts.queueDialectFacts_dialects

/-- the constant of the regenerated table: 12 tests in the largest state, at most 2 guarded tests
    per state, at most 4 matcher calls per token and look-ahead -/
theorem C01_work_per_token : Spec.workPerToken Gen.parserTable = 20 ∧
    Spec.maxTests Gen.parserTable = 12 ∧ Spec.maxGuards Gen.parserTable = 2 ∧
    Spec.maxLookaheadTests Gen.parserTable = 4 := by kdecide

/-- Linear matching work, for any table and dialect table passing the checks: at most
    `workPerToken T` matcher calls per line (and for the end-of-file token), whatever the outcome. -/
theorem C01_match_calls_linear_generic (D : List Dialect) (T : Table)
    (hD : Spec.queueDialectFacts D = true) (hT : Spec.queueFacts T = true)
    (stop : Bool) (μ : MState) (ids : Nat) (src : Str) (hμ : (μ.reset D).dialect ∈ D) :
    (parseWith D T stop μ ids src).2.calls ≤ Spec.workPerToken T * ((splitLines src).length + 1) :=
  Lemmas.calls_linear D T hD hT stop μ ids src hμ

/-- Linear matching work of the generated parser: at most 20 line-matching operations per line of
    the source text (plus 20 for the end of file), for every source text, in both error modes,
    accepted or rejected. -/
theorem C01_match_calls_linear (stop : Bool) (μ : MState) (ids : Nat) (src : Str)
    (hμ : (μ.reset Gen.dialects).dialect ∈ Gen.dialects) :
    (parseWith Gen.dialects Gen.parserTable stop μ ids src).2.calls ≤
      Spec.workPerToken Gen.parserTable * ((splitLines src).length + 1) :=
  Lemmas.calls_linear _ _ C01_fact_keywords C01_fact_queue stop μ ids src hμ

theorem C01_match_calls_linear_20 (stop : Bool) (μ : MState) (ids : Nat) (src : Str)
    (hμ : (μ.reset Gen.dialects).dialect ∈ Gen.dialects) :
    (parseWith Gen.dialects Gen.parserTable stop μ ids src).2.calls ≤ 20 * ((splitLines src).length + 1) := by
  have h := C01_match_calls_linear stop μ ids src hμ
  rw [C01_work_per_token.1] at h
  exact h

/-- non-vacuity: the counter counts — 99 calls for a 16-line document with nested look-ahead
    (bound: 20 · 17 = 340) -/
example : (MState.init Gen.dialects (lit "en")).map
      (fun μ => (parseWith Gen.dialects Gen.parserTable false μ 0
        (lit "Feature: f\nScenario: s\nGiven x\n@a\n\n#c\n@b\nExamples:\n|a|\n@t\n\n@u\nScenario: z\n@x\n@y\nRule: r\n")).2.calls) =
    some 99 := by
  lit_lists
  kdecide

end GV
