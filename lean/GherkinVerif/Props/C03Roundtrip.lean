/-
  Props/C03Roundtrip.lean — property C03 "from the document outwards": render → parse.

  Model (Spec/Render.lean): `MFeature` = feature tags, feature keyword, name, scenarios; `MScenario`
  = tags, keyword, name, steps; `MStep` = keyword (with its own trailing blank), text.  `Spec.render`
  writes the canonical layout (one LF-terminated line per element; tag line `@a @b` only when there
  are tags; `kw: name`; steps indented by two blanks).  `Spec.WF d m`: keywords are keywords of their
  role in `d`; names / step texts have no surrounding whitespace and no LF; tags are `@` + code
  points that are neither whitespace nor `@`; for every step the FIRST listed step keyword of `d`
  prefixing `kw ++ text` is `kw` itself.  `Spec.expectedDoc d lang m ids`: the expected AST with
  canonical ids (steps, then tags, then the scenario; feature tags last), line numbers by position,
  columns 1 / 3, keyword types `stepKType d kw` (characterised by `C05_keyword_type`).

  Per line: for every dialect of the table and every matcher state outside a doc string a rendered
  line is matched as its kind with exactly the expected token (`C03R_title_line`, `C03R_step_line`,
  `C03R_tag_line`), and every other specific test (all kinds but `Other`) fails on it, token and
  matcher untouched (`…_exclusive`: the text level's uniqueness of kinds, `Lemmas.exclusive_no`).
  The parse of a rendered document is simulated once, on the queue-free parse, for the model with
  data tables, background, examples and rules (`Lemmas.roundtrip5_pure`, Lemmas/Roundtrip5Doc.lean);
  this model is the part of it without them (`MFeature.toModel2` … `MFeature4.toModel5`,
  Lemmas/RoundtripEmbed.lean); the result goes over to the parser with its token queue by
  `C18_queue_refines_peek_fields`.  Each `WF` condition is shown necessary by a kernel-evaluated
  counterexample (section `necessity`).
  Not modelled by any of the five models: descriptions, doc strings, comments, `# language:` header.
-/
import GherkinVerif.Lemmas.Roundtrip5Doc
import GherkinVerif.Lemmas.RoundtripScen
import GherkinVerif.Lemmas.FactsTable
import GherkinVerif.Props.C18Pure
import GherkinVerif.Gen.ParserTable
import GherkinVerif.Gen.Dialects
import GherkinVerif.KDecide
import GherkinVerif.Lemmas.FactsDialects
import GherkinVerif.Lemmas.Lit
namespace GV
open Spec

/-- the C05 keyword facts (= `C05_dialect_facts`) -/
theorem C03R_fact_keywords : Spec.keywordFacts Gen.dialects = true := Facts.keywordFacts_dialects
/-- every keyword has a plain head (not whitespace, `#`, `@`, `|`, `"`, backtick) and no LF -/
theorem C03R_fact_render : Spec.renderFacts Gen.dialects = true := Facts.renderFacts_dialects

theorem C03R_split_render (bs : List Str) (h : ∀ b ∈ bs, ∀ c ∈ b, c ≠ 10) :
    splitLines (bs.flatMap (· ++ [10])) = bs.map (· ++ [10]) :=
  Lemmas.splitLines_flatMap bs h

/-- a rendered title line `kw: name` is matched as its kind: keyword verbatim, the name, column 1 -/
theorem C03R_title_line (D : List Dialect) (μ : MState) (hμ : μ.dialect ∈ Gen.dialects) (ty : Kind)
    (hty : ty.isTitle = true) (kw name : Str) (hk : kw ∈ μ.dialect.roleKeywords ty)
    (hn : cleanText name = true) (t : Token) (n : Nat)
    (hl : t.line = some (titleLineOf kw name ++ [10])) (hno : t.lineNo = n) :
    matchLine D ty μ t (titleLineOf kw name ++ [10]) = ⟨Lemmas.titleTok μ n ty kw name, μ, .matched⟩ :=
  Lemmas.title_match C03R_fact_keywords C03R_fact_render D μ hμ ty hty kw name hk hn t n hl hno

/-- a rendered step line is matched as a step: keyword verbatim, the text, column 3, `stepKType` -/
theorem C03R_step_line (D : List Dialect) (μ : MState) (hμ : μ.dialect ∈ Gen.dialects) (s : MStep)
    (hs : stepOK μ.dialect s = true) (t : Token) (n : Nat)
    (hl : t.line = some (stepLineOf s ++ [10])) (hno : t.lineNo = n) :
    matchLine D .StepLine μ t (stepLineOf s ++ [10]) = ⟨Lemmas.stepTok μ n s, μ, .matched⟩ :=
  Lemmas.step_match C03R_fact_render D μ hμ s hs t n hl hno

/-- a rendered tag line is matched as a tag line, every tag at its column -/
theorem C03R_tag_line (D : List Dialect) (μ : MState) (tags : List Str) (hne : tags ≠ [])
    (h : ∀ t ∈ tags, tagOK t = true) (t : Token) (n : Nat)
    (hl : t.line = some (joinWith [32] tags ++ [10])) (hno : t.lineNo = n) :
    matchLine D .TagLine μ t (joinWith [32] tags ++ [10]) = ⟨Lemmas.tagTok μ n tags, μ, .matched⟩ :=
  Lemmas.tag_match D μ tags hne h t n hl hno

theorem C03R_tag_line_exclusive (D : List Dialect) (μ : MState) (hμ : μ.dialect ∈ Gen.dialects)
    (hsep : μ.activeSep = none) (tags : List Str) (hne : tags ≠ []) (h : ∀ t ∈ tags, tagOK t = true)
    (t : Token) (K : Kind) (hK : K ≠ .TagLine) (hO : K ≠ .Other) :
    matchLine D K μ t (joinWith [32] tags ++ [10]) = ⟨t, μ, .no⟩ :=
  Lemmas.others_no C03R_fact_keywords C03R_fact_render D hμ hsep t _ (by decide) (by decide) (by decide)
    (Lemmas.matched_any_token (t := { line := some (joinWith [32] tags ++ [10]), lineNo := 0 })
      (by rw [Lemmas.tag_match D μ tags hne h _ 0 rfl rfl]) t) K hK hO

theorem C03R_title_line_exclusive (D : List Dialect) (μ : MState) (hμ : μ.dialect ∈ Gen.dialects)
    (hsep : μ.activeSep = none) (ty : Kind) (hty : ty.isTitle = true) (kw name : Str)
    (hk : kw ∈ μ.dialect.roleKeywords ty) (hn : cleanText name = true) (t : Token)
    (hl : t.line = some (titleLineOf kw name ++ [10])) (K : Kind) (hK : K ≠ ty) (hO : K ≠ .Other) :
    matchLine D K μ t (titleLineOf kw name ++ [10]) = ⟨t, μ, .no⟩ :=
  Lemmas.others_no C03R_fact_keywords C03R_fact_render D hμ hsep t _ (by cases ty <;> first | decide | cases hty)
    (by rintro rfl; cases hty) (by rintro rfl; cases hty)
    (by rw [C03R_title_line D μ hμ ty hty kw name hk hn t _ hl rfl]) K hK hO

theorem C03R_step_line_exclusive (D : List Dialect) (μ : MState) (hμ : μ.dialect ∈ Gen.dialects)
    (hsep : μ.activeSep = none) (s : MStep) (hs : stepOK μ.dialect s = true) (t : Token)
    (hl : t.line = some (stepLineOf s ++ [10])) (K : Kind) (hK : K ≠ .StepLine) (hO : K ≠ .Other) :
    matchLine D K μ t (stepLineOf s ++ [10]) = ⟨t, μ, .no⟩ :=
  Lemmas.others_no C03R_fact_keywords C03R_fact_render D hμ hsep t _ (by decide) (by decide) (by decide)
    (by rw [C03R_step_line D μ hμ s hs t _ hl rfl]) K hK hO

/-- the parser-table facts of the round trip (`Lemmas.rtFacts`): the two look-aheads; in states 3, 10
    and 12 the `ScenarioLine`, look-ahead-0 `TagLine` and `EOF` branches close what is open and then
    open the scenario / finish the feature; the step branches of states 10 and 12; the scenario
    branch of state 9; the feature's branches in states 0 and 2 -/
theorem C03R_fact_table : Lemmas.rtFacts Gen.parserTable = true :=
  Lemmas.rtFacts_of_rt2Facts (Lemmas.rt2Facts_of_rt3Facts (Lemmas.rt3Facts_of_rt4Facts Facts.rt4Facts_table))

theorem C03R_table : Lemmas.DocFacts Gen.parserTable :=
  .of_bool C03R_fact_table Facts.levelB_feature_table Facts.rt5RuleFacts_table

/-- from the queue-free parse to the parser with its token queue (C18): the outcome and the id counter -/
theorem C03R_of_pure {stop : Bool} {μ : MState} {ids : Nat} {src : Str}
    (hμ : (μ.reset Gen.dialects).dialect ∈ Gen.dialects) {o : Outcome} {k : Nat}
    (h : (Spec.parseWithPure Gen.dialects Gen.parserTable stop μ ids src).1 = o ∧
      (Spec.parseWithPure Gen.dialects Gen.parserTable stop μ ids src).2.ids = k) :
    (parseWith Gen.dialects Gen.parserTable stop μ ids src).1 = o ∧
      (parseWith Gen.dialects Gen.parserTable stop μ ids src).2.ids = k := by
  obtain ⟨ho, -, -, -, -, -, hi, -⟩ := C18_queue_refines_peek_fields stop μ ids src hμ
  exact ⟨ho.trans h.1, hi.trans h.2⟩

/-- **Round trip for a feature without scenarios** (tag line optional), the parser with its token
    queue, both error modes, any incoming matcher state whose default dialect is in the table, any
    incoming id counter: rendering a well-formed model and parsing it yields exactly the expected
    document.  (Queue-free parse: `Lemmas.roundtrip_pure`; transfer: C18.) -/
theorem C03_roundtrip_feature_only (stop : Bool) (μ : MState)
    (hμ : (μ.reset Gen.dialects).dialect ∈ Gen.dialects) (ids : Nat) (m : MFeature)
    (hwf : WF (μ.reset Gen.dialects).dialect m = true) (hs : m.scenarios = []) :
    (parseWith Gen.dialects Gen.parserTable stop μ ids (render m)).1 =
      .ok (expectedDoc (μ.reset Gen.dialects).dialect (μ.reset Gen.dialects).name m ids) :=
  (C03R_of_pure hμ (Lemmas.roundtrip_pure C03R_fact_keywords C03R_fact_render _ _ C03R_table stop μ hμ ids m hwf)).1

/-- **C03, round trip.**  Rendering a well-formed model and parsing the text yields exactly the
    expected document: every feature, scenario, step and tag of the model once, under the right
    parent, in order, keywords as written, names and texts verbatim, canonical ids, exact locations,
    nothing else.  Every matcher state whose default dialect is in the table, both error modes,
    every incoming id counter. -/
theorem C03_roundtrip (stop : Bool) (μ : MState)
    (hμ : (μ.reset Gen.dialects).dialect ∈ Gen.dialects) (ids : Nat) (m : MFeature)
    (hwf : WF (μ.reset Gen.dialects).dialect m = true) :
    (parseWith Gen.dialects Gen.parserTable stop μ ids (render m)).1 =
      .ok (expectedDoc (μ.reset Gen.dialects).dialect (μ.reset Gen.dialects).name m ids) :=
  (C03R_of_pure hμ (Lemmas.roundtrip_pure C03R_fact_keywords C03R_fact_render _ _ C03R_table stop μ hμ ids m hwf)).1

/-- … and the id counter after the parse is the predicted one: one id per step, tag and scenario. -/
theorem C03_roundtrip_counter (stop : Bool) (μ : MState)
    (hμ : (μ.reset Gen.dialects).dialect ∈ Gen.dialects) (ids : Nat) (m : MFeature)
    (hwf : WF (μ.reset Gen.dialects).dialect m = true) :
    (parseWith Gen.dialects Gen.parserTable stop μ ids (render m)).2.ids = idsAfter m ids :=
  (C03R_of_pure hμ (Lemmas.roundtrip_pure C03R_fact_keywords C03R_fact_render _ _ C03R_table stop μ hμ ids m hwf)).2

/-- For a matcher made by `TokenMatcher(name)`: the dialect is the one found under `name`, the
    reported language is `name`. -/
theorem C03_roundtrip_init (stop : Bool) (name : Str) (μ : MState) (d : Dialect)
    (hd : findDialect Gen.dialects name = some d) (hinit : MState.init Gen.dialects name = some μ)
    (ids : Nat) (m : MFeature) (hwf : WF d m = true) :
    (parseWith Gen.dialects Gen.parserTable stop μ ids (render m)).1 = .ok (expectedDoc d name m ids) := by
  have hμe : μ = { defaultName := name, name := name, dialect := d } := by
    simp only [MState.init, hd, Option.map_some, Option.some.injEq] at hinit
    exact hinit.symm
  have hreset : μ.reset Gen.dialects = μ := by subst hμe; simp [MState.reset]
  have hdm : d ∈ Gen.dialects := (Lemmas.findDialect_some Gen.dialects name d hd).1
  have h := C03_roundtrip stop μ (by rw [hreset, hμe]; exact hdm) ids m (by rw [hreset, hμe]; exact hwf)
  rw [hreset, hμe] at h
  rw [hμe]
  exact h

section examples

def C03R_demoEn : MFeature :=
  { tags := [lit "@f1", lit "@f2"], kw := lit "Feature", name := lit "My feature",
    scenarios := [
      { tags := [], kw := lit "Scenario", name := lit "first",
        steps := [⟨lit "Given ", lit "a"⟩, ⟨lit "When ", lit "b c"⟩, ⟨lit "Then ", lit "d"⟩] },
      { tags := [lit "@x", lit "@yy#1"], kw := lit "Scenario Outline", name := [],
        steps := [⟨lit "* ", lit "e"⟩, ⟨lit "And ", lit ""⟩] },
      { tags := [lit "@z"], kw := lit "Example", name := lit "none", steps := [] }] }

def C03R_demoFr : MFeature :=
  { tags := [], kw := lit "Fonctionnalité", name := lit "Un titre",
    scenarios := [
      { tags := [lit "@é"], kw := lit "Scénario", name := lit "s",
        steps := [⟨lit "Soit ", lit "x"⟩, ⟨lit "Quand ", lit "y"⟩, ⟨lit "Alors ", lit "z"⟩, ⟨lit "Et ", lit "w"⟩] }] }

/-- the decoder for test drivers builds the same model -/
example : MFeature.ofStrings ["@f1", "@f2"] "Feature" "My feature"
    [([], "Scenario", "first", [("Given ", "a"), ("When ", "b c"), ("Then ", "d")]),
     (["@x", "@yy#1"], "Scenario Outline", "", [("* ", "e"), ("And ", "")]),
     (["@z"], "Example", "none", [])] = C03R_demoEn := by kdecide

def C03R_okDoc (o : Outcome) : Option Doc := match o with | .ok d => some d | _ => none

/-- the English model: well formed, rendered literally, parsed (both modes, counter 7) to the
    expected document, counter afterwards as predicted -/
example : (MState.init Gen.dialects (lit "en")).map (fun μ =>
    (WF μ.dialect C03R_demoEn,
     render C03R_demoEn == lit "@f1 @f2\nFeature: My feature\nScenario: first\n  Given a\n  When b c\n  Then d\n@x @yy#1\nScenario Outline: \n  * e\n  And \n@z\nExample: none\n",
     decide (C03R_okDoc (parseWith Gen.dialects Gen.parserTable false μ 7 (render C03R_demoEn)).1 =
       some (expectedDoc μ.dialect μ.name C03R_demoEn 7)),
     decide (C03R_okDoc (parseWith Gen.dialects Gen.parserTable true μ 7 (render C03R_demoEn)).1 =
       some (expectedDoc μ.dialect μ.name C03R_demoEn 7)),
     (parseWith Gen.dialects Gen.parserTable true μ 7 (render C03R_demoEn)).2.ids == idsAfter C03R_demoEn 7)) =
    some (true, true, true, true, true) := by
  lit_lists
  kdecide

/-- the French model under a French matcher -/
example : (MState.init Gen.dialects (lit "fr")).map (fun μ =>
    (WF μ.dialect C03R_demoFr,
     render C03R_demoFr == lit "Fonctionnalité: Un titre\n@é\nScénario: s\n  Soit x\n  Quand y\n  Alors z\n  Et w\n",
     decide (C03R_okDoc (parseWith Gen.dialects Gen.parserTable false μ 0 (render C03R_demoFr)).1 =
       some (expectedDoc μ.dialect μ.name C03R_demoFr 0)))) =
    some (true, true, true) := by
  lit_lists
  kdecide

end examples

section necessity

def C03R_sc1 (st : MStep) : MScenario := { tags := [], kw := lit "Scenario", name := lit "s", steps := [st] }

def C03R_variant (f : MFeature → MFeature) : Option (Bool × Bool) :=
  (MState.init Gen.dialects (lit "en")).map fun μ =>
    let m := f { tags := [], kw := lit "Feature", name := lit "f",
                 scenarios := [{ tags := [], kw := lit "Scenario", name := lit "s", steps := [⟨lit "Given ", lit "x"⟩] }] }
    (WF μ.dialect m,
     decide (C03R_okDoc (parseWith Gen.dialects Gen.parserTable false μ 0 (render m)).1 =
       some (expectedDoc μ.dialect μ.name m 0)))

/-- the base model round-trips -/
example : C03R_variant id = some (true, true) := by kdecide
/-- a name with a trailing blank: not WF, and the parse reports the stripped name -/
example : C03R_variant (fun m => { m with name := lit "f " }) = some (false, false) := by kdecide
/-- a name containing LF: the line breaks -/
example : C03R_variant (fun m => { m with name := lit "f\ng" }) = some (false, false) := by kdecide
/-- a tag with a blank inside (the matcher raises) and a tag containing `@` (split in two) -/
example : C03R_variant (fun m => { m with tags := [lit "@a b"] }) = some (false, false) := by kdecide
example : C03R_variant (fun m => { m with tags := [lit "@a@b"] }) = some (false, false) := by kdecide
/-- a keyword of another role -/
example : C03R_variant (fun m => { m with kw := lit "Scenario" }) = some (false, false) := by kdecide
/-- the step keyword `"Given"` without its blank is not a keyword -/
example : C03R_variant (fun m => { m with scenarios := [C03R_sc1 ⟨lit "Given", lit "x"⟩] }) = some (false, false) := by kdecide
/-- a step text with a leading blank is reported stripped -/
example : C03R_variant (fun m => { m with scenarios := [C03R_sc1 ⟨lit "Given ", lit " x"⟩] }) = some (false, false) := by kdecide

/-- the first-prefix condition proper: Slovak lists `"A "` before `"A tiež "`; a model step with
    keyword `"A tiež "` is not WF and is reported with keyword `"A "` -/
example : (MState.init Gen.dialects (lit "sk")).map (fun μ =>
    (stepOK μ.dialect ⟨lit "A tiež ", lit "x"⟩, stepOK μ.dialect ⟨lit "A ", lit "tiež x"⟩,
     (matchLine Gen.dialects .StepLine μ ⟨some (lit "  A tiež x\n"), 1, none, none, none, none, none, 0, [], []⟩
        (lit "  A tiež x\n")).tok.keyword)) = some (false, true, some (lit "A ")) := by
  lit_lists
  kdecide

end necessity

end GV
