/-
  Props/C01NoCrashAll.lean — property C01, last sentence: "For every source text, parsing either
  returns a Gherkin document or raises the library's parser error … No other exception type
  ever escapes."

  In the model every Python run-time error of the parser — `AttributeError` on a token that
  `get_token` did not find, `IndexError` on an empty stack or an empty row list, a `None` field,
  `RuntimeError: Unknown state`, a look-ahead that does not exist, `get_result()` returning
  `None` — is the explicit outcome `Outcome.crash w` of `parseWith` (Model/Parser.lean), produced
  by `BErr.crash` in the builder (Model/Builder.lean) or by `throw (.crash …)` in the glue.

  `C01_no_crash`: that outcome is unreachable — for EVERY source text (accepted or rejected, with
  ragged tables, unexpected lines, unexpected end of file, bad tags, unknown languages, more
  errors than the limit), every matcher state, every id counter, in BOTH error modes.
  (Props/C01NoCrash.lean proves the builder side for the trees of accepted documents only, under
  the explicit hypotheses `Complete`, `WellMatched`, `DocStringsOpened`; here they are established
  along the run, for all runs, and the glue's own crash sites are covered too.)

  How.  `Spec.noCrashCheck T fuel` (Lemmas/NoCrashRun.lean) is a Boolean check of the transition
  table alone.  It computes, by exploration from the start state, for every state the rule types
  of the nodes open on the builder's stack, per node the children required by the builder
  (`Spec.required`) that are certainly present, and whether the matcher is inside a doc string;
  and it checks, for every branch of every state, that the productions of the branch
    * never pop a node whose required children are not certainly present (a finished child counts
      as certainly present only if its rule type is in `Spec.sureRules`, i.e. its `transform_node`
      cannot raise: a node that raises the ragged-table error is dropped in collecting mode —
      recorded, popped, not added to its parent; no rule REQUIRES such a child),
    * never build onto / pop from a too short stack,
    * never make a closing doc-string separator the first separator of a `DocString` node,
    * lead to a state with a row (or, on end of file, to the state where only the document node
      is open), with a typing at least as informative as the one recorded for the target,
  that guards refer to existing look-aheads which do not test doc-string separators, that
  error tails return their own state, and that in EVERY state the node on top has its required
  children (the `end_rule` after the loop pops it, also after an unexpected end of file).
  The kernel evaluates the check on the regenerated table (`C01_fact_no_crash`);
  `Lemmas.NC.parseWith_no_crash` lifts it to all runs: the typing is an invariant of the parse
  loop (Lemmas/NoCrashLoop.lean).  Nothing is specific to the regenerated table:
  `C01_no_crash_generic`.

  Corollaries: the outcome is a document or a parser error (`C01_parse_outcome_total`, with
  `C01_parse_terminates`), and the text-level acceptance theorems of Props/C02Text.lean without
  their crash alternative / no-crash hypothesis.
-/
import GherkinVerif.Lemmas.NoCrashLoop
import GherkinVerif.Props.C02Text
import GherkinVerif.Gen.ParserTable
import GherkinVerif.Gen.Dialects
import GherkinVerif.KDecide
import GherkinVerif.Lemmas.FactsTable
import GherkinVerif.Lemmas.FactsDialects
import GherkinVerif.Lemmas.Lit
namespace GV

theorem C01_fact_no_crash : Spec.noCrashCheck Gen.parserTable 100000 = true := by kdecide

/-- no look-ahead expects or skips `EOF` / `Other` (termination) -/
theorem C01A_fact_lookaheads : Spec.lookaheadsStopAtEOF Gen.parserTable = true :=
  Facts.lookaheadsStopAtEOF_table
/-- the C05 keyword facts, and: no keyword starts with `"` or a backtick (= `C02T_fact_dialects`) -/
theorem C01A_fact_dialects : Spec.textDialectFacts Gen.dialects = true := Facts.textDialectFacts_dialects
/-- look-aheads uniform, tag states closed, guarded tests followed by tag-line tests -/
theorem C01A_fact_queue : Spec.queueFacts Gen.parserTable = true := Facts.queueFacts_table
/-- comment and blank lines are accepted by some test of every state -/
theorem C01A_fact_comment_blank : Spec.commentBlankTested Gen.parserTable = true :=
  Facts.commentBlankTested_table

/-- Generic form: for every transition table `T` that passes the Boolean check, every dialect
    table `D`, both error modes, every matcher state, id counter and source text: the parse does
    not end in the crash outcome. -/
theorem C01_no_crash_generic (D : List Dialect) (T : Table) (fuel : Nat) (hT : Spec.noCrashCheck T fuel = true)
    (stop : Bool) (μ : MState) (ids : Nat) (src : Str) :
    ∀ w, (parseWith D T stop μ ids src).1 ≠ .crash w :=
  fun w => Lemmas.NC.parseWith_no_crash D T fuel hT stop μ ids src w

/-- **No other exception type ever escapes.**  For the regenerated parser table and dialect
    table, every source text, every matcher state and id counter, stop-at-first-error or
    collecting mode: `parseWith` never returns `Outcome.crash`. -/
theorem C01_no_crash_any (stop : Bool) (μ : MState) (ids : Nat) (src : Str) :
    ∀ w, (parseWith Gen.dialects Gen.parserTable stop μ ids src).1 ≠ .crash w :=
  C01_no_crash_generic Gen.dialects Gen.parserTable 100000 C01_fact_no_crash stop μ ids src

/-- … with the hypothesis on the matcher's dialect that the other C01/C02 text-level theorems
    assume; it is not used -/
theorem C01_no_crash (stop : Bool) (μ : MState) (ids : Nat) (src : Str)
    (_hμ : (μ.reset Gen.dialects).dialect ∈ Gen.dialects) :
    ∀ w, (parseWith Gen.dialects Gen.parserTable stop μ ids src).1 ≠ .crash w :=
  C01_no_crash_any stop μ ids src

/-- The outcome of a parse is total: a Gherkin document, or the library's parser error
    (`composite = false`: a bare `ParserException`, stop mode; `true`: a
    `CompositeParserException`).  The model's two other outcomes — a crash, running out of fuel —
    never occur (`C01_no_crash_generic`, `Lemmas.parse_terminates`).  Generic form. -/
theorem C01_parse_outcome_total_generic (D : List Dialect) (T : Table) (fuel : Nat)
    (hT : Spec.noCrashCheck T fuel = true) (hE : Spec.lookaheadsStopAtEOF T = true)
    (stop : Bool) (μ : MState) (ids : Nat) (src : Str) :
    (∃ d, (parseWith D T stop μ ids src).1 = .ok d) ∨
    (∃ es comp, (parseWith D T stop μ ids src).1 = .rejected es comp) := by
  have hnc := C01_no_crash_generic D T fuel hT stop μ ids src
  have hnf := Lemmas.parse_terminates D T hE stop μ ids src
  cases h : (parseWith D T stop μ ids src).1 with
  | ok d => exact Or.inl ⟨d, rfl⟩
  | rejected es comp => exact Or.inr ⟨es, comp, rfl⟩
  | crash w => exact absurd h (hnc w)
  | fuel => exact absurd h hnf

theorem C01_parse_outcome_total (stop : Bool) (μ : MState) (ids : Nat) (src : Str) :
    (∃ d, (parseWith Gen.dialects Gen.parserTable stop μ ids src).1 = .ok d) ∨
    (∃ es comp, (parseWith Gen.dialects Gen.parserTable stop μ ids src).1 = .rejected es comp) :=
  C01_parse_outcome_total_generic _ _ _ C01_fact_no_crash C01A_fact_lookaheads stop μ ids src

/-- `C02_text_accepted` (Props/C02Text.lean) without its third alternative: accepted at text
    level ⇒ the parser accepts the document, or rejects it with ragged-table errors only. -/
theorem C02_text_accepted_nc (μ : MState) (ids : Nat) (src : Str) (hμ : (μ.reset Gen.dialects).dialect ∈ Gen.dialects)
    (h : Spec.textAccepts Gen.dialects Gen.parserTable 0 (μ.reset Gen.dialects) (splitLines src) = true) :
    (∃ d, (parseWith Gen.dialects Gen.parserTable false μ ids src).1 = .ok d) ∨
    (∃ es, (parseWith Gen.dialects Gen.parserTable false μ ids src).1 = .rejected es true ∧
      ∀ e ∈ es, e.kind = .raggedTable) := by
  rcases C02_text_accepted μ ids src hμ h with h | h | ⟨w, hw⟩
  · exact Or.inl h
  · exact Or.inr h
  · exact absurd hw (C01_no_crash_any false μ ids src w)

/-- `C14_text_rejected` without its crash alternative: rejected at text level ⇒ the parser
    rejects the document with an error that is not a ragged-table error, or is cut short by the
    error limit. -/
theorem C14_text_rejected_nc (μ : MState) (ids : Nat) (src : Str) (hμ : (μ.reset Gen.dialects).dialect ∈ Gen.dialects)
    (h : Spec.textAccepts Gen.dialects Gen.parserTable 0 (μ.reset Gen.dialects) (splitLines src) = false) :
    ∃ es, (parseWith Gen.dialects Gen.parserTable false μ ids src).1 = .rejected es true ∧
      ((∃ e ∈ es, e.kind ≠ .raggedTable) ∨ Gen.parserTable.errorCap < es.length) :=
  (C14_text_rejected μ ids src hμ h).resolve_right fun ⟨w, hw⟩ => C01_no_crash_any false μ ids src w hw

/-- The acceptance theorem `C02_text_accept_iff` without its hypothesis `hnc`: when the error
    limit is not hit, the document is accepted, or rejected with ragged-table errors only, iff the
    text-level acceptor accepts it. -/
theorem C02_text_accept_iff_nc (μ : MState) (ids : Nat) (src : Str) (hμ : (μ.reset Gen.dialects).dialect ∈ Gen.dialects)
    (hcap : ∀ es comp, (parseWith Gen.dialects Gen.parserTable false μ ids src).1 = .rejected es comp →
      es.length ≤ Gen.parserTable.errorCap) :
    ((∃ d, (parseWith Gen.dialects Gen.parserTable false μ ids src).1 = .ok d) ∨
     (∃ es comp, (parseWith Gen.dialects Gen.parserTable false μ ids src).1 = .rejected es comp ∧
        ∀ e ∈ es, e.kind = .raggedTable)) ↔
    Spec.textAccepts Gen.dialects Gen.parserTable 0 (μ.reset Gen.dialects) (splitLines src) = true :=
  C02_text_accept_iff μ ids src hμ (C01_no_crash_any false μ ids src) hcap

theorem C02_text_accept_iff_nc_generic (D : List Dialect) (T : Table) (fuel : Nat)
    (hN : Spec.noCrashCheck T fuel = true) (hf : Spec.textDialectFacts D = true)
    (hT : Spec.queueFacts T = true) (hCB : Spec.commentBlankTested T = true)
    (hE : Spec.lookaheadsStopAtEOF T = true) (μ : MState) (ids : Nat) (src : Str) (hμ : (μ.reset D).dialect ∈ D)
    (hcap : ∀ es comp, (parseWith D T false μ ids src).1 = .rejected es comp → es.length ≤ T.errorCap) :
    ((∃ d, (parseWith D T false μ ids src).1 = .ok d) ∨
     (∃ es comp, (parseWith D T false μ ids src).1 = .rejected es comp ∧ ∀ e ∈ es, e.kind = .raggedTable)) ↔
    Spec.textAccepts D T 0 (μ.reset D) (splitLines src) = true :=
  C02_text_accept_iff_generic D T hf hT hCB hE μ ids src hμ (C01_no_crash_generic D T fuel hN false μ ids src) hcap

section examples

/-- the typing computed for the regenerated table has an entry for each of the 42 states with a
    row and for the end state -/
example : (Spec.ncompute Gen.parserTable 100000).length = 43 := by kdecide

/-- … e.g. in state 12 (a step line of a scenario has been read) the open nodes are, innermost
    first, `Step` holding its `StepLine`, `Scenario` holding its `ScenarioLine`,
    `ScenarioDefinition` (its `Scenario` child is still open), `Feature`, `GherkinDocument`, the
    builder's root; the matcher is outside a doc string -/
example : Spec.nlookup (Spec.ncompute Gen.parserTable 100000) 12 =
    some ([(.Step, [.tok .StepLine]), (.Scenario, [.tok .ScenarioLine]), (.ScenarioDefinition, []),
      (.Feature, []), (.GherkinDocument, []), (.None_, [])], false) := by kdecide

def outcomeTag : Outcome → String × Nat
  | .ok _ => ("ok", 0)
  | .rejected es c => (if c then "composite" else "single", es.length)
  | .crash w => ("crash: " ++ w, 0)
  | .fuel => ("fuel", 0)

def tryDoc (stop : Bool) (s : String) : Option (String × Nat) :=
  (MState.init Gen.dialects (lit "en")).map fun μ =>
    outcomeTag (parseWith Gen.dialects Gen.parserTable stop μ 0 (lit s)).1

/-- adversarial documents, collecting mode: a ragged table then end of file; a ragged table then
    an unexpected line; tags then end of file; an open doc string then end of file; `Examples:`
    without a table; a ragged examples table, a bad tag and an unexpected line; more errors than the
    limit; an unknown language; a ragged table in a background and doc-string delimiters out of
    step; the empty document -/
example : [
    "Feature: f\nScenario: s\nGiven x\n|a|\n|a|b|",
    "Feature: f\nScenario: s\nGiven x\n|a|\n|a|b|\n\"\"\"\n",
    "Feature: f\n@t\n",
    "Feature: f\nScenario: s\nGiven x\n\"\"\"\nabc\n",
    "Feature: f\nScenario Outline: s\nGiven x\nExamples:\n",
    "Feature: f\nScenario Outline: s\nGiven x\nExamples:\n|a|\n|b|c|\n@x y\nfoo",
    "foo\nbar\n1\n2\n3\n4\n5\n6\n7\n8\n9\n10\n11\n12",
    "# language: xx\nFeature: f",
    "Feature: f\nBackground:\nGiven x\n|a|\n|b|c|\nScenario: s\nGiven y\n\"\"\"\n\"\"\"\n\"\"\"\n",
    ""].map (tryDoc false) =
    [some ("composite", 1), some ("composite", 2), some ("composite", 1), some ("composite", 1),
     some ("ok", 0), some ("composite", 4), some ("composite", 11), some ("composite", 1),
     some ("composite", 2), some ("ok", 0)] := by
  simp only [List.map_cons, List.map_nil, tryDoc]
  lit_lists
  kdecide

/-- the same in stop mode: the first error, bare -/
example : [
    "Feature: f\nScenario: s\nGiven x\n|a|\n|a|b|",
    "Feature: f\n@t\n",
    "Feature: f\nScenario: s\nGiven x\n\"\"\"\nabc\n",
    "foo\nbar\n1\n2\n3\n4\n5\n6\n7\n8\n9\n10\n11\n12",
    ""].map (tryDoc true) =
    [some ("single", 1), some ("single", 1), some ("single", 1), some ("single", 1), some ("ok", 0)] := by
  simp only [List.map_cons, List.map_nil, tryDoc]
  lit_lists
  kdecide

/-- The check is not vacuous, and the crash outcome is not unreachable by construction: a table
    whose free-text branch opens a `Step` node and closes it at once (without its step line) fails
    the check — and the model does crash on it, with the builder's `AttributeError`. -/
def badTable : Table :=
  { rows := [{ id := 0, comment := "", expected := [], errTarget := 0,
               branches := [⟨.EOF, none, [.build], 1⟩, ⟨.Other, none, [.start .Step, .end_ .Step, .build], 0⟩] }],
    lookaheads := [], startRule := .GherkinDocument, errorCap := 10 }

example :
    let μ : MState := { defaultName := lit "en", name := lit "en", dialect := default }
    Spec.noCrashCheck badTable 100 = false ∧
    outcomeTag (parseWith [] badTable false μ 0 (lit "x\n")).1 =
      ("crash: AttributeError: get_token(StepLine) is None", 0) := by kdecide

/-- … and so does a table with a branch into a state without row (`RuntimeError: Unknown state`) -/
def badTable2 : Table :=
  { rows := [{ id := 0, comment := "", expected := [], errTarget := 0,
               branches := [⟨.EOF, none, [.build], 1⟩, ⟨.Other, none, [.build], 7⟩] }],
    lookaheads := [], startRule := .GherkinDocument, errorCap := 10 }

example :
    let μ : MState := { defaultName := lit "en", name := lit "en", dialect := default }
    Spec.noCrashCheck badTable2 100 = false ∧
    outcomeTag (parseWith [] badTable2 false μ 0 (lit "x\ny\n")).1 =
      ("crash: RuntimeError: Unknown state: 7", 0) := by kdecide

end examples
end GV
