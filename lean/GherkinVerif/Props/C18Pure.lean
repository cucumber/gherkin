/-
  Props/C18Pure.lean — property C18, refinement part: the token queue is an implementation
  detail.  The parse with the look-ahead queue (`parseWith`, the model of parser.py) and the
  queue-free parse of Spec/PureParse.lean (the main loop takes the next line directly, a
  look-ahead only peeks at the unread lines) agree on everything an observer can see: outcome,
  tokens built (all fields), lines reported as unexpected, order of reading, error list, matcher
  state and id counter afterwards, number of matcher calls — for every source text, both error
  modes, accepted or rejected or aborted.
-/
import GherkinVerif.Lemmas.QueuePureLoop
import GherkinVerif.Props.C18Order
import GherkinVerif.KDecide
import GherkinVerif.Lemmas.FactsTable
import GherkinVerif.Lemmas.Lit
namespace GV

/-- every state of the regenerated table accepts comment lines and blank lines (by a `Comment` /
    `Empty` test or by `Other`), so such a line never reaches an error tail -/
theorem C18_fact_comment_blank : Spec.commentBlankTested Gen.parserTable = true :=
  Facts.commentBlankTested_table

/-- The queue is an implementation detail, for any table and dialect table passing the checks. -/
theorem C18_queue_refines_peek_generic (D : List Dialect) (T : Table)
    (hD : Spec.queueDialectFacts D = true) (hT : Spec.queueFacts T = true)
    (hCB : Spec.commentBlankTested T = true)
    (stop : Bool) (μ : MState) (ids : Nat) (src : Str) (hμ : (μ.reset D).dialect ∈ D) :
    Spec.observe (parseWith D T stop μ ids src) = Spec.observe (Spec.parseWithPure D T stop μ ids src) :=
  Lemmas.queue_refines_peek D T hD hT hCB stop μ ids src hμ

/-- The generated parser with its token queue and the queue-free parse that only peeks at the
    unread lines are observably the same, for every source text and both error modes. -/
theorem C18_queue_refines_peek (stop : Bool) (μ : MState) (ids : Nat) (src : Str)
    (hμ : (μ.reset Gen.dialects).dialect ∈ Gen.dialects) :
    Spec.observe (parseWith Gen.dialects Gen.parserTable stop μ ids src) =
    Spec.observe (Spec.parseWithPure Gen.dialects Gen.parserTable stop μ ids src) :=
  Lemmas.queue_refines_peek _ _ C18_fact_keywords C18_fact_queue C18_fact_comment_blank stop μ ids src hμ

theorem C18_queue_refines_peek_fields (stop : Bool) (μ : MState) (ids : Nat) (src : Str)
    (hμ : (μ.reset Gen.dialects).dialect ∈ Gen.dialects) :
    let a := parseWith Gen.dialects Gen.parserTable stop μ ids src
    let b := Spec.parseWithPure Gen.dialects Gen.parserTable stop μ ids src
    a.1 = b.1 ∧ a.2.builds = b.2.builds ∧ a.2.unexpected = b.2.unexpected ∧ a.2.reads = b.2.reads ∧
    a.2.errors = b.2.errors ∧ a.2.μ = b.2.μ ∧ a.2.ids = b.2.ids ∧ a.2.calls = b.2.calls := by
  intro a b
  have h := C18_queue_refines_peek stop μ ids src hμ
  exact ⟨congrArg Spec.Observed.outcome h, congrArg Spec.Observed.builds h, congrArg Spec.Observed.unexpected h,
    congrArg Spec.Observed.reads h, congrArg Spec.Observed.errors h, congrArg Spec.Observed.μ h,
    congrArg Spec.Observed.ids h, congrArg Spec.Observed.calls h⟩

/-- the queue-free parse reads lines 1, 2, 3, … (it has no other way; stated for completeness) and
    makes at most `workPerToken` matcher calls per line -/
theorem C18_pure_reads_and_calls (stop : Bool) (μ : MState) (ids : Nat) (src : Str)
    (hμ : (μ.reset Gen.dialects).dialect ∈ Gen.dialects) :
    let ctx := (Spec.parseWithPure Gen.dialects Gen.parserTable stop μ ids src).2
    ctx.reads = List.range' 1 ctx.reads.length ∧
    ctx.calls ≤ Spec.workPerToken Gen.parserTable * ((splitLines src).length + 1) := by
  intro ctx
  obtain ⟨-, -, -, hr, -, -, -, hc⟩ := C18_queue_refines_peek_fields stop μ ids src hμ
  refine ⟨?_, ?_⟩
  · show ctx.reads = _
    rw [← hr]
    exact C18_reads_in_order stop μ ids src hμ
  · show ctx.calls ≤ _
    rw [← hc]
    exact Lemmas.calls_linear _ _ C18_fact_keywords C18_fact_queue stop μ ids src hμ

/-- a document is accepted by the queue-free parse exactly when the parser accepts it, with the
    same document; the builder then saw each physical line once, in order, then one end of file -/
theorem C18_pure_accepted_sequence (stop : Bool) (μ : MState) (ids : Nat) (src : Str)
    (hμ : (μ.reset Gen.dialects).dialect ∈ Gen.dialects) (d : Doc)
    (h : (Spec.parseWithPure Gen.dialects Gen.parserTable stop μ ids src).1 = .ok d) :
    (parseWith Gen.dialects Gen.parserTable stop μ ids src).1 = .ok d ∧
    (Spec.parseWithPure Gen.dialects Gen.parserTable stop μ ids src).2.builds.map (·.lineNo) =
      List.range' 1 ((splitLines src).length + 1) ∧
    (Spec.parseWithPure Gen.dialects Gen.parserTable stop μ ids src).2.builds.map (·.line) =
      (splitLines src).map some ++ [none] := by
  obtain ⟨ho, hb, -⟩ := C18_queue_refines_peek_fields stop μ ids src hμ
  have h' : (parseWith Gen.dialects Gen.parserTable stop μ ids src).1 = .ok d := ho.trans h
  obtain ⟨h1, h2⟩ := C18_accepted_sequence stop μ ids src hμ d h'
  exact ⟨h', by rw [← hb]; exact h1, by rw [← hb]; exact h2⟩

/-! non-vacuity: the two parses are different programs — the queue-free one never queues — yet
    agree; checked by the kernel on the demo document of C18Order (both look-aheads fire, the second
    on the queue the first one left) and on a rejected document with an indented comment in a tag
    run and a tag with whitespace -/

example : (MState.init Gen.dialects (lit "en")).map
      (fun μ => ((Spec.parseWithPure Gen.dialects Gen.parserTable false μ 0 C18_demoSrc).2.reads,
                 (Spec.parseWithPure Gen.dialects Gen.parserTable false μ 0 C18_demoSrc).2.calls,
                 (Spec.parseWithPure Gen.dialects Gen.parserTable false μ 0 C18_demoSrc).2.lineNo)) =
    some ([1, 2, 3, 4, 5, 6, 7, 8, 9, 10, 11, 12, 13, 14, 15, 16, 17], 99, 17) := by
  rw [C18_demoSrc]
  lit_lists
  kdecide

example : (MState.init Gen.dialects (lit "en")).map
      (fun μ =>
        let src := lit "Feature: f\nScenario: s\nGiven x\n@a\n   #c\n@b c\n  Examples:\nfoo\n"
        let a := parseWith Gen.dialects Gen.parserTable false μ 0 src
        let b := Spec.parseWithPure Gen.dialects Gen.parserTable false μ 0 src
        (a.2.errors.map (·.loc), b.2.errors.map (·.loc), a.2.calls, b.2.calls)) =
    some ([⟨6, some 1⟩, ⟨6, some 1⟩, ⟨7, some 3⟩, ⟨8, some 1⟩, ⟨9, none⟩],
          [⟨6, some 1⟩, ⟨6, some 1⟩, ⟨7, some 3⟩, ⟨8, some 1⟩, ⟨9, none⟩], 51, 51) := by
  lit_lists
  kdecide

end GV
