/-
  Props/C04.lean — property C04: every reported location is the exact 1-based line and
  code-point column.  Property theorems only; helper lemmas live in Lemmas/Locations.lean.

  All statements are about an arbitrary physical line `l : Str` (any code points: tabs, the 29
  whitespace code points, non-BMP characters, CR/LF endings) and say what is found in `l` at the
  reported column.  `l[c - 1]?` is the code point at 1-based column `c`.

  Two statements are weaker than one might expect, as the model (and the Python code) requires:
    * tag columns are only meaningful for lines whose trimmed text starts with `@` (the only
      lines `match_TagLine` calls `tags` on); without it `lineTags (lit "x@a") = [(1, "@a")]`.
    * known finding F5: a tag's reported name is `@` + the *stripped* text that follows, so the
      source at the tag's column need not start with the name (`"@ a"` gives the name `"@a"`);
      `C04_tag_name_stripped` is the exact relation, `C04_tag_name_partial` the slicing form
      under the hypothesis excluding F5.
  `C04_ast_locations` (every location of the AST is the location of the leaf it is built from)
  needs C03's run-level composition and is in Props/C03Doc.lean.
-/
import GherkinVerif.Lemmas.Locations
import GherkinVerif.KDecide
import GherkinVerif.Lemmas.Lit
namespace GV

/-- Physical lines: the source is split after each line feed and nowhere else — concatenating
    the lines gives back the source, no line is empty, no line has a line feed before its last
    position, and every line except possibly the last ends with a line feed. -/
theorem C04_lines (src : Str) :
    (splitLines src).flatten = src ∧
    (∀ l ∈ splitLines src, l ≠ [] ∧ 10 ∉ l.dropLast) ∧
    (∀ l ∈ (splitLines src).dropLast, l.getLast? = some 10) :=
  ⟨Lemmas.splitLines_flatten src,
   fun l hl => ⟨Lemmas.splitLines_ne_nil src l hl, Lemmas.splitLines_no_inner_lf src l hl⟩,
   Lemmas.splitLines_ends_lf src⟩

/-- Line numbers: a token read from the scanner (nothing queued by a look-ahead) carries the next
    line, numbered one more than the lines read so far; past the last line it is the end-of-file
    token, numbered one more than the number of lines. -/
theorem C04_line_numbers (ctx : Ctx) (hq : ctx.queue = []) :
    readToken.run.run ctx =
      (.ok { line := ctx.lines.head?, lineNo := ctx.lineNo + 1 },
       { ctx with lines := ctx.lines.tail, lineNo := ctx.lineNo + 1 }) :=
  Lemmas.readToken_fresh ctx hq

/-- The trimmed line is the line without its first `lineIndent l` code points; those are all
    whitespace and the next one (if any) is not. -/
theorem C04_trimmed_is_drop (l : Str) :
    trimmed l = l.drop (lineIndent l) ∧
    (∀ c ∈ l.take (lineIndent l), isSpace c = true) ∧
    (∀ c, l[lineIndent l]? = some c → isSpace c = false) :=
  ⟨Lemmas.trimmed_eq_drop l, Lemmas.indent_all_space l, Lemmas.indent_next_nonspace l⟩

/-- A matched Feature / Rule / Background / Scenario / Examples line: the reported keyword `kw` is
    one of the dialect's keywords for that role, the column is `indent + 1`, and the line from that
    column on starts with `kw` followed by a colon; the token text is the stripped rest. -/
theorem C04_title_col (D : List Dialect) (k : Kind) (kws : List Str) (μ : MState) (t : Token) (l : Str)
    (ht : t.line = some l)
    (hk : (k, kws) ∈ [(Kind.FeatureLine, μ.dialect.feature), (.RuleLine, μ.dialect.rule),
                      (.BackgroundLine, μ.dialect.background),
                      (.ScenarioLine, μ.dialect.scenario ++ μ.dialect.scenarioOutline),
                      (.ExamplesLine, μ.dialect.examples)])
    (hm : (matchLine D k μ t l).res = .matched) :
    ∃ kw c, kw ∈ kws ∧ (matchLine D k μ t l).tok.keyword = some kw ∧
      (matchLine D k μ t l).tok.col = some c ∧ c = lineIndent l + 1 ∧
      startsWith (kw ++ [58]) (l.drop (c - 1)) = true ∧
      (matchLine D k μ t l).tok.mtype = some k ∧
      (matchLine D k μ t l).tok.text = some (rstripCRLF (strip (l.drop (c - 1 + (kw.length + 1))))) :=
  Lemmas.title_col_list D k kws μ t l ht hk hm

/-- A matched step line: the keyword is one of the dialect's step keywords (trailing space
    included), the column is `indent + 1` and the line from there on starts with the keyword. -/
theorem C04_step_col (D : List Dialect) (μ : MState) (t : Token) (l : Str) (ht : t.line = some l)
    (hm : (matchLine D .StepLine μ t l).res = .matched) :
    ∃ kw c, kw ∈ μ.dialect.stepKeywords ∧ (matchLine D .StepLine μ t l).tok.keyword = some kw ∧
      (matchLine D .StepLine μ t l).tok.col = some c ∧ c = lineIndent l + 1 ∧
      startsWith kw (l.drop (c - 1)) = true ∧
      (matchLine D .StepLine μ t l).tok.text = some (rstripCRLF (strip (l.drop (c - 1 + kw.length)))) := by
  obtain ⟨kw, h1, h2, h3, h4, _, h6⟩ := Lemmas.step_col D μ t l ht hm
  exact ⟨kw, _, h1, h3, h4, rfl, h2, by rw [h6, List.drop_drop]; rfl⟩

/-- A matched doc-string separator: the reported delimiter is `"""` or three backticks (or, when
    closing, the active delimiter), the column is `indent + 1` and the line from there on starts
    with the delimiter. -/
theorem C04_docsep_col (D : List Dialect) (μ : MState) (t : Token) (l : Str) (ht : t.line = some l)
    (hm : (matchLine D .DocStringSeparator μ t l).res = .matched) :
    ∃ sep c, (sep = dq3 ∨ sep = bt3 ∨ (μ.activeSep = some sep ∧ sep ≠ [])) ∧
      (matchLine D .DocStringSeparator μ t l).tok.keyword = some sep ∧
      (matchLine D .DocStringSeparator μ t l).tok.col = some c ∧ c = lineIndent l + 1 ∧
      startsWith sep (l.drop (c - 1)) = true := by
  obtain ⟨sep, h1, h2, h3, h4⟩ := Lemmas.docsep_col D μ t l ht hm
  exact ⟨sep, _, h1, h3, h4, rfl, h2⟩

/-- A matched table row: column `indent + 1`, where the leading `|` is; its items are the cells. -/
theorem C04_row_col (D : List Dialect) (μ : MState) (t : Token) (l : Str) (ht : t.line = some l)
    (hm : (matchLine D .TableRow μ t l).res = .matched) :
    (matchLine D .TableRow μ t l).tok.col = some (lineIndent l + 1) ∧
    startsWith [124] (l.drop (lineIndent l)) = true ∧
    (matchLine D .TableRow μ t l).tok.items = tableCells l :=
  Lemmas.row_col D μ t l ht hm

/-- A matched comment has column 1 and its text is the whole physical line (indentation
    included) minus trailing CR/LF; empty lines and free-text lines have column 1 too. -/
theorem C04_comment_col (D : List Dialect) (μ : MState) (t : Token) (l : Str) :
    ((matchLine D .Comment μ t l).res = .matched →
      (matchLine D .Comment μ t l).tok.col = some 1 ∧
      (matchLine D .Comment μ t l).tok.text = some (rstripCRLF l) ∧
      startsWith [35] (l.drop (lineIndent l)) = true) ∧
    ((matchLine D .Empty μ t l).res = .matched → (matchLine D .Empty μ t l).tok.col = some 1) ∧
    (matchLine D .Other μ t l).tok.col = some 1 :=
  ⟨Lemmas.comment_col D μ t l, Lemmas.empty_col D μ t l, Lemmas.other_col D μ t l⟩

/-- Tags of a line whose trimmed text starts with `@`: each reported column holds an `@` in the
    physical line, is at or after the line's own column, the name starts with `@` and contains no
    whitespace, and the columns are strictly increasing. -/
theorem C04_tag_cols (l : Str) (hs : lineStartsWith l [64] = true) (ts : List (Nat × Str))
    (h : lineTags l = .ok ts) :
    (∀ p ∈ ts, lineIndent l + 1 ≤ p.1 ∧ l[p.1 - 1]? = some 64 ∧ p.2.head? = some 64 ∧
      p.2.any isSpace = false) ∧
    List.Pairwise (· < ·) (ts.map (·.1)) :=
  ⟨(Lemmas.tag_cols l hs ts h).2, (Lemmas.tag_cols l hs ts h).1⟩

/-- … and this is what a matched tag-line token carries (token column = column of the first `@`). -/
theorem C04_tagline_tok (D : List Dialect) (μ : MState) (t : Token) (l : Str) (ht : t.line = some l)
    (hm : (matchLine D .TagLine μ t l).res = .matched) :
    lineStartsWith l [64] = true ∧ lineTags l = .ok (matchLine D .TagLine μ t l).tok.items ∧
    (matchLine D .TagLine μ t l).tok.col = some (lineIndent l + 1) :=
  Lemmas.tagline_tok D μ t l ht hm

/-- The exact relation between a tag's name and the source, for all lines: at the tag's column
    the line reads `@` followed by some text `item`, and the name is `@` + `item` *stripped of
    surrounding whitespace*. -/
theorem C04_tag_name_stripped (l : Str) (hs : lineStartsWith l [64] = true) (ts : List (Nat × Str))
    (h : lineTags l = .ok ts) :
    ∀ p ∈ ts, ∃ item, (64 :: item) <+: l.drop (p.1 - 1) ∧ p.2 = 64 :: strip item :=
  Lemmas.tag_name_stripped l hs ts h

/- Full statement wanted by C04 ("reading the source at that position gives back the tag name"):
     ∀ p ∈ ts, startsWith p.2 (l.drop (p.1 - 1)) = true.
   It is false (known finding F5, witness below): whitespace right after an `@` is dropped from
   the name.  Proved: the statement under the hypothesis that the code point after the `@` is
   not whitespace. -/
/-- If the code point right after a tag's `@` is not whitespace, the line from the tag's column
    on starts with the tag's name. -/
theorem C04_tag_name_partial (l : Str) (hs : lineStartsWith l [64] = true) (ts : List (Nat × Str))
    (h : lineTags l = .ok ts) :
    ∀ p ∈ ts, (∀ ch, l[p.1]? = some ch → isSpace ch = false) →
      startsWith p.2 (l.drop (p.1 - 1)) = true :=
  Lemmas.tag_name_partial l hs ts h

/-- F5 witness: the line `@ a` has the single tag `@a` at column 1, and the line does not start
    with `@a`. -/
example : lineTags (lit "@ a") = .ok [(1, lit "@a")] ∧ startsWith (lit "@a") (lit "@ a") = false := by
  kdecide

/-- The hypothesis `hs` of the tag theorems is needed (it holds whenever `match_TagLine` calls
    `tags`): on a line not starting with `@` the first column is not that of an `@`. -/
example : lineTags (lit "x@a") = .ok [(1, lit "@a")] := by kdecide

/-- A tag containing whitespace: the error column holds the offending tag's `@`, and the text
    after it, stripped, contains whitespace. -/
theorem C04_tag_error_col (l : Str) (hs : lineStartsWith l [64] = true) (c : Nat)
    (h : lineTags l = .error c) :
    lineIndent l + 1 ≤ c ∧ l[c - 1]? = some 64 ∧
    ∃ item, (64 :: item) <+: l.drop (c - 1) ∧ (strip item).any isSpace = true :=
  Lemmas.tag_error_col l hs c h

/-- … and that is the location of the error `match_TagLine` raises. -/
theorem C04_tag_error_loc (D : List Dialect) (μ : MState) (t : Token) (l : Str) (e : PErr)
    (hm : (matchLine D .TagLine μ t l).res = .raised e) :
    lineStartsWith l [64] = true ∧ ∃ c, lineTags l = .error c ∧ e.loc = ⟨t.lineNo, some c⟩ ∧
      e.kind = .tagWhitespace :=
  Lemmas.tagline_raised D μ t l e hm

/-- Cell columns (stated on the two-phase specification `Spec.cells`, which C12 proves equal to
    `tableCells`): for each cell there are the 0-based position `o` right after its opening `|`
    and the length `len` of its raw text, with the closing `|` at `o + len`; everything from `o`
    up to the reported column is blank, the code point at the reported column is not blank, and
    the reported column is that of the closing `|` exactly when the cell's text is empty — i.e.
    the column points at the first non-blank code point of the raw cell, or at the closing `|`
    when there is none. -/
theorem C04_cell_cols (line : Str) : ∀ p ∈ Spec.cells line, ∃ o len,
    1 ≤ o ∧ line[o - 1]? = some 124 ∧ line[o + len]? = some 124 ∧
    o + 1 ≤ p.1 ∧ p.1 ≤ o + len + 1 ∧
    (∀ j, o ≤ j → j < p.1 - 1 → ∃ ch, line[j]? = some ch ∧ isBlank ch = true) ∧
    (∃ ch, line[p.1 - 1]? = some ch ∧ isBlank ch = false) ∧
    (p.2 = [] ↔ p.1 = o + len + 1) :=
  Lemmas.cell_cols line

/-- Item columns override the token column: a tag or cell with (1-based) column `c` is located at
    the token's line and `c`. -/
theorem C04_item_loc (t : Token) (c : Nat) (hc : 1 ≤ c) :
    getLocation t (some c) = ⟨t.lineNo, some c⟩ ∧ getLocation t = t.loc :=
  ⟨Lemmas.getLocation_item t c hc, rfl⟩

/-- An unexpected-token error for a line token on which no test matched (no column yet) is at the
    token's line and `indent + 1`; with a column already set (a tag line tested during a failed
    look-ahead) it is that column; for end of file it is the end-of-file token's location. -/
theorem C04_unexpected_loc (row : StateRow) (t : Token) :
    (∀ l, t.line = some l → t.col = none →
      (unexpectedErr row t).loc = ⟨t.lineNo, some (lineIndent l + 1)⟩) ∧
    (∀ l c, t.line = some l → t.col = some c → c ≠ 0 → (unexpectedErr row t).loc = t.loc) ∧
    (t.line = none → (unexpectedErr row t).loc = t.loc ∧ (unexpectedErr row t).kind = .unexpectedEOF) :=
  ⟨fun l hl hc => Lemmas.unexpectedErr_loc_line row t l hl (.inl hc),
   fun l c hl hc h0 => Lemmas.unexpectedErr_loc_line_col row t l hl c hc h0,
   Lemmas.unexpectedErr_loc_eof row t⟩

/-- a CRLF source with an unterminated last line -/
example : splitLines (lit "a\r\n\nb") = [lit "a\r\n", lit "\n", lit "b"] := by kdecide

/-- tab + no-break space + em space indentation, a non-BMP character in a tag, a comment -/
example : lineTags ([9, 0xA0, 0x2003] ++ lit "@a𝄞 @b\t@c #x\n") =
    .ok [(4, lit "@a𝄞"), (8, lit "@b"), (11, lit "@c")] := by
  lit_lists
  kdecide

/-- cells: padding, an escaped pipe, an all-blank cell (column of the closing pipe) -/
example : Spec.cells (lit "\t |  a\\|b |   |\n") = [(6, lit "a|b"), (15, [])] := by
  lit_lists
  kdecide

/-- a matched keyword line: column 3 -/
example :
    let d : Dialect := { (default : Dialect) with feature := [lit "Feature", lit "Ability"] }
    let μ : MState := { defaultName := lit "en", name := lit "en", dialect := d }
    let l := lit "\t Ability:  x \r\n"
    let out := matchLine [] .FeatureLine μ { line := some l, lineNo := 1 } l
    out.tok.col = some 3 ∧ out.tok.keyword = some (lit "Ability") ∧ out.tok.text = some (lit "x") := by
  lit_lists
  kdecide

end GV
