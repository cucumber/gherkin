/-
  Props/C14Recover2.lean — property C14, "… after it parsing carries on from the same position with
  the next line", document level.  This is the base file of the two (the `2` is no sequel):
  Props/C14Recover.lean imports it and has the one-step lemma, the form of the error, and the
  special case with the textual look-ahead condition `Spec.barrierBefore`, where setting and
  conclusion are described.

  ## (A) `C14_unexpected_line_skipped_exact` — collecting mode

  `src` has the lines `pre ++ post`, `src'` the lines `pre ++ u :: post`; every test of the state `s`
  in which `u` is read says a plain "no"; the run on `src'` stays within the error cap.  The
  look-ahead condition (`Recover2.NoPeek`) is read off the run on `src'`:

      for every line `l = pre[i]` whose trimmed text starts with `@` (`Spec.tagStart`) and behind
      which `pre` holds no barrier line (`(pre.drop (i+1)).any barrierLine = false`):
      the state in which the run on `src'` reads `l` (`Spec.runAfter … src' i`) has no guarded
      test (`Spec.hasGuard T s = false`).

  It says "no look-ahead started on a line `≤ k` peeks at line `k + 1`": a look-ahead is started
  only by a guarded test; guarded tests are `TagLine` tests (`C14_fact_guards_on_tags`);
  `match_TagLine` says "no" to a line that does not start with `@` (`Recover2.tag_head`); and a
  look-ahead steps over skip kinds only, so it stops at a barrier line at the latest
  (`Recover.barrier_not_skip`).  `Spec.noPeekAtB` is its Boolean form, `Spec.unexpectedLineOk2B` the
  Boolean of all hypotheses, `C14_unexpected_line_check2` the theorem that it implies the conclusion
  (`C14_unexpected_line_text2`: the text form), and `C14_check_subsumed` :
  `unexpectedLineOkB → unexpectedLineOk2B` (the textual condition is a special case).

  Not covered: the condition says "may peek" although the run does not when
    * the `@` line is a tag WITH WHITESPACE (`match_TagLine` raises instead of matching, so the guard
      is not evaluated), either as the starting line or as one of the lines stepped over;
    * the state has a guarded test that is not reached because an earlier unguarded test takes the
      line (not known to happen in the generated table; not proved).
  The condition `Spec.isTag T s = false` ("`u` is not read in a tag state") is incomparable with it:
  it excludes `@t` / `nonsense` / `Feature:` (state 2 is a tag state although no look-ahead is
  pending), which `noPeekAtB` accepts (example below).

  ## (B) `C14_unexpected_line_stop` — stop-at-first-error mode

  If the stop-mode run on `src'` reaches line `k + 1` without having raised anything
  (`Spec.runAfter … true … src' k = some (s, cr)`) and every test of `s` says a plain "no" to that
  line, the outcome is `.rejected [skippedError T s k u] false`: the run ends AT `u` with exactly
  that error (a bare `ParserException`, not a composite), whatever follows.  NO look-ahead condition
  is needed (the statement is about one run, not about two texts); nothing is handed to the
  builder, the matcher state and the id counter are those before the line.

  ## NOT proved

  The form without the cap hypothesis: "if the new error makes the list exceed the cap, the run on
  `src'` aborts with the composite of the first `errorCap + 1` errors of
  `insertErr k j e (errors of src)`".  The third alternative of the simulation (`PostU`: the second
  run aborted above the cap) does not say which list the second run reports.
-/
import GherkinVerif.Props.C14
import GherkinVerif.Props.C18Pure
import GherkinVerif.Lemmas.Recover2Doc
import GherkinVerif.Lemmas.Recover2Stop
import GherkinVerif.Lemmas.FactsTable
import GherkinVerif.KDecide
import GherkinVerif.Lemmas.Lit
namespace GV
open Lemmas Spec Recover Recover2

/-- fact about the regenerated table: only `TagLine` tests are guarded by a look-ahead -/
theorem C14_fact_guards_on_tags :
    (Gen.parserTable.rows.all fun r => r.branches.all fun b => b.guard.isNone || b.kind == .TagLine) = true :=
  guards_of_guardsOnTagLine Facts.guardsOnTagLine_table

theorem C14_unexpected_line_skipped_exact_generic (D : List Dialect) (T : Table)
    (hQD : Spec.queueDialectFacts D = true) (hQT : Spec.queueFacts T = true)
    (hCB : Spec.commentBlankTested T = true)
    (hG : (T.rows.all fun r => r.branches.all fun b => b.guard.isNone || b.kind == .TagLine) = true)
    (μ : MState) (ids : Nat) (src src' : Str) (pre post : List Str) (u : Str)
    (h1 : splitLines src = pre ++ post) (h2 : splitLines src' = pre ++ u :: post)
    (hμ : (μ.reset D).dialect ∈ D)
    (hpk : ∀ i l, pre[i]? = some l → (pre.drop (i + 1)).any Spec.barrierLine = false → Spec.tagStart l = true →
      ∀ s c, Spec.runAfter D T false μ ids src' i = some (s, c) → Spec.hasGuard T s = false)
    (s : Nat) (cr : Ctx)
    (hrun : Spec.runAfter D T false μ ids src' pre.length = some (s, cr))
    (hun : Spec.lineUnexpectedAt D T s cr.μ u = true)
    (hcap : (parseWith D T false μ ids src').2.errors.length ≤ T.errorCap) :
    CtxObsU pre.length cr.errors.length cr.unexpected.length (Spec.skippedError T s pre.length u)
      (parseWith D T false μ ids src).2 (parseWith D T false μ ids src').2 ∧
    (∀ d, (parseWith D T false μ ids src).1 = .ok d →
      (parseWith D T false μ ids src').1 = .rejected [Spec.skippedError T s pre.length u] true) ∧
    (∀ es, (parseWith D T false μ ids src).1 = .rejected es true →
      (parseWith D T false μ ids src').1 =
        .rejected (Spec.insertErr pre.length cr.errors.length (Spec.skippedError T s pre.length u) es) true) :=
  unexpected_line_parseWith2 hQD hQT hCB hG μ ids pre post h1 h2 hμ hpk hrun hun hcap

/-- **An unexpected line is skipped: it records one error and nothing else** — under the look-ahead
    condition read off the run: every `@` line of `pre` with no barrier line behind it is read in a
    state without guarded tests. -/
theorem C14_unexpected_line_skipped_exact (μ : MState) (ids : Nat) (src src' : Str) (pre post : List Str) (u : Str)
    (h1 : splitLines src = pre ++ post) (h2 : splitLines src' = pre ++ u :: post)
    (hμ : (μ.reset Gen.dialects).dialect ∈ Gen.dialects)
    (hpk : ∀ i l, pre[i]? = some l → (pre.drop (i + 1)).any Spec.barrierLine = false → Spec.tagStart l = true →
      ∀ s c, Spec.runAfter Gen.dialects Gen.parserTable false μ ids src' i = some (s, c) →
        Spec.hasGuard Gen.parserTable s = false)
    (s : Nat) (cr : Ctx)
    (hrun : Spec.runAfter Gen.dialects Gen.parserTable false μ ids src' pre.length = some (s, cr))
    (hun : Spec.lineUnexpectedAt Gen.dialects Gen.parserTable s cr.μ u = true)
    (hcap : (parseWith Gen.dialects Gen.parserTable false μ ids src').2.errors.length ≤ Gen.parserTable.errorCap) :
    CtxObsU pre.length cr.errors.length cr.unexpected.length (Spec.skippedError Gen.parserTable s pre.length u)
      (parseWith Gen.dialects Gen.parserTable false μ ids src).2
      (parseWith Gen.dialects Gen.parserTable false μ ids src').2 ∧
    (∀ d, (parseWith Gen.dialects Gen.parserTable false μ ids src).1 = .ok d →
      (parseWith Gen.dialects Gen.parserTable false μ ids src').1 =
        .rejected [Spec.skippedError Gen.parserTable s pre.length u] true) ∧
    (∀ es, (parseWith Gen.dialects Gen.parserTable false μ ids src).1 = .rejected es true →
      (parseWith Gen.dialects Gen.parserTable false μ ids src').1 =
        .rejected (Spec.insertErr pre.length cr.errors.length
          (Spec.skippedError Gen.parserTable s pre.length u) es) true) :=
  C14_unexpected_line_skipped_exact_generic _ _ C18_fact_keywords C18_fact_queue C18_fact_comment_blank
    C14_fact_guards_on_tags μ ids src src' pre post u h1 h2 hμ hpk s cr hrun hun hcap

theorem C14_noPeek_of_bool (D : List Dialect) (T : Table) (stop : Bool) (μ : MState) (ids : Nat) (src' : Str) (k : Nat)
    (h : Spec.noPeekAtB D T stop μ ids src' k = true) :
    NoPeek D T stop μ ids src' ((splitLines src').take k) := by
  intro i l hi hb ht s c hr
  unfold Spec.noPeekAtB at h
  rw [List.all_eq_true] at h
  have hik : i < k := by
    obtain ⟨hlt, -⟩ := List.getElem?_eq_some_iff.1 hi
    simp only [List.length_take] at hlt
    omega
  have := h i (List.mem_range.2 hik)
  unfold Spec.noPeekFrom at this
  simp only [hi, hb, ht, hr] at this
  simpa using this

theorem split_at_index {α} (l : List α) (k : Nat) (a : α) (h : l[k]? = some a) :
    l = l.take k ++ a :: l.drop (k + 1) ∧ (l.take k).length = k := by
  obtain ⟨hlt, rfl⟩ := List.getElem?_eq_some_iff.1 h
  refine ⟨?_, by simp only [List.length_take]; omega⟩
  conv => lhs; rw [← List.take_append_drop k l]
  rw [List.drop_eq_getElem_cons hlt]

/-- the state in which line `k + 1` is read and the two positions `j`, `ju` the conclusion speaks about, read
    off the run on `src'` -/
def C14_skipInfo (μ : MState) (ids : Nat) (src' : Str) (k : Nat) : Nat × Nat × Nat :=
  match Spec.runAfter Gen.dialects Gen.parserTable false μ ids src' k with
  | some (s, c) => (s, c.errors.length, c.unexpected.length)
  | none => (0, 0, 0)

/-- `Spec.unexpectedLineOk2B` on `src'` and `k` implies the conclusion for every text `src` that is
    `src'` without its line `k + 1`. -/
theorem C14_unexpected_line_check2 (μ : MState) (ids : Nat) (src src' : Str) (k : Nat) (u : Str)
    (hu : (splitLines src')[k]? = some u)
    (hsrc : splitLines src = (splitLines src').take k ++ (splitLines src').drop (k + 1))
    (hμ : (μ.reset Gen.dialects).dialect ∈ Gen.dialects)
    (hB : Spec.unexpectedLineOk2B Gen.dialects Gen.parserTable μ ids src' k = true) :
    let e := Spec.skippedError Gen.parserTable (C14_skipInfo μ ids src' k).1 k u
    CtxObsU k (C14_skipInfo μ ids src' k).2.1 (C14_skipInfo μ ids src' k).2.2 e
      (parseWith Gen.dialects Gen.parserTable false μ ids src).2
      (parseWith Gen.dialects Gen.parserTable false μ ids src').2 ∧
    (∀ d, (parseWith Gen.dialects Gen.parserTable false μ ids src).1 = .ok d →
      (parseWith Gen.dialects Gen.parserTable false μ ids src').1 = .rejected [e] true) ∧
    (∀ es, (parseWith Gen.dialects Gen.parserTable false μ ids src).1 = .rejected es true →
      (parseWith Gen.dialects Gen.parserTable false μ ids src').1 =
        .rejected (Spec.insertErr k (C14_skipInfo μ ids src' k).2.1 e es) true) := by
  unfold Spec.unexpectedLineOk2B at hB
  rw [hu] at hB
  simp only [Bool.and_eq_true, decide_eq_true_eq] at hB
  obtain ⟨⟨hpkB, hrunB⟩, hcapP⟩ := hB
  obtain ⟨hsplit, hlen⟩ := split_at_index _ k u hu
  unfold C14_skipInfo
  cases hrun : Spec.runAfter Gen.dialects Gen.parserTable false μ ids src' k with
  | none => rw [hrun] at hrunB; cases hrunB
  | some sc =>
    obtain ⟨s, cr⟩ := sc
    rw [hrun] at hrunB
    simp only at hrunB ⊢
    have hcap : (parseWith Gen.dialects Gen.parserTable false μ ids src').2.errors.length ≤
        Gen.parserTable.errorCap := by
      have := congrArg Spec.Observed.errors (C18_queue_refines_peek false μ ids src' hμ)
      simp only [Spec.observe] at this
      rw [this]; exact hcapP
    have := C14_unexpected_line_skipped_exact μ ids src src' ((splitLines src').take k) ((splitLines src').drop (k + 1)) u
      hsrc hsplit hμ (C14_noPeek_of_bool _ _ false μ ids src' k hpkB) s cr (by rw [hlen]; exact hrun) hrunB hcap
    rw [hlen] at this
    exact this

/-- **The text form**: the line `v ++ "\n"` (`v` without a line feed) inserted at the start of a line,
    i.e. after a prefix `s1` of the text that is empty or ends in a line feed. -/
theorem C14_unexpected_line_text2 (μ : MState) (ids : Nat) (s1 s2 v : Str)
    (hs1 : s1 = [] ∨ s1.getLast? = some 10) (hlf : 10 ∉ v)
    (hμ : (μ.reset Gen.dialects).dialect ∈ Gen.dialects)
    (hB : Spec.unexpectedLineOk2B Gen.dialects Gen.parserTable μ ids (s1 ++ (v ++ [10]) ++ s2) (splitLines s1).length = true) :
    let k := (splitLines s1).length
    let src' := s1 ++ (v ++ [10]) ++ s2
    let e := Spec.skippedError Gen.parserTable (C14_skipInfo μ ids src' k).1 k (v ++ [10])
    CtxObsU k (C14_skipInfo μ ids src' k).2.1 (C14_skipInfo μ ids src' k).2.2 e
      (parseWith Gen.dialects Gen.parserTable false μ ids (s1 ++ s2)).2
      (parseWith Gen.dialects Gen.parserTable false μ ids src').2 ∧
    (∀ d, (parseWith Gen.dialects Gen.parserTable false μ ids (s1 ++ s2)).1 = .ok d →
      (parseWith Gen.dialects Gen.parserTable false μ ids src').1 = .rejected [e] true) ∧
    (∀ es, (parseWith Gen.dialects Gen.parserTable false μ ids (s1 ++ s2)).1 = .rejected es true →
      (parseWith Gen.dialects Gen.parserTable false μ ids src').1 =
        .rejected (Spec.insertErr k (C14_skipInfo μ ids src' k).2.1 e es) true) := by
  have hsp' := splitLines_insert_line s1 s2 v hs1 hlf
  have hu : (splitLines (s1 ++ (v ++ [10]) ++ s2))[(splitLines s1).length]? = some (v ++ [10]) := by
    rw [hsp']; simp
  refine C14_unexpected_line_check2 μ ids (s1 ++ s2) (s1 ++ (v ++ [10]) ++ s2) (splitLines s1).length (v ++ [10])
    hu ?_ hμ hB
  rw [splitLines_append_of_lf s1 s2 hs1, hsp']
  simp

theorem C14_barrier_not_tagStart (l : Str) (h : Spec.barrierLine l = true) : Spec.tagStart l = false :=
  barrier_not_tagStart h

theorem C14_barrier_noPeek (D : List Dialect) (T : Table) (stop : Bool) (μ : MState) (ids : Nat) (src' : Str) (k : Nat)
    (h : Spec.barrierBefore ((splitLines src').take k) = true) :
    Spec.noPeekAtB D T stop μ ids src' k = true := by
  unfold Spec.noPeekAtB
  rw [List.all_eq_true]
  intro i _
  unfold Spec.noPeekFrom
  cases hi : ((splitLines src').take k)[i]? with
  | none => rfl
  | some l =>
    cases hb : (((splitLines src').take k).drop (i + 1)).any Spec.barrierLine with
    | true => rfl
    | false => simp only [barrierBefore_tagStart h hi hb]; rfl

/-- **The textual check is a special case.** -/
theorem C14_check_subsumed (D : List Dialect) (T : Table) (μ : MState) (ids : Nat) (src' : Str) (k : Nat)
    (h : Spec.unexpectedLineOkB D T μ ids src' k = true) : Spec.unexpectedLineOk2B D T μ ids src' k = true := by
  unfold Spec.unexpectedLineOkB at h
  unfold Spec.unexpectedLineOk2B
  cases hu : (splitLines src')[k]? with
  | none => rw [hu] at h; cases h
  | some u =>
    rw [hu] at h
    simp only [Bool.and_eq_true] at h ⊢
    exact ⟨⟨C14_barrier_noPeek D T false μ ids src' k h.1.1, h.1.2⟩, h.2⟩

theorem C14_unexpected_line_stop_generic (D : List Dialect) (T : Table)
    (hQD : Spec.queueDialectFacts D = true) (hQT : Spec.queueFacts T = true)
    (hCB : Spec.commentBlankTested T = true)
    (μ : MState) (ids : Nat) (src' : Str) (pre post : List Str) (u : Str)
    (h2 : splitLines src' = pre ++ u :: post) (hμ : (μ.reset D).dialect ∈ D) (s : Nat) (cr : Ctx)
    (hrun : Spec.runAfter D T true μ ids src' pre.length = some (s, cr))
    (hun : Spec.lineUnexpectedAt D T s cr.μ u = true) :
    (parseWith D T true μ ids src').1 = .rejected [Spec.skippedError T s pre.length u] false ∧
    (parseWith D T true μ ids src').2.errors = cr.errors ∧
    (parseWith D T true μ ids src').2.unexpected = cr.unexpected ++ [pre.length + 1] ∧
    (parseWith D T true μ ids src').2.builds = cr.builds ∧
    (parseWith D T true μ ids src').2.μ = cr.μ ∧
    (parseWith D T true μ ids src').2.ids = cr.ids :=
  unexpected_line_parseWith_stop hQD hQT hCB μ ids pre post h2 hμ hrun hun

/-- **Stop mode: the run ends at the unexpected line, with exactly its error.**  The stop-mode run on
    `src'` (lines `pre ++ u :: post`) has consumed `pre` without raising and stands in state `s`; every
    test of `s` says a plain "no" to `u`.  Then the outcome is the single unexpected-token error for
    `u` — whatever `post` is; `u` is reported unexpected, nothing is built from it, the matcher state
    and the id counter are those before the line. -/
theorem C14_unexpected_line_stop (μ : MState) (ids : Nat) (src' : Str) (pre post : List Str) (u : Str)
    (h2 : splitLines src' = pre ++ u :: post)
    (hμ : (μ.reset Gen.dialects).dialect ∈ Gen.dialects) (s : Nat) (cr : Ctx)
    (hrun : Spec.runAfter Gen.dialects Gen.parserTable true μ ids src' pre.length = some (s, cr))
    (hun : Spec.lineUnexpectedAt Gen.dialects Gen.parserTable s cr.μ u = true) :
    (parseWith Gen.dialects Gen.parserTable true μ ids src').1 =
      .rejected [Spec.skippedError Gen.parserTable s pre.length u] false ∧
    (parseWith Gen.dialects Gen.parserTable true μ ids src').2.errors = cr.errors ∧
    (parseWith Gen.dialects Gen.parserTable true μ ids src').2.unexpected = cr.unexpected ++ [pre.length + 1] ∧
    (parseWith Gen.dialects Gen.parserTable true μ ids src').2.builds = cr.builds ∧
    (parseWith Gen.dialects Gen.parserTable true μ ids src').2.μ = cr.μ ∧
    (parseWith Gen.dialects Gen.parserTable true μ ids src').2.ids = cr.ids :=
  C14_unexpected_line_stop_generic _ _ C18_fact_keywords C18_fact_queue C18_fact_comment_blank
    μ ids src' pre post u h2 hμ s cr hrun hun

/-- the state in which the stop-mode run reads line `k + 1` -/
def C14_stopState (μ : MState) (ids : Nat) (src' : Str) (k : Nat) : Nat :=
  match Spec.runAfter Gen.dialects Gen.parserTable true μ ids src' k with
  | some (s, _) => s
  | none => 0

/-- Boolean form: `Spec.unexpectedLineStopB` on `src'` and `k` implies that stop mode rejects `src'`
    with exactly the unexpected-token error for line `k + 1`. -/
theorem C14_unexpected_line_stop_check (μ : MState) (ids : Nat) (src' : Str) (k : Nat) (u : Str)
    (hu : (splitLines src')[k]? = some u)
    (hμ : (μ.reset Gen.dialects).dialect ∈ Gen.dialects)
    (hB : Spec.unexpectedLineStopB Gen.dialects Gen.parserTable μ ids src' k = true) :
    (parseWith Gen.dialects Gen.parserTable true μ ids src').1 =
      .rejected [Spec.skippedError Gen.parserTable (C14_stopState μ ids src' k) k u] false := by
  unfold Spec.unexpectedLineStopB at hB
  rw [hu] at hB
  obtain ⟨hsplit, hlen⟩ := split_at_index _ k u hu
  unfold C14_stopState
  cases hrun : Spec.runAfter Gen.dialects Gen.parserTable true μ ids src' k with
  | none => rw [hrun] at hB; cases hB
  | some sc =>
    obtain ⟨s, cr⟩ := sc
    rw [hrun] at hB
    simp only at hB ⊢
    have := (C14_unexpected_line_stop μ ids src' ((splitLines src').take k) ((splitLines src').drop (k + 1)) u
      hsplit hμ s cr (by rw [hlen]; exact hrun) hB).1
    rw [hlen] at this
    exact this

def C14_locs : Outcome → List Loc
  | .rejected es _ => es.map (·.loc)
  | _ => []

def C14_isOk : Outcome → Bool
  | .ok _ => true
  | _ => false

/-- NOT COVERED BY THE TEXTUAL CONDITION: `Feature: g` behind a comment line inside a scenario.  The
    textual check fails (the line before is a comment line), this one holds (no `@` line before); the
    text without line 5 is accepted, the text with it is rejected with exactly one error, at (5, 1),
    read in state 12 (after a step); stop mode raises the same error. -/
example : (MState.init Gen.dialects (lit "en")).map (fun μ =>
      let a := lit "Feature: f\nScenario: s\n  Given x\n# c\n  When y\n"
      let a' := lit "Feature: f\nScenario: s\n  Given x\n# c\nFeature: g\n  When y\n"
      (Spec.unexpectedLineOkB Gen.dialects Gen.parserTable μ 0 a' 4,
       Spec.unexpectedLineOk2B Gen.dialects Gen.parserTable μ 0 a' 4,
       C14_isOk (parseWith Gen.dialects Gen.parserTable false μ 0 a).1,
       C14_locs (parseWith Gen.dialects Gen.parserTable false μ 0 a').1)) =
    some (false, true, true, [⟨5, some 1⟩]) := by
  lit_lists
  kdecide
example : (MState.init Gen.dialects (lit "en")).map (fun μ =>
      let a' := lit "Feature: f\nScenario: s\n  Given x\n# c\nFeature: g\n  When y\n"
      (C14_skipInfo μ 0 a' 4,
       Spec.unexpectedLineStopB Gen.dialects Gen.parserTable μ 0 a' 4,
       C14_locs (parseWith Gen.dialects Gen.parserTable true μ 0 a').1)) =
    some ((12, 0, 0), true, [⟨5, some 1⟩]) := by
  lit_lists
  kdecide

/-- the same behind a run of blank and comment lines -/
example : (MState.init Gen.dialects (lit "en")).map (fun μ =>
      let a' := lit "Feature: f\nScenario: s\n  Given x\n\n  # c\n\nFeature: g\n  When y\n"
      (Spec.unexpectedLineOkB Gen.dialects Gen.parserTable μ 0 a' 6,
       Spec.unexpectedLineOk2B Gen.dialects Gen.parserTable μ 0 a' 6,
       C14_locs (parseWith Gen.dialects Gen.parserTable false μ 0 a').1)) =
    some (false, true, [⟨7, some 1⟩]) := by
  lit_lists
  kdecide

/-- NOT COVERED BY THE TEXTUAL CONDITION, nor by the condition "`s` is not a tag state": `nonsense`
    behind the tag line (and a blank and a comment line) before `Feature:`.  The tag line is read in
    state 0, which has no guarded test: no look-ahead is started, although state 2 (in which
    `nonsense` is read) is a tag state. -/
example : (MState.init Gen.dialects (lit "en")).map (fun μ =>
      let a := lit "@t\n\n# c\nFeature: f\nScenario: s\n"
      let a' := lit "@t\n\n# c\nnonsense\nFeature: f\nScenario: s\n"
      (Spec.unexpectedLineOkB Gen.dialects Gen.parserTable μ 0 a' 3,
       Spec.unexpectedLineOk2B Gen.dialects Gen.parserTable μ 0 a' 3,
       C14_isOk (parseWith Gen.dialects Gen.parserTable false μ 0 a).1,
       C14_locs (parseWith Gen.dialects Gen.parserTable false μ 0 a').1)) =
    some (false, true, true, [⟨4, some 1⟩]) := by
  lit_lists
  kdecide
example : (MState.init Gen.dialects (lit "en")).map (fun μ =>
      let a' := lit "@t\n\n# c\nnonsense\nFeature: f\nScenario: s\n"
      (Spec.hasGuard Gen.parserTable 0,
       C14_skipInfo μ 0 a' 3,
       Spec.isTag Gen.parserTable (C14_skipInfo μ 0 a' 3).1)) =
    some (false, (2, 0, 0), true) := by
  lit_lists
  kdecide

/-- COUNTEREXAMPLE (a look-ahead condition is needed), as in Props/C14Recover.lean: `nonsense` behind
    a tag line and a blank line after `Feature:`.  Both checks fail — the tag line (line 2) is read in a
    state with guarded tests (third component), and only a blank line follows it; the original is accepted;
    in the new text the look-ahead of the tag line sees `nonsense`: three errors, not one.  In stop
    mode the statement holds all the same (no look-ahead condition there): one error, at (4, 1). -/
example : (MState.init Gen.dialects (lit "en")).map (fun μ =>
      let a := lit "Feature: f\n@t\n\nScenario: s\n"
      let a' := lit "Feature: f\n@t\n\nnonsense\nScenario: s\n"
      (Spec.unexpectedLineOk2B Gen.dialects Gen.parserTable μ 0 a' 3,
       Spec.noPeekAtB Gen.dialects Gen.parserTable false μ 0 a' 3,
       (Spec.stateAfter Gen.dialects Gen.parserTable false μ 0 a' 1).map (Spec.hasGuard Gen.parserTable),
       C14_isOk (parseWith Gen.dialects Gen.parserTable false μ 0 a).1,
       C14_locs (parseWith Gen.dialects Gen.parserTable false μ 0 a').1)) =
    some (false, false, some true, true, [⟨4, some 1⟩, ⟨5, some 1⟩, ⟨6, none⟩]) := by
  lit_lists
  kdecide
example : (MState.init Gen.dialects (lit "en")).map (fun μ =>
      let a' := lit "Feature: f\n@t\n\nnonsense\nScenario: s\n"
      (Spec.unexpectedLineStopB Gen.dialects Gen.parserTable μ 0 a' 3,
       C14_locs (parseWith Gen.dialects Gen.parserTable true μ 0 a').1)) =
    some (true, [⟨4, some 1⟩]) := by
  lit_lists
  kdecide

/-- a tag line followed by a barrier line within `pre` is harmless: `Feature: g` behind a tagged
    scenario's step and a blank line -/
example : (MState.init Gen.dialects (lit "en")).map (fun μ =>
      let a' := lit "Feature: f\n@t\nScenario: s\n  Given x\n\nFeature: g\n"
      (Spec.unexpectedLineOkB Gen.dialects Gen.parserTable μ 0 a' 5,
       Spec.unexpectedLineOk2B Gen.dialects Gen.parserTable μ 0 a' 5,
       C14_locs (parseWith Gen.dialects Gen.parserTable false μ 0 a').1)) =
    some (false, true, [⟨6, some 1⟩]) := by
  lit_lists
  kdecide

/-- stop mode, whatever follows: the text after the unexpected line is itself full of errors, the
    outcome is the one error for line 4 -/
example : (MState.init Gen.dialects (lit "en")).map (fun μ =>
      let a' := lit "Feature: f\nScenario: s\n  Given x\nFeature: g\n  | a | b |\n  | c |\nnonsense\n"
      (Spec.unexpectedLineStopB Gen.dialects Gen.parserTable μ 0 a' 3,
       C14_stopState μ 0 a' 3,
       (parseWith Gen.dialects Gen.parserTable true μ 0 a').1 matches .rejected [_] false,
       C14_locs (parseWith Gen.dialects Gen.parserTable true μ 0 a').1,
       C14_locs (parseWith Gen.dialects Gen.parserTable false μ 0 a').1)) =
    some (true, 12, true, [⟨4, some 1⟩], [⟨4, some 1⟩, ⟨7, some 1⟩, ⟨6, some 3⟩]) := by
  lit_lists
  kdecide

end GV
