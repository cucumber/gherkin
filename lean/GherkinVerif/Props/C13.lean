/-
  Props/C13.lean — property C13: doc strings are opaque: verbatim content, closed only by their
  own delimiter.  Property theorems only; helper lemmas live in Lemmas/DocString.lean.

  Three levels: facts about the regenerated table lifted by lemmas generic in the table
  (`C13_opaque_abs`, `C13_opaque_run`); the matcher; the builder (`C13_docstring_node`).
  The composition along a whole concrete parse (`C13_in_document`) needs the run-level composition
  of C03 and is in Props/C03Doc.lean.
-/
import GherkinVerif.Lemmas.DocString
import GherkinVerif.Gen.ParserTable
import GherkinVerif.KDecide
import GherkinVerif.Lemmas.FactsTable
import GherkinVerif.Lemmas.Lit
namespace GV

/-- The regenerated table has doc-string content states (states whose only tests are
    `DocStringSeparator`, leaving, and `Other`, a build-only self-loop) … -/
theorem C13_content_states_exist : Spec.contentStates Gen.parserTable ≠ [] := by kdecide

/-- … and they are entered only through a `DocStringSeparator` branch from a non-content state
    (every such branch leads into one), left only through their own `DocStringSeparator` branch,
    and otherwise loop on `Other`. -/
theorem C13_content_entry : Spec.contentEntry Gen.parserTable = true := Facts.contentEntry_table

/-- Every content state of the regenerated table is found by `row?` and its row is a content row
    (so `C13_opaque_run` applies to each of them). -/
theorem C13_content_rows :
    (Spec.contentStates Gen.parserTable).all
      (fun s => (Gen.parserTable.row? s).any Spec.isContentRow) = true := Facts.contentStates_rows

/-- Opacity at the table level, generic in the table: in a content row a line of *any* kind other
    than a doc-string separator or end of file — keyword line, step, tag line, comment, table
    row, blank line, language header, free text — is read as `Other`, is handed to the builder
    and nothing else happens, and the state stays the same, whatever follows. -/
theorem C13_opaque_abs (T : Table) (r : StateRow) (hr : Spec.isContentRow r = true)
    (k : Kind) (fut : List Kind) (h1 : k ≠ .DocStringSeparator) (h2 : k ≠ .EOF) :
    pickBranch T k fut r.branches = some ⟨.Other, none, [.build], r.id⟩ :=
  Lemmas.pickBranch_content T r hr k fut h1 h2

/-- Hence any sequence `ks` of such lines, from a content state `s`, is consumed entirely as
    `Other` tokens (one `build Other` event each) and the run continues from the same state `s`
    with what follows. -/
theorem C13_opaque_run (T : Table) (s : Nat) (r : StateRow) (hs : T.row? s = some r)
    (hr : Spec.isContentRow r = true) (ks rest : List Kind)
    (h : ∀ k ∈ ks, k ≠ .DocStringSeparator ∧ k ≠ .EOF) :
    runAbs T s (ks ++ rest) =
      (runAbs T s rest).map fun p => (p.1, ks.map (fun _ => Ev.build .Other) ++ p.2) :=
  Lemmas.runAbs_content T s r hs hr ks rest h

/-- … and in error-collecting mode none of them is reported as unexpected. -/
theorem C13_opaque_no_errors (T : Table) (s : Nat) (r : StateRow) (hs : T.row? s = some r)
    (hr : Spec.isContentRow r = true) (ks rest : List Kind) (i : Nat)
    (h : ∀ k ∈ ks, k ≠ .DocStringSeparator ∧ k ≠ .EOF) :
    errorsAbs T s i (ks ++ rest) = errorsAbs T s (i + ks.length) rest :=
  Lemmas.errorsAbs_content T s r hs hr ks rest i h

/-- `match_Other` matches every line, whatever it looks like, and never changes the matcher
    state (dialect, active delimiter, indentation to remove). -/
theorem C13_other_always (D : List Dialect) (μ : MState) (t : Token) (l : Str) :
    (matchLine D .Other μ t l).res = .matched ∧ (matchLine D .Other μ t l).μ = μ ∧
    (matchLine D .Other μ t l).tok.mtype = some .Other :=
  ⟨rfl, rfl, rfl⟩

/-- While a doc string with delimiter `sep` is open, `match_DocStringSeparator` matches a line
    iff its text after leading whitespace starts with `sep` itself: the other delimiter,
    keywords, tags, comments, table rows and blank lines do not close it. -/
theorem C13_only_own_delimiter (D : List Dialect) (μ : MState) (t : Token) (l sep : Str)
    (ha : μ.activeSep = some sep) (hne : sep ≠ []) :
    (matchLine D .DocStringSeparator μ t l).res = .matched ↔ startsWith sep (trimmed l) = true :=
  Lemmas.docsep_active_iff D μ t l sep ha hne

/-- No test other than `match_DocStringSeparator` touches the delimiter / indentation state. -/
theorem C13_state_untouched (D : List Dialect) (k : Kind) (μ : MState) (t : Token) (l : Str)
    (hk : k ≠ .DocStringSeparator) :
    (matchLine D k μ t l).μ.activeSep = μ.activeSep ∧
    (matchLine D k μ t l).μ.indentToRemove = μ.indentToRemove :=
  Lemmas.matchLine_keeps_docstate D k μ t l hk

/-- The text of a content line: the physical line minus the opening delimiter's indentation — a
    less-indented line loses all of its own indentation and nothing more —, with the escaped
    active delimiter unescaped, minus the trailing line break. -/
theorem C13_content_line (D : List Dialect) (μ : MState) (t : Token) (l : Str) :
    (matchLine D .Other μ t l).tok.text =
      some (rstripCRLF (unescapeDoc μ.activeSep (l.drop (min μ.indentToRemove (lineIndent l))))) :=
  Lemmas.other_text D μ t l

/-- Unescaping rewrites only the backslash-escaped form of the *active* delimiter (every
    non-overlapping occurrence, left to right), and is the identity when no doc string is open
    or the active separator is neither of the two delimiters. -/
theorem C13_unescape (text : Str) :
    unescapeDoc (some dq3) text = replaceAll [92, 34, 92, 34, 92, 34] [34, 34, 34] text ∧
    unescapeDoc (some bt3) text = replaceAll [92, 96, 92, 96, 92, 96] [96, 96, 96] text ∧
    unescapeDoc none text = text ∧
    ∀ sep, sep ≠ some dq3 → sep ≠ some bt3 → unescapeDoc sep text = text :=
  ⟨Lemmas.unescapeDoc_dq text, Lemmas.unescapeDoc_bt text, Lemmas.unescapeDoc_none text,
   fun sep h1 h2 => Lemmas.unescapeDoc_other sep text h1 h2⟩

/-- Opening: with no doc string open, a matched separator line starts (after its indentation)
    with one of the two delimiters `sep`; the matcher then has `sep` active and remembers the
    line's indentation; the token's keyword is `sep` and its text is the stripped rest of the
    line (the media type). -/
theorem C13_open (D : List Dialect) (μ : MState) (t : Token) (l : Str)
    (ho : μ.activeSep = none ∨ μ.activeSep = some [])
    (hm : (matchLine D .DocStringSeparator μ t l).res = .matched) :
    ∃ sep, (sep = dq3 ∨ sep = bt3) ∧ startsWith sep (trimmed l) = true ∧
      (matchLine D .DocStringSeparator μ t l).μ =
        { μ with activeSep := some sep, indentToRemove := lineIndent l } ∧
      (matchLine D .DocStringSeparator μ t l).tok.text =
        some (rstripCRLF (strip ((trimmed l).drop 3))) ∧
      (matchLine D .DocStringSeparator μ t l).tok.keyword = some sep ∧
      (matchLine D .DocStringSeparator μ t l).tok.mtype = some .DocStringSeparator :=
  Lemmas.docsep_open D μ t l ho hm

/-- Closing: a matched separator line while `sep` is active puts the matcher back to "no active
    delimiter, indentation 0" (and changes nothing else), so normal matching resumes. -/
theorem C13_resume (D : List Dialect) (μ : MState) (t : Token) (l sep : Str)
    (ha : μ.activeSep = some sep) (hne : sep ≠ [])
    (hm : (matchLine D .DocStringSeparator μ t l).res = .matched) :
    (matchLine D .DocStringSeparator μ t l).μ = { μ with activeSep := none, indentToRemove := 0 } ∧
    (matchLine D .DocStringSeparator μ t l).tok.text = none ∧
    (matchLine D .DocStringSeparator μ t l).tok.keyword = some sep ∧
    (matchLine D .DocStringSeparator μ t l).tok.mtype = some .DocStringSeparator :=
  Lemmas.docsep_close D μ t l sep ha hne hm

/-- `transform_node` on a `DocString` node whose first separator token has text `m` and keyword
    `d` and whose `Other` tokens have texts `ls`, in order: content = the lines joined by line
    feeds, delimiter = `d`, media type absent iff `m` is empty, location = the opening token's;
    no id is drawn. -/
theorem C13_docstring_node (comments : List Comment) (items : List (Key × Val))
    (sep : Token) (rest : List Token) (m d : Str) (ls : List Str)
    (hsep : getTokens items .DocStringSeparator = sep :: rest)
    (hm : sep.text = some m) (hd : sep.keyword = some d)
    (hls : (getTokens items .Other).map (·.text) = ls.map some) :
    transformNode comments ⟨.DocString, items⟩ =
      pure (.docString { loc := sep.loc, content := joinWith [10] ls, delimiter := d,
                         mediaType := if m = [] then none else some m }) :=
  Lemmas.transformNode_docString comments items sep rest m d ls hsep hm hd hls

/-- … in particular for the node the parser builds: opening separator, content lines, closing
    separator, in the order the lines were read. -/
theorem C13_docstring_node_shape (comments : List Comment) (op cl : Token) (others : List Token)
    (m d : Str) (ls : List Str) (n : Nat)
    (hm : op.text = some m) (hd : op.keyword = some d) (hls : others.map (·.text) = ls.map some) :
    (transformNode comments ⟨.DocString,
        [(.tok .DocStringSeparator, .tok op)] ++ others.map (fun t => (Key.tok .Other, Val.tok t)) ++
        [(.tok .DocStringSeparator, .tok cl)]⟩).run.run n =
      (.ok (.docString { loc := op.loc, content := joinWith [10] ls, delimiter := d,
                         mediaType := if m = [] then none else some m }), n) := by
  rw [Lemmas.transformNode_docString comments _ op [cl] m d ls (Lemmas.getTokens_shape_sep op cl others)
    hm hd (by rw [Lemmas.getTokens_shape_other op cl others]; exact hls)]
  rfl

/-- in an open `"""` doc string a line of backticks, a keyword line, a tag line do not close it,
    an indented `"""` line does -/
example :
    let μ : MState := { defaultName := lit "en", name := lit "en", dialect := default,
                        indentToRemove := 4, activeSep := some dq3 }
    let t : Token := { line := none, lineNo := 7 }
    ((matchLine [] .DocStringSeparator μ t (lit "    ```\n")).res matches .no) ∧
    ((matchLine [] .DocStringSeparator μ t (lit "  Feature: x\n")).res matches .no) ∧
    ((matchLine [] .DocStringSeparator μ t (lit "@tag\n")).res matches .no) ∧
    ((matchLine [] .DocStringSeparator μ t (lit " \t\"\"\" trailing\n")).res matches .matched) := by
  lit_lists
  kdecide

/-- a less-indented content line loses all of its own indentation; only the active delimiter's
    escape is rewritten; the line break is removed -/
example :
    let μ : MState := { defaultName := lit "en", name := lit "en", dialect := default,
                        indentToRemove := 4, activeSep := some dq3 }
    let t : Token := { line := some (lit "  a \\\"\\\"\\\" \\`\\`\\` \r\n"), lineNo := 7 }
    (matchLine [] .Other μ t (lit "  a \\\"\\\"\\\" \\`\\`\\` \r\n")).tok.text
      = some (lit "a \"\"\" \\`\\`\\` ") ∧
    (matchLine [] .Other μ t (lit "      | x |\n")).tok.text = some (lit "  | x |") := by
  lit_lists
  kdecide

end GV
