/-
  Props/C01Pipeline.lean — property C01, first sentences, closed over the whole pipeline:
  "For every source text, parsing either returns a Gherkin document or raises the library's
  parser error …  Compiling any returned document returns a list of pickles, and the stream API
  turns any source into gherkinDocument, pickle and parseError envelopes only.  No other
  exception type ever escapes."

  `C06_compile_total` / `C01_compile_total` need `Spec.rectangular doc` (the
  compiler's `IndexError` — `compile … = none` — occurs exactly when an examples body row is
  shorter than its header), and `C01_stream_kinds` (Props/C01.lean) lists the model's
  explicit `.crash` envelope.  Here both are discharged.  Every document an accepted parse
  returns is rectangular in the strong sense — every examples block's body rows have exactly the
  header's cell count and every data table's rows have equal cell counts — because the only place
  the builder makes rows, `get_table_rows`, returns them only after `ensure_cell_count` found no
  deviating row (Lemmas/Rectangular.lean: an invariant of the builder stack carried through the
  parse loop; no hypothesis on the table, the dialects, the matcher state or the mode).  With
  `C01_no_crash`, `C01_parse_terminates` and the default dialect "en" being in the dialect table
  the stream has no crash envelope either.
-/
import GherkinVerif.Lemmas.Rectangular
import GherkinVerif.Props.C01NoCrashAll
import GherkinVerif.Props.C01
import GherkinVerif.Props.C06
import GherkinVerif.KDecide
import GherkinVerif.Lemmas.Lit
namespace GV

open Lemmas.Rect in
/-- Structured form, generic in the tables: the document of an accepted parse satisfies
    `Lemmas.Rect.DocRect` — every feature child (background, scenario, rule and the rule's
    children) has steps whose data tables have rows of equal cell counts, and examples blocks
    whose body rows have exactly the header's cell count. -/
theorem C01_parsed_docRect (D : List Dialect) (T : Table) (stop : Bool) (μ : MState) (ids : Nat) (src : Str)
    (d : Doc) (h : (parseWith D T stop μ ids src).1 = .ok d) : DocRect d :=
  parsed_docRect D T stop μ ids src d h

theorem C01_parsed_rectangular_generic (D : List Dialect) (T : Table) (stop : Bool) (μ : MState) (ids : Nat)
    (src : Str) (d : Doc) (h : (parseWith D T stop μ ids src).1 = .ok d) :
    (∀ f, d.feature = some f → ∀ scs ∈ Spec.featureScenarios f, ∀ ex ∈ scs.2.examples,
      ∀ hd, ex.header = some hd → ∀ row ∈ ex.body, row.cells.length = hd.cells.length) ∧
    (∀ st ∈ Lemmas.Rect.docSteps d, ∀ t, st.arg = .table t →
      ∀ r1 ∈ t.rows, ∀ r2 ∈ t.rows, r1.cells.length = r2.cells.length) ∧
    Spec.rectangular d :=
  have hd := C01_parsed_docRect D T stop μ ids src d h
  ⟨hd.examples_exact, hd.tables_equal, hd.rectangular⟩

/-- **Every returned document is rectangular.**  For every source text, matcher state, id counter
    and error mode: if the parse is accepted then, in the document,
    (1) every examples block of every scenario (in or outside rules; `Spec.featureScenarios`
        enumerates them all) has body rows with exactly as many cells as its header;
    (2) every data table of every step (background and scenario steps, in or outside rules;
        `Lemmas.Rect.docSteps`) has rows of equal cell counts;
    (3) hence the compiler's precondition `Spec.rectangular` holds.
    (The hypothesis on the matcher's dialect is not needed.) -/
theorem C01_parsed_rectangular (stop : Bool) (μ : MState) (ids : Nat) (src : Str) (d : Doc)
    (h : (parseWith Gen.dialects Gen.parserTable stop μ ids src).1 = .ok d) :
    (∀ f, d.feature = some f → ∀ scs ∈ Spec.featureScenarios f, ∀ ex ∈ scs.2.examples,
      ∀ hd, ex.header = some hd → ∀ row ∈ ex.body, row.cells.length = hd.cells.length) ∧
    (∀ st ∈ Lemmas.Rect.docSteps d, ∀ t, st.arg = .table t →
      ∀ r1 ∈ t.rows, ∀ r2 ∈ t.rows, r1.cells.length = r2.cells.length) ∧
    Spec.rectangular d :=
  C01_parsed_rectangular_generic Gen.dialects Gen.parserTable stop μ ids src d h

/-- **Compiling any returned document returns a list of pickles**: for every uri and every
    value of the id counter — in particular the counter the parse left behind, which is what
    the stream passes on — `compile` does not take its `IndexError` exit. -/
theorem C01_compile_parsed_total_generic (D : List Dialect) (T : Table) (stop : Bool) (μ : MState) (ids : Nat)
    (src : Str) (d : Doc) (h : (parseWith D T stop μ ids src).1 = .ok d) (uri : Str) (n : Nat) :
    ∃ ps n', compile uri d n = some (ps, n') := by
  obtain ⟨⟨ps, n'⟩, hr⟩ := C06_compile_total uri d n (C01_parsed_rectangular_generic D T stop μ ids src d h).2.2
  exact ⟨ps, n', hr⟩

theorem C01_compile_parsed_total (stop : Bool) (μ : MState) (ids : Nat) (src : Str) (d : Doc)
    (h : (parseWith Gen.dialects Gen.parserTable stop μ ids src).1 = .ok d) (uri : Str) :
    ∃ ps n', compile uri d (parseWith Gen.dialects Gen.parserTable stop μ ids src).2.ids = some (ps, n') :=
  C01_compile_parsed_total_generic Gen.dialects Gen.parserTable stop μ ids src d h uri _

/-- the stream's default dialect "en" is in the regenerated dialect table: the constructor
    `TokenMatcher()` does not raise -/
theorem C01_fact_default_dialect : (MState.init Gen.dialects (lit "en")).isSome = true := by kdecide

/-- **No crash envelope.**  For every option set, id counter, uri and source text, no envelope
    of the stream is the model's `.crash` (a non-ParserError exception escaping `enum`). -/
theorem C01_stream_no_crash (opts : Opts) (ids : Nat) (uri data : Str) :
    ∀ e ∈ (streamEnum Gen.dialects Gen.parserTable opts ids uri data).1, ∀ w, e ≠ .crash w := by
  intro e he w hw
  subst hw
  unfold streamEnum at he
  split at he
  · rename_i hμ
    have := C01_fact_default_dialect
    rw [hμ] at this
    cases this
  · rename_i μ hμ
    have hnc := C01_no_crash_any false μ ids data
    have hnf := Lemmas.parse_terminates Gen.dialects Gen.parserTable C01A_fact_lookaheads false μ ids data
    have hct := fun d h => C01_compile_parsed_total false μ ids data d h uri
    rcases hp : parseWith Gen.dialects Gen.parserTable false μ ids data with ⟨out, ctx⟩
    rw [hp] at he hnc hnf hct
    dsimp only at he hnc hnf hct
    have hpre : ∀ d, Envelope.crash w ∉ (if opts.printSource then [Envelope.source uri data] else []) ++
        (if opts.printAst then [Envelope.gherkinDocument uri d] else []) := by
      intro d hm
      rcases List.mem_append.1 hm with h1 | h1
      · split at h1
        · simp only [List.mem_singleton] at h1; cases h1
        · cases h1
      · split at h1
        · simp only [List.mem_singleton] at h1; cases h1
        · cases h1
    cases out with
    | ok d =>
      dsimp only at he
      split at he
      · split at he
        · rcases List.mem_append.1 he with h1 | h1
          · exact hpre d h1
          · obtain ⟨p, _, hp'⟩ := List.mem_map.1 h1
            cases hp'
        · rename_i hnone
          obtain ⟨ps, n', hc⟩ := hct d rfl
          rw [hc] at hnone
          cases hnone
      · exact hpre d he
    | rejected es c =>
      dsimp only at he
      obtain ⟨x, _, hx⟩ := List.mem_map.1 he
      cases hx
    | crash w' => exact hnc w' rfl
    | fuel => exact hnf rfl

/-- **The stream API turns any source into source, gherkinDocument, pickle and parseError
    envelopes only** (`C01_stream_kinds` without its crash alternative). -/
theorem C01_stream_kinds_total (opts : Opts) (ids : Nat) (uri data : Str) :
    ∀ e ∈ (streamEnum Gen.dialects Gen.parserTable opts ids uri data).1,
      (∃ u d, e = .source u d) ∨ (∃ u d, e = .gherkinDocument u d) ∨ (∃ p, e = .pickle p) ∨
      (∃ u x, e = .parseError u x) := by
  intro e he
  rcases C01_stream_kinds Gen.dialects Gen.parserTable opts ids uri data e he with h | h | h | h | ⟨w, hw⟩
  · exact .inl h
  · exact .inr (.inl h)
  · exact .inr (.inr (.inl h))
  · exact .inr (.inr (.inr h))
  · exact absurd hw (C01_stream_no_crash opts ids uri data e he w)

theorem C01_streamAll_kinds_total (opts : Opts) (srcs : List (Str × Str)) (ids : Nat) :
    ∀ es ∈ streamAll Gen.dialects Gen.parserTable opts srcs ids, ∀ e ∈ es,
      (∃ u d, e = .source u d) ∨ (∃ u d, e = .gherkinDocument u d) ∨ (∃ p, e = .pickle p) ∨
      (∃ u x, e = .parseError u x) := by
  induction srcs generalizing ids with
  | nil => intro es hes; cases hes
  | cons s rest ih =>
    obtain ⟨uri, data⟩ := s
    intro es hes
    unfold streamAll at hes
    rcases List.mem_cons.1 hes with rfl | hes
    · exact C01_stream_kinds_total opts ids uri data
    · exact ih _ es hes

/-- **C01, first sentences, in one statement.**  For every source text, matcher state, id
    counter and error mode, `parseWith` on the regenerated tables yields
      * a document `d` — rectangular, and compiling it (any uri, any counter value) returns a
        list of pickles; or
      * the library's parser error: exactly one error, bare (`comp = false`), in
        stop-at-first-error mode; in collecting mode a `CompositeParserException`
        (`comp = true`) with between one and eleven errors with pairwise distinct messages.
    Nothing else: the model's crash and fuel outcomes do not occur. -/
theorem C01_pipeline_total (stop : Bool) (μ : MState) (ids : Nat) (src : Str) :
    (∃ d, (parseWith Gen.dialects Gen.parserTable stop μ ids src).1 = .ok d ∧ Spec.rectangular d ∧
      ∀ uri n, ∃ ps n', compile uri d n = some (ps, n')) ∨
    (∃ es comp, (parseWith Gen.dialects Gen.parserTable stop μ ids src).1 = .rejected es comp ∧
      (stop = true → es.length = 1 ∧ comp = false) ∧
      (stop = false → comp = true ∧ 1 ≤ es.length ∧ es.length ≤ 11 ∧ (es.map PErr.message).Nodup)) := by
  rcases C01_parse_outcome_total stop μ ids src with ⟨d, hd⟩ | ⟨es, comp, hr⟩
  · exact .inl ⟨d, hd, (C01_parsed_rectangular stop μ ids src d hd).2.2,
      fun uri n => C01_compile_parsed_total_generic Gen.dialects Gen.parserTable stop μ ids src d hd uri n⟩
  · have ho := C01_parse_outcome Gen.dialects Gen.parserTable stop μ ids src es comp hr
    rw [C01_error_cap_is_ten] at ho
    exact .inr ⟨es, comp, hr, ho⟩

/-- … and the stream on top of it: every envelope is one of the four message kinds. -/
theorem C01_pipeline_stream (opts : Opts) (ids : Nat) (uri data : Str) :
    ∀ e ∈ (streamEnum Gen.dialects Gen.parserTable opts ids uri data).1,
      (∃ u d, e = .source u d) ∨ (∃ u d, e = .gherkinDocument u d) ∨ (∃ p, e = .pickle p) ∨
      (∃ u x, e = .parseError u x) :=
  C01_stream_kinds_total opts ids uri data

section examples

/-- an accepted outline whose step has a data table: the parse returns a document with one step -/
example : (MState.init Gen.dialects (lit "en")).map (fun μ =>
    match (parseWith Gen.dialects Gen.parserTable false μ 0
      (lit "Feature: f\nScenario Outline: s\nGiven <a>\n|x|y|\n|1|2|\nExamples:\n|a|b|\n|1|2|\n|3|4|\n")).1 with
    | .ok d => (Lemmas.Rect.docSteps d).length
    | _ => 99) = some 1 := by
  lit_lists
  kdecide

end examples
end GV
