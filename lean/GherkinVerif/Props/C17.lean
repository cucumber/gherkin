/-
  Props/C17.lean — property C17: stream output is well-formed Cucumber Messages in the
  documented order.  Property theorems only; the shape predicate is Spec/Messages.lean, helper
  lemmas live in Lemmas/StreamShape.lean.

  All theorems are for arbitrary dialect table `D`, parser table `T`, options, counter, uri and
  text.  `μ` is the matcher every `GherkinEvents.enum` call starts from (`TokenMatcher("en")`);
  the model's `.crash` envelope stands for "an exception that is not a parser error escaped
  `enum`" and is not a message.
-/
import GherkinVerif.Lemmas.StreamShape
import GherkinVerif.Gen.Dialects
import GherkinVerif.Gen.ParserTable
import GherkinVerif.KDecide
import GherkinVerif.Lemmas.Lit
namespace GV

/-- Order and option gating, accepted source: the stream yields the source envelope, then one
    gherkinDocument envelope, then the pickles in the compiler's order — each group present
    exactly when its option is on, for all 8 combinations — and returns the compiler's counter
    (the parser's when pickles are off).  `hc` is only needed when pickles are printed. -/
theorem C17_order (D : List Dialect) (T : Table) (opts : Opts) (ids : Nat) (uri data : Str)
    (μ : MState) (hμ : MState.init D (lit "en") = some μ) (d : Doc)
    (h : (parseWith D T false μ ids data).1 = .ok d) (ps : List Pickle) (n' : Nat)
    (hc : opts.printPickles = true → compile uri d (parseWith D T false μ ids data).2.ids = some (ps, n')) :
    streamEnum D T opts ids uri data =
      ((if opts.printSource then [Envelope.source uri data] else []) ++
       (if opts.printAst then [Envelope.gherkinDocument uri d] else []) ++
       (if opts.printPickles then ps.map Envelope.pickle else []),
       if opts.printPickles then n' else (parseWith D T false μ ids data).2.ids) :=
  Lemmas.streamEnum_ok_eq D T opts ids uri data μ hμ d h ps n' hc

/-- Rejected source: exactly one parseError envelope per error, in order, nothing else, whatever
    the options; the counter is where the parser left it. -/
theorem C17_order_rejected (D : List Dialect) (T : Table) (opts : Opts) (ids : Nat) (uri data : Str)
    (μ : MState) (hμ : MState.init D (lit "en") = some μ) (es : List PErr) (comp : Bool)
    (h : (parseWith D T false μ ids data).1 = .rejected es comp) :
    streamEnum D T opts ids uri data =
      (es.map (Envelope.parseError uri), (parseWith D T false μ ids data).2.ids) :=
  Lemmas.streamEnum_rejected_eq D T opts ids uri data μ hμ es comp h

/-- The source envelope carries the uri, the text unchanged and the Gherkin media type. -/
theorem C17_source_unchanged (uri data : Str) :
    (Envelope.source uri data).toJ =
      .obj [("source", .obj [("uri", .str uri), ("data", .str data),
                             ("mediaType", .str (lit "text/x.cucumber.gherkin+plain"))])] := rfl

/-- The gherkinDocument envelope is the document's own members followed by the uri. -/
theorem C17_document_uri (uri : Str) (d : Doc) :
    (Envelope.gherkinDocument uri d).toJ =
      .obj [("gherkinDocument", .obj (J.ofOpt "feature" (d.feature.map Feature.toJ) ++
        [("comments", .arr (d.comments.map Comment.toJ)), ("uri", .str uri)]))] :=
  Lemmas.gherkinDocument_toJ uri d

/-- A parseError envelope carries the uri, the error's location and its message
    (`"(line:column): " ++` body, see `C14_message_form`). -/
theorem C17_parseError_fields (uri : Str) (e : PErr) :
    (Envelope.parseError uri e).toJ =
      .obj [("parseError", .obj [("source", .obj [("uri", .str uri), ("location", e.loc.toJ)]),
                                 ("message", .str e.message)])] := rfl

/-- Shape: every envelope other than the explicit crash outcome is a well-shaped message, for
    arbitrary documents, pickles and errors — provided a pickle's step types are not
    `Conjunction` (they are printed from the five-valued keyword type; the pickle vocabulary has
    four values). -/
theorem C17_shape (e : Envelope) (hc : ∀ w, e ≠ .crash w)
    (hp : ∀ p, e = .pickle p → ∀ s ∈ p.steps, s.type ≠ .Conjunction) :
    Spec.wellShaped e.toJ = true :=
  Lemmas.wellShaped_envelope e hc hp

/-- The side condition of `C17_shape` holds for everything the compiler returns, for any document. -/
theorem C17_compile_step_types (uri : Str) (doc : Doc) (n : Nat) (ps : List Pickle) (n' : Nat)
    (h : compile uri doc n = some (ps, n')) :
    ∀ p ∈ ps, ∀ s ∈ p.steps, s.type ≠ .Conjunction :=
  Lemmas.compile_noConj uri doc n ps n' h

/-- Hence every envelope the stream emits for any source, other than the crash outcome, is well shaped. -/
theorem C17_shape_stream (D : List Dialect) (T : Table) (opts : Opts) (ids : Nat) (uri data : Str)
    (e : Envelope) (he : e ∈ (streamEnum D T opts ids uri data).1) (hc : ∀ w, e ≠ .crash w) :
    Spec.wellShaped e.toJ = true :=
  Lemmas.streamEnum_wellShaped D T opts ids uri data e he hc

/-- The vocabularies: any keyword type is a legal `keywordType`; `Conjunction` is not a legal
    pickle step `type` (so the hypothesis of `C17_shape` cannot be dropped). -/
theorem C17_vocabularies :
    (∀ k : KType, Spec.strIn Spec.keywordTypes (.str (lit k.name)) = true) ∧
    Spec.strIn Spec.pickleStepTypes (.str (lit KType.Conjunction.name)) = false :=
  ⟨Lemmas.ktype_in_vocab, Lemmas.conjunction_not_in_pickle_vocab⟩

/-- Locality: in a sequence of sources through one stream, the envelopes of the source at
    position `pre.length` are those of that source alone, started from the counter the earlier
    sources left. -/
theorem C17_locality (D : List Dialect) (T : Table) (opts : Opts) (pre post : List (Str × Str))
    (x : Str × Str) (n : Nat) :
    (streamAll D T opts (pre ++ [x] ++ post) n)[pre.length]? =
      some (streamEnum D T opts (counterAfter D T opts pre n) x.1 x.2).1 :=
  Lemmas.streamAll_locality D T opts pre post x n

/-- Sources are handled in the order given: one group of envelopes per source. -/
theorem C17_in_order (D : List Dialect) (T : Table) (opts : Opts) (srcs : List (Str × Str)) (n : Nat) :
    (streamAll D T opts srcs n).length = srcs.length :=
  Lemmas.streamAll_length D T opts srcs n

/-- … and a sequence can be cut anywhere: the tail behaves as a stream of its own started from
    the running counter. -/
theorem C17_sequence_split (D : List Dialect) (T : Table) (opts : Opts) (pre post : List (Str × Str)) (n : Nat) :
    streamAll D T opts (pre ++ post) n =
      streamAll D T opts pre n ++ streamAll D T opts post (counterAfter D T opts pre n) :=
  Lemmas.streamAll_append D T opts pre post n

/-- a pickle with a table argument and an outline step is well shaped … -/
example : Spec.wellShaped (Envelope.pickle
    { astNodeIds := [3, 7], id := 9, tags := [⟨1, lit "@a"⟩], name := lit "n", language := lit "en",
      steps := [{ astNodeIds := [2, 7], id := 8, type := .Context, text := lit "x",
                  arg := .table [[lit "a", lit "b"]] },
                { astNodeIds := [4], id := 10, type := .Unknown, text := lit "y",
                  arg := .doc (lit "c") (some (lit "json")) }],
      uri := lit "f.feature" }).toJ = true := by
  lit_lists
  kdecide

/-- … the same pickle with a `Conjunction` step is not (the defect F2 shape). -/
example : Spec.wellShaped (Envelope.pickle
    { astNodeIds := [3], id := 9, tags := [], name := lit "n", language := lit "en",
      steps := [{ astNodeIds := [2], id := 8, type := .Conjunction, text := lit "x", arg := .none }],
      uri := lit "f.feature" }).toJ = false := by
  lit_lists
  kdecide

/-- a document with a rule, a background and a scenario outline -/
example : Spec.wellShaped (Envelope.gherkinDocument (lit "f.feature")
    { comments := [⟨⟨2, some 1⟩, lit "# c"⟩],
      feature := some
        { tags := [], loc := ⟨1, some 1⟩, language := lit "en", keyword := lit "Feature",
          name := lit "f", description := [],
          children := [.rule
            { id := 6, tags := [⟨5, ⟨2, some 3⟩, lit "@r"⟩], loc := ⟨3, some 3⟩,
              keyword := lit "Rule", name := [], description := [],
              children := [
                .background
                  { id := 1, loc := ⟨4, some 5⟩, keyword := lit "Background", name := [],
                    description := [],
                    steps := [⟨0, ⟨5, some 7⟩, lit "And ", .Conjunction, lit "a", .none⟩] },
                .scenario
                  { id := 4, tags := [], loc := ⟨6, some 5⟩, keyword := lit "Scenario Outline",
                    name := lit "s", description := [], steps := [],
                    examples := [
                      { id := 3, tags := [], loc := ⟨7, some 7⟩, keyword := lit "Examples",
                        name := [], description := [],
                        header := some ⟨2, ⟨8, some 9⟩, [⟨⟨8, some 11⟩, lit "h"⟩]⟩,
                        body := [] }] }] }] } }).toJ = true := by
  lit_lists
  kdecide

/-- explicit `null`, a missing required field, an unknown field and a repeated key are all rejected -/
example : Spec.wellShaped (.obj [("source", .obj [("uri", .str []), ("data", .null),
    ("mediaType", .str (lit "text/x.cucumber.gherkin+plain"))])]) = false := by
  lit_lists
  kdecide
example : Spec.wellShaped (.obj [("source", .obj [("uri", .str []),
    ("mediaType", .str (lit "text/x.cucumber.gherkin+plain"))])]) = false := by
  lit_lists
  kdecide
example : Spec.wellShaped (.obj [("parseError", .obj [("source", .obj [("uri", .str []),
    ("location", .obj [("line", .num 1), ("col", .num 1)])]), ("message", .str [])])]) = false := by
  kdecide
example : Spec.wellShaped (.obj [("parseError", .obj [("source", .obj [("uri", .str []), ("uri", .str []),
    ("location", .obj [("line", .num 1)])]), ("message", .str [])])]) = false := by
  kdecide
/-- a location without a column (unexpected end of file before any match) is legal -/
example : Spec.wellShaped (Envelope.parseError (lit "u") ⟨.unexpectedEOF, ⟨1, none⟩, lit "m"⟩).toJ = true := by
  lit_lists
  kdecide

/-- end to end on the regenerated tables: a feature whose second step starts with `And` goes
    through scanner, matcher, parser, builder, compiler and stream; source, document and pickle
    envelopes come out, all well shaped (kernel evaluation). -/
example : ((streamEnum Gen.dialects Gen.parserTable ⟨true, true, true⟩ 0 (lit "a.feature")
      (lit "Feature: f\n  Scenario: s\n    Given a\n    And b\n")).1.map
    (fun e => Spec.wellShaped e.toJ)) = [true, true, true] := by
  lit_lists
  kdecide

end GV
