/-
  Props/C16Doc5.lean — property C16, goal G3: a comment line inserted directly after a keyword line,
  where a comment OPENS THE DESCRIPTION, with the hypothesis stated on the state the original run
  reaches NEXT.

  `C16_comment_line_document_all_partial`: the conclusion of `C16_comment_line_document`
  (Props/C16Doc4.lean) — outcome of `src'` = `insertComment k ⟨⟨k+1, 1⟩, rstripCRLF c⟩` of the renamed
  outcome of `src` — under the hypothesis that the state `s` in which the original run stands after
  `k` lines does not read `c` as a language header and
    (a) its comment test builds and stays (`Spec.commentSelfLoop`), or
    (b) its comment test opens the description (`Spec.commentOpensDescription`: the eight states
        3, 5, 10, 15, 19, 21, 26, 31 of the generated table, directly after `Feature:`,
        `Background:`, `Scenario:`, `Examples:`, `Rule:`) AND the original run has a line `k+1` and
        goes on with it INTO THE DESCRIPTION STATE (`stateAfter (k+1) = descTarget s`), i.e. line
        `k+1` is itself description text or a comment.
  Boolean form `Spec.commentLineOk2B`; text form `C16_comment_line_text2`.

  Proved for ANY table (`C16_comment_line_document_all_partial_generic`), with no facts about its
  description states: when the original run goes on into the description state, line `k+1` has
  passed a `Comment`/`Other` test of `s` (`Spec.rowsMatch`, part of `Spec.commentOpensDescription`),
  which opens the description and builds; the second run, already there, passes the same test and
  only builds, and the two builder states coincide again (Lemmas/LayoutDoc6Partial.lean).  For the
  generated table `C16_comment_line_document_all` (Props/C16Doc6.lean) covers more: line `k+1` not
  blank, or no line `k+1`.  What this form of the hypothesis does not cover — line `k+1` is a
  keyword / step / tag / table-row line, or `k` is the end of the text — is in the examples below.
-/
import GherkinVerif.KDecide
import GherkinVerif.Props.C16
import GherkinVerif.Props.C18Pure
import GherkinVerif.Lemmas.FactsLayout
import GherkinVerif.Lemmas.LayoutDoc6Partial
import GherkinVerif.Lemmas.Lit
namespace GV
open Lemmas Layout3 Layout4 Layout5

/-- Generic form: for any table, with no facts about its description states. -/
theorem C16_comment_line_document_all_partial_generic (D : List Dialect) (T : Table)
    (hD : Spec.stepKeywordsOk D = true) (hQD : Spec.queueDialectFacts D = true)
    (hQT : Spec.queueFacts T = true) (hCB : Spec.commentBlankTested T = true)
    (hLA : Spec.lookaheadsCommentOk T = true) (ds : List (Nat × Nat)) (hds : Spec.depthsOk T ds = true)
    (hps : Spec.prodsOk T ds = true)
    (stop : Bool) (μ : MState) (ids : Nat) (src src' : Str) (pre post : List Str) (c : Str)
    (hc : lineStartsWith c [35] = true)
    (h1 : splitLines src = pre ++ post) (h2 : splitLines src' = pre ++ c :: post)
    (hμ : (μ.reset D).dialect ∈ D)
    (hst : ∀ s, Spec.stateAfter D T stop μ ids src pre.length = some s →
      (Spec.languageTested T s = true → languageRe (lineText c none) = none) ∧
      (Spec.commentSelfLoop T s = true ∨
        (Spec.commentOpensDescription T s = true ∧ Spec.moreLines D T stop μ ids src pre.length = true ∧
          Spec.stateAfter D T stop μ ids src (pre.length + 1) = some (Spec.descTarget T s)))) :
    (parseWith D T stop μ ids src').1 =
      Spec.insertComment pre.length ⟨⟨pre.length + 1, some 1⟩, rstripCRLF c⟩
        (Spec.mapOutcome (Spec.insertMap pre.length) (parseWith D T stop μ ids src).1) ∧
    C16_MappedContext (Spec.insertMap pre.length) (parseWith D T stop μ ids src).2 (parseWith D T stop μ ids src').2 := by
  obtain ⟨h, hc'⟩ := Layout6.comment_line_parseWithB hD hQD hQT hCB (TableOkC.of_facts hLA hds hps) hc stop μ ids
    pre post h1 h2 hμ hst
  exact ⟨h, hc'.errors, hc'.μ, hc'.ids, hc'.unexpected⟩

theorem C16_comment_line_document_all_partial_both (stop : Bool) (μ : MState) (ids : Nat) (src src' : Str)
    (pre post : List Str) (c : Str) (hc : lineStartsWith c [35] = true)
    (h1 : splitLines src = pre ++ post) (h2 : splitLines src' = pre ++ c :: post)
    (hμ : (μ.reset Gen.dialects).dialect ∈ Gen.dialects)
    (hst : ∀ s, Spec.stateAfter Gen.dialects Gen.parserTable stop μ ids src pre.length = some s →
      (Spec.languageTested Gen.parserTable s = true → languageRe (lineText c none) = none) ∧
      (Spec.commentSelfLoop Gen.parserTable s = true ∨
        (Spec.commentOpensDescription Gen.parserTable s = true ∧
          Spec.moreLines Gen.dialects Gen.parserTable stop μ ids src pre.length = true ∧
          Spec.stateAfter Gen.dialects Gen.parserTable stop μ ids src (pre.length + 1) =
            some (Spec.descTarget Gen.parserTable s)))) :
    (parseWith Gen.dialects Gen.parserTable stop μ ids src').1 =
      Spec.insertComment pre.length ⟨⟨pre.length + 1, some 1⟩, rstripCRLF c⟩
        (Spec.mapOutcome (Spec.insertMap pre.length) (parseWith Gen.dialects Gen.parserTable stop μ ids src).1) ∧
    C16_MappedContext (Spec.insertMap pre.length) (parseWith Gen.dialects Gen.parserTable stop μ ids src).2
      (parseWith Gen.dialects Gen.parserTable stop μ ids src').2 :=
  C16_comment_line_document_all_partial_generic _ _ C16_step_keywords_ok C18_fact_keywords C18_fact_queue
    C18_fact_comment_blank Facts.lookaheadsCommentOk_table _ Facts.depthsOk_table Facts.prodsOk_table
    stop μ ids src src' pre post c hc h1 h2 hμ hst

/-- **Inserting a comment line** where the original run builds a comment and stays, or — directly
    after a keyword line — where it opens the description and the next line goes into it. -/
theorem C16_comment_line_document_all_partial (stop : Bool) (μ : MState) (ids : Nat) (src src' : Str)
    (pre post : List Str) (c : Str) (hc : lineStartsWith c [35] = true)
    (h1 : splitLines src = pre ++ post) (h2 : splitLines src' = pre ++ c :: post)
    (hμ : (μ.reset Gen.dialects).dialect ∈ Gen.dialects)
    (hst : ∀ s, Spec.stateAfter Gen.dialects Gen.parserTable stop μ ids src pre.length = some s →
      (Spec.languageTested Gen.parserTable s = true → languageRe (lineText c none) = none) ∧
      (Spec.commentSelfLoop Gen.parserTable s = true ∨
        (Spec.commentOpensDescription Gen.parserTable s = true ∧
          Spec.moreLines Gen.dialects Gen.parserTable stop μ ids src pre.length = true ∧
          Spec.stateAfter Gen.dialects Gen.parserTable stop μ ids src (pre.length + 1) =
            some (Spec.descTarget Gen.parserTable s)))) :
    (parseWith Gen.dialects Gen.parserTable stop μ ids src').1 =
      Spec.insertComment pre.length ⟨⟨pre.length + 1, some 1⟩, rstripCRLF c⟩
        (Spec.mapOutcome (Spec.insertMap pre.length) (parseWith Gen.dialects Gen.parserTable stop μ ids src).1) :=
  (C16_comment_line_document_all_partial_both stop μ ids src src' pre post c hc h1 h2 hμ hst).1

/-- … and the final contexts -/
theorem C16_comment_line_document_all_partial_context (stop : Bool) (μ : MState) (ids : Nat) (src src' : Str)
    (pre post : List Str) (c : Str) (hc : lineStartsWith c [35] = true)
    (h1 : splitLines src = pre ++ post) (h2 : splitLines src' = pre ++ c :: post)
    (hμ : (μ.reset Gen.dialects).dialect ∈ Gen.dialects)
    (hst : ∀ s, Spec.stateAfter Gen.dialects Gen.parserTable stop μ ids src pre.length = some s →
      (Spec.languageTested Gen.parserTable s = true → languageRe (lineText c none) = none) ∧
      (Spec.commentSelfLoop Gen.parserTable s = true ∨
        (Spec.commentOpensDescription Gen.parserTable s = true ∧
          Spec.moreLines Gen.dialects Gen.parserTable stop μ ids src pre.length = true ∧
          Spec.stateAfter Gen.dialects Gen.parserTable stop μ ids src (pre.length + 1) =
            some (Spec.descTarget Gen.parserTable s)))) :
    C16_MappedContext (Spec.insertMap pre.length) (parseWith Gen.dialects Gen.parserTable stop μ ids src).2
      (parseWith Gen.dialects Gen.parserTable stop μ ids src').2 :=
  (C16_comment_line_document_all_partial_both stop μ ids src src' pre post c hc h1 h2 hμ hst).2

/-- **The text form**, taking exactly the Boolean `Spec.commentLineOk2B` a driver can evaluate. -/
theorem C16_comment_line_text2 (stop : Bool) (μ : MState) (ids : Nat) (s1 s2 c : Str)
    (hs1 : s1 = [] ∨ s1.getLast? = some 10) (hlf : 10 ∉ c)
    (hμ : (μ.reset Gen.dialects).dialect ∈ Gen.dialects)
    (hok : Spec.commentLineOk2B Gen.dialects Gen.parserTable stop μ ids (s1 ++ s2) (splitLines s1).length
      (c ++ [10]) = true) :
    (parseWith Gen.dialects Gen.parserTable stop μ ids (s1 ++ (c ++ [10]) ++ s2)).1 =
      Spec.insertComment (splitLines s1).length ⟨⟨(splitLines s1).length + 1, some 1⟩, rstripCRLF (c ++ [10])⟩
        (Spec.mapOutcome (Spec.insertMap (splitLines s1).length)
          (parseWith Gen.dialects Gen.parserTable stop μ ids (s1 ++ s2)).1) := by
  unfold Spec.commentLineOk2B at hok
  obtain ⟨hc, hst⟩ := Bool.and_eq_true_iff.1 hok
  refine C16_comment_line_document_all_partial stop μ ids (s1 ++ s2) (s1 ++ (c ++ [10]) ++ s2) (splitLines s1)
    (splitLines s2) (c ++ [10]) hc (splitLines_append_of_lf s1 s2 hs1) (splitLines_insert_line s1 s2 c hs1 hlf) hμ
    fun s hs => ?_
  rw [hs] at hst
  simpa only [Bool.and_eq_true, Bool.or_eq_true, not_or_imp, Option.isNone_iff_eq_none, beq_iff_eq,
    and_assoc] using hst

/-- `commentLineOkB` (self-loop states only) fails directly after the feature line (k = 1) and after
    the scenario line (k = 3); `commentLineOk2B` holds there too — the next line is description text
    (k = 1) or a comment (k = 3) — in both error modes -/
example : (MState.init Gen.dialects (lit "en")).map (fun μ =>
      (List.range 7).map fun k =>
        (Spec.commentLineOkB Gen.dialects Gen.parserTable false μ 0 C16_descDoc k (lit "#n\n"),
         Spec.commentLineOk2B Gen.dialects Gen.parserTable false μ 0 C16_descDoc k (lit "#n\n"),
         Spec.commentLineOk2B Gen.dialects Gen.parserTable true μ 0 C16_descDoc k (lit "#n\n"))) =
    some [(true, true, true), (false, true, true), (true, true, true), (false, true, true), (true, true, true),
          (true, true, true), (true, true, true)] := by
  rw [C16_descDoc]
  lit_lists
  kdecide

/-- the conclusion there: the inserted comment at line 2 (resp. 4), the comment `# old` moved down,
    the descriptions unchanged -/
example : (MState.init Gen.dialects (lit "en")).map (fun μ =>
      [C16_commentsOf (parseWith Gen.dialects Gen.parserTable false μ 0 C16_descDoc).1,
       C16_commentsOf (parseWith Gen.dialects Gen.parserTable false μ 0
         (lit "Feature: f\n#n\n  free text\nScenario: s\n  # old\n  more\n  Given x\n")).1,
       C16_commentsOf (parseWith Gen.dialects Gen.parserTable false μ 0
         (lit "Feature: f\n  free text\nScenario: s\n#n\n  # old\n  more\n  Given x\n")).1]) =
    some [[(⟨4, some 1⟩, lit "  # old")],
          [(⟨2, some 1⟩, lit "#n"), (⟨5, some 1⟩, lit "  # old")],
          [(⟨4, some 1⟩, lit "#n"), (⟨5, some 1⟩, lit "  # old")]] := by
  rw [C16_descDoc]
  lit_lists
  kdecide

example : (MState.init Gen.dialects (lit "en")).map (fun μ =>
      [C16_scenarioDescr (parseWith Gen.dialects Gen.parserTable false μ 0 C16_descDoc).1,
       C16_scenarioDescr (parseWith Gen.dialects Gen.parserTable false μ 0
         (lit "Feature: f\n  free text\nScenario: s\n#n\n  # old\n  more\n  Given x\n")).1]) =
    some [[lit "  more"], [lit "  more"]] := by
  rw [C16_descDoc]
  lit_lists
  kdecide

/-- NOT COVERED / COUNTEREXAMPLE: directly after a keyword line the check answers `false` when a step
    follows and at the end of the text (there the conclusion holds: `C16_comment_line_document_all`),
    and when a blank line follows (there it FAILS: the blank line becomes description text) -/
example : (MState.init Gen.dialects (lit "en")).map (fun μ =>
      (Spec.commentLineOk2B Gen.dialects Gen.parserTable false μ 0 (lit "Feature: f\nScenario: s\nGiven x\n") 2 (lit "#n\n"),
       Spec.commentLineOk2B Gen.dialects Gen.parserTable false μ 0 (lit "Feature: f\nScenario: s\n\n d\nGiven x\n") 2 (lit "#n\n"),
       Spec.commentLineOk2B Gen.dialects Gen.parserTable false μ 0 (lit "Feature: f\n") 1 (lit "#n\n"))) =
    some (false, false, false) := by
  lit_lists
  kdecide

/-- the table predicate: exactly the eight states directly after a keyword line -/
example : (Gen.parserTable.rows.filter fun r => Spec.commentOpensDescription Gen.parserTable r.id).map
      (fun r => (r.id, Spec.descTarget Gen.parserTable r.id)) =
    [(3, 4), (5, 6), (10, 11), (15, 16), (19, 20), (21, 22), (26, 27), (31, 32)] := by kdecide

end GV
