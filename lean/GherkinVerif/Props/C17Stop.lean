/-
  Props/C17Stop.lean — property C17 (and C01: "the stream API turns any source into gherkinDocument,
  pickle and parseError envelopes only") for a stream whose parser was switched to
  stop-at-first-error mode (`events.parser.stop_at_first_error = True`; `Model/Stream.lean:
  streamEnumMode`).  Everything is reduced to the collecting-mode stream `streamEnum`, about which
  Props/C17.lean, C01Pipeline.lean and C11Pipeline.lean speak, through the mode theorems of
  Props/C14Stop.lean.
-/
import GherkinVerif.Props.C17
import GherkinVerif.Props.C14Stop
import GherkinVerif.Lemmas.Lit
namespace GV

theorem C17_streamEnumMode_false (D : List Dialect) (T : Table) (opts : Opts) (ids : Nat) (uri data : Str) :
    streamEnumMode D T false opts ids uri data = streamEnum D T opts ids uri data := rfl

theorem C17_streamAllMode_false (D : List Dialect) (T : Table) (opts : Opts) (srcs : List (Str × Str)) (ids : Nat) :
    streamAllMode D T false opts srcs ids = streamAll D T opts srcs ids := by
  induction srcs generalizing ids with
  | nil => rfl
  | cons p rest ih =>
    obtain ⟨uri, data⟩ := p
    simp only [streamAllMode, streamAll, C17_streamEnumMode_false, ih]

/-- ACCEPTED source: the stop-mode stream yields exactly what the collecting stream yields — same
    envelopes in the same order, same id counter afterwards. -/
theorem C17_stop_mode_accepted (D : List Dialect) (T : Table) (opts : Opts) (ids : Nat) (uri data : Str)
    (μ : MState) (hμ : MState.init D (lit "en") = some μ) (d : Doc)
    (h : (parseWith D T false μ ids data).1 = .ok d) :
    streamEnumMode D T true opts ids uri data = streamEnum D T opts ids uri data := by
  have hrun : parseWith D T true μ ids data = parseWith D T false μ ids data :=
    C14_accept_same_run D T μ ids data d (Or.inr h)
  unfold streamEnumMode streamEnum
  simp only [hμ, hrun]

/-- REJECTED source: the stop-mode stream yields exactly ONE parseError envelope, for the first error
    the collecting stream reports — nothing else, whatever the print options. -/
theorem C17_stop_mode_rejected (D : List Dialect) (T : Table) (opts : Opts) (ids : Nat) (uri data : Str)
    (μ : MState) (hμ : MState.init D (lit "en") = some μ) (e : PErr) (rest : List PErr) (comp : Bool)
    (h : (parseWith D T false μ ids data).1 = .rejected (e :: rest) comp) :
    (streamEnumMode D T true opts ids uri data).1 = [Envelope.parseError uri e] ∧
    (streamEnum D T opts ids uri data).1 = (e :: rest).map (Envelope.parseError uri) := by
  have hs := C14_stop_is_first D T μ ids data e rest comp h
  exact ⟨congrArg Prod.fst (Lemmas.streamEnumMode_rejected D T true opts ids uri data μ hμ [e] false hs),
    Lemmas.stream_rejected D T opts ids uri data μ hμ (e :: rest) comp h⟩

/-- Envelope kinds: whatever the mode, a rejected source gives parseError envelopes only, one per
    reported error, each with the uri. -/
theorem C17_mode_rejected_envelopes (D : List Dialect) (T : Table) (stop : Bool) (opts : Opts) (ids : Nat) (uri data : Str)
    (μ : MState) (hμ : MState.init D (lit "en") = some μ) (es : List PErr) (comp : Bool)
    (h : (parseWith D T stop μ ids data).1 = .rejected es comp) :
    streamEnumMode D T stop opts ids uri data =
      (es.map (Envelope.parseError uri), (parseWith D T stop μ ids data).2.ids) :=
  Lemmas.streamEnumMode_rejected D T stop opts ids uri data μ hμ es comp h

/-- non-vacuity: a rejected English document with two errors; stop mode shows the first only -/
example : (streamEnumMode Gen.dialects Gen.parserTable true ⟨true, true, true⟩ 0 (lit "u") (lit "Feature: f\nScenario: s\nGiven a\nFeature: g\nFeature: h\n")).1.length = 1 ∧
    (streamEnum Gen.dialects Gen.parserTable ⟨true, true, true⟩ 0 (lit "u") (lit "Feature: f\nScenario: s\nGiven a\nFeature: g\nFeature: h\n")).1.length = 2 := by
  lit_lists
  kdecide

end GV
