/-
  Props/C11.lean — property C11: ids unique, dense, canonically ordered; references resolve.
-/
import GherkinVerif.Lemmas.Compile
namespace GV

/-- Pickle part: starting from counter `n`, the compiler draws consecutive ids in the canonical
    order "each pickle's steps, then the pickle", and leaves the counter just past the last. -/
theorem C11_pickle_ids (uri : Str) (doc : Doc) (n : Nat) (ps : List Pickle) (n' : Nat)
    (h : compile uri doc n = some (ps, n')) :
    Spec.idOrder ps = List.range' n (n' - n) ∧ n ≤ n' :=
  Lemmas.compile_ids uri doc n ps n' h

theorem C11_pickle_ids_nodup (uri : Str) (doc : Doc) (n : Nat) (ps : List Pickle) (n' : Nat)
    (h : compile uri doc n = some (ps, n')) : (Spec.idOrder ps).Nodup := by
  rw [(C11_pickle_ids uri doc n ps n' h).1]
  exact List.nodup_range'

end GV
