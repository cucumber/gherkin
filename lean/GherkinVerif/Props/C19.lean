/-
  Props/C19.lean — property C19: the Markdown token matcher (`GherkinInMarkdownTokenMatcher`,
  model `GV.Md`) recognises Gherkin lines as MARKDOWN_WITH_GHERKIN.md specifies, at line level.
  Property theorems only; helper lemmas live in Lemmas/Markdown.lean (and Lemmas/Keywords.lean),
  the Boolean dialect-table facts in Spec/DialectFacts.lean.

  Conventions: `35` is `#`, `58` is `:`, `124` is `|`, `96` a backtick, `64` is `@`, `45` is `-`,
  `42 43 45` are the bullets `* + -`; `ws`, `blanks` are runs of whitespace code points
  (`isSpace`); `dotStar s` is `s` up to its first line feed.  A token matched with
  `indent := some i` has column `i + 1` (`C19_token_fields`).
-/
import GherkinVerif.Lemmas.Markdown
import GherkinVerif.Lemmas.FactsDialects
import GherkinVerif.Gen.Dialects
import GherkinVerif.KDecide
import GherkinVerif.Lemmas.Lit
namespace GV
open Spec Md

/-- Facts about the shipped dialect table (they follow from the two checkers the kernel evaluates
    on the regenerated table, Lemmas/FactsDialects.lean): no title keyword contains `:`; no keyword
    starts with whitespace (nor `#`, `@`, `|`, `"""`, three backticks); no keyword is empty. -/
theorem C19_dialect_facts : Spec.markdownFacts Gen.dialects = true := Facts.markdownFacts_dialects

/-- The header pattern `^(#{1,6}\s)(kw…):(.*)`: for a keyword `k` of a colon-free list, depth
    `1 ≤ n ≤ 6`, one whitespace code point `b` and any title, the match has prefix length
    `n + 1`, keyword exactly `k` (whatever the list order) and the title up to the first line
    feed, stripped. -/
theorem C19_header_keyword (kws : List Str) (n b : Nat) (k title : Str) (hk : k ∈ kws)
    (hcf : ∀ k' ∈ kws, 58 ∉ k') (h1 : 1 ≤ n) (h6 : n ≤ 6) (hb : isSpace b = true) :
    headerMatch kws (List.replicate n 35 ++ [b] ++ k ++ [58] ++ title) =
      some ⟨n + 1, k, strip (dotStar title)⟩ :=
  Lemmas.headerMatch_keyword kws n b k title hk hcf h1 h6 hb

/-- No header match with no `#`, with seven or more `#`, or when the `#` run is not followed by
    a whitespace code point (`r` is what follows the `n` hashes, so it does not start with `#`). -/
theorem C19_header_none (kws : List Str) (n : Nat) (r : Str) (hr : r.head? ≠ some 35)
    (h : n = 0 ∨ 7 ≤ n ∨ noWsStart r = true) : headerMatch kws (List.replicate n 35 ++ r) = none :=
  Lemmas.headerMatch_none kws n r hr h

/-- Through `match_<Kind>` of the Markdown matcher, for every dialect of the shipped table, every
    title kind, every keyword listed for it (scenario-outline keywords included under
    ScenarioLine), any leading whitespace `ws`, depth 1–6, any blank and title: the line is
    matched with keyword `k`, the trimmed title, and indent `|ws| + n + 1` — i.e. column
    `|ws| + n + 2`, the column of the keyword. -/
theorem C19_header_line (ty : Kind) (hty : ty.isTitle = true) (μ : MState)
    (hμ : μ.dialect ∈ Gen.dialects) (t : Token) (ws : Str) (n b : Nat) (k title : Str)
    (hk : k ∈ μ.dialect.roleKeywords ty) (hws : ∀ c ∈ ws, isSpace c = true)
    (h1 : 1 ≤ n) (h6 : n ≤ 6) (hb : isSpace b = true) :
    Md.matchLine ty μ t (ws ++ List.replicate n 35 ++ [b] ++ k ++ [58] ++ title) =
      some (some (setMatched μ t ty (text := some (strip (dotStar title))) (keyword := some k)
        (indent := some (ws.length + n + 1)))) :=
  Lemmas.md_header_in_table Gen.dialects C19_dialect_facts ty hty μ hμ t ws n b k title hk hws h1 h6 hb

/-- … and the same for any dialect whose role keywords are colon-free (not only the shipped ones). -/
theorem C19_header_line_generic (ty : Kind) (hty : ty.isTitle = true) (μ : MState) (t : Token)
    (ws : Str) (n b : Nat) (k title : Str) (hk : k ∈ μ.dialect.roleKeywords ty)
    (hcf : ∀ k' ∈ μ.dialect.roleKeywords ty, 58 ∉ k') (hws : ∀ c ∈ ws, isSpace c = true)
    (h1 : 1 ≤ n) (h6 : n ≤ 6) (hb : isSpace b = true) :
    Md.matchLine ty μ t (ws ++ List.replicate n 35 ++ [b] ++ k ++ [58] ++ title) =
      some (some (setMatched μ t ty (text := some (strip (dotStar title))) (keyword := some k)
        (indent := some (ws.length + n + 1)))) :=
  Lemmas.md_matchLine_header ty hty μ t ws n b k title hk hcf hws h1 h6 hb

/-- Fields of a token matched with text `strip text`, keyword `k` and explicit indent `i`:
    column `i + 1`, the dialect in force. -/
theorem C19_token_fields (μ : MState) (t : Token) (ty : Kind) (text k : Str) (i : Nat) :
    let t' := setMatched μ t ty (text := some (strip text)) (keyword := some k) (indent := some i)
    t'.mtype = some ty ∧ t'.keyword = some k ∧ t'.text = some (strip text) ∧ t'.col = some (i + 1) ∧
    t'.dialect = μ.name :=
  Lemmas.md_token_fields μ t ty text k i

/-- The bullet pattern `^(\s*[*+-]\s*)(kw…)(.*)` on a trimmed line: bullet, a whitespace run
    `blanks`, then `x` not starting with whitespace; when no keyword starts with whitespace the
    backtracking of the blank run never succeeds at a shorter run, so the match is the FIRST
    listed keyword prefixing `x` (none if there is none), with prefix length `1 + |blanks|`. -/
theorem C19_bullet_step (kws : List Str) (b : Nat) (blanks x : Str) (hb : b = 42 ∨ b = 43 ∨ b = 45)
    (hbl : ∀ c ∈ blanks, isSpace c = true) (hx : noWsStart x = true)
    (hk : ∀ k ∈ kws, noWsStart k = true) :
    bulletMatch kws ([b] ++ blanks ++ x) =
      (firstKeyword kws [] x).map fun k => ⟨1 + blanks.length, k, strip (dotStar (x.drop k.length))⟩ :=
  Lemmas.bulletMatch_spec kws b blanks x hb hbl hx hk

/-- … with the keyword explicit: `k` listed, non-empty, no earlier listed keyword prefixing
    `k ++ rest`; the text is `rest` up to the first line feed, stripped. -/
theorem C19_bullet_step_keyword (kws pre post : List Str) (b : Nat) (blanks k rest : Str)
    (hsplit : kws = pre ++ k :: post) (hpre : ∀ k' ∈ pre, startsWith k' (k ++ rest) = false)
    (hb : b = 42 ∨ b = 43 ∨ b = 45) (hbl : ∀ c ∈ blanks, isSpace c = true) (hne : k ≠ [])
    (hk : ∀ k ∈ kws, noWsStart k = true) :
    bulletMatch kws ([b] ++ blanks ++ k ++ rest) = some ⟨1 + blanks.length, k, strip (dotStar rest)⟩ :=
  Lemmas.bulletMatch_keyword kws pre post b blanks k rest hsplit hpre hb hbl hne hk

/-- A trimmed line whose first code point is not a bullet (or that is empty) is no step. -/
theorem C19_bullet_none (kws : List Str) (s : Str)
    (h : ∀ b r, s = b :: r → b ≠ 42 ∧ b ≠ 43 ∧ b ≠ 45) : bulletMatch kws s = none :=
  Lemmas.bulletMatch_no_bullet kws s h

/-- Through `match_StepLine` of the Markdown matcher, for every dialect of the shipped table:
    `ws ++ bullet ++ blanks ++ k ++ rest` is a step with keyword `k` — the first listed step
    keyword prefixing `k ++ rest` — and indent `|ws| + 1 + |blanks|`, i.e. the column of the
    keyword. -/
theorem C19_bullet_line (μ : MState) (hμ : μ.dialect ∈ Gen.dialects) (t : Token) (ws : Str) (b : Nat)
    (blanks k rest : Str) (pre post : List Str) (hsplit : μ.dialect.stepKeywords = pre ++ k :: post)
    (hpre : ∀ k' ∈ pre, startsWith k' (k ++ rest) = false)
    (hws : ∀ c ∈ ws, isSpace c = true) (hb : b = 42 ∨ b = 43 ∨ b = 45)
    (hbl : ∀ c ∈ blanks, isSpace c = true) :
    Md.matchLine .StepLine μ t (ws ++ [b] ++ blanks ++ k ++ rest) =
      some (some (setMatched μ t .StepLine (text := some (strip (dotStar rest))) (keyword := some k)
        (indent := some (ws.length + 1 + blanks.length)))) :=
  Lemmas.md_bullet_in_table Gen.dialects C19_dialect_facts μ hμ t ws b blanks k rest pre post hsplit hpre
    hws hb hbl

/-- Table rows: the indentation test accepts exactly the lines that start with two to five
    whitespace code points followed by `|`. -/
theorem C19_table_indent (l : Str) :
    rowIndentOk l = true ↔
      ∃ ws rest, l = ws ++ 124 :: rest ∧ (∀ c ∈ ws, isSpace c = true) ∧ 2 ≤ ws.length ∧ ws.length ≤ 5 :=
  Lemmas.rowIndentOk_iff l

/-- A cell is a GFM separator exactly when it is an optional `:`, one or more `-`, an optional
    `:`, and optionally one final line feed. -/
theorem C19_separator_cell (s : Str) : isSeparatorCell s = true ↔ SeparatorShape s :=
  Lemmas.isSeparatorCell_iff s

/-- `match_TableRow` of the Markdown matcher succeeds iff the indentation is right and no cell is
    a separator; the token then carries the cells and keyword `|`. -/
theorem C19_table_row (μ : MState) (t : Token) (l : Str) :
    Md.matchLine .TableRow μ t l =
      if rowIndentOk l = true ∧ ∀ c ∈ tableCells l, isSeparatorCell c.2 = false then
        some (some (setMatched μ t .TableRow (keyword := some [124]) (items := tableCells l)))
      else some none :=
  Lemmas.md_matchLine_row μ t l

/-- Tags, characterised by three equations that determine `tagSpans` on every string: nothing in
    the empty string; a complete span — backtick, `@`, non-empty backtick-free body, backtick — at
    the front is reported at offset 0 as `@body` and scanning resumes behind its closing
    backtick; where no complete span starts, scanning moves on by one code point.
    (`Lemmas.shiftSpans n` adds `n` to every offset.) -/
theorem C19_tags :
    tagSpans [] = [] ∧
    (∀ body post : Str, body ≠ [] → 96 ∉ body →
      tagSpans ([96, 64] ++ body ++ [96] ++ post) =
        (0, 64 :: body) :: Lemmas.shiftSpans (body.length + 3) (tagSpans post)) ∧
    (∀ (c : Nat) (cs : Str),
      (¬ ∃ body post, body ≠ [] ∧ 96 ∉ body ∧ c :: cs = [96, 64] ++ body ++ [96] ++ post) →
      tagSpans (c :: cs) = Lemmas.shiftSpans 1 (tagSpans cs)) :=
  ⟨Lemmas.tagSpans_nil, Lemmas.tagSpans_span, Lemmas.tagSpans_step⟩

/-- Consequence: a line written as segments `pre_i ++ backtick ++ @body_i ++ backtick` (each
    `pre_i` free of backtick-`@`, each body non-empty and backtick-free) followed by any `post`
    yields exactly those tags, in order, each with the offset of its opening backtick, followed
    by whatever `post` contains. -/
theorem C19_tags_in_order (segs : List (Str × Str)) (post : Str)
    (h : ∀ x ∈ segs, noTagOpen x.1 = true ∧ x.2 ≠ [] ∧ 96 ∉ x.2) :
    tagSpans (renderTagLine segs post) =
      expectedSpans segs 0 ++ Lemmas.shiftSpans (segmentsLength segs) (tagSpans post) :=
  Lemmas.tagSpans_render segs post h

/-- … and a string without backtick has no tags. -/
theorem C19_tags_none (s : Str) (h : 96 ∉ s) : tagSpans s = [] :=
  Lemmas.tagSpans_no_backtick s h

/-- `match_TagLine` of the Markdown matcher fails iff the trimmed line has no tag span; otherwise
    each tag is reported with column `indent + offset + 2`: the offset is that of the opening
    backtick in the trimmed line, counted from 0, so this is the 1-based column of the `@`. -/
theorem C19_tag_line (μ : MState) (t : Token) (l : Str) :
    Md.matchLine .TagLine μ t l =
      if tagSpans (trimmed l) = [] then some none
      else some (some (setMatched μ t .TagLine
        (items := (tagSpans (trimmed l)).map fun (st, tx) => (lineIndent l + st + 2, tx)))) :=
  Lemmas.md_matchLine_tags μ t l

/-- Lines lacking the prefix: a line whose trimmed text does not start with `#` matches no title
    kind, and one whose trimmed text does not start with a bullet matches no step — for every
    dialect. -/
theorem C19_no_prefix_no_match (μ : MState) (t : Token) (l : Str) :
    ((trimmed l).head? ≠ some 35 → ∀ ty : Kind, ty.isTitle = true → Md.matchLine ty μ t l = some none) ∧
    ((∀ b r, trimmed l = b :: r → b ≠ 42 ∧ b ≠ 43 ∧ b ≠ 45) → Md.matchLine .StepLine μ t l = some none) :=
  Lemmas.md_no_prefix μ t l

/-- French scenario-outline header at depth 3, indented by one blank: keyword verbatim, trimmed
    title, column 6 (1 blank + 3 hashes + 1 blank + 1). -/
example :
    ((MState.init Gen.dialects (lit "fr")).bind fun μ =>
      let l := lit " ### Plan du scénario:  Un titre \n"
      (Md.matchLine .ScenarioLine μ ⟨some l, 1, none, none, none, none, none, 0, [], []⟩ l).bind fun o =>
        o.map fun tok => (tok.keyword, tok.text, tok.col)) =
    some (some (lit "Plan du scénario"), some (lit "Un titre"), some 6) := by
  lit_lists
  kdecide

/-- French bullet steps: `- Soit un x`, and `*  Étant donné qu'il pleut` (two blanks after the
    bullet) where `Étant donné qu'` is listed before the shorter `Étant donné `. -/
example :
    ((MState.init Gen.dialects (lit "fr")).bind fun μ =>
      [lit "  - Soit un x\n", lit "*  Étant donné qu'il pleut\n"].mapM fun l =>
        (Md.matchLine .StepLine μ ⟨some l, 1, none, none, none, none, none, 0, [], []⟩ l).bind fun o =>
          o.map fun tok => (tok.keyword, tok.text, tok.col)) =
    some [(some (lit "Soit "), some (lit "un x"), some 5),
          (some (lit "Étant donné qu'"), some (lit "il pleut"), some 4)] := by
  lit_lists
  kdecide

/-- The same words without header or bullet prefix are neither a title line nor a step. -/
example :
    ((MState.init Gen.dialects (lit "fr")).map fun μ =>
      [(Kind.ScenarioLine, lit "Plan du scénario: Un titre\n"), (Kind.StepLine, lit "Soit un x\n"),
       (Kind.FeatureLine, lit "#Fonctionnalité: sans blanc\n"),
       (Kind.FeatureLine, lit "####### Fonctionnalité: sept\n")].map fun (k, l) =>
        (Md.matchLine k μ ⟨some l, 1, none, none, none, none, none, 0, [], []⟩ l).map Option.isSome) =
    some [some false, some false, some false, some false] := by
  lit_lists
  kdecide

/-- Table indentation 0–7, separator shapes, tag spans with their offsets. -/
example : (List.range 8).map (fun n => rowIndentOk (List.replicate n 32 ++ lit "| a |\n")) =
    [false, false, true, true, true, true, false, false] := by
  lit_lists
  kdecide

example : [lit "---", lit ":-:", lit ":--", lit "-:\n", lit "-", lit "", lit ":", lit "- -", lit "-a"].map isSeparatorCell =
    [true, true, true, true, true, false, false, false, false] := by
  lit_lists
  kdecide

example : tagSpans (lit "`@a` x `code` `@bc`` `@` `@d") = [(0, lit "@a"), (14, lit "@bc")] := by
  lit_lists
  kdecide

example : renderTagLine [(lit "", lit "a"), (lit " x `code` ", lit "bc")] (lit "` `@` `@d") =
    lit "`@a` x `code` `@bc`` `@` `@d" := by
  lit_lists
  kdecide

end GV
