/-
  Props/C03Roundtrip4.lean — property C03 "from the document outwards", fourth model: the model of
  Props/C03Roundtrip3.lean plus EXAMPLES blocks on a scenario.

  Model (Spec/Render4.lean): `MExamples = (tags, kw, name, table)` (`[]` = no table, else head = header
  row, tail = body rows), `MScenario4 = (tags, kw, name, steps, examples)`, `MFeature4`.  `render4`
  writes, after a scenario's steps, for each examples block: the optional tag line at column 1,
  `<examples kw>: <name>` at column 1, the rows as `    | a | b |` (the `|` at column 5).  `WF4 d m` =
  `WF3` plus, per block, `examplesOK`: tags `tagOK`, keyword in `d.examples`, name `cleanText`,
  `tableOK` (rectangular, ≥ 1 cell per row, cells `cellOK`).  Examples are allowed under ANY scenario
  keyword (the parser does not distinguish Scenario from Scenario Outline).  `expectedDoc4`: per
  block the rows draw their ids first, then the block's tags, then the block; all blocks of a scenario
  after its steps and before the scenario's own tags and the scenario; `tableHeader` = first row,
  `tableBody` = the others, both absent without a table.

  Proof as for the second model (`Lemmas.roundtrip4_pure`, on `C03R_table`); `C03R4_fact_table`: this
  model's own checker `Lemmas.rt4Facts` (Lemmas/RoundtripFacts.lean) holds.  A tag line followed by an examples line takes the `TagLine` branch
  guarded by look-ahead 1 (`Lemmas.try_tag1`); the scenario's own tag line takes the look-ahead-0
  branch (look-ahead 1 fails on a scenario line).  Each clause of `examplesOK` is shown necessary by
  a kernel-evaluated counterexample.
-/
import GherkinVerif.Props.C03Roundtrip
import GherkinVerif.Lemmas.Lit
namespace GV
open Spec

theorem C03R4_fact_table : Lemmas.rt4Facts Gen.parserTable = true := Facts.rt4Facts_table

/-- **C03, round trip, examples blocks, optional background, steps with data tables.** -/
theorem C03_roundtrip4 (stop : Bool) (μ : MState)
    (hμ : (μ.reset Gen.dialects).dialect ∈ Gen.dialects) (ids : Nat) (m : MFeature4)
    (hwf : WF4 (μ.reset Gen.dialects).dialect m = true) :
    (parseWith Gen.dialects Gen.parserTable stop μ ids (render4 m)).1 =
      .ok (expectedDoc4 (μ.reset Gen.dialects).dialect (μ.reset Gen.dialects).name m ids) :=
  (C03R_of_pure hμ (Lemmas.roundtrip4_pure C03R_fact_keywords C03R_fact_render _ _ C03R_table stop μ hμ ids m hwf)).1

/-- … and the id counter afterwards: one id per table row, step, background, examples block, tag
    and scenario. -/
theorem C03_roundtrip4_counter (stop : Bool) (μ : MState)
    (hμ : (μ.reset Gen.dialects).dialect ∈ Gen.dialects) (ids : Nat) (m : MFeature4)
    (hwf : WF4 (μ.reset Gen.dialects).dialect m = true) :
    (parseWith Gen.dialects Gen.parserTable stop μ ids (render4 m)).2.ids = idsAfter4 m ids :=
  (C03R_of_pure hμ (Lemmas.roundtrip4_pure C03R_fact_keywords C03R_fact_render _ _ C03R_table stop μ hμ ids m hwf)).2

/-- the third model is the examples-free part of the fourth: same text -/
theorem C03_roundtrip4_model3 (m : MFeature3) : render4 m.toModel4 = render3 m := Lemmas.render4_toModel4 m

section examples

/-- an outline with two examples blocks (one tagged with a table — an empty cell included —, one
    without a table), a tagged scenario with a header-only block and no steps, a plain scenario -/
def C03R4_demo : MFeature4 := MFeature4.ofStrings ["@f"] "Feature" "F"
  [("Background", "bg", [("Given ", "a", [])])]
  [([], "Scenario Outline", "one", [("When ", "b <x>", []), ("Then ", "c", [["q"]])],
      [(["@e1", "@e2"], "Examples", "first", [["x", "y"], ["1", "2"], ["3", ""]]), ([], "Scenarios", "", [])]),
   (["@t"], "Scenario", "two", [], [([], "Examples", "only header", [["h"]])]),
   ([], "Example", "three", [("* ", "d", [])], [])]

example : (MState.init Gen.dialects (lit "en")).map (fun μ =>
    (WF4 μ.dialect C03R4_demo,
     render4 C03R4_demo == lit "@f\nFeature: F\nBackground: bg\n  Given a\nScenario Outline: one\n  When b <x>\n  Then c\n    | q |\n@e1 @e2\nExamples: first\n    | x | y |\n    | 1 | 2 |\n    | 3 |  |\nScenarios: \n@t\nScenario: two\nExamples: only header\n    | h |\nExample: three\n  * d\n",
     decide (C03R_okDoc (parseWith Gen.dialects Gen.parserTable false μ 7 (render4 C03R4_demo)).1 =
       some (expectedDoc4 μ.dialect μ.name C03R4_demo 7)),
     decide (C03R_okDoc (parseWith Gen.dialects Gen.parserTable true μ 7 (render4 C03R4_demo)).1 =
       some (expectedDoc4 μ.dialect μ.name C03R4_demo 7)),
     (parseWith Gen.dialects Gen.parserTable true μ 7 (render4 C03R4_demo)).2.ids == idsAfter4 C03R4_demo 7)) =
    some (true, true, true, true, true) := by
  lit_lists
  kdecide

end examples

section necessity

def C03R4_variant (tags : List String) (kw name : String) (table : List (List String)) : Option (Bool × Bool) :=
  (MState.init Gen.dialects (lit "en")).map fun μ =>
    let m := MFeature4.ofStrings [] "Feature" "f" []
      [([], "Scenario", "s", [("Given ", "x", [])], [(tags, kw, name, table)])]
    (WF4 μ.dialect m,
     decide (C03R_okDoc (parseWith Gen.dialects Gen.parserTable false μ 0 (render4 m)).1 =
       some (expectedDoc4 μ.dialect μ.name m 0)))

example : C03R4_variant ["@a"] "Examples" "e" [["h"], ["1"]] = some (true, true) := by kdecide
/-- a tag with a blank; a keyword of another role; a misspelt keyword -/
example : C03R4_variant ["@a b"] "Examples" "e" [["h"]] = some (false, false) := by kdecide
example : C03R4_variant [] "Scenario" "e" [["h"]] = some (false, false) := by kdecide
example : C03R4_variant [] "Exemples" "e" [["h"]] = some (false, false) := by kdecide
/-- a name with a trailing blank; a ragged table; a cell with a bar -/
example : C03R4_variant [] "Examples" "e " [["h"]] = some (false, false) := by kdecide
example : C03R4_variant [] "Examples" "e" [["h"], ["1", "2"]] = some (false, false) := by kdecide
example : C03R4_variant [] "Examples" "e" [["a|b"]] = some (false, false) := by kdecide

end necessity

end GV
