/-
  Props/C12.lean — property C12: table cells are split and unescaped as documented; tables
  are rectangular.  Property theorems only; helper lemmas live in Lemmas/Cells.lean.
-/
import GherkinVerif.Lemmas.Cells
import GherkinVerif.KDecide
import GherkinVerif.Lemmas.Lit
namespace GV

/-- The single-pass loop of `split_table_cells` + `table_cells` computes exactly the documented
    two-phase reading (texts and columns), for every physical line. -/
theorem C12_split_eq_spec (line : Str) : tableCells line = Spec.cells line :=
  Lemmas.tableCells_eq_spec line

/-- Round trip: cell texts without blanks at their ends, written with the three escapes and any
    blank padding, are read back unchanged. -/
theorem C12_roundtrip (cells : List (Str × Str × Str))
    (h : ∀ x ∈ cells, (∀ c ∈ x.1, isBlank c = true) ∧ (∀ c ∈ x.2.2, isBlank c = true) ∧ Spec.Trimmed x.2.1) :
    Spec.cellTexts (Spec.renderRow cells) = cells.map (·.2.1) :=
  Lemmas.cellTexts_renderRow cells h

/-- … and through the model of the code on a whole physical line: any indentation, any trailing
    whitespace (including the line break). -/
theorem C12_roundtrip_line (ind tail : Str) (cells : List (Str × Str × Str))
    (hi : ∀ c ∈ ind, isSpace c = true) (ht : ∀ c ∈ tail, isSpace c = true)
    (h : ∀ x ∈ cells, (∀ c ∈ x.1, isBlank c = true) ∧ (∀ c ∈ x.2.2, isBlank c = true) ∧ Spec.Trimmed x.2.1) :
    (tableCells (ind ++ Spec.renderRow cells ++ tail)).map (·.2) = cells.map (·.2.1) :=
  Lemmas.tableCells_renderRow ind tail cells hi ht h

/-- `ensure_cell_count`: no row is reported iff all rows have the first row's cell count … -/
theorem C12_rectangular_iff (rows : List Row) :
    raggedRow rows = none ↔ ∀ r ∈ rows, ∀ r0, rows.head? = some r0 → r.cells.length = r0.cells.length :=
  Lemmas.raggedRow_none_iff rows

/-- … and the row reported is the first deviating one. -/
theorem C12_ragged_first (rows : List Row) (r : Row) (h : raggedRow rows = some r) :
    ∃ pre post r0, rows = pre ++ r :: post ∧ rows.head? = some r0 ∧
      r.cells.length ≠ r0.cells.length ∧ ∀ x ∈ pre, x.cells.length = r0.cells.length :=
  Lemmas.raggedRow_some_first rows r h

/-- non-vacuity: a concrete row with an escaped pipe, an escaped newline preceded by a blank
    (the case the unrepaired code got wrong), and an empty cell. -/
example : tableCells (lit "  | a \\n| b\\|c |  |\n") = [(5, lit "a \n"), (11, lit "b|c"), (19, [])] := by
  lit_lists
  kdecide

end GV
