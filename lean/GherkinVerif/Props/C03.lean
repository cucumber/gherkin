/-
  Props/C03.lean — property C03: the AST carries every element of the document once, in order,
  with exact text.  Property theorems only; helper lemmas live in Lemmas/Builder.lean.

  Node level.  What is proved here holds for ALL item lists, tokens and counters: (1) a node's
  sub-items of one kind are kept in insertion order (= source order: the builder is fed tokens
  and `end_rule`s in source order);
  (2) comments are collected aside and never enter a node; (3) for every rule type, what
  `transformNode` makes of a node, field by field, in terms of the node's items; (4) steps and
  backgrounds crash exactly when a needed token or field is missing — nothing is defaulted.
  Elsewhere: that the stack machine run over a derivation tree is a fold (`C03_ast_of_tree`) and
  `C03_leaves_once_in_order` (Props/C03Tree.lean), the text-level field rules (`name = strip (rest
  of line)`, facts about the matcher; Props/C03Fields.lean), the generator round trip
  (Props/C03Roundtrip*.lean).

  Vocabulary (defined at the top of Lemmas/Builder.lean, all pure readings of an item list):
  `Spec.descOf` (the first `Description` item or `[]`), `Spec.tagTokens` (the tag lines of the
  `Tags` item), `Spec.numberTags` / `Spec.numberRows` (tags / rows numbered consecutively),
  `Spec.stepArgOf`, `Spec.tableOf`, `Spec.featureOf`, `Spec.getExamples`, `Spec.getRules`.
-/
import GherkinVerif.Lemmas.Builder
namespace GV
open Spec

/-- `_sub_items[k]` is an order-preserving reading of the insertion-ordered item list: it
    distributes over concatenation (so nothing is reordered, dropped or duplicated); adding an
    item of key `k` at the end adds it at the end of `_sub_items[k]`; adding an item of another
    key leaves `_sub_items[k]` alone. -/
theorem C03_children_in_order (items more : List (Key × Val)) (k k' : Key) (v : Val) :
    getItems (items ++ more) k = getItems items k ++ getItems more k ∧
    getItems (items ++ [(k, v)]) k = getItems items k ++ [v] ∧
    (k' ≠ k → getItems (items ++ [(k', v)]) k = getItems items k) :=
  ⟨Lemmas.getItems_append items more k, Lemmas.getItems_snoc_same items k v,
   Lemmas.getItems_snoc_other items k k' v⟩

/-- `add` on the current node appends at the end of the top node and touches nothing else;
    on an empty stack it fails. -/
theorem C03_addToTop_appends (top : Node) (rest : List Node) (k : Key) (v : Val) :
    addToTop (top :: rest) k v = some (⟨top.rt, top.items ++ [(k, v)]⟩ :: rest) ∧
    addToTop [] k v = none :=
  ⟨rfl, rfl⟩

/-- `build` of a matched non-comment token appends the token, under its kind, at the end of the
    current node: after everything added earlier.  The rest of the stack and the comments are
    unchanged. -/
theorem C03_build_appends (β : BState) (t : Token) (k : Kind) (top : Node) (rest : List Node)
    (hk : t.mtype = some k) (hc : k ≠ .Comment) (hs : β.stack = top :: rest) :
    β.build t = .ok { stack := ⟨top.rt, top.items ++ [(.tok k, .tok t)]⟩ :: rest, comments := β.comments } :=
  Lemmas.build_token β t k top rest hk hc hs

theorem C03_build_tokens_in_order (items : List (Key × Val)) (k : Kind) (t : Token) :
    getTokens (items ++ [(.tok k, .tok t)]) k = getTokens items k ++ [t] :=
  Lemmas.getTokens_snoc_same items k t

/-- A successful `end_rule` pops the finished node and appends its transformed value, under its
    rule type, at the end of the parent node; the counter is the one `transformNode` left. -/
theorem C03_endRule_appends (β : BState) (node parent : Node) (rest : List Node) (n n' : Nat) (v : Val)
    (hs : β.stack = node :: parent :: rest)
    (h : (transformNode β.comments node).run.run n = (.ok v, n')) :
    β.endRule n = (.ok (), { stack := ⟨parent.rt, parent.items ++ [(.rule node.rt, v)]⟩ :: rest,
                             comments := β.comments }, n') :=
  Lemmas.endRule_ok β node parent rest n n' v hs h

/-- … hence finished steps, scenarios, examples blocks and rules are listed in the order in which
    they were finished (= source order). -/
theorem C03_finished_children_in_order (items : List (Key × Val))
    (s : Step) (sc : Scenario) (e : Examples) (r : Rule) :
    getSteps (items ++ [(.rule .Step, .step s)]) = getSteps items ++ [s] ∧
    getScenarios (items ++ [(.rule .ScenarioDefinition, .scenario sc)]) = getScenarios items ++ [sc] ∧
    getExamples (items ++ [(.rule .ExamplesDefinition, .examples e)]) = getExamples items ++ [e] ∧
    getRules (items ++ [(.rule .Rule, .rule r)]) = getRules items ++ [r] :=
  ⟨Lemmas.getSteps_snoc items s, Lemmas.getScenarios_snoc items sc,
   Lemmas.getExamples_snoc items e, Lemmas.getRules_snoc items r⟩

/-- `get_single` returns the FIRST item of the key (`None` if there is none), and later additions
    never change it. -/
theorem C03_getSingle_first (items more : List (Key × Val)) (k : Key) :
    getSingle items k = (getItems items k).headD .none ∧
    (getItems items k ≠ [] → getSingle (items ++ more) k = getSingle items k) :=
  ⟨Lemmas.getSingle_eq_head items k, Lemmas.getSingle_append_of_ne_nil items more k⟩

/-- `build` of a comment token appends `{location, text}` at the end of the comment list and
    leaves the stack unchanged: comments never enter a node. -/
theorem C03_comments (β : BState) (t : Token) (tx : Str)
    (hk : t.mtype = some .Comment) (ht : t.text = some tx) :
    β.build t = .ok { stack := β.stack, comments := β.comments ++ [{ loc := getLocation t, text := tx }] } :=
  Lemmas.build_comment β t tx hk ht

/-- A description is the `Other` lines of the node joined by line feeds after trimming, and draws
    no id. -/
theorem C03_description (cs : List Comment) (items : List (Key × Val)) (ls : List Str) (n : Nat)
    (h : (getTokens items .Other).map (·.text) = ls.map some) :
    (transformNode cs ⟨.Description, items⟩).run.run n =
      (.ok (.descr (joinWith [10] (trimDescLines ls))), n) :=
  Lemmas.description_eq cs items ls n h

/-- Trimming: the result is a prefix of the lines, every dropped line is whitespace-only, and the
    result does not end in a whitespace-only line (so trailing blank lines are dropped and blank
    lines inside are kept). -/
theorem C03_description_trim (ls : List Str) :
    (∃ dropped, ls = trimDescLines ls ++ dropped ∧ ∀ l ∈ dropped, (strip l).isEmpty = true) ∧
    (∀ l, (trimDescLines ls).getLast? = some l → (strip l).isEmpty = false) :=
  Lemmas.trimDescLines_spec ls

/-- … and these two facts determine the result. -/
theorem C03_description_trim_unique (ls r dropped : List Str) (h : ls = r ++ dropped)
    (hd : ∀ l ∈ dropped, (strip l).isEmpty = true)
    (hr : ∀ l, r.getLast? = some l → (strip l).isEmpty = false) : trimDescLines ls = r :=
  Lemmas.trimDescLines_unique ls r dropped h hd hr

/-- Step: keyword, keyword type and text are those of the node's (first) step-line token, the
    location is that token's, the argument is the data table if present, else the doc string,
    else none. -/
theorem C03_step (cs : List Comment) (items : List (Key × Val)) (n : Nat) (line : Token)
    (kw tx : Str) (kt : KType)
    (hl : getSingle items (.tok .StepLine) = .tok line)
    (hk : line.keyword = some kw) (hkt : line.ktype = some kt) (ht : line.text = some tx) :
    (transformNode cs ⟨.Step, items⟩).run.run n =
      (.ok (.step { id := n, loc := getLocation line, keyword := kw, ktype := kt, text := tx,
                    arg := stepArgOf items }), n + 1) :=
  Lemmas.step_eq cs items n line kw tx kt hl hk hkt ht

/-- Doc string: located at the first separator, content = the `Other` lines joined by line feeds,
    delimiter = the separator's keyword, media type = the separator's text unless empty. -/
theorem C03_docstring (cs : List Comment) (items : List (Key × Val)) (sep : Token) (rest : List Token)
    (st dl : Str) (ls : List Str) (n : Nat)
    (hsep : getTokens items .DocStringSeparator = sep :: rest)
    (hst : sep.text = some st) (hdl : sep.keyword = some dl)
    (h : (getTokens items .Other).map (·.text) = ls.map some) :
    (transformNode cs ⟨.DocString, items⟩).run.run n =
      (.ok (.docString { loc := getLocation sep, content := joinWith [10] ls, delimiter := dl,
                         mediaType := if st.length > 0 then some st else none }), n) :=
  Lemmas.docString_eq cs items sep rest st dl ls n hsep hst hdl h

/-- Data table (rectangular, at least one row): located at the first row; one row per row token,
    in order, each with the token's location and its cells. -/
theorem C03_datatable (cs : List Comment) (items : List (Key × Val)) (n : Nat) (t0 : Token) (rest : List Token)
    (ht : getTokens items .TableRow = t0 :: rest)
    (hrect : ∀ t ∈ rest, t.items.length = t0.items.length) :
    (transformNode cs ⟨.DataTable, items⟩).run.run n =
      (.ok (.dataTable { loc := getLocation t0, rows := numberRows (t0 :: rest) n }), n + (rest.length + 1)) :=
  Lemmas.dataTable_eq cs items n t0 rest ht hrect

/-- Rows and cells are the row tokens' items: row `i` has the location of token `i`; its cells
    are the token's `(column, text)` items, each located by `get_location(token, column)` — which
    is `(token line, column)` for every column other than 0 (columns are 1-based). -/
theorem C03_rows_cells (toks : List Token) (n : Nat) (t : Token) (c : Nat) (hc : c ≠ 0) :
    (numberRows toks n).map (fun r => (r.loc, r.cells)) = toks.map (fun t => (getLocation t, getCells t)) ∧
    getCells t = t.items.map (fun it => { loc := getLocation t (some it.1), value := it.2 }) ∧
    getLocation t (some c) = ⟨t.lineNo, some c⟩ ∧ getLocation t = ⟨t.lineNo, t.col⟩ := by
  refine ⟨Lemmas.numberRows_content toks n, rfl, ?_, rfl⟩
  simp [getLocation, hc]

/-- Background: keyword and name from its keyword line, the node's description, its steps in order. -/
theorem C03_background (cs : List Comment) (items : List (Key × Val)) (n : Nat) (line : Token)
    (kw nm d : Str)
    (hl : getSingle items (.tok .BackgroundLine) = .tok line) (hd : descOf items = some d)
    (hk : line.keyword = some kw) (hn : line.text = some nm) :
    (transformNode cs ⟨.Background, items⟩).run.run n =
      (.ok (.background { id := n, loc := getLocation line, keyword := kw, name := nm,
                          description := d, steps := getSteps items }), n + 1) :=
  Lemmas.background_eq cs items n line kw nm d hl hd hk hn

/-- Scenario: the tags of the definition's tag lines (numbered first), then keyword, name,
    location from the scenario line; description, steps in order and examples in order from the
    inner `Scenario` node. -/
theorem C03_scenario (cs : List Comment) (items sc : List (Key × Val)) (n : Nat) (toks : List Token)
    (rt : RuleType) (line : Token) (kw nm d : Str)
    (htags : tagTokens items = some toks)
    (hs : getSingle items (.rule .Scenario) = .raw rt sc)
    (hl : getSingle sc (.tok .ScenarioLine) = .tok line) (hd : descOf sc = some d)
    (hk : line.keyword = some kw) (hn : line.text = some nm) :
    (transformNode cs ⟨.ScenarioDefinition, items⟩).run.run n =
      (.ok (.scenario { id := n + tagCount toks, tags := numberTags toks n, loc := getLocation line,
                        keyword := kw, name := nm, description := d, steps := getSteps sc,
                        examples := getExamples sc }), n + tagCount toks + 1) :=
  Lemmas.scenario_eq cs items sc n toks rt line kw nm d htags hs hl hd hk hn

/-- Examples: header = first row of the `ExamplesTable` item, body = the remaining rows. -/
theorem C03_examples (cs : List Comment) (items ex : List (Key × Val)) (n : Nat) (toks : List Token)
    (rt : RuleType) (line : Token) (kw nm d : Str)
    (htags : tagTokens items = some toks)
    (hs : getSingle items (.rule .Examples) = .raw rt ex)
    (hl : getSingle ex (.tok .ExamplesLine) = .tok line) (hd : descOf ex = some d)
    (hk : line.keyword = some kw) (hn : line.text = some nm) :
    (transformNode cs ⟨.ExamplesDefinition, items⟩).run.run n =
      (.ok (.examples { id := n + tagCount toks, tags := numberTags toks n, loc := getLocation line,
                        keyword := kw, name := nm, description := d,
                        header := (tableOf ex).head?, body := (tableOf ex).drop 1 }),
       n + tagCount toks + 1) :=
  Lemmas.examples_eq cs items ex n toks rt line kw nm d htags hs hl hd hk hn

theorem C03_examples_no_table (ex : List (Key × Val)) (h : getItems ex (.rule .ExamplesTable) = []) :
    (tableOf ex).head? = none ∧ (tableOf ex).drop 1 = [] := by
  simp [tableOf, Lemmas.getSingle_of_nil ex _ h]

/-- The rows of an examples table are one per row token, in order (and the table is accepted
    only if rectangular). -/
theorem C03_examples_table (cs : List Comment) (items : List (Key × Val)) (n : Nat)
    (hrect : ∀ t ∈ getTokens items .TableRow, ∀ t0, (getTokens items .TableRow).head? = some t0 →
      t.items.length = t0.items.length) :
    (transformNode cs ⟨.ExamplesTable, items⟩).run.run n =
      (.ok (.rows (numberRows (getTokens items .TableRow) n)), n + (getTokens items .TableRow).length) :=
  Lemmas.examplesTable_eq cs items n hrect

/-- Rule: tags, keyword, name, location, description from its header; children = the background
    (if any) first, then the scenarios in order. -/
theorem C03_rule (cs : List Comment) (items header : List (Key × Val)) (n : Nat) (toks : List Token)
    (rt : RuleType) (line : Token) (kw nm d : Str)
    (hh : getSingle items (.rule .RuleHeader) = .raw rt header)
    (htags : tagTokens header = some toks)
    (hl : getSingle header (.tok .RuleLine) = .tok line) (hd : descOf header = some d)
    (hk : line.keyword = some kw) (hn : line.text = some nm) :
    (transformNode cs ⟨.Rule, items⟩).run.run n =
      (.ok (.rule { id := n + tagCount toks, tags := numberTags toks n, loc := getLocation line,
                    keyword := kw, name := nm, description := d,
                    children := (getBackground items).toList.map RuleChild.background ++
                                (getScenarios items).map RuleChild.scenario }),
       n + tagCount toks + 1) :=
  Lemmas.rule_eq cs items header n toks rt line kw nm d hh htags hl hd hk hn

/-- Feature: as a rule, plus `language` = the dialect recorded on the feature line; children =
    background, then scenarios, then rules, each in order.  A feature has no id of its own. -/
theorem C03_feature (cs : List Comment) (items header : List (Key × Val)) (n : Nat) (toks : List Token)
    (rt : RuleType) (line : Token) (kw nm d : Str)
    (hh : getSingle items (.rule .FeatureHeader) = .raw rt header)
    (htags : tagTokens header = some toks)
    (hl : getSingle header (.tok .FeatureLine) = .tok line) (hd : descOf header = some d)
    (hk : line.keyword = some kw) (hn : line.text = some nm) :
    (transformNode cs ⟨.Feature, items⟩).run.run n =
      (.ok (.feature { tags := numberTags toks n, loc := getLocation line, language := line.dialect,
                       keyword := kw, name := nm, description := d,
                       children := (getBackground items).toList.map FeatureChild.background ++
                                   (getScenarios items).map FeatureChild.scenario ++
                                   (getRules items).map FeatureChild.rule }),
       n + tagCount toks) :=
  Lemmas.feature_eq cs items header n toks rt line kw nm d hh htags hl hd hk hn

/-- Document: the feature (if any) plus the comments collected so far; always succeeds, no id. -/
theorem C03_document (cs : List Comment) (items : List (Key × Val)) (n : Nat) :
    (transformNode cs ⟨.GherkinDocument, items⟩).run.run n =
      (.ok (.doc { feature := featureOf items, comments := cs }), n) :=
  Lemmas.document_eq cs items n

/-- Tags carry the location and name of the tag items, line by line, left to right. -/
theorem C03_tags (toks : List Token) (n : Nat) :
    (numberTags toks n).map (fun t => (t.loc, t.name)) =
      toks.flatMap fun t => t.items.map fun it => (getLocation t (some it.1), it.2) :=
  Lemmas.numberTags_content toks n

/-- A step crashes exactly when its step-line token is missing or one of the three fields it
    needs is absent; it never raises a parser error. -/
theorem C03_crash_only_when_step (cs : List Comment) (items : List (Key × Val)) (n : Nat) :
    ((∃ s, ((transformNode cs ⟨.Step, items⟩).run.run n).1 = .error (.crash s)) ↔
      ∀ line, getSingle items (.tok .StepLine) = .tok line →
        line.keyword = none ∨ line.ktype = none ∨ line.text = none) ∧
    (∀ e, ((transformNode cs ⟨.Step, items⟩).run.run n).1 = .error e → ∃ s, e = .crash s) :=
  ⟨Lemmas.step_crash_iff cs items n, Lemmas.onlyCrash_step cs items n⟩

/-- A background crashes exactly when its keyword-line token is missing, one of the two fields it
    needs is absent, or its `Description` item is not a description string (the last never
    happens for items built by `transformNode`, see `C03_description`). -/
theorem C03_crash_only_when_background (cs : List Comment) (items : List (Key × Val)) (n : Nat) :
    ((∃ s, ((transformNode cs ⟨.Background, items⟩).run.run n).1 = .error (.crash s)) ↔
      (descOf items = none ∨
       ∀ line, getSingle items (.tok .BackgroundLine) = .tok line →
        line.keyword = none ∨ line.text = none)) ∧
    (∀ e, ((transformNode cs ⟨.Background, items⟩).run.run n).1 = .error e → ∃ s, e = .crash s) :=
  ⟨Lemmas.background_crash_iff cs items n, Lemmas.onlyCrash_background cs items n⟩

/-- Both together: crashes are explicit and happen only for a missing token or field. -/
theorem C03_crash_only_when (cs : List Comment) (items : List (Key × Val)) (n : Nat) :
    ((∃ s, ((transformNode cs ⟨.Step, items⟩).run.run n).1 = .error (.crash s)) ↔
      ∀ line, getSingle items (.tok .StepLine) = .tok line →
        line.keyword = none ∨ line.ktype = none ∨ line.text = none) ∧
    ((∃ s, ((transformNode cs ⟨.Background, items⟩).run.run n).1 = .error (.crash s)) ↔
      (descOf items = none ∨
       ∀ line, getSingle items (.tok .BackgroundLine) = .tok line →
        line.keyword = none ∨ line.text = none)) :=
  ⟨(C03_crash_only_when_step cs items n).1, (C03_crash_only_when_background cs items n).1⟩

/-- `descOf` is `none` only for an item no `transformNode` call produces: a `Description` item
    that is present and is not a description string. -/
theorem C03_descOf_none_iff (items : List (Key × Val)) :
    descOf items = none ↔ ∃ v vs, getItems items (.rule .Description) = v :: vs ∧ ∀ s, v ≠ .descr s :=
  Lemmas.descOf_none_iff items

section examples
open Lemmas.Ex

/-- three insertions, two keys: each key's list is in insertion order -/
example : getTokens [(.tok .TableRow, .tok rowTok1), (.tok .Other, .tok (otherTok 1 "x")),
    (.tok .TableRow, .tok rowTok2)] .TableRow = [rowTok1, rowTok2] := rfl

/-- a step token goes to the end of the top node -/
example : (BState.build { stack := [⟨.Step, [(.tok .Other, .tok (otherTok 1 "x"))]⟩] } stepTok).toOption.map (·.stack.map (·.items.length))
    = some [2] := rfl

/-- a comment goes to the comment list, the stack is untouched -/
example : (BState.build {} commentTok).toOption.map (fun β => (β.comments, β.stack.map (·.items.length)))
    = some ([{ loc := ⟨2, some 1⟩, text := lit "# hi" }], [0]) := by decide

/-- the hypotheses of `C03_step` are satisfiable, and the equation computes -/
example : (transformNode [] ⟨.Step, [(.tok .StepLine, .tok stepTok)]⟩).run.run 7 =
    (.ok (.step { id := 7, loc := ⟨3, some 3⟩, keyword := lit "Given ", ktype := .Context,
                  text := lit "x", arg := .none }), 8) :=
  C03_step [] _ 7 stepTok _ _ _ rfl rfl rfl rfl

/-- a step line without keyword type crashes, with the id consumed; so does a missing step line -/
example : (transformNode [] ⟨.Step, [(.tok .StepLine, .tok badStepTok)]⟩).run.run 7 =
    (.error (.crash "missing field step.keywordType"), 8) := rfl
example : ∃ s, ((transformNode [] ⟨.Step, []⟩).run.run 7).1 = .error (.crash s) :=
  (C03_crash_only_when_step [] [] 7).1.2 (fun _ h => by cases h)

/-- description: inner blank line kept, trailing whitespace-only lines dropped, text verbatim -/
example : (transformNode [] ⟨.Description, [(.tok .Other, .tok (otherTok 2 "  a")),
      (.tok .Other, .tok (otherTok 3 "")), (.tok .Other, .tok (otherTok 4 "b ")),
      (.tok .Other, .tok (otherTok 5 "  ")), (.tok .Other, .tok (otherTok 6 ""))]⟩).run.run 7 =
    (.ok (.descr (lit "  a

b ")), 7) :=
  C03_description [] _ [lit "  a", [], lit "b ", lit "  ", []] 7 rfl
example : trimDescLines [lit "  a", [], lit "b ", lit "  ", []] = [lit "  a", [], lit "b "] := by decide

/-- scenario with two tag lines: hypotheses satisfiable -/
example : (transformNode [] ⟨.ScenarioDefinition, [(.rule .Tags, tagsVal),
      (.rule .Scenario, .raw .Scenario [(.tok .ScenarioLine, .tok scTok)])]⟩).run.run 7 =
    (.ok (.scenario { id := 10, tags := numberTags [tagTok1, tagTok2] 7, loc := ⟨5, some 1⟩,
                      keyword := lit "Scenario", name := lit "s", description := [], steps := [],
                      examples := [] }), 11) :=
  C03_scenario [] _ [(.tok .ScenarioLine, .tok scTok)] 7 [tagTok1, tagTok2] .Scenario scTok _ _ [] rfl rfl rfl rfl rfl rfl

example : (transformNode [] ⟨.DataTable, [(.tok .TableRow, .tok rowTok1), (.tok .TableRow, .tok rowTok2)]⟩).run.run 7 =
    (.ok (.dataTable { loc := ⟨9, some 1⟩, rows := numberRows [rowTok1, rowTok2] 7 }), 9) :=
  C03_datatable [] _ 7 rowTok1 [rowTok2] rfl (by decide)

/-- background whose `Description` item is not a string crashes (cannot be built by `transformNode`) -/
example : descOf [(.tok .BackgroundLine, .tok bgTok), (.rule .Description, .none)] = none := rfl

/-- rule children: background first, then scenarios -/
example (b : Background) (s1 s2 : Scenario) :
    (transformNode [] ⟨.Rule, [(.rule .RuleHeader, .raw .RuleHeader [(.tok .RuleLine, .tok ruleTok)]),
      (.rule .ScenarioDefinition, .scenario s1), (.rule .Background, .background b),
      (.rule .ScenarioDefinition, .scenario s2)]⟩).run.run 0 =
    (.ok (.rule { id := 0, tags := [], loc := ⟨4, some 1⟩, keyword := lit "Rule", name := lit "r",
                  description := [], children := [.background b, .scenario s1, .scenario s2] }), 1) :=
  C03_rule [] _ _ 0 [] .RuleHeader ruleTok _ _ _ rfl rfl rfl rfl rfl rfl

end examples

end GV
