/-
  Props/C01.lean — property C01: the parse/compile pipeline is total and fails only with typed,
  located errors.

  Here: the outcome-form, termination and stream-kind statements, for every source text and every
  (regenerated) table satisfying the kernel-checked facts below.  The model represents Python's
  run-time errors (AttributeError, IndexError, …) as the explicit outcome `crash`; that it is
  unreachable (`C01_no_crash`) needs the typed-stack invariant and is in Props/C01NoCrashAll.lean.
  Linear matching work: see the note below.
-/
import GherkinVerif.Lemmas.Glue
import GherkinVerif.Lemmas.Compile
import GherkinVerif.Spec.TableFacts
import GherkinVerif.Gen.ParserTable
import GherkinVerif.KDecide
import GherkinVerif.Lemmas.FactsTable
namespace GV

theorem C01_fact_lookaheads : Spec.lookaheadsStopAtEOF Gen.parserTable = true :=
  Facts.lookaheadsStopAtEOF_table

/-- Outcome form: a rejected parse carries exactly one error in stop-at-first-error mode and, in
    collecting mode, between one and `cap + 1` (= eleven) errors with pairwise distinct messages. -/
theorem C01_parse_outcome (D : List Dialect) (T : Table) (stop : Bool) (μ : MState) (ids : Nat) (src : Str)
    (es : List PErr) (comp : Bool) (h : (parseWith D T stop μ ids src).1 = .rejected es comp) :
    (stop = true → es.length = 1 ∧ comp = false) ∧
    (stop = false → comp = true ∧ 1 ≤ es.length ∧ es.length ≤ T.errorCap + 1 ∧ (es.map PErr.message).Nodup) :=
  Lemmas.parse_outcome D T stop μ ids src es comp h

theorem C01_error_cap_is_ten : Gen.parserTable.errorCap + 1 = 11 := by decide

/-- Nothing hangs: the parse loop and both look-ahead loops finish within their fuel for every
    source text — the model's `fuel` outcome is unreachable.  (Look-ahead re-queues what it read
    and never reads past the end of file.) -/
theorem C01_parse_terminates (D : List Dialect) (T : Table) (hT : Spec.lookaheadsStopAtEOF T = true)
    (stop : Bool) (μ : MState) (ids : Nat) (src : Str) :
    (parseWith D T stop μ ids src).1 ≠ .fuel :=
  Lemmas.parse_terminates D T hT stop μ ids src

/-- Every reported error lies within the document: line between 1 and (number of lines + 1). -/
theorem C01_error_lines (D : List Dialect) (T : Table) (hT : Spec.lookaheadsStopAtEOF T = true)
    (stop : Bool) (μ : MState) (ids : Nat) (src : Str) (es : List PErr) (comp : Bool)
    (h : (parseWith D T stop μ ids src).1 = .rejected es comp) :
    ∀ e ∈ es, 1 ≤ e.loc.line ∧ e.loc.line ≤ (splitLines src).length + 1 :=
  Lemmas.parse_error_lines D T hT stop μ ids src es comp h

/- Linear matching work: false for an arbitrary table (counter-example in Lemmas/Glue.lean); proved for
   the regenerated table under kernel-checked queue facts in Props/C01Linear.lean
   (`C01_match_calls_linear`: calls ≤ workPerToken T · (lines + 1), workPerToken = 20 for the
   regenerated table). -/

/-- Compiling any rectangular document returns a list of pickles (totality; from C06). -/
theorem C01_compile_total (uri : Str) (doc : Doc) (n : Nat) (h : Spec.rectangular doc) :
    ∃ r, compile uri doc n = some r :=
  Lemmas.compile_total uri doc n h

/-- The stream turns any source into source / gherkinDocument / pickle / parseError envelopes
    only — unless the model's explicit crash outcome occurs, which is what `C01_no_crash`
    (Props/C01NoCrashAll.lean) excludes. -/
theorem C01_stream_kinds (D : List Dialect) (T : Table) (opts : Opts) (ids : Nat) (uri data : Str) :
    ∀ e ∈ (streamEnum D T opts ids uri data).1,
      (∃ u d, e = .source u d) ∨ (∃ u d, e = .gherkinDocument u d) ∨ (∃ p, e = .pickle p) ∨
      (∃ u x, e = .parseError u x) ∨ (∃ w, e = .crash w) :=
  Lemmas.stream_kinds D T opts ids uri data

end GV
