/-
  Props/C11Pipeline.lean — property C11 closed over the whole pipeline (parser + AST builder +
  pickle compiler + stream sharing ONE id counter):

  > All ids handed out for one id generator — AST nodes and pickles of one document, and of all
  > documents of one stream — are pairwise distinct; for an accepted document processed with a
  > fresh incrementing generator they are 0,1,2,… without gaps, assigned in the canonical order
  > (children before their parent; table rows, then steps, then examples, then tags, then the
  > owning node; pickle steps before their pickle), so equal input gives equal ids.  Every id a
  > pickle mentions resolves to an AST node of the right kind.

  The proofs are in Lemmas/IdsPipeline.lean (one document), Lemmas/IdsPipelineRefs.lean
  (references), Lemmas/IdsPipelineStream.lean (stream); the vocabulary is in
  Spec/Refs.lean and Spec/StreamIds.lean.  Everything is for the regenerated tables
  `Gen.dialects` / `Gen.parserTable` (collecting mode `stop = false`, which is what the stream
  uses) unless stated otherwise.

  Common hypotheses.
  * `hμ : (μ.reset Gen.dialects).dialect ∈ Gen.dialects` — the matcher the parse starts from
    holds a dialect of the dialect table (true for every matcher made by the constructor,
    `C11_stream_matcher`; same hypothesis as `C11_parse_ids_canonical` / `C03_parse_is_astOf`).
  * `h : (parseWith … false μ ids src).1 = .ok d` — the source is accepted from counter `ids`
    and `d` is the returned document; `ctx := (parseWith … ).2` is the final context and
    `ctx.ids` the counter the parser leaves, which is the counter the compiler starts from.
  * `hc : compile uri d ctx.ids = some (ps, n')` — the compiler returns the pickles `ps` and the
    counter `n'`.  NOT an assumption: `C11_pipeline_compile_total` shows it always holds for a
    parsed document (rows of a parsed examples table have the header's cell count); the
    `…_total` forms below have no such hypothesis.

  References.  `Spec.PickleResolves f p` (Spec/Refs.lean): there is a scenario `s` of the
  feature (`Spec.ScenarioIn f ro s`: at feature level, `ro = none`, or in rule `r`, `ro = some r`)
  with `p.astNodeIds = [s.id]` (`s` without examples) or `[s.id, r.id]` for a body row `r` of an
  examples block `e` of `s` that has a header; every pickle step's `astNodeIds` is `[x.id]` for an
  own step or an in-scope background step `x` (plain), resp. `[x.id, r.id]` for an own step and
  THE SAME row `r`, or `[x.id]` for an in-scope background step (outline); every pickle tag's
  `astNodeId` is the id of a tag — with the same name — of the feature, the enclosing rule, `s`,
  or the examples block `e` of `r`.  `Spec.pickleRefs p` = all ids `p` mentions.
  (The exact positions of the in-scope backgrounds — those BEFORE the scenario — are
  `C07_scopes`; the order of steps and tags `C07_steps_sources`, `C08_tags_*`.)

  Stream.  `Spec.envelopeIds` / `Spec.shownIds` / `Spec.streamIds` (Spec/StreamIds.lean):
  the ids of gherkinDocument envelopes (canonical order) and pickle envelopes (steps, then the
  pickle), read in output order.  `counterAfter … srcs n` = the counter after the sources.

  NOT true: "the ids of all envelopes form `List.range' 0 n` where `n` is the final counter".  It
  is FALSE for streams with rejected sources and for streams with `printAst` off: a rejected
  source shows no id but may have drawn some
  (rows, steps, scenarios built before / after an error in collecting mode), and with
  `printAst = false`, `printPickles = true` the document's ids are drawn and not shown.
  Counterexample (kernel-checked below): `[demo, ragged, small]`, all options on, from 0: shown
  ids are 0…46 and 51…55, the final counter is 56 — ids 47…50 were drawn for the rejected
  source.  What is true: the shown ids are strictly increasing for every stream (`C11_stream_ids`),
  and dense when every source is accepted or draws nothing and everything is printed
  (`C11_stream_ids_dense`).
-/
import GherkinVerif.Lemmas.IdsPipeline
import GherkinVerif.Lemmas.IdsPipelineRefs
import GherkinVerif.Lemmas.IdsPipelineStream
import GherkinVerif.Props.C03Parse
import GherkinVerif.Props.C01Pipeline
import GherkinVerif.KDecide
import GherkinVerif.Lemmas.Lit
namespace GV
open Spec

/-- **AST ids, then pickle ids, are consecutive from the incoming counter**: the ids of the AST in
    canonical order followed by the ids of the pickles in the compiler's order (each pickle's
    steps, then the pickle) are exactly `ids, ids+1, …, n'-1`. -/
theorem C11_pipeline_ids (μ : MState) (ids : Nat) (src : Str)
    (hμ : (μ.reset Gen.dialects).dialect ∈ Gen.dialects) (d : Doc)
    (h : (parseWith Gen.dialects Gen.parserTable false μ ids src).1 = .ok d)
    (uri : Str) (ps : List Pickle) (n' : Nat)
    (hc : compile uri d (parseWith Gen.dialects Gen.parserTable false μ ids src).2.ids = some (ps, n')) :
    canonicalIds d ++ idOrder ps = List.range' ids (n' - ids) ∧
    ids ≤ (parseWith Gen.dialects Gen.parserTable false μ ids src).2.ids ∧
    (parseWith Gen.dialects Gen.parserTable false μ ids src).2.ids ≤ n' :=
  Lemmas.IdsP.pipeline_ids C03P_facts μ ids src hμ d h uri ps n' hc

/-- Compiling a parsed document never fails (no `IndexError`): the hypothesis `hc` above is
    always satisfiable, with the counter the parse left. -/
theorem C11_pipeline_compile_total (μ : MState) (ids : Nat) (src : Str) (d : Doc)
    (h : (parseWith Gen.dialects Gen.parserTable false μ ids src).1 = .ok d) (uri : Str) :
    ∃ ps n', compile uri d (parseWith Gen.dialects Gen.parserTable false μ ids src).2.ids = some (ps, n') :=
  C01_compile_parsed_total false μ ids src d h uri

/-- … so: every accepted document compiles, and its ids are consecutive. -/
theorem C11_pipeline_ids_total (μ : MState) (ids : Nat) (src : Str)
    (hμ : (μ.reset Gen.dialects).dialect ∈ Gen.dialects) (d : Doc)
    (h : (parseWith Gen.dialects Gen.parserTable false μ ids src).1 = .ok d) (uri : Str) :
    ∃ ps n', compile uri d (parseWith Gen.dialects Gen.parserTable false μ ids src).2.ids = some (ps, n') ∧
      canonicalIds d ++ idOrder ps = List.range' ids (n' - ids) :=
  Lemmas.IdsP.pipeline_ids_total C03P_facts μ ids src hμ d h uri

/-- Pairwise distinct, and AST ids before pickle ids. -/
theorem C11_pipeline_ids_distinct (μ : MState) (ids : Nat) (src : Str)
    (hμ : (μ.reset Gen.dialects).dialect ∈ Gen.dialects) (d : Doc)
    (h : (parseWith Gen.dialects Gen.parserTable false μ ids src).1 = .ok d)
    (uri : Str) (ps : List Pickle) (n' : Nat)
    (hc : compile uri d (parseWith Gen.dialects Gen.parserTable false μ ids src).2.ids = some (ps, n')) :
    (canonicalIds d ++ idOrder ps).Nodup ∧ ∀ a ∈ canonicalIds d, ∀ b ∈ idOrder ps, a < b :=
  Lemmas.IdsP.pipeline_ids_distinct C03P_facts μ ids src hμ d h uri ps n' hc

/-- Fresh generator: the ids are 0, 1, 2, …, n'-1. -/
theorem C11_pipeline_ids_fresh (μ : MState) (src : Str)
    (hμ : (μ.reset Gen.dialects).dialect ∈ Gen.dialects) (d : Doc)
    (h : (parseWith Gen.dialects Gen.parserTable false μ 0 src).1 = .ok d)
    (uri : Str) (ps : List Pickle) (n' : Nat)
    (hc : compile uri d (parseWith Gen.dialects Gen.parserTable false μ 0 src).2.ids = some (ps, n')) :
    canonicalIds d ++ idOrder ps = List.range n' :=
  Lemmas.IdsP.pipeline_ids_fresh C03P_facts μ src hμ d h uri ps n' hc

/-- Equal input gives equal ids — and more: the id assignment is determined by the canonical
    order and the number of ids alone: any two accepted runs (any matcher states, texts, uris) that
    draw equally many ids from the same counter hand out the same ids in the same canonical
    positions. -/
theorem C11_pipeline_ids_determined (μ₁ μ₂ : MState) (ids : Nat) (src₁ src₂ : Str)
    (hμ₁ : (μ₁.reset Gen.dialects).dialect ∈ Gen.dialects) (hμ₂ : (μ₂.reset Gen.dialects).dialect ∈ Gen.dialects)
    (d₁ d₂ : Doc)
    (h₁ : (parseWith Gen.dialects Gen.parserTable false μ₁ ids src₁).1 = .ok d₁)
    (h₂ : (parseWith Gen.dialects Gen.parserTable false μ₂ ids src₂).1 = .ok d₂)
    (uri₁ uri₂ : Str) (ps₁ ps₂ : List Pickle) (n' : Nat)
    (hc₁ : compile uri₁ d₁ (parseWith Gen.dialects Gen.parserTable false μ₁ ids src₁).2.ids = some (ps₁, n'))
    (hc₂ : compile uri₂ d₂ (parseWith Gen.dialects Gen.parserTable false μ₂ ids src₂).2.ids = some (ps₂, n')) :
    canonicalIds d₁ ++ idOrder ps₁ = canonicalIds d₂ ++ idOrder ps₂ :=
  (C11_pipeline_ids μ₁ ids src₁ hμ₁ d₁ h₁ uri₁ ps₁ n' hc₁).1.trans
    (C11_pipeline_ids μ₂ ids src₂ hμ₂ d₂ h₂ uri₂ ps₂ n' hc₂).1.symm

/-- Any document (parsed or not): the compiler's pickles resolve into the document's feature,
    and every id they mention is an id of the document. -/
theorem C11_refs_resolve_compile (uri : Str) (d : Doc) (n : Nat) (ps : List Pickle) (n' : Nat)
    (h : compile uri d n = some (ps, n')) :
    ∀ p ∈ ps, ∃ f, d.feature = some f ∧ PickleResolves f p ∧ ∀ i ∈ pickleRefs p, i ∈ canonicalIds d :=
  Lemmas.IdsP.compile_refs uri d n ps n' h

/-- **Referential integrity for accepted documents**: every pickle resolves; every id it
    mentions occurs exactly once among all ids of the AST (it identifies one node, of the kind
    `PickleResolves` names, and no other node of any kind), and is an AST id, not a pickle id. -/
theorem C11_refs_resolve (μ : MState) (ids : Nat) (src : Str)
    (hμ : (μ.reset Gen.dialects).dialect ∈ Gen.dialects) (d : Doc)
    (h : (parseWith Gen.dialects Gen.parserTable false μ ids src).1 = .ok d)
    (uri : Str) (ps : List Pickle) (n' : Nat)
    (hc : compile uri d (parseWith Gen.dialects Gen.parserTable false μ ids src).2.ids = some (ps, n')) :
    ∀ p ∈ ps, ∃ f, d.feature = some f ∧ PickleResolves f p ∧
      ∀ i ∈ pickleRefs p, (canonicalIds d).count i = 1 ∧ i ∉ idOrder ps ∧
        ids ≤ i ∧ i < (parseWith Gen.dialects Gen.parserTable false μ ids src).2.ids :=
  Lemmas.IdsP.pipeline_refs C03P_facts μ ids src hμ d h uri ps n' hc

/-- every matcher the stream makes satisfies the hypothesis `hμ` of the theorems above -/
theorem C11_stream_matcher (μ : MState) (h : MState.init Gen.dialects (lit "en") = some μ) :
    (μ.reset Gen.dialects).dialect ∈ Gen.dialects :=
  Lemmas.IdsP.init_reset_mem Gen.dialects (lit "en") μ h

/-- The id counter never decreases, whatever the outcome of the parse. -/
theorem C11_parse_counter_monotone (D : List Dialect) (T : Table) (stop : Bool) (μ : MState) (ids : Nat) (src : Str) :
    ids ≤ (parseWith D T stop μ ids src).2.ids :=
  Lemmas.IdsP.parseWith_ids_mono D T stop μ ids src

/-- Accepted source, any option set: what is shown, and where the counter ends. -/
theorem C11_stream_source_ids (opts : Opts) (ids : Nat) (uri data : Str) (μ : MState)
    (hμ : MState.init Gen.dialects (lit "en") = some μ) (d : Doc)
    (h : (parseWith Gen.dialects Gen.parserTable false μ ids data).1 = .ok d) :
    shownIds (streamEnum Gen.dialects Gen.parserTable opts ids uri data).1 =
      (if opts.printAst then
         List.range' ids ((parseWith Gen.dialects Gen.parserTable false μ ids data).2.ids - ids) else []) ++
      (if opts.printPickles then
         List.range' (parseWith Gen.dialects Gen.parserTable false μ ids data).2.ids
           ((streamEnum Gen.dialects Gen.parserTable opts ids uri data).2 -
             (parseWith Gen.dialects Gen.parserTable false μ ids data).2.ids) else []) ∧
    ids ≤ (parseWith Gen.dialects Gen.parserTable false μ ids data).2.ids ∧
    (parseWith Gen.dialects Gen.parserTable false μ ids data).2.ids ≤
      (streamEnum Gen.dialects Gen.parserTable opts ids uri data).2 ∧
    (opts.printPickles = false → (streamEnum Gen.dialects Gen.parserTable opts ids uri data).2 =
      (parseWith Gen.dialects Gen.parserTable false μ ids data).2.ids) :=
  Lemmas.IdsP.streamEnum_ids_ok C03P_facts opts ids uri data μ hμ d h

/-- A source that is not accepted shows no ids; the counter does not decrease (it may increase:
    ids drawn before / after an error stay consumed). -/
theorem C11_stream_source_rejected (D : List Dialect) (T : Table) (opts : Opts) (ids : Nat) (uri data : Str)
    (h : ∀ μ d, MState.init D (lit "en") = some μ → (parseWith D T false μ ids data).1 ≠ .ok d) :
    shownIds (streamEnum D T opts ids uri data).1 = [] ∧ ids ≤ (streamEnum D T opts ids uri data).2 :=
  Lemmas.IdsP.streamEnum_ids_not_ok D T opts ids uri data h

/-- Every source, any option set: the shown ids are a contiguous block inside the interval from
    the counter the source was given to the counter it left.  (With `C17_locality` /
    `C17_sequence_split` this is the block of a source at any position of a stream, from the
    counter the earlier sources left.) -/
theorem C11_stream_source_block (opts : Opts) (ids : Nat) (uri data : Str) :
    ∃ a b, shownIds (streamEnum Gen.dialects Gen.parserTable opts ids uri data).1 = List.range' a b ∧
      ids ≤ a ∧ a + b ≤ (streamEnum Gen.dialects Gen.parserTable opts ids uri data).2 :=
  Lemmas.IdsP.streamEnum_block C03P_facts opts ids uri data

/-- **All ids shown by a stream are strictly increasing in output order** — for every sequence
    of sources (accepted and rejected mixed), every option set and every start counter — hence
    pairwise distinct; all lie between the first counter and the last. -/
theorem C11_stream_ids (opts : Opts) (srcs : List (Str × Str)) (n : Nat) :
    (streamIds (streamAll Gen.dialects Gen.parserTable opts srcs n)).Pairwise (· < ·) ∧
    (streamIds (streamAll Gen.dialects Gen.parserTable opts srcs n)).Nodup ∧
    (∀ i ∈ streamIds (streamAll Gen.dialects Gen.parserTable opts srcs n),
      n ≤ i ∧ i < counterAfter Gen.dialects Gen.parserTable opts srcs n) ∧
    n ≤ counterAfter Gen.dialects Gen.parserTable opts srcs n :=
  Lemmas.IdsP.streamAll_ids C03P_facts opts srcs n

/-- **Dense**: document and pickles printed, every source accepted or leaving the counter
    unchanged (a property of the source alone, stated at counter 0: `C15_stream_id_offset`): the
    shown ids are exactly all ids from the first counter to the last. -/
theorem C11_stream_ids_dense (opts : Opts) (hA : opts.printAst = true) (hP : opts.printPickles = true)
    (srcs : List (Str × Str)) (n : Nat)
    (h : ∀ x ∈ srcs, Lemmas.IdsP.StreamAccepts x.2 ∨
      (streamEnum Gen.dialects Gen.parserTable opts 0 x.1 x.2).2 = 0) :
    streamIds (streamAll Gen.dialects Gen.parserTable opts srcs n) =
      List.range' n (counterAfter Gen.dialects Gen.parserTable opts srcs n - n) :=
  Lemmas.IdsP.streamAll_ids_dense C03P_facts opts hA hP srcs n h

/-- … from a fresh generator: 0, 1, 2, … -/
theorem C11_stream_ids_fresh (opts : Opts) (hA : opts.printAst = true) (hP : opts.printPickles = true)
    (srcs : List (Str × Str))
    (h : ∀ x ∈ srcs, Lemmas.IdsP.StreamAccepts x.2 ∨
      (streamEnum Gen.dialects Gen.parserTable opts 0 x.1 x.2).2 = 0) :
    streamIds (streamAll Gen.dialects Gen.parserTable opts srcs 0) =
      List.range (counterAfter Gen.dialects Gen.parserTable opts srcs 0) := by
  rw [C11_stream_ids_dense opts hA hP srcs 0 h, Nat.sub_zero, List.range_eq_range']

section examples

/-- feature tags `@f1 @f2`; a background with a step with a one-row data table; a plain scenario
    (tag, two steps); an outline (two tags, one step) with two examples blocks (tags `@e1`,
    resp. `@e2 @e3`; two rows, resp. one row); a tagged rule with a background of its own and a
    tagged scenario -/
def C11P_demo : Str :=
  lit "@f1 @f2\nFeature: f\n  Background:\n    Given b\n      | t |\n  @s1\n  Scenario: plain\n    Given x\n    And y\n  @o1 @o2\n  Scenario Outline: out\n    Given <a>\n    @e1\n    Examples:\n      | a |\n      | 1 |\n      | 2 |\n    @e2 @e3\n    Examples: second\n      | a |\n      | 3 |\n  @r1\n  Rule: r\n    Background:\n      Given rb\n    @rs\n    Scenario: inrule\n      When z\n"

/-- rejected (ragged data table): its rows, step and scenario draw four ids that are never shown -/
def C11P_ragged : Str := lit "Feature: g\n  Scenario: s\n    Given x\n      | a | b |\n      | c |\n"
/-- rejected at its first line: draws nothing -/
def C11P_garbage : Str := lit "Oops\n"
def C11P_small : Str := lit "@t\nFeature: h\n  Scenario: s\n    Given x\n"

/-- One document: the demo, from counter 0 and from counter 100: 30 AST ids, then 17 pickle ids
    (5 pickles with 3 + 2 + 2 + 2 + 3 steps), no gap between them. -/
example : (MState.init Gen.dialects (lit "en")).bind (fun μ =>
      let r := parseWith Gen.dialects Gen.parserTable false μ 0 C11P_demo
      match r.1 with
      | .ok d => (compile (lit "u") d r.2.ids).map fun (x : List Pickle × Nat) =>
          [[canonicalIds d], [[r.2.ids, x.2]], x.1.map (fun p => p.steps.map (·.id) ++ [p.id])]
      | _ => none) =
    some [[List.range' 0 30], [[30, 47]],
      [[30, 31, 32, 33], [34, 35, 36], [37, 38, 39], [40, 41, 42], [43, 44, 45, 46]]] := by
  rw [C11P_demo]
  lit_lists
  kdecide

example : (MState.init Gen.dialects (lit "en")).map (fun μ =>
      let r := parseWith Gen.dialects Gen.parserTable false μ 100 C11P_demo
      match r.1 with
      | .ok d => (compile (lit "u") d r.2.ids).map fun (x : List Pickle × Nat) =>
          (decide (canonicalIds d ++ idOrder x.1 = List.range' 100 47), r.2.ids, x.2)
      | _ => none) = some (some (true, 130, 147)) := by
  rw [C11P_demo]
  lit_lists
  kdecide

/-- References on the demo.  The AST: feature tags 28 29; background 2 with step 1 (table row 0); plain
    scenario 6 with steps 3 4 and tag 5; outline 20 with step 7, tags 18 19, examples 12 (tag 11,
    header 8, rows 9 10) and 17 (tags 15 16, header 13, row 14); rule 27 with tag 26, background
    22 with step 21, scenario 25 with step 23 and tag 24.  The five pickles mention:
    [pickle refs, step refs …, tag refs] — e.g. the third: scenario 20 and row 10; background
    step 1 alone, own step 7 with row 10; tags of the feature, the outline and the FIRST examples
    block; the last: scenario 25; feature background step 1, rule background step 21, own step 23;
    tags of the feature, the rule and the scenario.  Every mentioned id occurs once in the AST. -/
example : (MState.init Gen.dialects (lit "en")).bind (fun μ =>
      let r := parseWith Gen.dialects Gen.parserTable false μ 0 C11P_demo
      match r.1 with
      | .ok d => (compile (lit "u") d r.2.ids).map fun (x : List Pickle × Nat) =>
          x.1.map (fun p => [p.astNodeIds] ++ p.steps.map (·.astNodeIds) ++ [p.tags.map (·.astNodeId)])
      | _ => none) =
    some [[[6], [1], [3], [4], [28, 29, 5]],
          [[20, 9], [1], [7, 9], [28, 29, 18, 19, 11]],
          [[20, 10], [1], [7, 10], [28, 29, 18, 19, 11]],
          [[20, 14], [1], [7, 14], [28, 29, 18, 19, 15, 16]],
          [[25], [1], [21], [23], [28, 29, 26, 24]]] := by
  rw [C11P_demo]
  lit_lists
  kdecide

example : (MState.init Gen.dialects (lit "en")).bind (fun μ =>
      let r := parseWith Gen.dialects Gen.parserTable false μ 0 C11P_demo
      match r.1 with
      | .ok d => (compile (lit "u") d r.2.ids).map fun (x : List Pickle × Nat) =>
          x.1.all fun p => (pickleRefs p).all fun i => (canonicalIds d).count i == 1
      | _ => none) = some true := by
  rw [C11P_demo]
  lit_lists
  kdecide

/-- the theorems apply to the demo: all hypotheses are met (the stream's matcher, an accepted
    parse, the compiler's result), so every pickle of the demo resolves -/
example (μ : MState) (hμ : MState.init Gen.dialects (lit "en") = some μ) (d : Doc)
    (h : (parseWith Gen.dialects Gen.parserTable false μ 0 C11P_demo).1 = .ok d) :
    ∃ ps n', compile (lit "u") d (parseWith Gen.dialects Gen.parserTable false μ 0 C11P_demo).2.ids = some (ps, n') ∧
      canonicalIds d ++ idOrder ps = List.range n' ∧
      ∀ p ∈ ps, ∃ f, d.feature = some f ∧ PickleResolves f p := by
  obtain ⟨ps, n', hc⟩ := C11_pipeline_compile_total μ 0 C11P_demo d h (lit "u")
  refine ⟨ps, n', hc, C11_pipeline_ids_fresh μ C11P_demo (C11_stream_matcher μ hμ) d h _ ps n' hc, ?_⟩
  intro p hp
  obtain ⟨f, hf, hr, -⟩ := C11_refs_resolve μ 0 C11P_demo (C11_stream_matcher μ hμ) d h _ ps n' hc p hp
  exact ⟨f, hf, hr⟩

/-- The counterexample to "dense for every stream": demo, a rejected ragged source, a small
    document; all options on.  Shown: 0…46, nothing, 51…55; the final counter is 56: the ids
    47…50 were drawn for the rejected source and never shown.  Still strictly increasing. -/
example :
    (streamAll Gen.dialects Gen.parserTable ⟨true, true, true⟩
      [(lit "a", C11P_demo), (lit "b", C11P_ragged), (lit "c", C11P_small)] 0).map shownIds =
      [List.range' 0 47, [], List.range' 51 5] ∧
    counterAfter Gen.dialects Gen.parserTable ⟨true, true, true⟩
      [(lit "a", C11P_demo), (lit "b", C11P_ragged), (lit "c", C11P_small)] 0 = 56 := by
  rw [C11P_demo, C11P_ragged, C11P_small]
  lit_lists
  kdecide

/-- per envelope: the document's 30 ids, then each pickle's step ids and its own -/
example :
    (streamAll Gen.dialects Gen.parserTable ⟨true, true, true⟩
      [(lit "c", C11P_small), (lit "b", C11P_ragged), (lit "c", C11P_small)] 0).map (·.map envelopeIds) =
      [[[], [0, 1, 2], [3, 4]], [[]], [[], [9, 10, 11], [12, 13]]] := by
  rw [C11P_ragged, C11P_small]
  lit_lists
  kdecide

/-- with the document not printed its ids are drawn but not shown: blocks with gaps, increasing -/
example :
    streamIds (streamAll Gen.dialects Gen.parserTable ⟨true, false, true⟩
      [(lit "a", C11P_small), (lit "b", C11P_ragged), (lit "c", C11P_small)] 0) = [3, 4, 12, 13] := by
  rw [C11P_ragged, C11P_small]
  lit_lists
  kdecide

/-- the dense case: two accepted sources and one rejected source that draws nothing; the
    hypotheses of `C11_stream_ids_dense` hold for these sources, and the ids are 0 … 56 -/
example :
    streamIds (streamAll Gen.dialects Gen.parserTable ⟨true, true, true⟩
      [(lit "a", C11P_demo), (lit "b", C11P_garbage), (lit "c", C11P_small), (lit "d", C11P_small)] 0) =
      List.range 57 ∧
    (streamEnum Gen.dialects Gen.parserTable ⟨true, true, true⟩ 0 (lit "b") C11P_garbage).2 = 0 ∧
    ((MState.init Gen.dialects (lit "en")).map fun μ =>
      [C11P_demo, C11P_small].map fun s =>
        match (parseWith Gen.dialects Gen.parserTable false μ 0 s).1 with
        | .ok _ => true
        | _ => false) = some [true, true] := by
  rw [C11P_demo, C11P_garbage, C11P_small]
  lit_lists
  kdecide

end examples
end GV
