/-
  Props/C16Doc.lean — property C16, whole-document part: CRLF line endings and a final line break
  change nothing in the outcome of the parse — not the AST, not the error list.

  Props/C16.lean has the per-line theorems (`C16_crlf_line`, `C16_final_newline_line`, …) and the
  shape of the physical lines (`C16_crlf_lines`, `C16_final_newline_lines`).  Here they are lifted
  to `parseWith`, the model of `Parser.parse` with its look-ahead queue (not the queue-free
  `Spec.parseWithPure`), by a lock-step
  simulation of the two runs (Lemmas/LayoutDoc2.lean, the case without modified lines of the
  simulation for trailing blanks): the two contexts stay equal except for the
  physical lines — unread, queued, or carried by tokens stored in the builder — and the builder
  never reads a token's physical line (Lemmas/LayoutBuilder.lean).  Property theorems only.

  What the theorems say:

    * CRLF: NO hypothesis on the text is needed.  `toCRLF src` and `src` have the same outcome for
      every `src` — also when `src` has carriage returns of its own (lone, or already before a
      line feed): the matcher strips every trailing CR/LF from the text it keeps.  The hypothesis
      "the LF document contains no carriage return" of the property's quantifier is therefore only
      a description of the pairs compared (`C16_crlf_document_no_cr` is the instance).
    * Blank lines: the error for an unexpected line reports the line's own indentation as the
      column when no matcher set one, and for a whitespace-only line that counts the trailing
      CR/LF (`C16_crlf_unexpected` excludes such lines).  No such error exists: every state of the
      regenerated table has an unguarded `Empty` or `Other` test (`C16_fact_blank_taken`), so a
      whitespace-only line is always consumed.
    * Final line break: for a non-empty text not ending in LF the outcomes coincide, accepted or
      REJECTED, error lists included: the text has the same number of physical lines with and
      without the final LF, so an unexpected end of file is reported at line `n + 1` in both.
    * In all cases the final error list, matcher state, id counter, number of matcher calls,
      lines read and lines reported unexpected are equal too, and the tokens handed to the builder
      agree in everything but the physical line they carry.
-/
import GherkinVerif.Props.C16
import GherkinVerif.Lemmas.LayoutDoc2
import GherkinVerif.KDecide
import GherkinVerif.Lemmas.FactsTable
import GherkinVerif.Lemmas.Lit
namespace GV
open Lemmas

/-- fact about the regenerated table: every state has an unguarded `Empty` or `Other` test, so a
    whitespace-only line never reaches the error tail of `match_token` -/
theorem C16_fact_blank_taken : Spec.blankTaken Gen.parserTable = true := Facts.blankTaken_table

/-- what the two runs' final contexts have in common: error list, matcher state, id counter,
    number of matcher calls, lines read, lines reported unexpected, scanner position — equal;
    tokens handed to the builder — equal up to the physical line they carry -/
def C16_SameContext (a b : Ctx) : Prop :=
  a.errors = b.errors ∧ a.μ = b.μ ∧ a.ids = b.ids ∧ a.calls = b.calls ∧ a.reads = b.reads ∧
  a.unexpected = b.unexpected ∧ a.lineNo = b.lineNo ∧ All2 TokSame a.builds b.builds

theorem C16_sameContext_of_rel {D : List Dialect} {a b : Ctx} (h : CtxRel D a b) : C16_SameContext a b :=
  ⟨h.errors, h.μ, h.ids, h.calls, h.reads, h.unexpected, h.lineNo, h.builds⟩

/-- Generic form: two texts whose physical lines agree pairwise up to their tails of carriage
    returns and line feeds (`LineRel`: LF against CRLF, LF against nothing, CR CR LF against LF, …)
    have the same outcome — the same document or the same rejection with the same errors (kind,
    location, message), in either error mode — and the same final context; for every table with an
    unguarded blank-line test in each state and every dialect table whose step keywords do not end
    in CR/LF. -/
theorem C16_line_endings_document_generic (D : List Dialect) (T : Table)
    (hD : Spec.stepKeywordsOk D = true) (hT : Spec.blankTaken T = true)
    (stop : Bool) (μ : MState) (ids : Nat) (a b : Str)
    (hl : All2 LineRel (splitLines a) (splitLines b)) (hμ : (μ.reset D).dialect ∈ D) :
    (parseWith D T stop μ ids a).1 = (parseWith D T stop μ ids b).1 ∧
    C16_SameContext (parseWith D T stop μ ids a).2 (parseWith D T stop μ ids b).2 :=
  ⟨(parseWith_sim hD hT stop μ ids hl hμ).1, C16_sameContext_of_rel (parseWith_sim hD hT stop μ ids hl hμ).2⟩

theorem C16_line_endings_document (stop : Bool) (μ : MState) (ids : Nat) (a b : Str)
    (hl : All2 LineRel (splitLines a) (splitLines b)) (hμ : (μ.reset Gen.dialects).dialect ∈ Gen.dialects) :
    (parseWith Gen.dialects Gen.parserTable stop μ ids a).1 =
      (parseWith Gen.dialects Gen.parserTable stop μ ids b).1 ∧
    C16_SameContext (parseWith Gen.dialects Gen.parserTable stop μ ids a).2
      (parseWith Gen.dialects Gen.parserTable stop μ ids b).2 :=
  C16_line_endings_document_generic _ _ C16_step_keywords_ok C16_fact_blank_taken stop μ ids a b hl hμ

/-- **Writing a document with CRLF instead of LF line endings changes nothing**: the outcome of
    the parse — the document, or the exact error list with kinds, locations and messages, composite
    or single — is identical, for every text, both error modes, every matcher state and id counter
    the parse is started with.  No hypothesis on `src`. -/
theorem C16_crlf_document (stop : Bool) (μ : MState) (ids : Nat) (src : Str)
    (hμ : (μ.reset Gen.dialects).dialect ∈ Gen.dialects) :
    (parseWith Gen.dialects Gen.parserTable stop μ ids (toCRLF src)).1 =
    (parseWith Gen.dialects Gen.parserTable stop μ ids src).1 :=
  (C16_line_endings_document stop μ ids _ _ (lines_toCRLF src) hμ).1

/-- the instance the property's quantifier describes: the LF document has no carriage return -/
theorem C16_crlf_document_no_cr (stop : Bool) (μ : MState) (ids : Nat) (src : Str)
    (_h13 : 13 ∉ src) (hμ : (μ.reset Gen.dialects).dialect ∈ Gen.dialects) :
    (parseWith Gen.dialects Gen.parserTable stop μ ids (toCRLF src)).1 =
    (parseWith Gen.dialects Gen.parserTable stop μ ids src).1 :=
  C16_crlf_document stop μ ids src hμ

/-- … and the runs end with the same error list, matcher state (dialect, language name, doc-string
    state), id counter, number of matcher calls, lines read and lines reported unexpected; the
    tokens handed to the builder differ in their physical line only. -/
theorem C16_crlf_document_context (stop : Bool) (μ : MState) (ids : Nat) (src : Str)
    (hμ : (μ.reset Gen.dialects).dialect ∈ Gen.dialects) :
    C16_SameContext (parseWith Gen.dialects Gen.parserTable stop μ ids (toCRLF src)).2
      (parseWith Gen.dialects Gen.parserTable stop μ ids src).2 :=
  (C16_line_endings_document stop μ ids _ _ (lines_toCRLF src) hμ).2

/-- (`toCRLF` puts a CR before every LF; a text whose CRs occur only in CRLF pairs and whose LFs
    all follow a CR is `toCRLF` of itself without the CRs — the physical lines correspond.) -/
theorem C16_crlf_document_lines (src : Str) : All2 LineRel (splitLines (toCRLF src)) (splitLines src) :=
  lines_toCRLF src

/-- **Presence or absence of a final line break does not change the outcome**: for a non-empty
    text that does not end in a line feed, parsing it with one appended gives the same outcome —
    `.ok d` with the same `d`, or the same rejection: same errors at the same locations (an
    unexpected end of file is at line `n + 1` either way). -/
theorem C16_final_newline_document (stop : Bool) (μ : MState) (ids : Nat) (src : Str)
    (hne : src ≠ []) (hlast : src.getLast? ≠ some 10)
    (hμ : (μ.reset Gen.dialects).dialect ∈ Gen.dialects) :
    (parseWith Gen.dialects Gen.parserTable stop μ ids (src ++ [10])).1 =
    (parseWith Gen.dialects Gen.parserTable stop μ ids src).1 :=
  (C16_line_endings_document stop μ ids _ _ (lines_append_lf hne hlast) hμ).1

/-- … in particular the AST of an accepted document -/
theorem C16_final_newline_ast (stop : Bool) (μ : MState) (ids : Nat) (src : Str) (d : Doc)
    (hne : src ≠ []) (hlast : src.getLast? ≠ some 10)
    (hμ : (μ.reset Gen.dialects).dialect ∈ Gen.dialects) :
    (parseWith Gen.dialects Gen.parserTable stop μ ids (src ++ [10])).1 = .ok d ↔
    (parseWith Gen.dialects Gen.parserTable stop μ ids src).1 = .ok d := by
  rw [C16_final_newline_document stop μ ids src hne hlast hμ]

/-- … and the same final context. -/
theorem C16_final_newline_document_context (stop : Bool) (μ : MState) (ids : Nat) (src : Str)
    (hne : src ≠ []) (hlast : src.getLast? ≠ some 10)
    (hμ : (μ.reset Gen.dialects).dialect ∈ Gen.dialects) :
    C16_SameContext (parseWith Gen.dialects Gen.parserTable stop μ ids (src ++ [10])).2
      (parseWith Gen.dialects Gen.parserTable stop μ ids src).2 :=
  (C16_line_endings_document stop μ ids _ _ (lines_append_lf hne hlast) hμ).2

/-- both at once: CRLF endings on a text without a final line break against the LF text with one -/
theorem C16_crlf_and_final_newline_document (stop : Bool) (μ : MState) (ids : Nat) (src : Str)
    (hne : src ≠ []) (hlast : src.getLast? ≠ some 10)
    (hμ : (μ.reset Gen.dialects).dialect ∈ Gen.dialects) :
    (parseWith Gen.dialects Gen.parserTable stop μ ids (toCRLF src)).1 =
    (parseWith Gen.dialects Gen.parserTable stop μ ids (src ++ [10])).1 :=
  (C16_crlf_document stop μ ids src hμ).trans (C16_final_newline_document stop μ ids src hne hlast hμ).symm

/-- every state a parse can start from is covered: `TokenMatcher(name)` has a dialect of the table
    and `reset()` keeps one -/
theorem C16_document_start (name : Str) (μ : MState) (h : MState.init Gen.dialects name = some μ) :
    (μ.reset Gen.dialects).dialect ∈ Gen.dialects :=
  (sane_reset (sane_init h).2).2

/-- an accepted CRLF document (blank CRLF line, indented lines, a table row): the text really has
    CR LF pairs, is accepted with the feature name "f" (not "f\r"), 3 ids drawn, 20 matcher calls -/
example : (MState.init Gen.dialects (lit "en")).map (fun μ =>
      let src := lit "Feature: f\n\n  Scenario: s\n    Given x\n      | a |\n"
      let r := parseWith Gen.dialects Gen.parserTable false μ 0 (toCRLF src)
      (toCRLF src == lit "Feature: f\r\n\r\n  Scenario: s\r\n    Given x\r\n      | a |\r\n",
       (match r.1 with | .ok d => some (d.feature.map Feature.name) | _ => none), r.2.ids, r.2.calls)) =
    some (true, some (some (lit "f")), 3, 20) := by
  lit_lists
  kdecide

/-- a rejected CRLF document (a tag with whitespace, a whitespace-only CRLF line, an unexpected
    line): three errors with their locations, composite; in stop mode the first one alone -/
example : (MState.init Gen.dialects (lit "en")).map (fun μ =>
      let src := toCRLF (lit "Feature: f\nScenario: s\nGiven x\n@a b\n   \nfoo\n")
      let r := parseWith Gen.dialects Gen.parserTable false μ 0 src
      let r' := parseWith Gen.dialects Gen.parserTable true μ 0 src
      ((match r.1 with | .rejected es c => (es.map (fun (e : PErr) => (e.kind, e.loc)), c) | _ => ([], false)),
       (match r'.1 with | .rejected es c => (es.map (fun (e : PErr) => (e.kind, e.loc)), c) | _ => ([], true)))) =
    some (([(.tagWhitespace, ⟨4, some 1⟩), (.unexpectedToken, ⟨4, some 1⟩), (.unexpectedToken, ⟨6, some 1⟩)], true),
          ([(.tagWhitespace, ⟨4, some 1⟩)], false)) := by
  lit_lists
  kdecide

/-- the hypotheses of `C16_final_newline_document` hold of a text without a final line break, which
    is accepted (2 ids, 16 matcher calls) -/
example : (lit "Feature: f\n  Scenario: s\n    Given x") ≠ [] ∧
    (lit "Feature: f\n  Scenario: s\n    Given x").getLast? ≠ some 10 ∧
    (MState.init Gen.dialects (lit "en")).map (fun μ =>
      let r := parseWith Gen.dialects Gen.parserTable false μ 0 (lit "Feature: f\n  Scenario: s\n    Given x")
      ((match r.1 with | .ok d => some (d.feature.map Feature.name) | _ => none), r.2.ids, r.2.calls)) =
    some (some (some (lit "f")), 2, 16) := by
  lit_lists
  kdecide

end GV
