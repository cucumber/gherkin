/-
  Props/C14Recover.lean — property C14, "… after it parsing carries on from the same position with
  the next line": the DOCUMENT-level statement.  (Props/C14.lean has the table fact
  `C14_recovery_same_state`: every error tail returns its own state.)  The theorems here are special
  cases of those of Props/C14Recover2.lean, which this file imports.

  ## `C14_unexpected_line_skipped`  (collecting mode, `stop = false`)

  `src` has the physical lines `pre ++ post`, `src'` the lines `pre ++ u :: post`.  Hypotheses, all on
  the run on `src'` (`Spec.unexpectedLineOkB` is their Boolean form, `C14_unexpected_line_check`
  the theorem that the Boolean implies the conclusion; `C14_unexpected_line_text` is the text form):

  * after `pre.length` lines the main loop stands in state `s` with context `cr`
    (`Spec.runAfter … src' pre.length = some (s, cr)`, prefix run of the queue-free parse);
  * `Spec.lineUnexpectedAt D T s cr.μ u`: every test of row `s` answers a plain "no" to `u` in the
    matcher state of that moment, and the error tail of `s` returns `s` (always so:
    `C14_recovery_same_state`).  "Plain no" excludes a test that RAISES: `match_TagLine` on a tag
    with whitespace and `match_Language` on an unknown language record their own error first, so
    such a line yields two errors, not one (one-step lemma `Recover.unexpected_line_step`);
  * `Spec.barrierBefore pre`: `pre` is empty or its last line is a *barrier line* — its trimmed
    text is not empty and starts neither with `#` nor with `@`.  This is the "no look-ahead peeks
    at `u`" condition: a guarded `TagLine` test reads ahead over the following tag / comment / blank
    lines up to the first other line, so an unexpected line directly behind such a run is SEEN by
    the look-ahead of an earlier tag line and changes the branch that tag line takes
    (counterexample below: `@t`, blank, `nonsense`, `Scenario:` — the tag line becomes a Rule
    header's, the scenario line is unexpected too).  The condition is sufficient, not exact: it
    also excludes a blank or comment line before `u` when no tag line precedes them.  It is the
    textual special case of the condition read off the run in `C14_unexpected_line_skipped_exact`
    (Props/C14Recover2.lean), from which the theorems here follow (`Recover2.barrierBefore_tagStart`,
    `C14_check_subsumed`);
  * the run on `src'` stays within the error cap: its final error list has `≤ errorCap` entries.

  Conclusion (`Recover.CtxObsU` + outcome):

      errors'     = insertErr k j e errors        -- Spec.insertErr: errors renamed by insertMap k
                                                  -- (message prefixes with them), `e` put at index j
      unexpected' = insertLine k ju unexpected
      builds'     = builds.map (renumber k)       -- `u` is never handed to the builder
      μ' = μ,  ids' = ids
      src accepted (.ok d)            →  src' rejected with exactly [e]
      src rejected (.rejected es true) →  src' rejected with insertErr k j e es

  where `k = pre.length`, `e = Spec.skippedError T s k u` = `unexpectedErr row ⟨u, k+1⟩` — kind
  unexpectedToken, location `(k + 1, indent + 1)`, body by `C14_unexpected_form`
  (`C14_skipped_error_form`) — and `j = cr.errors.length`, `ju = cr.unexpected.length` are the
  numbers of errors / reported lines detected before `u` was read.  De-duplication never drops `e`:
  its message starts with its own position `(k+1:…)`, which no renamed error has.

  NOT proved: the form without the cap hypothesis (truncation at the eleventh error).  Stop-at-first-
  error mode (there the run simply ends with `e`) is `C14_unexpected_line_stop` in
  Props/C14Recover2.lean.
-/
import GherkinVerif.Props.C14Recover2
import GherkinVerif.Lemmas.Lit
namespace GV
open Lemmas Spec Recover

/-- **One-step lemma.**  Collecting mode, a state `s` whose tests all refuse the line `u`: the
    parser state, the builder, the matcher state, the id counter and the scanner are unchanged;
    the line is recorded as unexpected and `add_error` is called with the unexpected-token error. -/
theorem C14_unexpected_line_step (D : List Dialect) (T : Table) (s : Nat) (u : Str) (n : Nat) (c : Ctx)
    (h : Spec.lineUnexpectedAt D T s c.μ u = true) :
    ∃ row j, T.row? s = some row ∧
      run (Spec.matchTokenPure D T false s { line := some u, lineNo := n }) c =
        match run (addError T.errorCap (unexpectedErr row { line := some u, lineNo := n }))
            { c with calls := c.calls + j, unexpected := c.unexpected ++ [n] } with
        | (.ok _, c') => (.ok s, c')
        | (.error e, c') => (.error e, c') :=
  unexpected_line_step T s u n c h

/-- the error recorded for the skipped line: an unexpected-token error at `(k + 1, indent + 1)` whose
    body lists the state's expected kinds and quotes the trimmed line -/
theorem C14_skipped_error_form (T : Table) (s k : Nat) (u : Str) (row : StateRow) (hrow : T.row? s = some row) :
    (Spec.skippedError T s k u).kind = .unexpectedToken ∧
    (Spec.skippedError T s k u).loc = ⟨k + 1, some (lineIndent u + 1)⟩ ∧
    (Spec.skippedError T s k u).body = lit "expected: " ++ joinWith (lit ", ") (row.expected.map lit) ++
      lit ", got '" ++ strip (trimmed u) ++ lit "'" := by
  rw [skippedError_eq hrow]
  exact ⟨rfl, rfl, rfl⟩

theorem C14_unexpected_line_skipped_generic (D : List Dialect) (T : Table)
    (hQD : Spec.queueDialectFacts D = true) (hQT : Spec.queueFacts T = true)
    (hCB : Spec.commentBlankTested T = true)
    (hG : (T.rows.all fun r => r.branches.all fun b => b.guard.isNone || b.kind == .TagLine) = true)
    (μ : MState) (ids : Nat) (src src' : Str) (pre post : List Str) (u : Str)
    (h1 : splitLines src = pre ++ post) (h2 : splitLines src' = pre ++ u :: post)
    (hμ : (μ.reset D).dialect ∈ D) (hbar : Spec.barrierBefore pre = true) (s : Nat) (cr : Ctx)
    (hrun : Spec.runAfter D T false μ ids src' pre.length = some (s, cr))
    (hun : Spec.lineUnexpectedAt D T s cr.μ u = true)
    (hcap : (parseWith D T false μ ids src').2.errors.length ≤ T.errorCap) :
    CtxObsU pre.length cr.errors.length cr.unexpected.length (Spec.skippedError T s pre.length u)
      (parseWith D T false μ ids src).2 (parseWith D T false μ ids src').2 ∧
    (∀ d, (parseWith D T false μ ids src).1 = .ok d →
      (parseWith D T false μ ids src').1 = .rejected [Spec.skippedError T s pre.length u] true) ∧
    (∀ es, (parseWith D T false μ ids src).1 = .rejected es true →
      (parseWith D T false μ ids src').1 =
        .rejected (Spec.insertErr pre.length cr.errors.length (Spec.skippedError T s pre.length u) es) true) :=
  C14_unexpected_line_skipped_exact_generic D T hQD hQT hCB hG μ ids src src' pre post u h1 h2 hμ
    (fun _ _ hi hb ht => absurd ((Recover2.barrierBefore_tagStart hbar hi hb).symm.trans ht) Bool.false_ne_true)
    s cr hrun hun hcap

/-- **An unexpected line is skipped: it records one error and nothing else.**  -/
theorem C14_unexpected_line_skipped (μ : MState) (ids : Nat) (src src' : Str) (pre post : List Str) (u : Str)
    (h1 : splitLines src = pre ++ post) (h2 : splitLines src' = pre ++ u :: post)
    (hμ : (μ.reset Gen.dialects).dialect ∈ Gen.dialects) (hbar : Spec.barrierBefore pre = true) (s : Nat) (cr : Ctx)
    (hrun : Spec.runAfter Gen.dialects Gen.parserTable false μ ids src' pre.length = some (s, cr))
    (hun : Spec.lineUnexpectedAt Gen.dialects Gen.parserTable s cr.μ u = true)
    (hcap : (parseWith Gen.dialects Gen.parserTable false μ ids src').2.errors.length ≤ Gen.parserTable.errorCap) :
    CtxObsU pre.length cr.errors.length cr.unexpected.length (Spec.skippedError Gen.parserTable s pre.length u)
      (parseWith Gen.dialects Gen.parserTable false μ ids src).2
      (parseWith Gen.dialects Gen.parserTable false μ ids src').2 ∧
    (∀ d, (parseWith Gen.dialects Gen.parserTable false μ ids src).1 = .ok d →
      (parseWith Gen.dialects Gen.parserTable false μ ids src').1 =
        .rejected [Spec.skippedError Gen.parserTable s pre.length u] true) ∧
    (∀ es, (parseWith Gen.dialects Gen.parserTable false μ ids src).1 = .rejected es true →
      (parseWith Gen.dialects Gen.parserTable false μ ids src').1 =
        .rejected (Spec.insertErr pre.length cr.errors.length
          (Spec.skippedError Gen.parserTable s pre.length u) es) true) :=
  C14_unexpected_line_skipped_generic _ _ C18_fact_keywords C18_fact_queue C18_fact_comment_blank
    C14_fact_guards_on_tags μ ids src src' pre post u h1 h2 hμ hbar s cr hrun hun hcap

/-- `Spec.unexpectedLineOkB` on `src'` and `k` implies the conclusion for every text `src` that is
    `src'` without its line `k + 1`. -/
theorem C14_unexpected_line_check (μ : MState) (ids : Nat) (src src' : Str) (k : Nat) (u : Str)
    (hu : (splitLines src')[k]? = some u)
    (hsrc : splitLines src = (splitLines src').take k ++ (splitLines src').drop (k + 1))
    (hμ : (μ.reset Gen.dialects).dialect ∈ Gen.dialects)
    (hB : Spec.unexpectedLineOkB Gen.dialects Gen.parserTable μ ids src' k = true) :
    let e := Spec.skippedError Gen.parserTable (C14_skipInfo μ ids src' k).1 k u
    CtxObsU k (C14_skipInfo μ ids src' k).2.1 (C14_skipInfo μ ids src' k).2.2 e
      (parseWith Gen.dialects Gen.parserTable false μ ids src).2
      (parseWith Gen.dialects Gen.parserTable false μ ids src').2 ∧
    (∀ d, (parseWith Gen.dialects Gen.parserTable false μ ids src).1 = .ok d →
      (parseWith Gen.dialects Gen.parserTable false μ ids src').1 = .rejected [e] true) ∧
    (∀ es, (parseWith Gen.dialects Gen.parserTable false μ ids src).1 = .rejected es true →
      (parseWith Gen.dialects Gen.parserTable false μ ids src').1 =
        .rejected (Spec.insertErr k (C14_skipInfo μ ids src' k).2.1 e es) true) :=
  C14_unexpected_line_check2 μ ids src src' k u hu hsrc hμ (C14_check_subsumed _ _ _ _ _ _ hB)

/-- **The text form**: the line `v ++ "\n"` (`v` without a line feed) inserted at the start of a line,
    i.e. after a prefix `s1` of the text that is empty or ends in a line feed. -/
theorem C14_unexpected_line_text (μ : MState) (ids : Nat) (s1 s2 v : Str)
    (hs1 : s1 = [] ∨ s1.getLast? = some 10) (hlf : 10 ∉ v)
    (hμ : (μ.reset Gen.dialects).dialect ∈ Gen.dialects)
    (hB : Spec.unexpectedLineOkB Gen.dialects Gen.parserTable μ ids (s1 ++ (v ++ [10]) ++ s2) (splitLines s1).length = true) :
    let k := (splitLines s1).length
    let src' := s1 ++ (v ++ [10]) ++ s2
    let e := Spec.skippedError Gen.parserTable (C14_skipInfo μ ids src' k).1 k (v ++ [10])
    CtxObsU k (C14_skipInfo μ ids src' k).2.1 (C14_skipInfo μ ids src' k).2.2 e
      (parseWith Gen.dialects Gen.parserTable false μ ids (s1 ++ s2)).2
      (parseWith Gen.dialects Gen.parserTable false μ ids src').2 ∧
    (∀ d, (parseWith Gen.dialects Gen.parserTable false μ ids (s1 ++ s2)).1 = .ok d →
      (parseWith Gen.dialects Gen.parserTable false μ ids src').1 = .rejected [e] true) ∧
    (∀ es, (parseWith Gen.dialects Gen.parserTable false μ ids (s1 ++ s2)).1 = .rejected es true →
      (parseWith Gen.dialects Gen.parserTable false μ ids src').1 =
        .rejected (Spec.insertErr k (C14_skipInfo μ ids src' k).2.1 e es) true) :=
  C14_unexpected_line_text2 μ ids s1 s2 v hs1 hlf hμ (C14_check_subsumed _ _ _ _ _ _ hB)

/-- an accepted document … -/
def C14_good : Str := lit "Feature: f\nScenario: s\n  Given x\n  When y\n  | a |\n"
/-- … with a second `Feature:` line (indented by one blank) after line 3, in the state after a step -/
def C14_good1 : Str := lit "Feature: f\nScenario: s\n  Given x\n Feature: g\n  When y\n  | a |\n"
/-- the hypotheses hold (`Feature: g` after line 3), the original is accepted, the new text is rejected
    with exactly one error, at (4, 2) -/
example : (MState.init Gen.dialects (lit "en")).map (fun μ =>
      (Spec.unexpectedLineOkB Gen.dialects Gen.parserTable μ 0 C14_good1 3,
       C14_isOk (parseWith Gen.dialects Gen.parserTable false μ 0 C14_good).1,
       C14_locs (parseWith Gen.dialects Gen.parserTable false μ 0 C14_good1).1,
       C14_skipInfo μ 0 C14_good1 3)) =
    some (true, true, [⟨4, some 2⟩], (12, 0, 0)) := by
  rw [C14_good, C14_good1]
  lit_lists
  kdecide

/-- a rejected document: a ragged table and an unexpected line … -/
def C14_bad : Str := lit "Feature: f\nScenario: s\n  Given x\n  | a | b |\n  | c |\nnonsense\n  When y\n"
/-- … with `Feature: g` inserted after line 3 -/
def C14_bad1 : Str := lit "Feature: f\nScenario: s\n  Given x\nFeature: g\n  | a | b |\n  | c |\nnonsense\n  When y\n"
/-- the hypotheses hold; the old errors (unexpected line 6, ragged table at line 5) move down by one
    line behind the new one, which comes first in detection order (`j = 0`) -/
example : (MState.init Gen.dialects (lit "en")).map (fun μ =>
      (Spec.unexpectedLineOkB Gen.dialects Gen.parserTable μ 0 C14_bad1 3,
       C14_locs (parseWith Gen.dialects Gen.parserTable false μ 0 C14_bad).1,
       C14_locs (parseWith Gen.dialects Gen.parserTable false μ 0 C14_bad1).1)) =
    some (true, [⟨6, some 1⟩, ⟨5, some 3⟩], [⟨4, some 1⟩, ⟨7, some 1⟩, ⟨6, some 3⟩]) := by
  rw [C14_bad, C14_bad1]
  lit_lists
  kdecide

/-- COUNTEREXAMPLE (a look-ahead condition is needed): `nonsense` behind a tag line and a blank
    line.  The check fails (`pre` ends in a blank line); the original is accepted; in the new text
    the look-ahead of the tag line sees `nonsense`, the tag line becomes that of a Rule header, and
    `nonsense`, the scenario line AND the end of file are unexpected: three errors, not one. -/
example : (MState.init Gen.dialects (lit "en")).map (fun μ =>
      let a := lit "Feature: f\n@t\n\nScenario: s\n"
      let a' := lit "Feature: f\n@t\n\nnonsense\nScenario: s\n"
      (Spec.unexpectedLineOkB Gen.dialects Gen.parserTable μ 0 a' 3,
       Spec.barrierBefore ((splitLines a').take 3),
       C14_isOk (parseWith Gen.dialects Gen.parserTable false μ 0 a).1,
       C14_locs (parseWith Gen.dialects Gen.parserTable false μ 0 a').1)) =
    some (false, false, true, [⟨4, some 1⟩, ⟨5, some 1⟩, ⟨6, none⟩]) := by
  lit_lists
  kdecide

/-- a test that raises is not a plain "no": a tag with whitespace inserted behind a step yields its
    own error AND the unexpected-token error (two errors at line 4); the check fails -/
example : (MState.init Gen.dialects (lit "en")).map (fun μ =>
      let a' := lit "Feature: f\nScenario: s\n  Given x\n@a b\n  When y\n"
      (Spec.unexpectedLineOkB Gen.dialects Gen.parserTable μ 0 a' 3,
       (parseWith Gen.dialects Gen.parserTable false μ 0 a').1 matches .rejected [_, _] true,
       C14_locs (parseWith Gen.dialects Gen.parserTable false μ 0 a').1)) =
    some (false, true, [⟨4, some 1⟩, ⟨4, some 1⟩]) := by
  lit_lists
  kdecide

end GV
