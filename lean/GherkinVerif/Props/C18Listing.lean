/-
  Props/C18Listing.lean — property C18, the token listing: "The token listing printed for a
  document (position, kind, keyword, text and items per line) reflects exactly these tokens".

  Model: GherkinVerif/Model/Formatter.lean — `TokenFormatterBuilder` (`fmtBuilder`, `formatToken`,
  `formatListing`) and `Parser(TokenFormatterBuilder()).parse` (`parseWithF`).  The glue of
  `class Parser` is not transcribed twice: `parseWithF` is the builder-parametrised glue
  (`parseBodyG`) at the formatter builder, and `C18_generic_glue_is_parser` says that the same glue
  at the AST builder is the `parseWith` all other C18 theorems are about.  The builder's `_tokens`
  list is the context field `builds` (for this builder the list of tokens handed to `build` IS the
  builder's state), so `C18_listing_is_builds` is short: it says what `get_result` returns.

  Proved here, for every source text, both error modes, every matcher state, every table:
    * `C18_listing_is_builds`   the printed listing is the tokens handed to `build`, one line each,
                                in order, joined by LF;
    * `C18_format_eof`, `C18_format_line`   the shape of one printed line;
    * `C18_listing_lockstep`    the run with the formatter builder and the run with the AST builder
                                end with the same class of outcome (same errors) and the same
                                context (tokens built, lines read, unexpected lines, queue, matcher
                                state, calls, error list) — unless the AST builder failed in its run
                                (`BuilderFailed`: it crashed, or its "inconsistent cell count"
                                error is in the final error list or is the outcome);
    * `C18_listing_same_tokens` in particular every document the AST-builder parse accepts is
                                accepted with the formatter builder, with the same tokens built —
                                with `C18_accepted_sequence` (Props/C18Order.lean): the listing has
                                one line per physical line, in order, with that line's number, then
                                `EOF` (`C18_listing_accepted_lines`, for the regenerated tables);
    * examples evaluated by the kernel on the regenerated tables: a listing equal to the literal
      the real formatter prints; a ragged table, which `parseWith` rejects and `parseWithF`
      accepts (the formatter builder raises nothing — why `C18_listing_same_tokens` has its
      hypothesis on the AST-builder run and not the converse).

  NOT proved here: that the listings equal the reference listings of the shared acceptance corpus
  (`testdata/good/*.feature.tokens`) — that is compared by the correspondence stream through the
  driver op `tokens`; the converse of `C18_listing_same_tokens` is false (ragged tables).
-/
import GherkinVerif.Lemmas.FormatterSim
import GherkinVerif.Props.C18Order
import GherkinVerif.Gen.ParserTable
import GherkinVerif.Gen.Dialects
import GherkinVerif.KDecide
import GherkinVerif.Lemmas.Lit
namespace GV

/-- The builder-parametrised glue of Model/Formatter.lean at the AST builder is `parseWith`: the
    formatter run is the same parser with another builder plugged in. -/
theorem C18_generic_glue_is_parser (D : List Dialect) (T : Table) (stop : Bool) (n : Nat) :
    parseBodyG (astBuilder T.errorCap stop) D T stop n = parseBody D T stop n :=
  Lemmas.parseBodyG_ast D T stop n

/-- The printed listing is exactly the tokens handed to `build`: one formatted line per token, in
    the order built, joined by line feeds. -/
theorem C18_listing_is_builds (D : List Dialect) (T : Table) (stop : Bool) (μ : MState) (src : Str) (s : Str)
    (h : (parseWithF D T stop μ src).1 = .ok s) :
    s = joinWith [10] ((parseWithF D T stop μ src).2.builds.map formatToken) :=
  Lemmas.listing_is_builds D T stop μ src s h

/-- The end-of-file token, and only it, prints as `EOF`. -/
theorem C18_format_eof (t : Token) : formatToken t = lit "EOF" ↔ t.line = none := by
  constructor
  · intro h
    cases hl : t.line with
    | none => rfl
    | some l =>
      unfold formatToken at h
      rw [hl] at h
      have h1 : (lit "EOF").head? = some 69 := by decide
      rw [← h] at h1
      simp at h1
  · intro h
    unfold formatToken
    rw [h]

/-- `(line:column)Kind:` + `(KeywordType)keyword` if there is a keyword + `/text/` + the items
    `column:text` separated by commas. -/
theorem C18_format_line (t : Token) (l : Str) (h : t.line = some l) :
    formatToken t =
      lit "(" ++ natToStr t.lineNo ++ lit ":" ++ natToStr (t.col.getD 0) ++ lit ")" ++
      lit ((t.mtype.map Kind.name).getD "None") ++ lit ":" ++
      (match t.keyword with
       | some kw => if kw = [] then [] else lit "(" ++ lit ((t.ktype.map KType.name).getD "") ++ lit ")" ++ kw
       | none => []) ++
      lit "/" ++ t.text.getD [] ++ lit "/" ++
      joinWith (lit ",") (t.items.map fun it => natToStr it.1 ++ lit ":" ++ it.2) := by
  have e1 : lit "(" = [40] := by decide
  have e2 : lit ":" = [58] := by decide
  have e3 : lit ")" = [41] := by decide
  have e4 : lit "/" = [47] := by decide
  have e5 : lit "," = [44] := by decide
  unfold formatToken
  rw [h, e1, e2, e3, e4, e5]
  cases t.keyword with
  | none => rfl
  | some kw => cases kw <;> rfl

/-- same class of outcome: both accept, or both reject with the same errors in the same way, or
    both crash the same way -/
abbrev C18_SameClass : Outcome → OutcomeF → Prop := Lemmas.Fmt.SameClass

/-- the AST builder failed in a run with outcome `o` and final context `c`: the run crashed, or
    the final error list contains an error with the builder's message body ("inconsistent cell
    count within the table"), or (stop mode) that error is the outcome -/
abbrev C18_BuilderFailed (o : Outcome) (c : Ctx) : Prop := Lemmas.Fmt.BuilderFailed o c

theorem C18_SameClass_def (o : Outcome) (f : OutcomeF) : C18_SameClass o f ↔
    match o, f with
    | .ok _, .ok _ => True
    | .rejected es comp, .rejected es' comp' => es = es' ∧ comp = comp'
    | .crash w, .crash w' => w = w'
    | .fuel, .fuel => True
    | _, _ => False := by
  cases o <;> cases f <;> exact Iff.rfl

theorem C18_BuilderFailed_def (o : Outcome) (c : Ctx) : C18_BuilderFailed o c ↔
    ((∃ w, o = .crash w) ∨
     (∃ e ∈ c.errors, e.body = lit "inconsistent cell count within the table") ∨
     (∃ e, o = .rejected [e] false ∧ e.body = lit "inconsistent cell count within the table")) := Iff.rfl

/-- Lock step: the parse with the formatter builder ends with the same class of outcome and the
    same context — tokens built, lines read, unexpected lines, queue, unread lines, matcher state,
    matcher calls, error list — as the parse with the AST builder, unless the AST builder failed. -/
theorem C18_listing_lockstep (D : List Dialect) (T : Table) (stop : Bool) (μ : MState) (ids : Nat) (src : Str) :
    (C18_SameClass (parseWith D T stop μ ids src).1 (parseWithF D T stop μ src).1 ∧
      (parseWithF D T stop μ src).2 = CtxF.ofCtx (parseWith D T stop μ ids src).2) ∨
    C18_BuilderFailed (parseWith D T stop μ ids src).1 (parseWith D T stop μ ids src).2 := by
  rcases Lemmas.Fmt.parse_lockstep D T stop μ ids src with ⟨h1, h2⟩ | h
  · exact .inl ⟨h1, h2.symm⟩
  · exact .inr h

/-- Every document the AST-builder parse accepts is accepted with the formatter builder, and the
    builder received the same tokens (the whole final context is the same). -/
theorem C18_listing_same_tokens (D : List Dialect) (T : Table) (stop : Bool) (μ : MState) (ids : Nat) (src : Str)
    (d : Doc) (h : (parseWith D T stop μ ids src).1 = .ok d) :
    (∃ s, (parseWithF D T stop μ src).1 = .ok s) ∧
    (parseWithF D T stop μ src).2.builds = (parseWith D T stop μ ids src).2.builds ∧
    (parseWithF D T stop μ src).2 = CtxF.ofCtx (parseWith D T stop μ ids src).2 := by
  obtain ⟨h1, h2⟩ := Lemmas.Fmt.accepted_same_tokens D T stop μ ids src d h
  exact ⟨h1, by rw [h2]; rfl, h2⟩

/-- The listing of an accepted document, for the regenerated tables: it is printed (the formatter
    run accepts), and it consists of one formatted token per physical line, in source order, each
    with its line's number and text, followed by the line `EOF`. -/
theorem C18_listing_accepted_lines (stop : Bool) (μ : MState) (ids : Nat) (src : Str)
    (hμ : (μ.reset Gen.dialects).dialect ∈ Gen.dialects) (d : Doc)
    (h : (parseWith Gen.dialects Gen.parserTable stop μ ids src).1 = .ok d) :
    ∃ ts : List Token,
      (parseWithF Gen.dialects Gen.parserTable stop μ src).1 = .ok (joinWith [10] (ts.map formatToken)) ∧
      ts.map (·.lineNo) = List.range' 1 ((splitLines src).length + 1) ∧
      ts.map (·.line) = (splitLines src).map some ++ [none] := by
  obtain ⟨⟨s, hs⟩, hb, -⟩ := C18_listing_same_tokens Gen.dialects Gen.parserTable stop μ ids src d h
  have hseq := C18_accepted_sequence stop μ ids src hμ d h
  refine ⟨(parseWith Gen.dialects Gen.parserTable stop μ ids src).2.builds, ?_, hseq.1, hseq.2⟩
  rw [hs, C18_listing_is_builds _ _ _ _ _ s hs, hb]

/-- tag line, feature, blank line, indented scenario, step with a data-table row, comment: the
    literal is what the real `TokenFormatterBuilder` prints for this text -/
def C18_listingSrc : Str := lit "@t\nFeature: f\n\n  Scenario: s\n    Given x\n      | a | bc |\n# c\n"

example : (MState.init Gen.dialects (lit "en")).map
      (fun μ => (parseWithF Gen.dialects Gen.parserTable false μ C18_listingSrc).1) =
    some (.ok (lit ("(1:1)TagLine://1:@t\n(2:1)FeatureLine:()Feature/f/\n(3:1)Empty://\n" ++
      "(4:3)ScenarioLine:()Scenario/s/\n(5:5)StepLine:(Context)Given /x/\n" ++
      "(6:7)TableRow://9:a,13:bc\n(7:1)Comment:/# c/\nEOF"))) := by
  rw [C18_listingSrc, lit_append, lit_append]
  lit_lists
  kdecide

/-- the same document through the AST builder: accepted, the same tokens built -/
example : (MState.init Gen.dialects (lit "en")).map
      (fun μ => ((parseWith Gen.dialects Gen.parserTable false μ 0 C18_listingSrc).2.builds.map formatToken,
        match (parseWith Gen.dialects Gen.parserTable false μ 0 C18_listingSrc).1 with | .ok _ => true | _ => false)) =
    (MState.init Gen.dialects (lit "en")).map
      (fun μ => ((parseWithF Gen.dialects Gen.parserTable false μ C18_listingSrc).2.builds.map formatToken, true)) := by
  rw [C18_listingSrc]
  lit_lists
  kdecide

/-- a ragged table: the AST-builder parse rejects it (the builder's error) … -/
def C18_raggedSrc : Str := lit "Feature: f\nScenario: s\nGiven x\n|a|b|\n|c|\n"

example : (MState.init Gen.dialects (lit "en")).map
      (fun μ => match (parseWith Gen.dialects Gen.parserTable false μ 0 C18_raggedSrc).1 with
        | .rejected es true => es.map PErr.message
        | _ => []) =
    some [lit "(5:1): inconsistent cell count within the table"] := by
  rw [C18_raggedSrc]
  lit_lists
  kdecide

/-- … and the formatter-builder parse accepts it and prints all six lines -/
example : (MState.init Gen.dialects (lit "en")).map
      (fun μ => (parseWithF Gen.dialects Gen.parserTable false μ C18_raggedSrc).1) =
    some (.ok (lit ("(1:1)FeatureLine:()Feature/f/\n(2:1)ScenarioLine:()Scenario/s/\n" ++
      "(3:1)StepLine:(Context)Given /x/\n(4:1)TableRow://2:a,4:b\n(5:1)TableRow://2:c\nEOF"))) := by
  rw [C18_raggedSrc, lit_append]
  lit_lists
  kdecide

/-- a rejected document (no builder error): the formatter run reports the same error as the
    AST-builder run, three lines and the end of file were built, line 4 was unexpected -/
def C18_rejectedSrc : Str := lit "Feature: f\nScenario: s\nGiven x\nFeature: g\n"

example : (MState.init Gen.dialects (lit "en")).map
      (fun μ =>
        let r := parseWithF Gen.dialects Gen.parserTable false μ C18_rejectedSrc
        (match r.1 with | .rejected es true => es | _ => [], r.2.builds.map (·.lineNo), r.2.unexpected)) =
    (MState.init Gen.dialects (lit "en")).map
      (fun μ =>
        let r := parseWith Gen.dialects Gen.parserTable false μ 0 C18_rejectedSrc
        (match r.1 with | .rejected es true => es | _ => [default], [1, 2, 3, 5], [4])) := by
  rw [C18_rejectedSrc]
  lit_lists
  kdecide

end GV
