/-
  Props/C11Tree.lean — property C11, whole-document composition on the AST side: all ids of the
  AST of an accepted document are consecutive from the incoming counter, in the canonical order.
  Property theorems only; proofs are in Lemmas/AstIds.lean (the id order) and Lemmas/AstShape.lean
  (the grammar shape); the notions of the statements are in Spec/AstOf.lean:

  * `Spec.canonicalIds d`: the ids of document `d` in the order named by the property — a data
    table: its rows; a step: its table rows, then the step; a background: its steps, then the
    background; an examples block: header and body rows, then its tags, then the block; a
    scenario: steps, then examples blocks, then tags, then the scenario; a rule: (background,)
    scenarios, then tags, then the rule; a feature: (background,) scenarios, rules, then the
    feature's tags (a feature has no id).
  * `Spec.GrammarShaped t` (`Spec.nodeShape`): a decidable predicate on token trees saying, for
    the children of a node of each rule type: which child nodes and which element-carrying lines
    (tag line, keyword lines, table row, doc string separator) it may have; which occur at most
    once (`Tags`, `Background`, `Scenario`, `Examples`, `ExamplesTable`, `DataTable`,
    `DocString`, `Feature`, the headers, each keyword line); which come before which (header,
    then `Background`, then `ScenarioDefinition`s, then `Rule`s; `Tags` before the keyword line /
    the `Scenario` / `Examples` node; keyword line before steps and tables; `Step`s before
    `ExamplesDefinition`s; not both a data table and a doc string); and that a feature / rule has
    its header node holding its keyword line.  `C11_shaped_of_valid`: all of it follows from
    the grammar.  (The id order uses the node part; `C03_leaves_once_in_order` also the lines.)
  * `t.kinds`: the tree over line kinds of Spec/Tree.lean (`C02_events_valid_tree` produces a
    `Spec.ValidTree` of exactly this type for every accepted document).
-/
import GherkinVerif.Lemmas.AstShape
import GherkinVerif.Gen.ParserTable
import GherkinVerif.Lemmas.AstIds
import GherkinVerif.Props.C03Tree
import GherkinVerif.KDecide
namespace GV
open Spec

/-- Canonical ids.  For a grammar-shaped tree `t`: if `astOf` started at counter `n` returns the
    document `d` and counter `n'` (with whatever comment list), then the ids of `d` read in the
    canonical order are exactly `n, n+1, …, n'-1`: children before their parent; table rows, then
    steps, then examples, then tags, then the owning node — without gaps, and every id drawn
    ends up in the AST. -/
theorem C11_ast_ids_canonical (t : TTree) (hs : GrammarShaped t) (cs : List Comment) (n n' : Nat) (d : Doc)
    (h : (astOf cs t).run.run n = (.ok (.doc d), n')) :
    canonicalIds d = List.range' n (n' - n) ∧ n ≤ n' :=
  Lemmas.ast_ids_canonical t hs cs n n' d h

theorem C11_ast_ids_nodup (t : TTree) (hs : GrammarShaped t) (cs : List Comment) (n n' : Nat) (d : Doc)
    (h : (astOf cs t).run.run n = (.ok (.doc d), n')) : (canonicalIds d).Nodup :=
  (Lemmas.ast_ids_canonical t hs cs n n' d h).1 ▸ List.nodup_range'

/-- The same for every subtree: the ids inside the value of any grammar-shaped node tree (steps,
    scenarios, rules, … and the raw intermediate nodes; `Lemmas.valIds` extends `canonicalIds` to
    all values of the builder) are consecutive from the counter the node was started at. -/
theorem C11_subtree_ids (r : RuleType) (ch : List TTree) (hs : GrammarShaped (.node r ch))
    (cs : List Comment) (n n' : Nat) (v : Val) (h : (astOf cs (.node r ch)).run.run n = (.ok v, n')) :
    Lemmas.valIds v = List.range' n (n' - n) ∧ n ≤ n' :=
  Lemmas.valIds_astOf _ hs cs n n' v ⟨r, ch, rfl⟩ h

/-- Grammar shape is not an extra assumption for accepted documents: every token tree whose
    projection to line kinds is a valid derivation tree of gherkin.berp is grammar-shaped.
    (`Lemmas.shapeCheck` is a Boolean check of the grammar's right-hand sides, evaluated by the
    kernel on the regenerated `Gen.grammar`; `Lemmas.shaped_of_validTree` lifts it to all valid
    trees of any grammar that passes it.) -/
theorem C11_shaped_of_valid (t : TTree) (hv : ValidTree Gen.grammar .GherkinDocument t.kinds) :
    GrammarShaped t :=
  Lemmas.shaped_of_valid_gen t hv

/-- Accepted documents, builder side end to end.  If the token tree of a document projects to a
    valid derivation tree of the grammar and `astOf` — given all comments of the tree — succeeds
    from counter `n` with value `v` and counter `n'`, then the AST builder run on the tree's call
    sequence from a fresh state ends without error at counter `n'`, `v` is a document `d`,
    `get_result()` is `d`, its comments are the tree's comment lines in order, and its ids in
    canonical order are `n, …, n'-1`. -/
theorem C11_accepted_ast (t : TTree) (hv : ValidTree Gen.grammar .GherkinDocument t.kinds) (n n' : Nat)
    (v : Val) (h : (astOf (commentsOf t) t).run.run n = (.ok v, n')) :
    ∃ β d, applyOps (opsOf t) BState.reset n = (.ok (), β, n') ∧ v = .doc d ∧
      β.result = .ok (some d) ∧ d.comments = commentsOf t ∧
      canonicalIds d = List.range' n (n' - n) := by
  have hs := Lemmas.shaped_of_valid_gen t hv
  obtain ⟨ch, rfl⟩ := Lemmas.root_of_validTree t hv
  obtain ⟨β, h1, -, -, d, rfl, h2, h3⟩ := (Lemmas.ast_of_tree _ (Lemmas.isDocument_of_shaped ch hs) n).1 v n' h
  exact ⟨β, d, h1, rfl, h2, h3, (Lemmas.ast_ids_canonical _ hs _ n n' d h).1⟩

section examples
open Lemmas.Ex

/-- the example tree `Lemmas.Ex.docTree` (Lemmas/AstOf.lean) is grammar-shaped, and from counter 5
    its ids are 5,…,14: data-table rows 5 6, step 7, examples rows 8 9, examples block 10, the
    scenario's three tags 11 12 13, the scenario 14 -/
example : GrammarShaped docTree := by kdecide
example : (docOf ((astOf [] docTree).run.run 5)).map canonicalIds = some [5, 6, 7, 8, 9, 10, 11, 12, 13, 14] := by
  kdecide
example : (docOf ((astOf [] docTree).run.run 5)).map (fun d => d.feature.map fun f => f.children.map fun c =>
    match c with
    | .scenario s => [s.steps.map (·.id), s.examples.map (·.id), s.tags.map (·.id), [s.id]]
    | _ => []) = some (some [[[7], [10], [11, 12, 13], [14]]]) := by
  kdecide

/-- its kind projection is the tree the parser's events rebuild into, so `C11_accepted_ast`
    applies to it (`C02_events_valid_tree`) -/
example : (eventsAbs Gen.parserTable [.FeatureLine, .Comment, .TagLine, .TagLine, .ScenarioLine, .StepLine,
    .TableRow, .Comment, .TableRow, .ExamplesLine, .TableRow, .TableRow]).bind Spec.treeOf = some docTree.kinds := by
  rfl

/-- Why the shape is needed: with an examples block BEFORE a step inside one scenario (not
    derivable from the grammar) the ids are still all there, but not in canonical order. -/
example :
    let bad : TTree := .node .GherkinDocument [.node .Feature [.node .FeatureHeader [.leaf featTok],
      .node .ScenarioDefinition [.node .Scenario [.leaf scTok,
        .node .ExamplesDefinition [.node .Examples [.leaf exTok]], .node .Step [.leaf stepTok]]]]]
    GrammarShaped bad = False ∧
    (docOf ((astOf [] bad).run.run 0)).map canonicalIds = some [1, 0, 2] := by
  kdecide

end examples
end GV
