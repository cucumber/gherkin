/-
  Props/C15.lean — property C15: no hidden state — results are independent of earlier and
  concurrent parses.  Property theorems only; definitions (`Consistent`, `runPM`, `iter`,
  `runSchedule`, `Inst`, `parseStep`) and helper lemmas live in Lemmas/History.lean, the id
  offset in Lemmas/IdOffset.lean.

  In the model the matcher's fields are the explicit `MState` that `parseWith` receives and
  returns inside the final context; the builder's fields and the token queue / error list are
  created inside `parseWith` (`BState.reset`, `[]`, `[]`), so the only thing a parse can inherit
  from history is the incoming `MState` and the id counter.
-/
import GherkinVerif.Lemmas.History
import GherkinVerif.Lemmas.IdOffset
import GherkinVerif.Lemmas.Compile
namespace GV

/-- A matcher made by the constructor is consistent with the dialect table, carries the name
    it was made with and no doc-string state. -/
theorem C15_init_consistent (D : List Dialect) (name : Str) (μ : MState)
    (h : MState.init D name = some μ) :
    Consistent D μ ∧ μ.defaultName = name ∧ μ.name = name ∧ μ.indentToRemove = 0 ∧ μ.activeSep = none :=
  Lemmas.init_consistent D name μ h

/-- Consistency is an invariant of parsing: whatever the document does (switch dialect, name an
    unknown language, end inside a doc string, be rejected, hit the error cap, crash), the matcher
    state left behind is consistent and has the same default name.  Every reachable matcher
    state is therefore consistent. -/
theorem C15_consistent_invariant (D : List Dialect) (T : Table) (stop : Bool) (μ : MState) (ids : Nat)
    (src : Str) (h : Consistent D μ) :
    Consistent D (parseWith D T stop μ ids src).2.μ ∧
      (parseWith D T stop μ ids src).2.μ.defaultName = μ.defaultName :=
  Lemmas.parseWith_consistent D T stop μ ids src h

/-- `reset` of a consistent state is a function of the default name alone: current dialect,
    indentation to remove and active doc-string separator are all forgotten. -/
theorem C15_reset (D : List Dialect) (μ₁ μ₂ : MState) (h₁ : Consistent D μ₁) (h₂ : Consistent D μ₂)
    (hd : μ₁.defaultName = μ₂.defaultName) : μ₁.reset D = μ₂.reset D :=
  Lemmas.reset_eq_of_consistent D μ₁ μ₂ h₁ h₂ hd

/-- The result of a parse — outcome and whole final context — does not depend on what the
    matcher was used for before, only on its default dialect name. -/
theorem C15_history_independent (D : List Dialect) (T : Table) (stop : Bool) (μ₁ μ₂ : MState)
    (ids : Nat) (src : Str) (h₁ : Consistent D μ₁) (h₂ : Consistent D μ₂)
    (hd : μ₁.defaultName = μ₂.defaultName) :
    parseWith D T stop μ₁ ids src = parseWith D T stop μ₂ ids src :=
  Lemmas.parseWith_history_independent D T stop μ₁ μ₂ ids src h₁ h₂ hd

/-- Used instances equal fresh ones: after any finite history of parses (each in either error
    mode, with any counter and any text — accepted, rejected, dialect-switching, ending inside a
    doc string) through one matcher, the next parse equals the parse with a new matcher. -/
theorem C15_used_equals_fresh (D : List Dialect) (T : Table) (name : Str) (μ₀ : MState)
    (h₀ : MState.init D name = some μ₀) (hist : List (Bool × Nat × Str)) (stop : Bool) (ids : Nat)
    (src : Str) :
    parseWith D T stop (Lemmas.afterHistory D T μ₀ hist) ids src = parseWith D T stop μ₀ ids src :=
  Lemmas.parseWith_after_history D T name μ₀ h₀ hist stop ids src

/-- The builder, queue and error list never carry over: a parse is the run of `parseBody` from
    the context made of the text's lines, the reset matcher, the reset builder, the given
    counter and nothing else. -/
theorem C15_fresh_context (D : List Dialect) (T : Table) (stop : Bool) (μ : MState) (ids : Nat) (src : Str) :
    parseWith D T stop μ ids src =
      (match runPM (parseBody D T stop (splitLines src).length)
          { lines := splitLines src, lineNo := 0, queue := [], errors := [], μ := μ.reset D,
            β := BState.reset, ids := ids, calls := 0, builds := [], reads := [], unexpected := [] } with
       | (.ok d, ctx) => (.ok d, ctx)
       | (.error (.single e), ctx) => (.rejected [e] false, ctx)
       | (.error (.composite es), ctx) => (.rejected es true, ctx)
       | (.error (.crash w), ctx) => (.crash w, ctx)
       | (.error .fuel, ctx) => (.fuel, ctx)) :=
  Lemmas.parseWith_eq_run D T stop μ ids src

/-- Id offset: parsing with the shared counter at `k + n` gives the outcome of parsing with the
    counter at `k` with every id of the document `n` higher (`shiftDoc`); errors carry no ids and
    are identical.  The final context is the same with the builder's stored ids and the counter
    `n` higher — the matcher state, queue, errors and ghost data are equal. -/
theorem C15_id_offset (D : List Dialect) (T : Table) (stop : Bool) (μ : MState) (k n : Nat) (src : Str) :
    parseWith D T stop μ (k + n) src =
      (shiftOutcome n (parseWith D T stop μ k src).1, shiftCtx n (parseWith D T stop μ k src).2) :=
  Lemmas.parseWith_shift D T stop μ k n src

/-- … in particular relative to a counter that starts at 0. -/
theorem C15_id_offset_zero (D : List Dialect) (T : Table) (stop : Bool) (μ : MState) (n : Nat) (src : Str) :
    (parseWith D T stop μ n src).1 = shiftOutcome n (parseWith D T stop μ 0 src).1 ∧
    (parseWith D T stop μ n src).2.ids = (parseWith D T stop μ 0 src).2.ids + n := by
  have h := Lemmas.parseWith_shift D T stop μ 0 n src
  rw [Nat.zero_add] at h
  rw [h]
  exact ⟨rfl, rfl⟩

/-- The property's first sentence in one statement: a parse through a used matcher with the
    shared counter at `n` equals the parse through a fresh matcher with a fresh counter, up to
    the offset `n` of the ids. -/
theorem C15_history_up_to_offset (D : List Dialect) (T : Table) (name : Str) (μ₀ : MState)
    (h₀ : MState.init D name = some μ₀) (hist : List (Bool × Nat × Str)) (stop : Bool) (n : Nat)
    (src : Str) :
    (parseWith D T stop (Lemmas.afterHistory D T μ₀ hist) n src).1 =
      shiftOutcome n (parseWith D T stop μ₀ 0 src).1 := by
  rw [Lemmas.parseWith_after_history D T name μ₀ h₀ hist stop n src]
  exact (C15_id_offset_zero D T stop μ₀ n src).1

/-- The compiler likewise: on the shifted document from a counter `n` higher it returns the same
    pickles with every id and AST reference `n` higher, and a counter `n` higher. -/
theorem C15_compile_id_offset (uri : Str) (doc : Doc) (k n : Nat) :
    compile uri (shiftDoc n doc) (k + n) =
      (compile uri doc k).map fun r => (r.1.map (shiftPickle n), r.2 + n) :=
  Lemmas.compile_shift n uri doc k

/-- … and the whole stream: the envelopes of a source with the shared counter at `k + n` are
    those with the counter at `k`, ids shifted by `n`. -/
theorem C15_stream_id_offset (D : List Dialect) (T : Table) (opts : Opts) (k n : Nat) (uri data : Str) :
    streamEnum D T opts (k + n) uri data =
      ((streamEnum D T opts k uri data).1.map (shiftEnvelope n), (streamEnum D T opts k uri data).2 + n) :=
  Lemmas.streamEnum_shift D T opts k n uri data

/-- Frame lemma for interleavings: in a system of components stepped by an arbitrary schedule,
    component `i` ends in its initial state stepped as often as `i` occurs in the schedule —
    the other components and the order of the schedule have no influence. -/
theorem C15_interleave {σ} (f : σ → σ) (sched : List Nat) (sys : List σ) (i : Nat) :
    (runSchedule f sched sys)[i]? = sys[i]?.map (iter f (sched.count i)) :=
  Lemmas.runSchedule_frame f sched sys i

/-- One scheduler step of a parser instance is one iteration of the loop of `parse`: the loop
    run alone is the step function iterated. -/
theorem C15_loop_is_iterated_step (D : List Dialect) (T : Table) (stop : Bool) (fuel state : Nat) (c : Ctx) :
    runPM (parseLoop D T stop fuel state) c =
      (iter (parseStep D T stop) fuel ⟨.running state, c⟩).result :=
  Lemmas.parseLoop_eq_iter D T stop fuel state c

/-- Parsers working on different documents at the same time, interleaved at any token read:
    in any schedule that gives instance `i` at least the steps it needs, instance `i` ends with
    exactly the loop result and context it has when run alone.  (An instance is a status plus
    its own context; the dialect table and parser table are read-only parameters.) -/
theorem C15_interleave_parse (D : List Dialect) (T : Table) (stop : Bool) (sys : List Inst)
    (sched : List Nat) (i state : Nat) (c : Ctx) (hx : sys[i]? = some ⟨.running state, c⟩) (fuel : Nat)
    (hfuel : (runPM (parseLoop D T stop fuel state) c).1 ≠ .error .fuel) (hn : fuel ≤ sched.count i) :
    ((runSchedule (parseStep D T stop) sched sys)[i]?).map Inst.result =
      some (runPM (parseLoop D T stop fuel state) c) :=
  Lemmas.interleave_parseLoop D T stop sys sched i state c hx fuel hfuel hn

/-- Parsing is deterministic: a function of the tables, the error mode, the matcher state, the
    counter and the text. -/
theorem C15_deterministic (D : List Dialect) (T : Table) (stop : Bool) (μ₁ μ₂ : MState)
    (ids₁ ids₂ : Nat) (src₁ src₂ : Str) (hμ : μ₁ = μ₂) (hi : ids₁ = ids₂) (hs : src₁ = src₂) :
    parseWith D T stop μ₁ ids₁ src₁ = parseWith D T stop μ₂ ids₂ src₂ := by
  subst hμ hi hs
  rfl

/-- Compiling is deterministic and returns a new value; in a functional model the document
    argument cannot be modified (mutation of the Python heap is outside such a model and is
    covered by the harness, which compares a deep copy of the AST taken before `compile`). -/
theorem C15_compile_pure (uri₁ uri₂ : Str) (d₁ d₂ : Doc) (n₁ n₂ : Nat)
    (hu : uri₁ = uri₂) (hd : d₁ = d₂) (hn : n₁ = n₂) : compile uri₁ d₁ n₁ = compile uri₂ d₂ n₂ := by
  subst hu hd hn
  rfl

/-- Compiling the same document again, with whatever counter, gives the same pickles up to the
    ids drawn: the first compilation left nothing behind. -/
theorem C15_compile_repeatable (uri : Str) (d : Doc) (n m : Nat) (ps qs : List Pickle) (n' m' : Nat)
    (h₁ : compile uri d n = some (ps, n')) (h₂ : compile uri d m = some (qs, m')) :
    ps.map Spec.eraseIds = qs.map Spec.eraseIds := by
  have a := Lemmas.compile_eq_spec uri d n ps n' h₁
  have b := Lemmas.compile_eq_spec uri d m qs m' h₂
  rw [a] at b
  exact Option.some.inj b

section
private def dA : Dialect := { (default : Dialect) with name := lit "en", feature := [lit "Feature"] }
private def dB : Dialect := { (default : Dialect) with name := lit "fr", feature := [lit "Fonctionnalité"] }

/-- a consistent state that is far from fresh: switched to "fr", inside a doc string -/
example : Consistent [dA, dB]
    { defaultName := lit "en", name := lit "fr", dialect := dB, indentToRemove := 4, activeSep := some dq3 } :=
  ⟨rfl, rfl⟩

/-- its reset is the fresh "en" state -/
example : (MState.reset [dA, dB]
      { defaultName := lit "en", name := lit "fr", dialect := dB, indentToRemove := 4, activeSep := some dq3 }).name
    = lit "en" := by decide

/-- an inconsistent state (name says "fr", dialect is the English one) shows the hypothesis of
    `C15_reset` is needed: `reset` keeps the wrong dialect because the names agree. -/
example : (MState.reset [dA, dB]
      { defaultName := lit "fr", name := lit "fr", dialect := dA }).dialect.feature = [lit "Feature"] := by
  decide
end

/-- `shiftDoc` moves every id (tag, scenario, step, examples row) and nothing else -/
example : shiftDoc 10
    { comments := [],
      feature := some
        { tags := [⟨0, ⟨1, some 1⟩, lit "@t"⟩], loc := ⟨2, some 1⟩, language := lit "en",
          keyword := lit "Feature", name := [], description := [],
          children := [.scenario
            { id := 3, tags := [], loc := ⟨3, some 3⟩, keyword := lit "Scenario", name := [], description := [],
              steps := [⟨1, ⟨4, some 5⟩, lit "Given ", .Context, lit "a", .none⟩],
              examples := [
                { id := 2, tags := [], loc := ⟨5, some 5⟩, keyword := lit "Examples", name := [],
                  description := [], header := none, body := [] }] }] } } =
    { comments := [],
      feature := some
        { tags := [⟨10, ⟨1, some 1⟩, lit "@t"⟩], loc := ⟨2, some 1⟩, language := lit "en",
          keyword := lit "Feature", name := [], description := [],
          children := [.scenario
            { id := 13, tags := [], loc := ⟨3, some 3⟩, keyword := lit "Scenario", name := [], description := [],
              steps := [⟨11, ⟨4, some 5⟩, lit "Given ", .Context, lit "a", .none⟩],
              examples := [
                { id := 12, tags := [], loc := ⟨5, some 5⟩, keyword := lit "Examples", name := [],
                  description := [], header := none, body := [] }] }] } } := by decide

/-- three counters stepped by the schedule 0,2,0,7,1,0: component 0 is stepped three times,
    1 and 2 once, the out-of-range entry is ignored -/
example : runSchedule (· + 1) [0, 2, 0, 7, 1, 0] [10, 20, 30] = [13, 21, 31] := by decide

end GV
